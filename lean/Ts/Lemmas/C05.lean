import Ts.Lemmas.AppEval
import Ts.Spec.Routing
import Ts.Spec.TableSpec
import Ts.Lemmas.C16
import Ts.Lemmas.C17
import Ts.Lemmas.Demux
/-!
# The table processors in closed form (C05: routing follows the latest PAT / PMT)

`patSection`, `pmtSection`, `runDeliveries` and `App.consume` get equations and inversions in terms of
the specification's `built` / `ctxAfter` / `patChanges` / `pmtChanges` (`Ts/Spec/Routing.lean`);
`get_applied` reads the dispatcher's table after the drained queue as the function update `applied`.
-/
namespace Ts.Lemmas.C05
open Ts Ts.Tables Ts.App Ts.Demux Ts.Spec Ts.Spec.TableSpec Ts.Spec.Routing Ts.Lemmas.C16 Ts.Lemmas.C17

/-- `filters_registered` already contains the PIDs just seen (they were inserted in the loop);
for the difference with `pids_seen` that makes no difference -/
theorem outdated_append_seen (reg seen : List Nat) : outdated (reg ++ seen) seen = outdated reg seen := by
  unfold outdated
  apply List.filter_congr
  intro p _
  by_cases h1 : p ∈ reg <;> by_cases h2 : p ∈ seen <;> simp [h1, h2]

theorem removes_ok (reg seen : List Nat) :
    (outdated (reg ++ seen) seen).mapM
        (fun p => do let q ← pidNew p; pure (Change.remove (H := Handler) q))
      = .ok ((outdated reg seen).map Change.remove) := by
  rw [outdated_append_seen]
  apply mapM_ok
  intro p hp
  have := ((mem_outdated reg seen p).1 hp).1
  rw [pidNew_ok p (by omega)]
  rfl

theorem construct_eq (c : Ctx) (req : Req) :
    construct c req = (handlerFor req c.nextTag,
      { c with nextTag := c.nextTag + 1, trace := Ev.construct req c.nextTag :: c.trace }) := by
  unfold construct handlerFor
  cases req with
  | byPid p => cases p <;> rfl
  | pmt pid prog => rfl
  | nit p => rfl
  | stream a st b c d e => by_cases h : isPes st = true <;> simp [h, Ctx.emit]

theorem handlerFor_cases (r : Req) (tag : Nat) :
    handlerFor r tag = .pat {} [] ∨ (∃ a b, handlerFor r tag = .pmt a b {} []) ∨
    handlerFor r tag = .pes tag {} ∨ handlerFor r tag = .recorder tag := by
  unfold handlerFor
  split
  · exact Or.inl rfl
  · exact Or.inr (Or.inr (Or.inr rfl))
  · exact Or.inr (Or.inl ⟨_, _, rfl⟩)
  · exact Or.inr (Or.inr (Or.inr rfl))
  · split
    · exact Or.inr (Or.inr (Or.inl rfl))
    · exact Or.inr (Or.inr (Or.inr rfl))

theorem built_eq_zipIdx : ∀ (l : List (Nat × Req)) (n : Nat),
    built n l = (l.zipIdx n).map fun x => (x.1.1, handlerFor x.1.2 x.2) := by
  intro l
  induction l with
  | nil => intro _; rfl
  | cons x rest ih => intro n; simp [built, ih, List.zipIdx_cons]

theorem constructEvents_eq_zipIdx : ∀ (l : List (Nat × Req)) (n : Nat),
    constructEvents n l = (l.zipIdx n).map fun x => Ev.construct x.1.2 x.2 := by
  intro l
  induction l with
  | nil => intro _; rfl
  | cons x rest ih => intro n; simp [constructEvents, ih, List.zipIdx_cons]

theorem built_length : ∀ (reqs : List (Nat × Req)) (tag : Nat), (built tag reqs).length = reqs.length := by
  intro reqs tag
  rw [built_eq_zipIdx, List.length_map, List.length_zipIdx]

theorem built_pids : ∀ (reqs : List (Nat × Req)) (tag : Nat), (built tag reqs).map (·.1) = reqs.map (·.1) := by
  intro reqs tag
  rw [built_eq_zipIdx, List.map_map]
  exact (List.map_map (g := Prod.fst) (f := Prod.fst)).symm.trans (by rw [List.zipIdx_map_fst])

theorem built_get (reqs : List (Nat × Req)) (tag i : Nat) :
    (built tag reqs)[i]? = reqs[i]?.map fun x => (x.1, handlerFor x.2 (tag + i)) := by
  rw [built_eq_zipIdx, List.getElem?_map, List.getElem?_zipIdx, Option.map_map]
  rfl

theorem built_mem {reqs : List (Nat × Req)} {tag : Nat} {x : Nat × Handler} (h : x ∈ built tag reqs) :
    ∃ r tag', (x.1, r) ∈ reqs ∧ x.2 = handlerFor r tag' := by
  rw [built_eq_zipIdx] at h
  obtain ⟨⟨⟨p, r⟩, tag'⟩, hm, rfl⟩ := List.mem_map.1 h
  obtain ⟨-, -, e⟩ := List.mem_zipIdx hm
  exact ⟨r, tag', e ▸ List.getElem_mem _, rfl⟩

theorem constructEvents_get (reqs : List (Nat × Req)) (tag i : Nat) :
    (constructEvents tag reqs)[i]? = reqs[i]?.map fun x => Ev.construct x.2 (tag + i) := by
  rw [constructEvents_eq_zipIdx, List.getElem?_map, List.getElem?_zipIdx, Option.map_map]
  rfl

theorem constructEvents_length (reqs : List (Nat × Req)) (tag : Nat) :
    (constructEvents tag reqs).length = reqs.length := by
  rw [constructEvents_eq_zipIdx, List.length_map, List.length_zipIdx]

/-- the `for entry in table { construct; changeset.insert }` loop -/
theorem foldl_construct {β : Type} (pid : β → Nat) (req : β → Req) :
    ∀ (l : List β) (c : Ctx) (acc : List (Change Handler)),
    l.foldl (fun (a : Ctx × List (Change Handler)) x =>
        ((construct a.1 (req x)).2, a.2 ++ [Change.insert (pid x) (construct a.1 (req x)).1])) (c, acc)
      = (ctxAfter c (l.map fun x => (pid x, req x)),
          acc ++ (built c.nextTag (l.map fun x => (pid x, req x))).map fun x => Change.insert x.1 x.2) := by
  intro l
  induction l with
  | nil => intro c acc; simp [ctxAfter, constructEvents, built]
  | cons x rest ih =>
    intro c acc
    rw [List.foldl_cons, construct_eq, ih]
    simp only [List.map_cons, built, constructEvents, ctxAfter, List.length_cons, List.reverse_cons,
      List.append_assoc, List.cons_append, List.nil_append]
    congr 2
    omega

theorem prologue (data : Bytes) (h : 12 ≤ data.length) :
    subR data.length 4 = .ok (data.length - 4) ∧
    sliceR data 8 (data.length - 4) = .ok ((data.drop 8).take (data.length - 12)) ∧
    byteAt data 0 = .ok (byteD data 0) := by
  refine ⟨?_, ?_, byteAt_ok data 0 (by omega)⟩
  · unfold subR; simp; omega
  · have e : data.length - 4 = 8 + (data.length - 12) := by omega
    rw [e, sliceR_ok data 8 _ (by omega)]

theorem prologue_len (data : Bytes) {e : Nat} {b : Bytes} (h1 : subR data.length 4 = .ok e)
    (h2 : sliceR data 8 e = .ok b) : 12 ≤ data.length := by
  unfold subR at h1
  unfold sliceR at h2
  split at h1
  · cases h1
    split at h2
    · cases h2
    · omega
  · cases h1

theorem patSection_eq (c : Ctx) (reg : List Nat) (data : Bytes) (h : 12 ≤ data.length) :
    patSection c reg data =
      if byteD data 0 ≠ 0 then .ok (c, reg, [])
      else
        let entries := specPat ((data.drop 8).take (data.length - 12))
        let reqs := patRequests entries
        .ok (ctxAfter c reqs, entries.map PatEntry.pid,
          (built c.nextTag reqs).map (fun x => Change.insert x.1 x.2)
            ++ (outdated reg (entries.map PatEntry.pid)).map Change.remove) := by
  obtain ⟨p1, p2, p3⟩ := prologue data h
  unfold patSection
  rw [p1]; simp only [R.ok_bind]
  rw [p2]; simp only [R.ok_bind]
  rw [p3]; simp only [R.ok_bind]
  by_cases ht : byteD data 0 = 0
  · have hb : ¬ ((byteD data 0 != 0) = true) := by simp [ht]
    rw [if_neg hb, if_neg (by simp [ht])]
    unfold patProgramsAll
    rw [patPrograms_eq _ _ (Nat.lt_succ_self _)]
    simp only [R.ok_bind]
    rw [removes_ok]
    simp only [R.ok_bind, R.pure_eq]
    rw [foldl_construct PatEntry.pid]
    simp only [List.nil_append]
    rfl
  · have hb : (byteD data 0 != 0) = true := by simp [ht]
    rw [if_pos hb, if_pos ht]
    rfl

theorem patSection_ok_len {c : Ctx} {reg : List Nat} {data : Bytes} {r : Ctx × List Nat × List (Change Handler)}
    (h : patSection c reg data = .ok r) : 12 ≤ data.length := by
  unfold patSection at h
  obtain ⟨e, h1, h⟩ := R.bind_eq_ok h
  obtain ⟨b, h2, -⟩ := R.bind_eq_ok h
  exact prologue_len data h1 h2

/-! ### the Debug walk over a PMT (`touch` configuration) never panics -/

theorem touchDescItem_ok (d : Nat × Bytes) : touchDescItem (classify d) = .ok () := by
  unfold classify
  by_cases hm : d.2.length < typedMinLength d.1
  · rw [if_pos hm]; rfl
  · rw [if_neg hm]
    unfold touchDescItem
    by_cases h5 : d.1 = 5
    · rw [h5] at hm
      have : 4 ≤ d.2.length := by simp [typedMinLength] at hm; omega
      simp [h5, regFields_eq d.2 this]
    by_cases h10 : d.1 = 10
    · have := languages_eq (d.2.length + 1) d.2 (Nat.lt_succ_self _)
      simp [h10, languagesAll, this]
    by_cases h14 : d.1 = 14
    · rw [h14] at hm
      have : 3 ≤ d.2.length := by simp [typedMinLength] at hm; omega
      simp [h14, maxBitrate_eq d.2 this]
    by_cases h40 : d.1 = 40
    · rw [h40] at hm
      have : 4 ≤ d.2.length := by simp [typedMinLength] at hm; omega
      simp [h40, avcFields_eq d.2 this]
    simp [h5, h10, h14, h40]

theorem touchDescs_ok (b : Bytes) : touchDescs b = .ok () := by
  unfold touchDescs descIterAll
  rw [descIter_eq _ b (Nat.lt_succ_self _)]
  simp only [R.ok_bind]
  apply forM_ok
  intro x hx
  unfold specDescItems at hx
  rcases List.mem_append.1 hx with hx | hx
  · obtain ⟨d, -, rfl⟩ := List.mem_map.1 hx
    exact touchDescItem_ok d
  · unfold trailingItems at hx
    split at hx
    · cases hx
    · split at hx <;> (rw [List.mem_singleton] at hx; subst hx; rfl)

theorem touchPmt_ok (sect : Bytes) (h : specPmtAccept sect) : touchPmt sect = .ok () := by
  unfold touchPmt
  rw [pmtPcrPid_eq sect (by have := h.1; omega), pmtDescriptorBytes_eq sect h, pmtStreams_eq sect h]
  simp only [R.ok_bind, touchDescs_ok]
  apply forM_ok
  intro s _
  rfl

theorem pmtSection_eq (c : Ctx) (pmtPid : Nat) (reg : List Nat) (data : Bytes) (h : 12 ≤ data.length) :
    pmtSection c pmtPid reg data =
      let body := (data.drop 8).take (data.length - 12)
      if ¬ specPmtAccept body then .ok (c, reg, [])
      else if byteD data 0 ≠ 2 then .ok (c, reg, [])
      else
        let reqs := pmtRequests pmtPid (specPcrPid body) (specProgramDescBytes body) (streamsOf body)
        .ok (ctxAfter c reqs, (streamsOf body).map StreamInfo.pid,
          (built c.nextTag reqs).map (fun x => Change.insert x.1 x.2)
            ++ (outdated reg ((streamsOf body).map StreamInfo.pid)).map Change.remove) := by
  obtain ⟨p1, p2, p3⟩ := prologue data h
  dsimp only
  unfold pmtSection
  rw [p1]; simp only [R.ok_bind]
  rw [p2]; simp only [R.ok_bind]
  rw [pmtFromBytes_eq]
  by_cases ha : specPmtAccept ((data.drop 8).take (data.length - 12))
  · rw [if_neg (not_not_intro ha)]
    simp only [if_pos ha, R.ok_bind]
    rw [p3]; simp only [R.ok_bind]
    by_cases ht : byteD data 0 = 2
    · have hb : ¬ ((byteD data 0 != 2) = true) := by simp [ht]
      rw [if_neg hb, if_neg (by simp [ht])]
      rw [pmtStreams_eq _ ha, pmtPcrPid_eq _ (by have := ha.1; omega), pmtDescriptorBytes_eq _ ha]
      simp only [R.ok_bind]
      cases hc : c.cfg.touch <;>
        simp only [Bool.false_eq_true, if_false, if_true, touchPmt_ok _ ha, R.ok_bind]
      all_goals
        rw [foldl_construct StreamInfo.pid, removes_ok]
        simp only [R.ok_bind, R.pure_eq, List.nil_append]
        rfl
    · have hb : (byteD data 0 != 2) = true := by simp [ht]
      rw [if_pos hb, if_pos ht]
      rfl
  · rw [if_pos ha]
    simp only [if_neg ha, R.ok_bind]
    rfl

theorem pmtSection_ok_len {c : Ctx} {pmtPid : Nat} {reg : List Nat} {data : Bytes}
    {r : Ctx × List Nat × List (Change Handler)} (h : pmtSection c pmtPid reg data = .ok r) :
    12 ≤ data.length := by
  unfold pmtSection at h
  obtain ⟨e, h1, h⟩ := R.bind_eq_ok h
  obtain ⟨b, h2, -⟩ := R.bind_eq_ok h
  exact prologue_len data h1 h2

theorem get_removes {H : Type} : ∀ (rem : List Nat) (t : Tab H) (p : Nat),
    (applyChanges t (rem.map Change.remove)).get p = if p ∈ rem then none else t.get p := by
  intro rem
  induction rem with
  | nil => intro t p; simp [applyChanges_nil]
  | cons a rest ih =>
    intro t p
    rw [List.map_cons, applyChanges_cons, ih]
    simp only [applyChange, Tab.get_remove, List.mem_cons]
    by_cases h1 : p ∈ rest <;> by_cases h2 : p = a <;> simp [h1, h2]

theorem get_inserts_last {H : Type} (t : Tab H) (pre post : List (Nat × H)) (p : Nat) (h : H)
    (hpost : ∀ x ∈ post, x.1 ≠ p) :
    (applyChanges t ((pre ++ (p, h) :: post).map fun x => Change.insert x.1 x.2)).get p = some h := by
  rw [List.map_append, List.map_cons]
  have := get_applyChanges_last t (pre.map fun x => Change.insert x.1 x.2)
    (post.map fun x => Change.insert x.1 x.2) (Change.insert p h)
    (by
      intro x hx
      obtain ⟨y, hy, rfl⟩ := List.mem_map.1 hx
      exact hpost y hy)
  exact this

theorem get_inserts_untouched {H : Type} (t : Tab H) (l : List (Nat × H)) (p : Nat)
    (hp : p ∉ l.map (·.1)) :
    (applyChanges t (l.map fun x => Change.insert x.1 x.2)).get p = t.get p := by
  apply get_applyChanges_untouched
  intro ch hch
  obtain ⟨y, hy, rfl⟩ := List.mem_map.1 hch
  intro e
  exact hp (List.mem_map.2 ⟨y, hy, e⟩)

theorem lastFor_some {α : Type} (l : List (Nat × α)) (p : Nat) (a : α) (h : lastFor l p = some a) :
    ∃ pre post, l = pre ++ (p, a) :: post ∧ ∀ x ∈ post, x.1 ≠ p := by
  unfold lastFor at h
  rw [Option.map_eq_some_iff] at h
  obtain ⟨⟨q, a'⟩, hf, ha⟩ := h
  simp only at ha
  subst ha
  rw [List.find?_eq_some_iff_append] at hf
  obtain ⟨hq, as, bs, hl, hno⟩ := hf
  have hq' : q = p := by simpa using hq
  subst hq'
  refine ⟨bs.reverse, as.reverse, ?_, ?_⟩
  · have := congrArg List.reverse hl
    simpa using this
  · intro x hx
    have := hno x (List.mem_reverse.1 hx)
    simpa using this

theorem lastFor_none {α : Type} (l : List (Nat × α)) (p : Nat) (h : lastFor l p = none) :
    p ∉ l.map (·.1) := by
  unfold lastFor at h
  rw [Option.map_eq_none_iff, List.find?_eq_none] at h
  intro hm
  obtain ⟨y, hy, e⟩ := List.mem_map.1 hm
  have := h y (List.mem_reverse.2 hy)
  simp [e] at this

theorem lastFor_of_not_mem {α : Type} (l : List (Nat × α)) (p : Nat) (h : p ∉ l.map (·.1)) :
    lastFor l p = none := by
  unfold lastFor
  rw [Option.map_eq_none_iff, List.find?_eq_none]
  intro x hx hxp
  exact h (List.mem_map.2 ⟨x, List.mem_reverse.1 hx, by simpa using hxp⟩)

theorem lastFor_of_split {α : Type} (pre post : List (Nat × α)) (p : Nat) (a : α)
    (hpost : ∀ x ∈ post, x.1 ≠ p) : lastFor (pre ++ (p, a) :: post) p = some a := by
  unfold lastFor
  rw [List.reverse_append, List.reverse_cons, List.append_assoc, List.find?_append]
  have : post.reverse.find? (fun x => x.1 == p) = none := by
    rw [List.find?_eq_none]
    intro x hx
    simpa using hpost x (List.mem_reverse.1 hx)
  rw [this]
  simp

theorem applied_of_lastFor {α : Type} (f : Nat → Option α) (l : List (Nat × α)) (reg : List Nat)
    (p : Nat) (a : α) (h : lastFor l p = some a) : applied f l reg p = some a := by
  unfold applied
  rw [h]

theorem applied_of_not_mem {α : Type} (f : Nat → Option α) (l : List (Nat × α)) (reg : List Nat)
    (p : Nat) (h : p ∉ l.map (·.1)) :
    applied f l reg p = if Outdated reg (l.map (·.1)) p then none else f p := by
  unfold applied
  rw [lastFor_of_not_mem l p h]

theorem get_applied {H : Type} (t : Tab H) (listed : List (Nat × H)) (reg : List Nat) (p : Nat) :
    (applyChanges t (listed.map (fun x => Change.insert x.1 x.2)
        ++ (outdated reg (listed.map (·.1))).map Change.remove)).get p
      = applied t.get listed reg p := by
  rw [applyChanges_append, get_removes]
  cases hl : lastFor listed p with
  | some a =>
    obtain ⟨pre, post, e, hpost⟩ := lastFor_some listed p a hl
    have hseen : p ∈ listed.map (·.1) := by rw [e]; simp
    rw [applied_of_lastFor _ _ _ _ _ hl, if_neg fun hm => ((mem_outdated _ _ _).1 hm).2.2 hseen, e]
    exact get_inserts_last t pre post p a hpost
  | none =>
    have hns := lastFor_none listed p hl
    rw [applied_of_not_mem _ _ _ _ hns, get_inserts_untouched t listed p hns]
    by_cases ho : p ∈ outdated reg (listed.map (·.1))
    · rw [if_pos ho, if_pos (show Outdated _ _ _ from (mem_outdated _ _ _).1 ho)]
    · rw [if_neg ho, if_neg fun hh : Outdated _ _ _ => ho ((mem_outdated _ _ _).2 hh)]

theorem pat_pids_13bit (body : Bytes) : ∀ p ∈ (specPat body).map PatEntry.pid, p < 8192 := by
  intro p hp
  obtain ⟨e, he, rfl⟩ := List.mem_map.1 hp
  unfold specPat at he
  obtain ⟨g, -, rfl⟩ := List.mem_map.1 he
  have := readBits_lt g 19 13
  unfold patEntryOf
  split <;> simp only [PatEntry.pid] <;> omega

theorem pmt_pids_13bit (body : Bytes) : ∀ p ∈ (streamsOf body).map StreamInfo.pid, p < 8192 := by
  intro p hp
  obtain ⟨s, hs, rfl⟩ := List.mem_map.1 hp
  unfold streamsOf at hs
  obtain ⟨e, he, rfl⟩ := List.mem_map.1 hs
  have := (specStreams_props _ (specStreamBytes body) (Nat.lt_succ_self _)).2.2 e he
  have := this.2.2.1
  simp only [StreamEnc.info]
  omega

theorem patRequests_pids (es : List PatEntry) : (patRequests es).map (·.1) = es.map PatEntry.pid := by
  unfold patRequests; simp

theorem pmtRequests_pids (pmtPid pcr : Nat) (pd : Bytes) (ss : List StreamInfo) :
    (pmtRequests pmtPid pcr pd ss).map (·.1) = ss.map StreamInfo.pid := by
  unfold pmtRequests; simp

theorem patSection_tid0 (c : Ctx) (reg : List Nat) (data : Bytes) (h : 12 ≤ data.length)
    (ht : byteD data 0 = 0) :
    patSection c reg data = .ok (ctxAfter c (patRequests (specPat (sectionBody data))),
      (specPat (sectionBody data)).map PatEntry.pid, patChanges c reg (sectionBody data)) := by
  rw [patSection_eq c reg data h, if_neg (by simp [ht])]
  rfl

theorem pmtSection_tid2 (c : Ctx) (pmtPid : Nat) (reg : List Nat) (data : Bytes) (h : 12 ≤ data.length)
    (ha : specPmtAccept (sectionBody data)) (ht : byteD data 0 = 2) :
    pmtSection c pmtPid reg data = .ok (ctxAfter c (pmtRequests pmtPid (specPcrPid (sectionBody data))
        (specProgramDescBytes (sectionBody data)) (streamsOf (sectionBody data))),
      (streamsOf (sectionBody data)).map StreamInfo.pid, pmtChanges c pmtPid reg (sectionBody data)) := by
  rw [pmtSection_eq c pmtPid reg data h]
  unfold sectionBody at ha ⊢
  dsimp only
  rw [if_neg (not_not_intro ha), if_neg (by simp [ht])]
  rfl

theorem patSection_ok {c : Ctx} {reg : List Nat} {data : Bytes} {c' : Ctx} {reg' : List Nat}
    {chg : List (Change Handler)} (h : patSection c reg data = .ok (c', reg', chg)) :
    12 ≤ data.length ∧
    ((byteD data 0 ≠ 0 ∧ c' = c ∧ reg' = reg ∧ chg = []) ∨
     (byteD data 0 = 0 ∧ c' = ctxAfter c (patRequests (specPat (sectionBody data))) ∧
      reg' = (specPat (sectionBody data)).map PatEntry.pid ∧ chg = patChanges c reg (sectionBody data))) := by
  have hl := patSection_ok_len h
  refine ⟨hl, ?_⟩
  by_cases ht : byteD data 0 = 0
  · rw [patSection_tid0 c reg data hl ht] at h
    cases h
    exact Or.inr ⟨ht, rfl, rfl, rfl⟩
  · rw [patSection_eq c reg data hl, if_pos ht] at h
    cases h
    exact Or.inl ⟨ht, rfl, rfl, rfl⟩

theorem pmtSection_ok {c : Ctx} {pmtPid : Nat} {reg : List Nat} {data : Bytes} {c' : Ctx} {reg' : List Nat}
    {chg : List (Change Handler)} (h : pmtSection c pmtPid reg data = .ok (c', reg', chg)) :
    12 ≤ data.length ∧
    (((¬ specPmtAccept (sectionBody data) ∨ byteD data 0 ≠ 2) ∧ c' = c ∧ reg' = reg ∧ chg = []) ∨
     (specPmtAccept (sectionBody data) ∧ byteD data 0 = 2 ∧
      c' = ctxAfter c (pmtRequests pmtPid (specPcrPid (sectionBody data))
        (specProgramDescBytes (sectionBody data)) (streamsOf (sectionBody data))) ∧
      reg' = (streamsOf (sectionBody data)).map StreamInfo.pid ∧
      chg = pmtChanges c pmtPid reg (sectionBody data))) := by
  have hl := pmtSection_ok_len h
  refine ⟨hl, ?_⟩
  by_cases ha : specPmtAccept (sectionBody data)
  · by_cases ht : byteD data 0 = 2
    · rw [pmtSection_tid2 c pmtPid reg data hl ha ht] at h
      cases h
      exact Or.inr ⟨ha, ht, rfl, rfl, rfl⟩
    · have ha' : specPmtAccept ((data.drop 8).take (data.length - 12)) := ha
      rw [pmtSection_eq c pmtPid reg data hl] at h
      dsimp only at h
      rw [if_neg (not_not_intro ha'), if_pos ht] at h
      cases h
      exact Or.inl ⟨Or.inr ht, rfl, rfl, rfl⟩
  · have ha' : ¬ specPmtAccept ((data.drop 8).take (data.length - 12)) := ha
    rw [pmtSection_eq c pmtPid reg data hl] at h
    dsimp only at h
    rw [if_pos ha'] at h
    cases h
    exact Or.inl ⟨Or.inl ha, rfl, rfl, rfl⟩

/-- one shape for both outcomes: an ignored section is the case `reqs = rem = []` -/
theorem patSection_shape {c : Ctx} {reg : List Nat} {data : Bytes} {c' : Ctx} {reg' : List Nat}
    {chg : List (Change Handler)} (h : patSection c reg data = .ok (c', reg', chg)) :
    ∃ (reqs : List (Nat × Req)) (rem : List Nat),
      (∀ x ∈ reqs, x.1 < 8192) ∧ (∀ p ∈ rem, p < 8192 ∧ p ∈ reg) ∧ c' = ctxAfter c reqs ∧
      chg = (built c.nextTag reqs).map (fun x => Change.insert x.1 x.2) ++ rem.map Change.remove := by
  obtain ⟨-, ⟨-, rfl, -, rfl⟩ | ⟨-, rfl, -, rfl⟩⟩ := patSection_ok h
  · exact ⟨[], [], by simp, by simp, rfl, rfl⟩
  · refine ⟨_, _, fun x hx => ?_, fun p hp => ?_, rfl, rfl⟩
    · exact pat_pids_13bit _ _ (by rw [← patRequests_pids]; exact List.mem_map_of_mem hx)
    · exact ⟨((mem_outdated _ _ _).1 hp).1, ((mem_outdated _ _ _).1 hp).2.1⟩

theorem pmtSection_shape {c : Ctx} {pmtPid : Nat} {reg : List Nat} {data : Bytes} {c' : Ctx}
    {reg' : List Nat} {chg : List (Change Handler)} (h : pmtSection c pmtPid reg data = .ok (c', reg', chg)) :
    ∃ (reqs : List (Nat × Req)) (rem : List Nat),
      (∀ x ∈ reqs, x.1 < 8192) ∧ (∀ p ∈ rem, p < 8192 ∧ p ∈ reg) ∧ c' = ctxAfter c reqs ∧
      chg = (built c.nextTag reqs).map (fun x => Change.insert x.1 x.2) ++ rem.map Change.remove := by
  obtain ⟨-, ⟨-, rfl, -, rfl⟩ | ⟨-, -, rfl, -, rfl⟩⟩ := pmtSection_ok h
  · exact ⟨[], [], by simp, by simp, rfl, rfl⟩
  · refine ⟨_, _, fun x hx => ?_, fun p hp => ?_, rfl, rfl⟩
    · exact pmt_pids_13bit _ _ (by rw [← pmtRequests_pids]; exact List.mem_map_of_mem hx)
    · exact ⟨((mem_outdated _ _ _).1 hp).1, ((mem_outdated _ _ _).1 hp).2.1⟩

/-- 12 = common header + table-syntax header + CRC -/
theorem crcPass_true_len (b : Bool) (d : Bytes) (h : Psi.crcPass b d = .ok true) : 12 ≤ d.length := by
  apply Classical.byContradiction
  intro hn
  have hl : d.length < 12 := by omega
  unfold Psi.crcPass at h
  obtain ⟨b1, -, h⟩ := R.bind_eq_ok h
  by_cases ha : b1 &&& 128 = 0
  · simp [assertR, ha] at h
  · simp [assertR, ha, Psi.COMMON, Psi.TSH, hl] at h

theorem runDeliveries_nil (sect : Ctx → List Nat → Bytes → R (Ctx × List Nat × List (Change Handler)))
    (c : Ctx) (reg : List Nat) : runDeliveries sect c reg [] = .ok (c, reg, []) := rfl

theorem runDeliveries_one (sect : Ctx → List Nat → Bytes → R (Ctx × List Nat × List (Change Handler)))
    (c : Ctx) (reg : List Nat) (d : Psi.Delivery) (c1 : Ctx) (reg1 : List Nat) (chg1 : List (Change Handler))
    (hcrc : Psi.crcPass c.cfg.bypassCrc d.bytes = .ok true)
    (hs : sect c reg d.bytes = .ok (c1, reg1, chg1)) :
    runDeliveries sect c reg [d] = .ok (c1, reg1, chg1) := by
  simp [runDeliveries, hcrc, hs]

/-- the one induction over the deliveries of a packet: `Rel c chg c'` for any relation that holds of
nothing done, composes, and holds of each section that passed the CRC layer -/
theorem runDeliveries_rel (sect : Ctx → List Nat → Bytes → R (Ctx × List Nat × List (Change Handler)))
    (Rel : Ctx → List (Change Handler) → Ctx → Prop)
    (hrefl : ∀ c, Rel c [] c)
    (htrans : ∀ a x b y c, Rel a x b → Rel b y c → Rel a (x ++ y) c)
    (ds : List Psi.Delivery)
    (hstep : ∀ d ∈ ds, ∀ c reg c' reg' chg, Psi.crcPass c.cfg.bypassCrc d.bytes = .ok true →
      sect c reg d.bytes = .ok (c', reg', chg) → Rel c chg c') :
    ∀ (c : Ctx) (reg : List Nat) (c' : Ctx) (reg' : List Nat) (chg : List (Change Handler)),
      runDeliveries sect c reg ds = .ok (c', reg', chg) → Rel c chg c' := by
  induction ds with
  | nil =>
    intro c reg c' reg' chg h
    cases h
    exact hrefl c
  | cons d ds ih =>
    intro c reg c' reg' chg h
    have ih := ih fun d' hd' => hstep d' (List.mem_cons_of_mem _ hd')
    unfold runDeliveries at h
    obtain ⟨b, hpass, h⟩ := R.bind_eq_ok h
    cases b with
    | true =>
      obtain ⟨⟨c1, reg1, chg1⟩, h1, h⟩ := R.bind_eq_ok h
      obtain ⟨⟨c2, reg2, chg2⟩, h2, h⟩ := R.bind_eq_ok h
      cases h
      exact htrans _ _ _ _ _ (hstep d List.mem_cons_self _ _ _ _ _ hpass h1) (ih _ _ _ _ _ h2)
    | false => exact ih _ _ _ _ _ h

theorem consume_pat_eq (s : Psi.St) (reg : List Nat) (c : Ctx) (pk : Pk) :
    App.consume (.pat s reg) c pk = (Psi.consume Psi.table s pk.bytes >>= fun x =>
      runDeliveries patSection c reg x.2 >>= fun y => .ok (.pat x.1 y.2.1, y.1, y.2.2)) := rfl

theorem consume_pmt_eq (pid prog : Nat) (s : Psi.St) (reg : List Nat) (c : Ctx) (pk : Pk) :
    App.consume (.pmt pid prog s reg) c pk = (Psi.consume Psi.table s pk.bytes >>= fun x =>
      runDeliveries (fun c r d => pmtSection c pid r d) c reg x.2 >>= fun y =>
        .ok (.pmt pid prog x.1 y.2.1, y.1, y.2.2)) := rfl

theorem consume_pes_eq (tag : Nat) (f : PesFilter.F) (c : Ctx) (pk : Pk) :
    App.consume (.pes tag f) c pk = (PesFilter.consume f pk.bytes >>= fun x =>
      esEvents c.cfg.touch tag pk.bytes pk.off c x.2 >>= fun c' => .ok (.pes tag x.1, c', [])) := rfl

theorem consume_recorder_eq (tag : Nat) (c : Ctx) (pk : Pk) :
    App.consume (.recorder tag) c pk =
      ((if c.cfg.touch then touchPacket pk.bytes else pure ()) >>= fun _ =>
        .ok (match c.cfg.script.lookup (pk.off / 188) with
          | some ops => (.recorder tag, scriptChanges (c.emit (.pkt tag pk.off)) ops)
          | none => (.recorder tag, c.emit (.pkt tag pk.off), []))) := by
  unfold App.consume
  cases c.cfg.touch <;> cases c.cfg.script.lookup (pk.off / 188) <;> rfl

theorem consume_pat_ok {s : Psi.St} {reg : List Nat} {c : Ctx} {pk : Pk} {h' : Handler} {c' : Ctx}
    {chg : List (Change Handler)} (h : App.consume (.pat s reg) c pk = .ok (h', c', chg)) :
    ∃ s' ds reg', Psi.consume Psi.table s pk.bytes = .ok (s', ds) ∧
      runDeliveries patSection c reg ds = .ok (c', reg', chg) ∧ h' = .pat s' reg' := by
  rw [consume_pat_eq] at h
  obtain ⟨⟨s', ds⟩, h1, h⟩ := R.bind_eq_ok h
  obtain ⟨⟨c2, reg', chg2⟩, h2, h⟩ := R.bind_eq_ok h
  cases h
  exact ⟨s', ds, reg', h1, h2, rfl⟩

theorem consume_pmt_ok {pid prog : Nat} {s : Psi.St} {reg : List Nat} {c : Ctx} {pk : Pk} {h' : Handler}
    {c' : Ctx} {chg : List (Change Handler)}
    (h : App.consume (.pmt pid prog s reg) c pk = .ok (h', c', chg)) :
    ∃ s' ds reg', Psi.consume Psi.table s pk.bytes = .ok (s', ds) ∧
      runDeliveries (fun c r d => pmtSection c pid r d) c reg ds = .ok (c', reg', chg) ∧
      h' = .pmt pid prog s' reg' := by
  rw [consume_pmt_eq] at h
  obtain ⟨⟨s', ds⟩, h1, h⟩ := R.bind_eq_ok h
  obtain ⟨⟨c2, reg', chg2⟩, h2, h⟩ := R.bind_eq_ok h
  cases h
  exact ⟨s', ds, reg', h1, h2, rfl⟩

theorem consume_pes_ok {tag : Nat} {f : PesFilter.F} {c : Ctx} {pk : Pk} {h' : Handler} {c' : Ctx}
    {chg : List (Change Handler)} (h : App.consume (.pes tag f) c pk = .ok (h', c', chg)) :
    ∃ f' evs, PesFilter.consume f pk.bytes = .ok (f', evs) ∧
      esEvents c.cfg.touch tag pk.bytes pk.off c evs = .ok c' ∧ h' = .pes tag f' ∧ chg = [] := by
  rw [consume_pes_eq] at h
  obtain ⟨⟨f', evs⟩, h1, h⟩ := R.bind_eq_ok h
  obtain ⟨c2, h2, h⟩ := R.bind_eq_ok h
  cases h
  exact ⟨f', evs, h1, h2, rfl, rfl⟩

theorem consume_recorder_ok {tag : Nat} {c : Ctx} {pk : Pk} {r : Handler × Ctx × List (Change Handler)}
    (h : App.consume (.recorder tag) c pk = .ok r) :
    r = match c.cfg.script.lookup (pk.off / 188) with
      | some ops => (.recorder tag, scriptChanges (c.emit (.pkt tag pk.off)) ops)
      | none => (.recorder tag, c.emit (.pkt tag pk.off), []) := by
  rw [consume_recorder_eq] at h
  obtain ⟨_, -, h⟩ := R.bind_eq_ok h
  exact (R.ok_inj h).symm

theorem consume_pat_none (s : Psi.St) (reg : List Nat) (c : Ctx) (pk : Pk) (s' : Psi.St)
    (hP : Psi.consume Psi.table s pk.bytes = .ok (s', [])) :
    App.consume (.pat s reg) c pk = .ok (.pat s' reg, c, []) := by
  rw [consume_pat_eq, hP]
  rfl

theorem consume_pmt_none (pid prog : Nat) (s : Psi.St) (reg : List Nat) (c : Ctx) (pk : Pk) (s' : Psi.St)
    (hP : Psi.consume Psi.table s pk.bytes = .ok (s', [])) :
    App.consume (.pmt pid prog s reg) c pk = .ok (.pmt pid prog s' reg, c, []) := by
  rw [consume_pmt_eq, hP]
  rfl

theorem consume_pat_one (s : Psi.St) (reg : List Nat) (c : Ctx) (pk : Pk) (s' : Psi.St) (d : Psi.Delivery)
    (hP : Psi.consume Psi.table s pk.bytes = .ok (s', [d]))
    (hcrc : Psi.crcPass c.cfg.bypassCrc d.bytes = .ok true)
    (ht : byteD d.bytes 0 = 0) :
    App.consume (.pat s reg) c pk = .ok (.pat s' ((specPat (sectionBody d.bytes)).map PatEntry.pid),
      ctxAfter c (patRequests (specPat (sectionBody d.bytes))), patChanges c reg (sectionBody d.bytes)) := by
  rw [consume_pat_eq, hP]
  simp only [R.ok_bind]
  rw [runDeliveries_one patSection c reg d _ _ _ hcrc
    (patSection_tid0 c reg d.bytes (crcPass_true_len _ _ hcrc) ht)]
  rfl

theorem consume_pmt_one (pid prog : Nat) (s : Psi.St) (reg : List Nat) (c : Ctx) (pk : Pk) (s' : Psi.St)
    (d : Psi.Delivery)
    (hP : Psi.consume Psi.table s pk.bytes = .ok (s', [d]))
    (hcrc : Psi.crcPass c.cfg.bypassCrc d.bytes = .ok true)
    (ha : specPmtAccept (sectionBody d.bytes)) (ht : byteD d.bytes 0 = 2) :
    App.consume (.pmt pid prog s reg) c pk = .ok (.pmt pid prog s' ((streamsOf (sectionBody d.bytes)).map StreamInfo.pid),
      ctxAfter c (pmtRequests pid (specPcrPid (sectionBody d.bytes)) (specProgramDescBytes (sectionBody d.bytes))
        (streamsOf (sectionBody d.bytes))), pmtChanges c pid reg (sectionBody d.bytes)) := by
  rw [consume_pmt_eq, hP]
  simp only [R.ok_bind]
  rw [runDeliveries_one (fun c r d => pmtSection c pid r d) c reg d _ _ _ hcrc
    (pmtSection_tid2 c pid reg d.bytes (crcPass_true_len _ _ hcrc) ha ht)]
  rfl

end Ts.Lemmas.C05
