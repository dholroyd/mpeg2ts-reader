import Ts.Gen.PsiGen
import Ts.Lemmas.C03d
import Ts.Props.C04
/-!
# Statement-level tie — the section reassembly chain (audited with C03, C04, C10, C11)

`Ts.Gen.PsiGen` is the section chain of `/repo/src/psi/mod.rs` as it reads NOW
(`SectionPacketConsumer::consume`, the two `…SyntaxSectionProcessor`s, the de-duplication layer, the
two buffering layers, the CRC gate), translated statement by statement by `tools/gen_psi.py`: one
Lean function per Rust method, returning the struct's new fields and the calls it made on the layer
it wraps.  This module *composes* the translated layers the way `demultiplex.rs` and the harness
nest the types

* `table`      — `SectionPacketConsumer<SectionSyntaxSectionProcessor<Dedup…<BufferSectionSyntaxParser<…>>>>`
* `rawSection` — `SectionPacketConsumer<SectionSyntaxSectionProcessor<BufferSectionSyntaxParser<…>>>`
* `rawCompact` — `SectionPacketConsumer<CompactSyntaxSectionProcessor<BufferCompactSyntaxParser<…>>>`

(every call a layer makes is interpreted by the next layer's translated method, in order) and
proves, for EVERY state of every layer and EVERY payload (any bytes, any length, any
`payload_unit_start_indicator`), that the composed translation computes exactly what the
hand-written model `Ts.Psi.consume` computes — same new state, same deliveries with the same
zero-copy provenance, a panic exactly when (and where) the model panics.  `code_consume_*` lift that
to 188-byte packets; `tie_stmt_crc` does the same for the CRC gate (`Stmt.erase`: the assertion
message is not compared).
-/
-- The simp lists also name the spellings that an equivalent rewrite of the source would produce;
-- on any one translation some of them are unused.
set_option linter.unusedSimpArgs false
namespace Ts.Props.Ties.StmtPsi
open Ts Ts.Psi Ts.Stmt Ts.Gen.PsiGen Ts.Lemmas.C03

def remOf : BufferSectionState → Option Nat
  | .Complete => none
  | .Buffering n => some n

def stateOf : Option Nat → BufferSectionState
  | none => .Complete
  | some n => .Buffering n

@[simp] theorem remOf_stateOf (r : Option Nat) : remOf (stateOf r) = r := by cases r <;> rfl
@[simp] theorem stateOf_remOf (s : BufferSectionState) : stateOf (remOf s) = s := by cases s <;> rfl

def delivOf (d : Slice) : Delivery := ⟨d.bytes, d.src⟩

def rmap {α β : Type} (f : α → β) : R α → R β
  | .ok a => .ok (f a)
  | .panic s => .panic s

@[simp] theorem rmap_ok {α β} (f : α → β) (a : α) : rmap f (R.ok a) = R.ok (f a) := rfl
@[simp] theorem rmap_panic {α β} (f : α → β) (s : String) : rmap f (R.panic s : R α) = R.panic s := rfl
theorem rmap_eq_ok {α β} {f : α → β} {x : R α} {b : β} (h : rmap f x = .ok b) : ∃ a, x = .ok a ∧ f a = b := by
  cases x with
  | ok a => exact ⟨a, rfl, R.ok.inj h⟩
  | panic s => cases h
theorem bind_congr_ok {α β} {x : R α} {f g : α → R β} (h : ∀ a, x = .ok a → f a = g a) : x >>= f = x >>= g := by
  cases x with
  | ok a => exact h a rfl
  | panic s => rfl
theorem rmap_eq_bind {α β} (f : α → β) (x : R α) : rmap f x = x >>= fun a => R.ok (f a) := by cases x <;> rfl
theorem R.bind_assoc {α β γ} (x : R α) (f : α → R β) (g : β → R γ) :
    (x >>= f) >>= g = x >>= fun a => f a >>= g := by cases x <;> rfl
theorem rmap_bind {α β γ} (x : R α) (g : α → R β) (f : β → γ) :
    rmap f (x >>= g) = x >>= fun a => rmap f (g a) := by cases x <;> rfl
theorem bind_rmap {α β γ} (x : R α) (f : α → β) (k : β → R γ) :
    rmap f x >>= k = x >>= fun a => k (f a) := by cases x <;> rfl
theorem rmap_rmap {α β γ} (x : R α) (f : α → β) (g : β → γ) : rmap g (rmap f x) = rmap (fun a => g (f a)) x := by
  cases x <;> rfl
theorem rmap_id {α} (x : R α) : rmap (fun a => a) x = x := by cases x <;> rfl
theorem bind_ok_eta {α} (x : R α) : (x >>= fun a => R.ok a) = x := by cases x <;> rfl

theorem erase_rmap {α β : Type} {x x' : R α} (f : α → β) (hx : erase x = erase x') :
    erase (rmap f x) = erase (rmap f x') := by
  rw [rmap_eq_bind, rmap_eq_bind]
  exact erase_bind_congr hx fun _ => rfl

theorem upto_ok (s : Slice) (n : Nat) (h : n ≤ s.bytes.length) : s.upto n = .ok ⟨s.bytes.take n, s.src⟩ := by
  unfold Slice.upto; rw [sliceTo_ok _ _ h]; rfl
theorem upto_le {s t : Slice} {n : Nat} (h : s.upto n = .ok t) : n ≤ s.bytes.length := by
  refine Nat.le_of_not_lt fun hlt => ?_
  rw [Slice.upto, sliceTo, if_pos hlt] at h
  cases h
theorem from_ok (s : Slice) (n : Nat) (h : n ≤ s.bytes.length) :
    s.from n = .ok ⟨s.bytes.drop n, s.src.map (· + n)⟩ := by
  unfold Slice.from; rw [sliceFrom_ok _ _ h]; rfl
theorem sub_zero_ok (s : Slice) : s.sub 0 0 = .ok ⟨[], s.src.map (· + 0)⟩ := by
  unfold Slice.sub sliceR; simp
theorem subR_ok (a b : Nat) (h : b ≤ a) : subR a b = .ok (a - b) := by simp [subR, h]

/-- `if len > remaining { 0 } else { remaining - len }` is truncated subtraction (`newRemaining_eq`);
the three spellings of it that translations produce: the test as a `decide`, the difference re-bound,
and `R.ok` for `pure` (which `simp` does not see through) -/
theorem newRem1 (a n : Nat) : (if decide (a > n) = true then (R.ok 0 : R Nat) else subR n a) = R.ok (n - a) := by
  simp only [decide_eq_true_eq]; exact newRemaining_eq n a
theorem newRem2 (a n : Nat) :
    (if decide (a > n) = true then (R.ok 0 : R Nat) else (subR n a >>= fun t => R.ok t)) = R.ok (n - a) := by
  simp only [decide_eq_true_eq, bind_ok_eta]; exact newRemaining_eq n a
theorem newRem3 (a n : Nat) : (if a > n then (R.ok 0 : R Nat) else subR n a) = R.ok (n - a) :=
  newRemaining_eq n a

/-- run a list of calls through the next layer, concatenating what that layer emits in turn -/
def foldCalls {σ C D : Type} (f : σ → C → R (σ × List D)) (s : σ) : List C → R (σ × List D)
  | [] => .ok (s, [])
  | c :: cs => f s c >>= fun r1 => foldCalls f r1.1 cs >>= fun r2 => .ok (r2.1, r1.2 ++ r2.2)

/-- a layer's result followed by the interpretation of its calls by the layer below -/
def thenCalls {σ τ C D : Type} (x : R (σ × List C)) (f : τ → C → R (τ × List D)) (t : τ) : R ((σ × τ) × List D) :=
  x >>= fun r => foldCalls f t r.2 >>= fun r2 => .ok ((r.1, r2.1), r2.2)

@[simp] theorem foldCalls_nil {σ C D : Type} (f : σ → C → R (σ × List D)) (s : σ) :
    foldCalls f s [] = .ok (s, []) := rfl
@[simp] theorem foldCalls_one {σ C D : Type} (f : σ → C → R (σ × List D)) (s : σ) (c : C) :
    foldCalls f s [c] = f s c := by
  show (f s c >>= fun r1 => R.ok (r1.1, r1.2 ++ [])) = f s c
  cases f s c with
  | ok r => simp
  | panic m => rfl
theorem foldCalls_two {σ C D : Type} (f : σ → C → R (σ × List D)) (s : σ) (c1 c2 : C) :
    foldCalls f s [c1, c2] = f s c1 >>= fun r1 => f r1.1 c2 >>= fun r2 => .ok (r2.1, r1.2 ++ r2.2) := by
  show (f s c1 >>= fun r1 => foldCalls f r1.1 [c2] >>= fun r2 => R.ok (r2.1, r1.2 ++ r2.2)) = _
  simp only [foldCalls_one]

def concB (s : St) : BufferSectionSyntaxParser.Self := ⟨s.buf, stateOf s.remaining⟩
def concBC (s : St) : BufferCompactSyntaxParser.Self := ⟨s.buf, stateOf s.remaining⟩

/-- interpretation of the calls made on `BufferSectionSyntaxParser`; its own calls (`section`) are the deliveries -/
def bufSStep (fz : Bool) (b : BufferSectionSyntaxParser.Self) :
    DedupSectionSyntaxPayloadParser.Call → R (BufferSectionSyntaxParser.Self × List Delivery)
  | .start_syntax_section h t d =>
    rmap (fun r => (r.1, r.2.map fun | .«section» _ _ x => delivOf x)) (BufferSectionSyntaxParser.start_syntax_section fz b h t d)
  | .continue_syntax_section d =>
    rmap (fun r => (r.1, r.2.map fun | .«section» _ _ x => delivOf x)) (BufferSectionSyntaxParser.continue_syntax_section fz b d)
  | .reset =>
    rmap (fun r => (r.1, r.2.map fun | .«section» _ _ x => delivOf x)) (BufferSectionSyntaxParser.reset fz b)

/-- the same layer directly under the section-syntax processor (no de-duplication) -/
def bufSStepRaw (fz : Bool) (b : BufferSectionSyntaxParser.Self) :
    SectionSyntaxSectionProcessor.Call → R (BufferSectionSyntaxParser.Self × List Delivery)
  | .start_syntax_section h t d => bufSStep fz b (.start_syntax_section h t d)
  | .continue_syntax_section d => bufSStep fz b (.continue_syntax_section d)
  | .reset => bufSStep fz b .reset

def bufCStep (fz : Bool) (b : BufferCompactSyntaxParser.Self) :
    CompactSyntaxSectionProcessor.Call → R (BufferCompactSyntaxParser.Self × List Delivery)
  | .start_compact_section h d =>
    rmap (fun r => (r.1, r.2.map fun | .«section» _ x => delivOf x)) (BufferCompactSyntaxParser.start_compact_section fz b h d)
  | .continue_compact_section d =>
    rmap (fun r => (r.1, r.2.map fun | .«section» _ x => delivOf x)) (BufferCompactSyntaxParser.continue_compact_section fz b d)
  | .reset =>
    rmap (fun r => (r.1, r.2.map fun | .«section» _ x => delivOf x)) (BufferCompactSyntaxParser.reset fz b)

/-- what the buffering layer changes of the model state -/
def setB (s0 s : St) : St := { s0 with buf := s.buf, remaining := s.remaining }

theorem bufS_start (fz : Bool) (s : St) (h : Header) (t d : Slice) (off : Nat) (hd : d.src = some off) :
    bufSStep fz (concB s) (.start_syntax_section h t d)
      = rmap (fun r => (concB r.1, r.2)) (Psi.bufStart s h d.bytes off) := by
  unfold bufSStep BufferSectionSyntaxParser.start_syntax_section Psi.bufStart
  simp only [Slice.len, COMMON]
  by_cases hc : h.sectionLength + 3 ≤ d.bytes.length
  · simp only [hc, decide_true, if_true, upto_ok _ _ hc, sliceTo_ok _ _ hc, R.ok_bind, R.pure_eq, rmap_ok]
    simp [concB, delivOf, hd, stateOf]
  · have h2 : d.bytes.length ≤ h.sectionLength + 3 := by omega
    simp only [hc, decide_false, if_false, Bool.false_eq_true, subR_ok _ _ h2, R.ok_bind, R.pure_eq, rmap_ok]
    simp [concB, stateOf]

theorem bufS_reset (fz : Bool) (s : St) :
    bufSStep fz (concB s) .reset = .ok (concB (bufReset s), []) := by
  simp [bufSStep, BufferSectionSyntaxParser.reset, concB, bufReset, stateOf]

theorem bufS_continue (fz : Bool) (cfg : Cfg) (hs : cfg.sectionSyntax = true) (s : St) (d : Slice) :
    bufSStep fz (concB s) (.continue_syntax_section d)
      = rmap (fun r => (concB r.1, r.2)) (Psi.bufContinue cfg s d.bytes) := by
  unfold bufSStep BufferSectionSyntaxParser.continue_syntax_section Psi.bufContinue
  cases hr : s.remaining with
  | none => simp [concB, stateOf, hr]
  | some n =>
    simp only [concB, stateOf, hr, R.pure_eq, newRem1, newRem2, newRem3, R.ok_bind]
    simp only [show d.len = d.bytes.length from rfl]
    by_cases h0 : n - d.bytes.length = 0
    · have h2 : n ≤ d.bytes.length := by omega
      simp only [h0, BEq.rfl, if_true, upto_ok _ _ h2, sliceTo_ok _ _ h2, R.ok_bind]
      simp only [Slice.upto, Slice.from, Slice.ofVec, Stmt.headerNew, Stmt.tshNew, hs, if_true, COMMON,
        rmap_bind, R.bind_assoc, R.ok_bind, R.pure_eq, rmap_ok]
      rfl
    · have hb : (n - d.bytes.length == 0) = false := by simp [h0]
      simp only [hb, if_false, Bool.false_eq_true, R.ok_bind, rmap_ok, R.pure_eq]
      rfl

theorem bufC_start (fz : Bool) (s : St) (h : Header) (d : Slice) (off : Nat) (hd : d.src = some off) :
    bufCStep fz (concBC s) (.start_compact_section h d)
      = rmap (fun r => (concBC r.1, r.2)) (Psi.bufStart s h d.bytes off) := by
  unfold bufCStep BufferCompactSyntaxParser.start_compact_section Psi.bufStart
  simp only [Slice.len, COMMON]
  by_cases hc : h.sectionLength + 3 ≤ d.bytes.length
  · simp only [hc, decide_true, if_true, upto_ok _ _ hc, sliceTo_ok _ _ hc, R.ok_bind, R.pure_eq, rmap_ok]
    simp [concBC, delivOf, hd, stateOf]
  · have h2 : d.bytes.length ≤ h.sectionLength + 3 := by omega
    simp only [hc, decide_false, if_false, Bool.false_eq_true, subR_ok _ _ h2, R.ok_bind, R.pure_eq, rmap_ok]
    simp [concBC, stateOf]

theorem bufC_reset (fz : Bool) (s : St) :
    bufCStep fz (concBC s) .reset = .ok (concBC (bufReset s), []) := by
  simp [bufCStep, BufferCompactSyntaxParser.reset, concBC, bufReset, stateOf]

theorem bufC_continue (fz : Bool) (cfg : Cfg) (hs : cfg.sectionSyntax = false) (s : St) (d : Slice) :
    bufCStep fz (concBC s) (.continue_compact_section d)
      = rmap (fun r => (concBC r.1, r.2)) (Psi.bufContinue cfg s d.bytes) := by
  unfold bufCStep BufferCompactSyntaxParser.continue_compact_section Psi.bufContinue
  cases hr : s.remaining with
  | none => simp [concBC, stateOf, hr]
  | some n =>
    simp only [concBC, stateOf, hr, R.pure_eq, newRem1, newRem2, newRem3, R.ok_bind]
    simp only [show d.len = d.bytes.length from rfl]
    by_cases h0 : n - d.bytes.length = 0
    · have h2 : n ≤ d.bytes.length := by omega
      simp only [h0, BEq.rfl, if_true, upto_ok _ _ h2, sliceTo_ok _ _ h2, R.ok_bind]
      simp only [Slice.upto, Slice.from, Slice.ofVec, Stmt.headerNew, Stmt.tshNew, hs, if_false, Bool.false_eq_true, COMMON,
        rmap_bind, R.bind_assoc, R.ok_bind, R.pure_eq, rmap_ok]
      rfl
    · have hb : (n - d.bytes.length == 0) = false := by simp [h0]
      simp only [hb, if_false, Bool.false_eq_true, R.ok_bind, rmap_ok, R.pure_eq]
      rfl

theorem bufStart_ok (s : St) (h : Header) (data : Bytes) (off : Nat) :
    Psi.bufStart s h data off = .ok
      (if h.sectionLength + 3 ≤ data.length then
        ({ s with remaining := none }, [⟨data.take (h.sectionLength + 3), some off⟩])
       else ({ s with buf := data, remaining := some (h.sectionLength + 3 - data.length) }, [])) := by
  unfold Psi.bufStart
  simp only [COMMON]
  by_cases hc : h.sectionLength + 3 ≤ data.length
  · simp only [hc, if_true, sliceTo_ok _ _ hc, R.ok_bind, R.pure_eq]
  · simp only [hc, if_false, subR_ok _ _ (by omega : data.length ≤ h.sectionLength + 3), R.ok_bind, R.pure_eq]

theorem bufStart_setB (s : St) (h : Header) (data : Bytes) (off : Nat) :
    Psi.bufStart s h data off = rmap (fun r => (setB s r.1, r.2)) (Psi.bufStart s h data off) := by
  rw [bufStart_ok]; split <;> rfl

theorem bufContinue_setB (cfg : Cfg) (s : St) (data : Bytes) :
    Psi.bufContinue cfg s data = rmap (fun r => (setB s r.1, r.2)) (Psi.bufContinue cfg s data) := by
  cases e : Psi.bufContinue cfg s data with
  | panic m => rfl
  | ok r =>
    -- every successful path writes `buf` and `remaining` only
    suffices h : r.1 = setB s r.1 by rw [rmap_ok, ← h]
    unfold Psi.bufContinue at e
    cases hr : s.remaining with
    | none => rw [hr] at e; cases e; rfl
    | some n =>
      rw [hr] at e
      obtain ⟨nr, _, e⟩ := R.bind_eq_ok e
      split at e
      · obtain ⟨part, _, e⟩ := R.bind_eq_ok e
        obtain ⟨hb, _, e⟩ := R.bind_eq_ok e
        obtain ⟨_, _, e⟩ := R.bind_eq_ok e
        split at e
        · obtain ⟨tb, _, e⟩ := R.bind_eq_ok e
          obtain ⟨_, _, e⟩ := R.bind_eq_ok e
          cases e; rfl
        · cases e; rfl
      · cases e; rfl
theorem frame_of_setB {L : Type} {s : St} {x : R (St × L)} (h : x = rmap (fun r => (setB s r.1, r.2)) x)
    (r : St × L) (e : x = .ok r) :
    r.1.ignoreRest = s.ignoreRest ∧ r.1.lastVersion = s.lastVersion ∧ r.1.dedupIgnore = s.dedupIgnore := by
  rw [e] at h
  simp only [rmap_ok] at h
  have h1 : r.1 = setB s r.1 := congrArg (fun x => x.1) (R.ok.inj h)
  refine ⟨?_, ?_, ?_⟩ <;> (rw [h1]; rfl)

/-! ### the de-duplication layer over the buffering layer -/

def concD (s : St) : DedupSectionSyntaxPayloadParser.Self := ⟨s.lastVersion, s.dedupIgnore⟩

def dedupStep (fz : Bool) (d : DedupSectionSyntaxPayloadParser.Self) :
    SectionSyntaxSectionProcessor.Call → R (DedupSectionSyntaxPayloadParser.Self × List DedupSectionSyntaxPayloadParser.Call)
  | .start_syntax_section h t x => DedupSectionSyntaxPayloadParser.start_syntax_section fz d h t x
  | .continue_syntax_section x => DedupSectionSyntaxPayloadParser.continue_syntax_section fz d x
  | .reset => DedupSectionSyntaxPayloadParser.reset fz d

abbrev DB := DedupSectionSyntaxPayloadParser.Self × BufferSectionSyntaxParser.Self

def dbStep (fz : Bool) (db : DB) (c : SectionSyntaxSectionProcessor.Call) : R (DB × List Delivery) :=
  thenCalls (dedupStep fz db.1 c) (bufSStep fz) db.2

def concDB (s : St) : DB := (concD s, concB s)

theorem db_continue (fz : Bool) (s : St) (d : Slice) :
    dbStep fz (concDB s) (.continue_syntax_section d)
      = rmap (fun r => (concDB r.1, r.2)) (Psi.dedupContinue Psi.table s d.bytes) := by
  unfold dbStep thenCalls dedupStep DedupSectionSyntaxPayloadParser.continue_syntax_section Psi.dedupContinue
  cases hi : s.dedupIgnore
  · simp only [concDB, concD, hi, Bool.not_false, if_true, R.pure_eq, R.ok_bind, List.nil_append, foldCalls_one,
      Psi.table, Bool.and_false, Bool.false_eq_true, if_false]
    rw [bufS_continue fz ⟨true, true⟩ rfl s d]
    rw [bind_rmap, rmap_eq_bind]
    refine bind_congr_ok fun r hb => ?_
    obtain ⟨_, h2, h3⟩ := frame_of_setB (bufContinue_setB ⟨true, true⟩ s d.bytes) r hb
    simp only [h2, h3, hi]
  · simp only [concDB, concD, hi, Bool.not_true, Bool.false_eq_true, if_false, R.pure_eq, R.ok_bind, foldCalls_nil,
      Psi.table, Bool.and_self, if_true, rmap_ok]

theorem db_reset (fz : Bool) (s : St) :
    dbStep fz (concDB s) .reset = .ok (concDB (Psi.dedupReset Psi.table s), []) := by
  unfold dbStep thenCalls dedupStep DedupSectionSyntaxPayloadParser.reset
  simp only [R.pure_eq, R.ok_bind, List.nil_append, foldCalls_one, concDB, bufS_reset]
  rfl

theorem db_start (fz : Bool) (s : St) (h : Header) (t d : Slice) (off : Nat) (hd : d.src = some off)
    (ht : t.bytes = d.bytes.drop 3) (h3 : 3 ≤ d.bytes.length) (h5 : 5 ≤ t.bytes.length) :
    dbStep fz (concDB s) (.start_syntax_section h t d)
      = rmap (fun r => (concDB r.1, r.2)) (Psi.dedupStart Psi.table s h d.bytes off) := by
  have hv : Psi.tshVersion (d.bytes.drop 3) = .ok ((byteD t.bytes 2 >>> 1) &&& 0b0001_1111) := by
    unfold Psi.tshVersion
    rw [← ht, byteAt_ok _ 2 (by omega)]
    simp [assertR, TSH, h5]
  have hg : Stmt.tshVersion t = .ok ((byteD t.bytes 2 >>> 1) &&& 0b0001_1111) := by
    unfold Stmt.tshVersion
    rw [byteAt_ok _ 2 (by omega)]; rfl
  unfold dbStep thenCalls dedupStep DedupSectionSyntaxPayloadParser.start_syntax_section Psi.dedupStart
  simp only [Psi.table, if_true, COMMON, sliceFrom_ok _ _ h3, R.ok_bind, hv, hg, concDB, concD]
  generalize (byteD t.bytes 2 >>> 1) &&& 0b0001_1111 = v
  have key : ∀ s' : St, s'.buf = s.buf → s'.remaining = s.remaining → s'.lastVersion = some v → s'.dedupIgnore = false →
      (bufSStep fz (concB s) (.start_syntax_section h t d) >>= fun r2 =>
        R.ok (((⟨some v, false⟩ : DedupSectionSyntaxPayloadParser.Self), r2.1), r2.2))
        = rmap (fun r => ((concD r.1, concB r.1), r.2)) (Psi.bufStart s' h d.bytes off) := by
    intro s' e1 e2 e3 e4
    have hcb : concB s = concB s' := by simp [concB, e1, e2]
    rw [hcb, bufS_start fz s' h t d off hd]
    rw [bind_rmap, rmap_eq_bind]
    refine bind_congr_ok fun r hb => ?_
    obtain ⟨_, h2, h3⟩ := frame_of_setB (bufStart_setB s' h d.bytes off) r hb
    simp only [concD, h2, h3, e3, e4]
  cases hl : s.lastVersion with
  | none =>
    have : ((none : Option Nat) == some v) = false := rfl
    simp only [this, Bool.false_eq_true, if_false, R.pure_eq, R.ok_bind, List.nil_append, foldCalls_one]
    exact key _ rfl rfl rfl rfl
  | some last =>
    by_cases he : last = v
    · subst he
      simp only [BEq.rfl, if_true, R.pure_eq, R.ok_bind, foldCalls_nil, rmap_ok]
      rfl
    · have h1 : (last == v) = false := by simp [he]
      have h2 : (some last == some v) = false := by simp [he]
      simp only [h1, h2, Bool.false_eq_true, if_false, R.pure_eq, R.ok_bind, List.nil_append, foldCalls_one]
      exact key _ rfl rfl rfl rfl

/-! ### frame: what the model's de-duplication and buffering layers leave alone -/

theorem dedupContinue_ir (cfg : Cfg) (s : St) (data : Bytes) (r : St × List Delivery)
    (e : Psi.dedupContinue cfg s data = .ok r) : r.1.ignoreRest = s.ignoreRest := by
  unfold Psi.dedupContinue at e
  split at e
  · cases e; rfl
  · exact (frame_of_setB (bufContinue_setB cfg s data) r e).1

theorem dedupStart_ir (cfg : Cfg) (s : St) (h : Header) (data : Bytes) (off : Nat) (r : St × List Delivery)
    (e : Psi.dedupStart cfg s h data off = .ok r) : r.1.ignoreRest = s.ignoreRest := by
  unfold Psi.dedupStart at e
  cases hd : cfg.dedup
  · simp only [hd, Bool.false_eq_true, if_false] at e
    exact (frame_of_setB (bufStart_setB s h data off) r e).1
  · simp only [hd, if_true] at e
    obtain ⟨tb, _, e⟩ := R.bind_eq_ok e
    obtain ⟨v, _, e⟩ := R.bind_eq_ok e
    split at e
    · cases e; rfl
    · exact (frame_of_setB (bufStart_setB _ h data off) r e).1

/-! ### the section-syntax processor over any lower layer that realises the model's de-duplication level -/

def concP (s : St) : SectionSyntaxSectionProcessor.Self := ⟨s.ignoreRest⟩

def procStep (fz : Bool) (p : SectionSyntaxSectionProcessor.Self) :
    SectionPacketConsumer.Call → R (SectionSyntaxSectionProcessor.Self × List SectionSyntaxSectionProcessor.Call)
  | .start_section h d => SectionSyntaxSectionProcessor.start_section fz p h d
  | .continue_section d => SectionSyntaxSectionProcessor.continue_section fz p d
  | .reset => SectionSyntaxSectionProcessor.reset fz p

def overS {τ : Type} (fz : Bool) (low : τ → SectionSyntaxSectionProcessor.Call → R (τ × List Delivery))
    (st : SectionSyntaxSectionProcessor.Self × τ) (c : SectionPacketConsumer.Call) :
    R ((SectionSyntaxSectionProcessor.Self × τ) × List Delivery) :=
  thenCalls (procStep fz st.1 c) low st.2

/-- what a lower layer has to satisfy: it computes the model's de-duplication level of `cfg` -/
structure LowOk {τ : Type} (cfg : Cfg) (low : τ → SectionSyntaxSectionProcessor.Call → R (τ × List Delivery))
    (concL : St → τ) : Prop where
  frame : ∀ s s' : St, s'.buf = s.buf → s'.remaining = s.remaining → s'.lastVersion = s.lastVersion →
    s'.dedupIgnore = s.dedupIgnore → concL s' = concL s
  cont : ∀ (s : St) (d : Slice), low (concL s) (.continue_syntax_section d)
    = rmap (fun r => (concL r.1, r.2)) (Psi.dedupContinue cfg s d.bytes)
  reset : ∀ s : St, low (concL s) .reset = .ok (concL (Psi.dedupReset cfg s), [])
  start : ∀ (s : St) (h : Header) (t : Slice) (b : Bytes) (off : Nat), t.bytes = b.drop 3 → 3 ≤ b.length →
    5 ≤ t.bytes.length → low (concL s) (.start_syntax_section h t ⟨b, some off⟩)
      = rmap (fun r => (concL r.1, r.2)) (Psi.dedupStart cfg s h b off)

section over
variable {τ : Type} {cfg : Cfg} {low : τ → SectionSyntaxSectionProcessor.Call → R (τ × List Delivery)} {concL : St → τ}

theorem overS_continue (fz : Bool) (ok : LowOk cfg low concL) (s : St) (d : Slice) :
    overS fz low (concP s, concL s) (.continue_section d)
      = rmap (fun r => ((concP r.1, concL r.1), r.2)) (Psi.procContinue cfg s d.bytes) := by
  unfold overS thenCalls procStep SectionSyntaxSectionProcessor.continue_section Psi.procContinue
  cases hi : s.ignoreRest
  · simp only [concP, hi, Bool.not_false, if_true, R.pure_eq, R.ok_bind, List.nil_append, foldCalls_one,
      Bool.false_eq_true, if_false, ok.cont]
    rw [bind_rmap, rmap_eq_bind]
    refine bind_congr_ok fun r hb => ?_
    simp only [dedupContinue_ir cfg s d.bytes r hb, hi]
  · simp only [concP, hi, Bool.not_true, Bool.false_eq_true, if_false, R.pure_eq, R.ok_bind, foldCalls_nil,
      if_true, rmap_ok]

theorem overS_reset (fz : Bool) (ok : LowOk cfg low concL) (s : St) :
    overS fz low (concP s, concL s) .reset = .ok ((concP (Psi.procReset cfg s), concL (Psi.procReset cfg s)), []) := by
  unfold overS thenCalls procStep SectionSyntaxSectionProcessor.reset
  simp only [R.pure_eq, R.ok_bind, List.nil_append, foldCalls_one, ok.reset, Psi.procReset]
  have : (Psi.dedupReset cfg s).ignoreRest = s.ignoreRest := by
    unfold Psi.dedupReset Psi.bufReset; split <;> rfl
  simp only [concP, this]

theorem overS_start (fz : Bool) (hs : cfg.sectionSyntax = true) (ok : LowOk cfg low concL) (s : St) (h : Header)
    (b : Bytes) (off : Nat) :
    overS fz low (concP s, concL s) (.start_section h ⟨b, some off⟩)
      = rmap (fun r => ((concP r.1, concL r.1), r.2)) (Psi.procStart cfg s h b off) := by
  unfold overS thenCalls procStep SectionSyntaxSectionProcessor.start_section Psi.procStart
  simp only [hs, if_true, Slice.len, COMMON, TSH, SECTION_LIMIT]
  -- the three rejections, in whichever order the source tests them
  have hrej : (R.ok (((⟨true⟩ : SectionSyntaxSectionProcessor.Self), concL s), ([] : List Delivery)) : R _)
      = R.ok ((concP { s with ignoreRest := true }, concL { s with ignoreRest := true }), []) :=
    congrArg R.ok (Prod.ext (Prod.ext rfl (ok.frame s { s with ignoreRest := true } rfl rfl rfl rfl).symm) rfl)
  by_cases h8 : b.length < 3 + 5 <;> by_cases hl : h.sectionLength > 1021 <;> cases hsy : h.syntaxInd <;>
    simp only [h8, hl, decide_true, decide_false, Bool.not_true, Bool.not_false, Bool.false_eq_true, if_true, if_false,
      R.pure_eq, R.ok_bind, foldCalls_nil, rmap_ok] <;> try exact hrej
  -- accepted: syntax bit set, at least 8 bytes present, length within the limit
  have h3 : 3 ≤ b.length := by omega
  have h5 : 5 ≤ (b.drop 3).length := by rw [List.length_drop]; omega
  simp only [from_ok ⟨b, some off⟩ 3 h3, sliceFrom_ok b 3 h3, Stmt.tshNew, TSH, R.pure_eq, R.ok_bind,
    List.nil_append, foldCalls_one]
  simp only [assertR, ge_iff_le, h5, decide_true, if_true, R.ok_bind, List.nil_append, foldCalls_one]
  have hfr : concL s = concL { s with ignoreRest := false } := (ok.frame s { s with ignoreRest := false } rfl rfl rfl rfl).symm
  rw [hfr, ok.start _ h ⟨b.drop 3, Option.map (· + 3) (some off)⟩ b off rfl h3 h5]
  rw [bind_rmap, rmap_eq_bind]
  refine bind_congr_ok fun r hb => ?_
  simp only [concP, dedupStart_ir cfg _ h b off r hb]

end over

theorem lowOk_table (fz : Bool) : LowOk Psi.table (dbStep fz) concDB where
  frame := by
    intro s s' e1 e2 e3 e4
    simp [concDB, concD, concB, e1, e2, e3, e4]
  cont := db_continue fz
  reset := db_reset fz
  start := by
    intro s h t b off ht h3 h5
    exact db_start fz s h t ⟨b, some off⟩ off rfl ht h3 h5

theorem lowOk_rawSection (fz : Bool) : LowOk Psi.rawSection (bufSStepRaw fz) concB where
  frame := by
    intro s s' e1 e2 _ _
    simp [concB, e1, e2]
  cont := by
    intro s d
    show bufSStep fz (concB s) (.continue_syntax_section d) = _
    rw [bufS_continue fz Psi.rawSection rfl s d]
    rfl
  reset := by
    intro s
    show bufSStep fz (concB s) .reset = _
    rw [bufS_reset]; rfl
  start := by
    intro s h t b off _ _ _
    show bufSStep fz (concB s) (.start_syntax_section h t ⟨b, some off⟩) = _
    rw [bufS_start fz s h t ⟨b, some off⟩ off rfl]
    rfl

def concPC (s : St) : CompactSyntaxSectionProcessor.Self := ⟨s.ignoreRest⟩

def procCStep (fz : Bool) (p : CompactSyntaxSectionProcessor.Self) :
    SectionPacketConsumer.Call → R (CompactSyntaxSectionProcessor.Self × List CompactSyntaxSectionProcessor.Call)
  | .start_section h d => CompactSyntaxSectionProcessor.start_section fz p h d
  | .continue_section d => CompactSyntaxSectionProcessor.continue_section fz p d
  | .reset => CompactSyntaxSectionProcessor.reset fz p

def overC (fz : Bool) (st : CompactSyntaxSectionProcessor.Self × BufferCompactSyntaxParser.Self)
    (c : SectionPacketConsumer.Call) :
    R ((CompactSyntaxSectionProcessor.Self × BufferCompactSyntaxParser.Self) × List Delivery) :=
  thenCalls (procCStep fz st.1 c) (bufCStep fz) st.2

theorem overC_continue (fz : Bool) (s : St) (d : Slice) :
    overC fz (concPC s, concBC s) (.continue_section d)
      = rmap (fun r => ((concPC r.1, concBC r.1), r.2)) (Psi.procContinue Psi.rawCompact s d.bytes) := by
  unfold overC thenCalls procCStep CompactSyntaxSectionProcessor.continue_section Psi.procContinue Psi.dedupContinue
  cases hi : s.ignoreRest
  · simp only [concPC, hi, Bool.not_false, if_true, R.pure_eq, R.ok_bind, List.nil_append, foldCalls_one,
      Bool.false_eq_true, if_false, Psi.rawCompact, Bool.false_and]
    rw [bufC_continue fz ⟨false, false⟩ rfl s d]
    rw [bind_rmap, rmap_eq_bind]
    refine bind_congr_ok fun r hb => ?_
    simp only [(frame_of_setB (bufContinue_setB ⟨false, false⟩ s d.bytes) r hb).1, hi]
  · simp only [concPC, hi, Bool.not_true, Bool.false_eq_true, if_false, R.pure_eq, R.ok_bind, foldCalls_nil,
      if_true, rmap_ok]

theorem overC_reset (fz : Bool) (s : St) :
    overC fz (concPC s, concBC s) .reset
      = .ok ((concPC (Psi.procReset Psi.rawCompact s), concBC (Psi.procReset Psi.rawCompact s)), []) := by
  unfold overC thenCalls procCStep CompactSyntaxSectionProcessor.reset
  simp only [R.pure_eq, R.ok_bind, List.nil_append, foldCalls_one, bufC_reset]
  rfl

theorem overC_start (fz : Bool) (s : St) (h : Header) (b : Bytes) (off : Nat) :
    overC fz (concPC s, concBC s) (.start_section h ⟨b, some off⟩)
      = rmap (fun r => ((concPC r.1, concBC r.1), r.2)) (Psi.procStart Psi.rawCompact s h b off) := by
  unfold overC thenCalls procCStep CompactSyntaxSectionProcessor.start_section Psi.procStart Psi.dedupStart
  simp only [Psi.rawCompact, Bool.false_eq_true, if_false, Slice.len, COMMON, SECTION_LIMIT]
  -- the three rejections, in whichever order the source tests them
  by_cases h8 : b.length < 3 <;> by_cases hl : h.sectionLength > 1021 <;> cases hsy : h.syntaxInd <;>
    simp only [h8, hl, decide_true, decide_false, Bool.false_eq_true, if_true, if_false,
      R.pure_eq, R.ok_bind, foldCalls_nil, rmap_ok, concPC] <;> try rfl
  simp only [List.nil_append, foldCalls_one]
  have hcb : concBC s = concBC { s with ignoreRest := false } := rfl
  rw [hcb, bufC_start fz _ h ⟨b, some off⟩ off rfl]
  rw [bind_rmap, rmap_eq_bind]
  refine bind_congr_ok fun r hb => ?_
  simp only [concPC, (frame_of_setB (bufStart_setB _ h b off) r hb).1]

/-! ### `SectionPacketConsumer::consume` over any chain that realises the model's processor level -/

structure ChainOk {σ : Type} (cfg : Cfg) (step : σ → SectionPacketConsumer.Call → R (σ × List Delivery))
    (conc : St → σ) : Prop where
  cont : ∀ (s : St) (d : Slice), step (conc s) (.continue_section d)
    = rmap (fun r => (conc r.1, r.2)) (Psi.procContinue cfg s d.bytes)
  reset : ∀ s : St, step (conc s) .reset = .ok (conc (Psi.procReset cfg s), [])
  start : ∀ (s : St) (h : Header) (b : Bytes) (off : Nat), step (conc s) (.start_section h ⟨b, some off⟩)
    = rmap (fun r => (conc r.1, r.2)) (Psi.procStart cfg s h b off)

/-- the whole translated chain on one packet: `consume`, its calls interpreted by the layers below -/
def chainConsume {σ : Type} (fz : Bool) (step : σ → SectionPacketConsumer.Call → R (σ × List Delivery))
    (st : σ) (pk : Pk) : R (σ × List Delivery) :=
  rmap (fun r => (r.1.2, r.2)) (thenCalls (SectionPacketConsumer.consume fz {} pk) step st)

theorem chain_consume {σ : Type} {cfg : Cfg} {step : σ → SectionPacketConsumer.Call → R (σ × List Delivery)}
    {conc : St → σ} (fz : Bool) (ok : ChainOk cfg step conc) (s : St) (us : Bool) (pkBuf : Bytes) (off : Nat) :
    chainConsume fz step (conc s) ⟨some ⟨pkBuf, some off⟩, us⟩
      = rmap (fun r => (conc r.1, r.2)) (consumePayload cfg s us pkBuf off) := by
  unfold chainConsume thenCalls SectionPacketConsumer.consume consumePayload
  cases us
  · simp only [Bool.false_eq_true, if_false, R.pure_eq, R.ok_bind, List.nil_append, foldCalls_one, ok.cont]
    cases Psi.procContinue cfg s pkBuf <;> rfl
  · simp only [if_true, Slice.get, Slice.from, R.bind_assoc, R.ok_bind, R.pure_eq, rmap_bind, Slice.len]
    cases byteAt pkBuf 0 with
    | panic m => rfl
    | ok pointer =>
      simp only [R.ok_bind]
      cases hsd : sliceFrom pkBuf 1 with
      | panic m => rfl
      | ok sd =>
        simp only [R.ok_bind, Option.map]
        by_cases hp : pointer > 0
        · by_cases hge : pointer ≥ sd.length
          · simp only [hp, hge, decide_true, if_true, Bool.and_self, R.pure_eq, R.ok_bind, List.nil_append,
              foldCalls_one, ok.reset, rmap_ok]
          · have hle : pointer ≤ sd.length := by omega
            simp only [hp, hge, decide_true, decide_false, if_true, Bool.and_false, Bool.false_eq_true, if_false,
              upto_ok ⟨sd, some (off + 1)⟩ pointer hle, from_ok ⟨sd, some (off + 1)⟩ pointer hle,
              sliceTo_ok sd pointer hle, sliceFrom_ok sd pointer hle, R.ok_bind, Option.map]
            by_cases h3 : (sd.drop pointer).length < 3
            · simp only [h3, decide_true, if_true, COMMON, R.pure_eq, R.ok_bind, List.nil_append, List.cons_append,
                foldCalls_two, ok.cont, bind_rmap, ok.reset, R.bind_assoc, rmap_bind, rmap_ok]
              cases Psi.procContinue cfg s (List.take pointer sd) with
              | panic m => rfl
              | ok r => rcases r with ⟨s1, d1⟩; simp
            · have h3' : 3 ≤ (sd.drop pointer).length := by omega
              simp only [h3, decide_false, Bool.false_eq_true, if_false, COMMON,
                upto_ok ⟨sd.drop pointer, some (off + 1 + pointer)⟩ 3 h3', sliceTo_ok _ 3 h3', Stmt.headerNew,
                R.ok_bind, headerNew_eq _ h3']
              simp only [R.pure_eq, R.ok_bind, List.nil_append, List.cons_append, foldCalls_two, ok.cont, bind_rmap,
                ok.start, R.bind_assoc, rmap_bind, rmap_ok]
        · have hp0 : pointer = 0 := by omega
          subst hp0
          simp only [Nat.lt_irrefl, decide_false, Bool.false_eq_true, if_false, Bool.false_and, gt_iff_lt,
            from_ok ⟨sd, some (off + 1)⟩ 0 (Nat.zero_le _), sliceFrom_ok sd 0 (Nat.zero_le _), R.ok_bind,
            R.pure_eq, Option.map, List.drop_zero, Nat.add_zero]
          by_cases h3 : sd.length < 3
          · simp only [h3, decide_true, if_true, COMMON, R.pure_eq, R.ok_bind, List.nil_append, foldCalls_one,
              ok.reset, rmap_ok, List.append_nil]
          · have h3' : 3 ≤ sd.length := by omega
            simp only [h3, decide_false, Bool.false_eq_true, if_false, COMMON,
              upto_ok ⟨sd, some (off + 1)⟩ 3 h3', sliceTo_ok sd 3 h3', Stmt.headerNew, R.ok_bind,
              headerNew_eq _ h3']
            simp only [R.pure_eq, R.ok_bind, List.nil_append, foldCalls_one, ok.start, rmap_bind, rmap_ok]
            cases Psi.procStart cfg s (hdrOf sd) sd (off + 1) with
            | panic m => rfl
            | ok r2 => rcases r2 with ⟨s2, d2⟩; simp

abbrev TableSt := SectionSyntaxSectionProcessor.Self × DB
abbrev RawSectionSt := SectionSyntaxSectionProcessor.Self × BufferSectionSyntaxParser.Self
abbrev RawCompactSt := CompactSyntaxSectionProcessor.Self × BufferCompactSyntaxParser.Self

def concTable (s : St) : TableSt := (concP s, concDB s)
def concRawSection (s : St) : RawSectionSt := (concP s, concB s)
def concRawCompact (s : St) : RawCompactSt := (concPC s, concBC s)

def tableStep (fz : Bool) : TableSt → SectionPacketConsumer.Call → R (TableSt × List Delivery) := overS fz (dbStep fz)
def rawSectionStep (fz : Bool) : RawSectionSt → SectionPacketConsumer.Call → R (RawSectionSt × List Delivery) :=
  overS fz (bufSStepRaw fz)
def rawCompactStep (fz : Bool) : RawCompactSt → SectionPacketConsumer.Call → R (RawCompactSt × List Delivery) := overC fz

theorem chainOk_table (fz : Bool) : ChainOk Psi.table (tableStep fz) concTable where
  cont := overS_continue fz (lowOk_table fz)
  reset := overS_reset fz (lowOk_table fz)
  start := overS_start fz rfl (lowOk_table fz)

theorem chainOk_rawSection (fz : Bool) : ChainOk Psi.rawSection (rawSectionStep fz) concRawSection where
  cont := overS_continue fz (lowOk_rawSection fz)
  reset := overS_reset fz (lowOk_rawSection fz)
  start := overS_start fz rfl (lowOk_rawSection fz)

theorem chainOk_rawCompact (fz : Bool) : ChainOk Psi.rawCompact (rawCompactStep fz) concRawCompact where
  cont := overC_continue fz
  reset := overC_reset fz
  start := overC_start fz

/-- every state the translated structs can be in is the image of a model state: the ties below
quantify over ALL states of the translated code -/
theorem concTable_surj (st : TableSt) : ∃ s : St, concTable s = st := by
  rcases st with ⟨⟨ir⟩, ⟨lv, di⟩, ⟨buf, state⟩⟩
  exact ⟨⟨ir, lv, di, buf, remOf state⟩, by simp [concTable, concP, concDB, concD, concB]⟩
theorem concRawSection_surj (st : RawSectionSt) : ∃ s : St, concRawSection s = st := by
  rcases st with ⟨⟨ir⟩, ⟨buf, state⟩⟩
  exact ⟨⟨ir, none, false, buf, remOf state⟩, by simp [concRawSection, concP, concB]⟩
theorem concRawCompact_surj (st : RawCompactSt) : ∃ s : St, concRawCompact s = st := by
  rcases st with ⟨⟨ir⟩, ⟨buf, state⟩⟩
  exact ⟨⟨ir, none, false, buf, remOf state⟩, by simp [concRawCompact, concPC, concBC]⟩

/-- TIE (PAT / PMT chain, payload level): for every state and every payload the translated source
computes what the model computes -/
theorem tie_stmt_consume_table (fz : Bool) (s : St) (us : Bool) (pkBuf : Bytes) (off : Nat) :
    chainConsume fz (tableStep fz) (concTable s) ⟨some ⟨pkBuf, some off⟩, us⟩
      = rmap (fun r => (concTable r.1, r.2)) (consumePayload Psi.table s us pkBuf off) :=
  chain_consume fz (chainOk_table fz) s us pkBuf off

theorem tie_stmt_consume_rawSection (fz : Bool) (s : St) (us : Bool) (pkBuf : Bytes) (off : Nat) :
    chainConsume fz (rawSectionStep fz) (concRawSection s) ⟨some ⟨pkBuf, some off⟩, us⟩
      = rmap (fun r => (concRawSection r.1, r.2)) (consumePayload Psi.rawSection s us pkBuf off) :=
  chain_consume fz (chainOk_rawSection fz) s us pkBuf off

theorem tie_stmt_consume_rawCompact (fz : Bool) (s : St) (us : Bool) (pkBuf : Bytes) (off : Nat) :
    chainConsume fz (rawCompactStep fz) (concRawCompact s) ⟨some ⟨pkBuf, some off⟩, us⟩
      = rmap (fun r => (concRawCompact r.1, r.2)) (consumePayload Psi.rawCompact s us pkBuf off) :=
  chain_consume fz (chainOk_rawCompact fz) s us pkBuf off

/-- what `consume` observes of a 188-byte packet (C12's payload split), as the translated consumer's
`Stmt.Pk`; the dispatcher's packet record of `Lemmas/DemuxB` bears the same short name -/
def pkOf (p : Bytes) : Pk :=
  match plOf p with
  | none => ⟨none, Spec.readBits p 9 1 == 1⟩
  | some q => ⟨some ⟨q.bytes, some q.off⟩, q.us⟩

theorem chain_code_consume {σ : Type} {cfg : Cfg} {step : σ → SectionPacketConsumer.Call → R (σ × List Delivery)}
    {conc : St → σ} (fz : Bool) (ok : ChainOk cfg step conc) (s : St) (p : Bytes) (h : p.length = 188) :
    chainConsume fz step (conc s) (pkOf p) = rmap (fun r => (conc r.1, r.2)) (Psi.consume cfg s p) := by
  rw [consume_eq_plOf cfg s p h]
  unfold pkOf
  cases plOf p with
  | none => rfl
  | some q => exact chain_consume fz ok s q.us q.bytes q.off

/-- CODE = MODEL on packets: on every 188-byte packet and from every state, the model's
`Psi.consume` IS the translated source chain applied to the packet's payload -/
theorem code_consume_table (fz : Bool) (s : St) (p : Bytes) (h : p.length = 188) :
    chainConsume fz (tableStep fz) (concTable s) (pkOf p)
      = rmap (fun r => (concTable r.1, r.2)) (Psi.consume Psi.table s p) :=
  chain_code_consume fz (chainOk_table fz) s p h

theorem code_consume_rawSection (fz : Bool) (s : St) (p : Bytes) (h : p.length = 188) :
    chainConsume fz (rawSectionStep fz) (concRawSection s) (pkOf p)
      = rmap (fun r => (concRawSection r.1, r.2)) (Psi.consume Psi.rawSection s p) :=
  chain_code_consume fz (chainOk_rawSection fz) s p h

theorem code_consume_rawCompact (fz : Bool) (s : St) (p : Bytes) (h : p.length = 188) :
    chainConsume fz (rawCompactStep fz) (concRawCompact s) (pkOf p)
      = rmap (fun r => (concRawCompact r.1, r.2)) (Psi.consume Psi.rawCompact s p) :=
  chain_code_consume fz (chainOk_rawCompact fz) s p h

/-- the constructors: every `new` of the translated structs is the model's initial state -/
theorem tie_stmt_new :
    concTable {} = (SectionSyntaxSectionProcessor.new, DedupSectionSyntaxPayloadParser.new, BufferSectionSyntaxParser.new)
    ∧ concRawSection {} = (SectionSyntaxSectionProcessor.new, BufferSectionSyntaxParser.new)
    ∧ concRawCompact {} = (CompactSyntaxSectionProcessor.new, BufferCompactSyntaxParser.new) := by
  refine ⟨rfl, rfl, rfl⟩

/-- a whole run: the translated chain folded over the packets equals the model's `Psi.run` -/
def chainRun {σ : Type} (fz : Bool) (step : σ → SectionPacketConsumer.Call → R (σ × List Delivery)) (st : σ) :
    List Bytes → R (σ × List (List Delivery))
  | [] => .ok (st, [])
  | p :: ps => chainConsume fz step st (pkOf p) >>= fun r1 => chainRun fz step r1.1 ps >>= fun r2 => .ok (r2.1, r1.2 :: r2.2)

theorem chain_code_run {σ : Type} {cfg : Cfg} {step : σ → SectionPacketConsumer.Call → R (σ × List Delivery)}
    {conc : St → σ} (fz : Bool) (ok : ChainOk cfg step conc) (ps : List Bytes) (hp : ∀ p ∈ ps, p.length = 188) (s : St) :
    chainRun fz step (conc s) ps = rmap (fun r => (conc r.1, r.2)) (Psi.run cfg s ps) := by
  induction ps generalizing s with
  | nil => rfl
  | cons p ps ih =>
    obtain ⟨h1, h2⟩ := List.forall_mem_cons.1 hp
    simp only [chainRun, Psi.run, chain_code_consume fz ok s p h1, ih h2, bind_rmap, rmap_bind]
    rfl
theorem code_run_table (fz : Bool) (ps : List Bytes) (hp : ∀ p ∈ ps, p.length = 188) (s : St) :
    chainRun fz (tableStep fz) (concTable s) ps = rmap (fun r => (concTable r.1, r.2)) (Psi.run Psi.table s ps) :=
  chain_code_run fz (chainOk_table fz) ps hp s

theorem eq_hdrOf {d : Bytes} {h : Header} (h3 : 3 ≤ d.length) (hh : Psi.headerNew (d.take 3) = .ok h) :
    h = hdrOf d :=
  (R.ok.inj ((headerNew_eq d h3).symm.trans hh)).symm

/-- `CrcCheckWholeSectionSyntaxPayloadParser::section`: the translated source passes the section on
exactly when the model's `crcPass` says so, and panics exactly when it panics.  `hh`: the header the
caller hands over was parsed from the first three bytes of the same data — true of both call sites
in the buffering layer. -/
theorem tie_stmt_crc (fz : Bool) (h : Header) (t d : Slice) (h3 : 3 ≤ d.bytes.length)
    (hh : Psi.headerNew (d.bytes.take 3) = .ok h) :
    erase (rmap (fun r => r.2) (CrcCheckWholeSectionSyntaxPayloadParser.section fz {} h t d))
      = erase (rmap (fun pass => if pass then [CrcCheckWholeSectionSyntaxPayloadParser.Call.«section» h t d] else [])
          (Psi.crcPass fz d.bytes)) := by
  have hs : h.syntaxInd = (byteD d.bytes 1 &&& 0b1000_0000 != 0) := by
    rw [eq_hdrOf h3 hh]; exact (and_80 _ (byteD_lt _ 1)).symm
  unfold CrcCheckWholeSectionSyntaxPayloadParser.section Psi.crcPass
  -- the checksum is total (`sum32_eq_bitserial`), so the length test and the checksum test may come in
  -- either order
  simp only [byteAt_ok d.bytes 1 (by omega), R.ok_bind, ← hs, Slice.len, COMMON, TSH, Stmt.sum32,
    Ts.Props.C04.sum32_eq_bitserial]
  cases h.syntaxInd
  · rfl
  · simp only [assertR, if_true, R.ok_bind]
    by_cases hl : d.bytes.length < 3 + 5 + 4 <;> cases fz <;> by_cases hc : Ts.CrcSpec.crc d.bytes = 0 <;>
      simp [hl, hc, erase, rmap]

/-! ### non-vacuity: the translated chain evaluated on concrete packets -/

/-- a 188-byte PAT packet: pointer_field 0, a 16-byte section (table_id 0, section_length 13) -/
def patPacket : Bytes :=
  [0x47, 0x40, 0x00, 0x10, 0x00, 0x00, 0xb0, 0x0d, 0x00, 0x01, 0xc1, 0x00, 0x00, 0x00, 0x01, 0xe1, 0x00,
   0x12, 0x34, 0x56, 0x78] ++ List.replicate 167 0xff

example : patPacket.length = 188 := by decide +kernel

/-- first transmission: delivered in place at packet offset 5; repetition: de-duplicated -/
def patTwice : Bool :=
  match chainRun false (tableStep false) (concTable {}) [patPacket, patPacket] with
  | .ok r => r.2.map (List.map fun d => (d.bytes.length, d.inplace)) == [[(16, some 5)], []]
  | .panic _ => false

example : patTwice = true := by decide +kernel

end Ts.Props.Ties.StmtPsi
