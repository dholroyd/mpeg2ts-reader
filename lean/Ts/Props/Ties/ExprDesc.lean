import Ts.Model.Pes
import Ts.Model.Tables
import Ts.Model.App
import Ts.Model.Values
import Ts.Gen.Consts
import Ts.Refl.OrHom
import Ts.Gen.Exprs
import Ts.Props.Ties.ExprSpecCore
import Ts.Lemmas.C17
/-!
# Ties to `/repo/src` — typed descriptors (audited with C17)

Constants (`namespace Ts.Props.Ties`): the model's literals against `Ts/Gen/Consts.lean`; see
`Ts/Props/Ties/Psi.lean`.

Expressions (`tie_expr_*`, `tie_model_*`).  See `Ts/Props/Ties/ExprTime.lean` for the method.
`Ts.Gen.Expr.maxbr_*`, `avc_*` are translated from
`/repo/src/descriptor/max_bitrate.rs`, `descriptor/avcvideo.rs` on every run.

CODE = ISO (`code_*_is_iso`): see `Ts/Props/Ties/ExprSpecCore.lean`.
-/
namespace Ts.Props.Ties
open Ts Ts.Pes Ts.Tables Ts.Demux

/-- minimum payload sizes demanded by the typed descriptors' constructors (`descriptor_len(buf, tag, n)`) -/
theorem tie_typed_descriptor_min_len (p : Bytes) :
    typedNew 5 p = .ok (descriptorLen p Gen.registrationMinLen) ∧
    typedNew 14 p = .ok (descriptorLen p Gen.maxBitrateMinLen) ∧
    typedNew 40 p = .ok (descriptorLen p Gen.avcVideoMinLen) := ⟨rfl, rfl, rfl⟩

/-- `LanguageIterator::next` splits off `4` bytes per language item -/
theorem tie_language_item_size (fuel : Nat) (buf : Bytes) :
    languages (fuel + 1) buf =
      (if buf.isEmpty then .ok []
       else if buf.length < Gen.languageItemSize then .ok [.tooShort buf.length]
       else do
         let head := buf.take Gen.languageItemSize
         assertR (head.length == 4) "assert_eq!(buf.len(), 4)"
         let code ← sliceR head 0 3
         let at_ ← byteAt head 3
         let rest ← languages fuel (buf.drop Gen.languageItemSize)
         pure (.lang code at_ :: rest)) := rfl

/-- `MaximumBitrateDescriptor::maximum_bits_per_second` is `maximum_bitrate() * 50 * 8` with the
LITERAL 50 ("units of 50 bytes per second", `max_bitrate.rs:39`); restated with `EsRate`'s
`RATE_BYTES_PER_SECOND`, the only regenerated 50 -/
theorem tie_max_bitrate_unit (p : Bytes) :
    maxBitrateFields p = (do
      let b0 ← byteAt p 0; let b1 ← byteAt p 1; let b2 ← byteAt p 2
      let r := ((b0 &&& 0b0011_1111) <<< 16) ||| (b1 <<< 8) ||| b2
      assertR (r * Gen.esRateBytesPerSecond < 2^32) "attempt to multiply with overflow"
      assertR (r * Gen.esRateBytesPerSecond * 8 < 2^32) "attempt to multiply with overflow"
      pure (r, r * Gen.esRateBytesPerSecond * 8)) := rfl

/-- `RegistrationDescriptor`: the format identifier is the first `registrationMinLen` bytes
(`&self.buf[0..4]` / `&self.buf[4..]`, literals in `registration.rs`) -/
theorem tie_registration_split (p : Bytes) :
    regFields p = (do
      let f ← sliceR p 0 Gen.registrationMinLen
      let a ← sliceFrom p Gen.registrationMinLen
      pure (f, a)) := rfl

/-- `AudioType::from`: the four named values, everything else `Reserved(v)` with the value kept -/
theorem audio_type_exact (v : Nat) :
    audioTypeOf v = (if v = 0 then .undefined else if v = 1 then .cleanEffects
      else if v = 2 then .hearingImpaired else if v = 3 then .visualImpairedCommentary else .reserved v) := by
  match v with
  | 0 => rfl
  | 1 => rfl
  | 2 => rfl
  | 3 => rfl
  | n + 4 => simp [audioTypeOf]

/-- READING.  ISO/IEC 13818-1 (2007 and later) Table 2-60 calls `0x04..0x7F` "user private" and
`0x80..0xFF` "reserved"; the crate follows the first edition, where all of `0x04..0xFF` is reserved,
and names the variant `Reserved` for both ranges.  The raw value is carried by the variant, so no
information the standard defines is lost (C17: "expose exactly the bit fields the standard
defines"); the naming is recorded here, not counted as a defect. -/
theorem audio_type_keeps_value (v w : Nat) (hv : 4 ≤ v) (hw : 4 ≤ w) (h : audioTypeOf v = audioTypeOf w) :
    v = w := by
  rw [audio_type_exact, audio_type_exact] at h
  have hv' : ¬ v = 0 ∧ ¬ v = 1 ∧ ¬ v = 2 ∧ ¬ v = 3 := by omega
  have hw' : ¬ w = 0 ∧ ¬ w = 1 ∧ ¬ w = 2 ∧ ¬ w = 3 := by omega
  simp only [hv'.1, hv'.2.1, hv'.2.2.1, hv'.2.2.2, hw'.1, hw'.2.1, hw'.2.2.1, hw'.2.2.2, if_false] at h
  injection h

/-- `Language::code`: latin1 decoding is byte ↦ code point of the same number; three code points
below 256 for a three-byte code -/
theorem lang_code_points (code : Bytes) :
    (langCodePoints code).length = code.length ∧ ∀ n ∈ langCodePoints code, n < 256 := by
  refine ⟨by simp [langCodePoints], ?_⟩
  intro n hn
  simp only [langCodePoints, List.mem_map] at hn
  obtain ⟨b, _, rfl⟩ := hn
  exact UInt8.toNat_lt b

end Ts.Props.Ties

namespace Ts.Props.Ties.Expr
open Ts Ts.Refl Ts.Gen.Expr Ts.Tables

def mMaxBitrate (e : Env) : Nat := ((e 0 &&& 0b0011_1111) <<< 16) ||| (e 1 <<< 8) ||| e 2
theorem tie_expr_maxbr_rate : ∀ l : List Nat, l.length ≤ 3 → (∀ x ∈ l, x < 256) →
    maxbr_rate (envL l) = mMaxBitrate (envL l) := by tie_linear 3
theorem tie_model_max_bitrate (p : Bytes) : Tables.maxBitrateFields p = (do
    let b0 ← byteAt p 0; let b1 ← byteAt p 1; let b2 ← byteAt p 2
    let r := mMaxBitrate (envL [b0, b1, b2])
    assertR (r * 50 < 2^32) "attempt to multiply with overflow"
    assertR (r * 50 * 8 < 2^32) "attempt to multiply with overflow"
    pure (r, r * 50 * 8)) := rfl

def mAvcCs0 (e : Env) : Bool := e 1 &&& 0b1000_0000 != 0
def mAvcCs1 (e : Env) : Bool := e 1 &&& 0b0100_0000 != 0
def mAvcCs2 (e : Env) : Bool := e 1 &&& 0b0010_0000 != 0
def mAvcCs3 (e : Env) : Bool := e 1 &&& 0b0001_0000 != 0
def mAvcCs4 (e : Env) : Bool := e 1 &&& 0b0000_1000 != 0
def mAvcCs5 (e : Env) : Bool := e 1 &&& 0b0000_0100 != 0
def mAvcCompat (e : Env) : Nat := e 1 &&& 0b0000_0011
def mAvcStill (e : Env) : Bool := e 3 &&& 0b1000_0000 != 0
def mAvc24h (e : Env) : Bool := e 3 &&& 0b0100_0000 != 0
def mAvcFpSei (e : Env) : Bool := e 3 &&& 0b0010_0000 != 0

theorem tie_expr_avc_byte1 : ∀ x : Fin 256,
    avc_cs0 (envL [0xff, x.val, 0xff, 0xff]) = mAvcCs0 (envL [0, x.val])
    ∧ avc_cs1 (envL [0xff, x.val, 0xff, 0xff]) = mAvcCs1 (envL [0, x.val])
    ∧ avc_cs2 (envL [0xff, x.val, 0xff, 0xff]) = mAvcCs2 (envL [0, x.val])
    ∧ avc_cs3 (envL [0xff, x.val, 0xff, 0xff]) = mAvcCs3 (envL [0, x.val])
    ∧ avc_cs4 (envL [0xff, x.val, 0xff, 0xff]) = mAvcCs4 (envL [0, x.val])
    ∧ avc_cs5 (envL [0xff, x.val, 0xff, 0xff]) = mAvcCs5 (envL [0, x.val])
    ∧ avc_compat (envL [0xff, x.val, 0xff, 0xff]) = mAvcCompat (envL [0, x.val]) := by decide +kernel
theorem tie_expr_avc_byte3 : ∀ x : Fin 256,
    avc_still (envL [0xff, 0xff, 0xff, x.val]) = mAvcStill (envL [0, 0, 0, x.val])
    ∧ avc_24h (envL [0xff, 0xff, 0xff, x.val]) = mAvc24h (envL [0, 0, 0, x.val])
    ∧ avc_fpsei (envL [0xff, 0xff, 0xff, x.val]) = mAvcFpSei (envL [0, 0, 0, x.val]) := by decide +kernel

theorem tie_model_avc (p : Bytes) : Tables.avcFields p = (do
    let b0 ← byteAt p 0; let b1 ← byteAt p 1; let b2 ← byteAt p 2; let b3 ← byteAt p 3
    pure { profileIdc := b0,
           cs0 := mAvcCs0 (envL [0, b1]), cs1 := mAvcCs1 (envL [0, b1]), cs2 := mAvcCs2 (envL [0, b1]),
           cs3 := mAvcCs3 (envL [0, b1]), cs4 := mAvcCs4 (envL [0, b1]), cs5 := mAvcCs5 (envL [0, b1]),
           compat := mAvcCompat (envL [0, b1]), levelIdc := b2,
           still := mAvcStill (envL [0, 0, 0, b3]), h24 := mAvc24h (envL [0, 0, 0, b3]),
           fpSei := mAvcFpSei (envL [0, 0, 0, b3]) }) := rfl

end Ts.Props.Ties.Expr

namespace Ts.Props.Ties.Expr
open Ts Ts.Refl Ts.Gen.Expr Ts.Spec

theorem code_model_max_bitrate (bs : Bytes) : maxbr_rate (envB bs) = mMaxBitrate (envB bs) :=
  tie_on_bytes 3 tie_expr_maxbr_rate (by reads_below maxbr_rate) (by reads_below mMaxBitrate) bs

open Ts.Lemmas.C17 in
theorem model_iso_max_bitrate (bs : Bytes) : mMaxBitrate (envB bs) = readBits bs 2 22 := by
  simp only [mMaxBitrate, envB_byteD]
  rw [bitrate_arith _ _ _ (byteD_lt bs 0) (byteD_lt bs 1) (byteD_lt bs 2), bitrate_field]

/-- maximum bitrate descriptor: `maximum_bitrate`, 22 bits at bit 2 -/
theorem code_max_bitrate_is_iso (bs : Bytes) (_h : 3 ≤ bs.length) : maxbr_rate (envB bs) = readBits bs 2 22 :=
  (code_model_max_bitrate bs).trans (model_iso_max_bitrate bs)

end Ts.Props.Ties.Expr
