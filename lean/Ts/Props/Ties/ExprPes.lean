import Ts.Model.Pes
import Ts.Model.Tables
import Ts.Model.App
import Ts.Model.Values
import Ts.Gen.Consts
import Ts.Refl.OrHom
import Ts.Gen.Exprs
import Ts.Props.Ties.ExprSpecCore
import Ts.Lemmas.C14b
import Ts.Lemmas.C16
/-!
# Ties to `/repo/src` — PES header (audited with C14)

Constants (`namespace Ts.Props.Ties`): the model's literals against `Ts/Gen/Consts.lean`; see
`Ts/Props/Ties/Psi.lean`.

Expressions (`tie_expr_*`, `tie_model_*`).  See `Ts/Props/Ties/ExprTime.lean` for the method.
`Ts.Gen.Expr.pes_*` are translated from
`/repo/src/pes.rs` on every run.

CODE = ISO (`code_*_is_iso`): see `Ts/Props/Ties/ExprSpecCore.lean`.
-/
namespace Ts.Props.Ties
open Ts Ts.Pes Ts.Tables Ts.Demux

/-- `dsm_trick_mode_end` adds `DSM_TRICK_MODE_SIZE` -/
theorem tie_trick_mode_size (f : Nat) :
    trickEnd f = (esRateEnd f >>= fun e => pure (e + if trickFlag f then Gen.pesTrickModeSize else 0)) := rfl

/-- `additional_copy_info_end` adds `ADDITIONAL_COPY_INFO_SIZE` -/
theorem tie_copy_info_size (f : Nat) :
    aciEnd f = (trickEnd f >>= fun e => pure (e + if aciFlag f then Gen.pesCopyInfoSize else 0)) := rfl

/-- `previous_pes_packet_crc_end` adds `PREVIOUS_PES_PACKET_CRC_SIZE` -/
theorem tie_prev_crc_size (f : Nat) :
    crcEnd f = (aciEnd f >>= fun e => pure (e + if crcFlag f then Gen.pesPrevCrcSize else 0)) := rfl

/-- `EsRate::bytes_per_second` multiplies by `RATE_BYTES_PER_SECOND` -/
theorem tie_bytes_per_second (v : Nat) : bytesPerSecond v = v * Gen.esRateBytesPerSecond := rfl

/-- the `u32` product cannot overflow for any value `EsRate::new` accepts (`es_rate < 1 << 22`) -/
theorem bytes_per_second_no_overflow (v : Nat) (h : v < Gen.esRateBound) : bytesPerSecond v < 2 ^ 32 := by
  unfold bytesPerSecond
  have : Gen.esRateBound = 4194304 := rfl
  omega

/-- `EsRate::new`'s `assert!(es_rate < 1 << 22)` inside `es_rate()` -/
theorem tie_es_rate_assert (buf : Bytes) :
    esRate buf = (do
      let f ← flagsByte buf
      if esRateFlag f then do
        let a ← escrEnd f
        match ← headerSlice buf a (a + Gen.pesEsRateSize) with
        | .error e => pure (.error e)
        | .ok s => do
          let s0 ← byteAt s 0; let s1 ← byteAt s 1; let s2 ← byteAt s 2
          let v := esRateVal s0 s1 s2
          assertR (v < Gen.esRateBound) "assert!(es_rate < 1 << 22)"
          pure (.ok v)
      else pure (.error .fieldNotPresent)) := rfl

/-- `dsm_trick_mode()` slices `es_rate_end() .. es_rate_end() + DSM_TRICK_MODE_SIZE` -/
theorem tie_trick_mode_slice (buf : Bytes) :
    dsmTrickMode buf = (do
      let f ← flagsByte buf
      if trickFlag f then do
        let a ← esRateEnd f
        match ← headerSlice buf a (a + Gen.pesTrickModeSize) with
        | .error e => pure (.error e)
        | .ok s => do let b ← byteAt s 0; let t ← trickOfByte b; pure (.ok t)
      else pure (.error .fieldNotPresent)) := rfl

/-- `additional_copy_info()` slices `… + ADDITIONAL_COPY_INFO_SIZE` -/
theorem tie_copy_info_slice (buf : Bytes) :
    additionalCopyInfo buf = (do
      let f ← flagsByte buf
      if aciFlag f then do
        let a ← trickEnd f
        match ← headerSlice buf a (a + Gen.pesCopyInfoSize) with
        | .error e => pure (.error e)
        | .ok s => do
          let b ← byteAt s 0
          if b &&& 0b1000_0000 == 0 then pure (.error .markerBitNotSet)
          else pure (.ok (b &&& 0b0111_1111))
      else pure (.error .fieldNotPresent)) := rfl

/-- `previous_pes_packet_crc()` slices `… + PREVIOUS_PES_PACKET_CRC_SIZE` -/
theorem tie_prev_crc_slice (buf : Bytes) :
    previousCrc buf = (do
      let f ← flagsByte buf
      if crcFlag f then do
        let a ← aciEnd f
        match ← headerSlice buf a (a + Gen.pesPrevCrcSize) with
        | .error e => pure (.error e)
        | .ok s => do let s0 ← byteAt s 0; let s1 ← byteAt s 1; pure (.ok ((s0 <<< 8) ||| s1))
      else pure (.error .fieldNotPresent)) := rfl

/-- `pts_dts_end` … `es_rate_end` with the regenerated sizes (the model's named constants
`FIXED`, `TIMESTAMP_SIZE`, `ESCR_SIZE`, `ES_RATE_SIZE` are also tied by name in `Ts/Props/C14.lean`) -/
theorem tie_pes_offset_chain (f : Nat) :
    ptsDtsEnd f = (match ptsDtsFlags f with
      | 0 => .ok Gen.pesParsedFixed
      | 1 => .ok Gen.pesParsedFixed
      | 2 => .ok (Gen.pesParsedFixed + Gen.pesTimestampSize)
      | 3 => .ok (Gen.pesParsedFixed + Gen.pesTimestampSize * 2)
      | _ => .panic "unexpected value") ∧
    escrEnd f = (ptsDtsEnd f >>= fun e => pure (e + if escrFlag f then Gen.pesEscrSize else 0)) ∧
    esRateEnd f = (escrEnd f >>= fun e => pure (e + if esRateFlag f then Gen.pesEsRateSize else 0)) :=
  ⟨rfl, rfl, rfl⟩

/-- `PesHeader::from_bytes` / `contents` use `PesHeader::FIXED_HEADER_SIZE` -/
theorem tie_pes_header_size (buf : Bytes) :
    headerFromBytes buf = (do
      if buf.length < Gen.pesFixedHeaderSize then pure none
      else do
        let b0 ← byteAt buf 0; let b1 ← byteAt buf 1; let b2 ← byteAt buf 2
        let pfx := (b0 <<< 16) ||| (b1 <<< 8) ||| b2
        if pfx != 1 then pure none else pure (some buf)) ∧
    contents buf = (do
      let rest ← sliceFrom buf Gen.pesFixedHeaderSize
      let sid ← streamId buf
      if isParsed sid then do
        let c ← parsedFromBytes rest
        pure (.parsed c)
      else pure (.payload rest)) := ⟨rfl, rfl⟩

/-- the harness application's call of `EsRate::bytes_per_second` (`App.touchParsed`): the checked
`u32` product uses `RATE_BYTES_PER_SECOND` -/
theorem tie_touch_bytes_per_second (c : Bytes) :
    App.touchParsed c = (do
      let _ ← Pes.pesPriority c; let _ ← Pes.dataAlignment c; let _ ← Pes.copyrightUndefined c; let _ ← Pes.original c
      let _ ← Pes.ptsDts c
      match ← Pes.escr c with
      | .ok cr => do let _ ← Time.crefTo27MHz cr; pure ()
      | .error _ => pure ()
      match ← Pes.esRate c with
      | .ok v => assertR (v * Gen.esRateBytesPerSecond < 2^32) "attempt to multiply with overflow"
      | .error _ => pure ()
      let _ ← Pes.dsmTrickMode c; let _ ← Pes.additionalCopyInfo c; let _ ← Pes.previousCrc c
      let _ ← Pes.pesExtension c; let _ ← Pes.payloadOffset c
      pure ()) := rfl

end Ts.Props.Ties

namespace Ts.Props.Ties.Expr
open Ts Ts.Refl Ts.Gen.Expr Ts.Pes

def mStartCode (e : Env) : Nat := (e 0 <<< 16) ||| (e 1 <<< 8) ||| e 2
def mPacketLength (e : Env) : Nat := (e 4 <<< 8) ||| e 5

theorem tie_expr_pes_start_code : ∀ l : List Nat, l.length ≤ 3 → (∀ x ∈ l, x < 256) →
    pes_start_code (envL l) = mStartCode (envL l) := by tie_linear 3
theorem tie_expr_pes_packet_length : ∀ l : List Nat, l.length ≤ 6 → (∀ x ∈ l, x < 256) →
    pes_packet_length (envL l) = mPacketLength (envL l) := by tie_linear 6

theorem tie_model_header (buf : Bytes) : Pes.headerFromBytes buf = (do
    if buf.length < HDR_FIXED then pure none
    else do
      let b0 ← byteAt buf 0; let b1 ← byteAt buf 1; let b2 ← byteAt buf 2
      let pfx := mStartCode (envL [b0, b1, b2])
      if pfx != 1 then pure none else pure (some buf)) := rfl
theorem tie_model_packet_length (buf : Bytes) : Pes.pesPacketLength buf = (do
    let b4 ← byteAt buf 4; let b5 ← byteAt buf 5
    pure (mPacketLength (envL [0, 0, 0, 0, b4, b5]))) := rfl

/-! ### `PesParsedContents`: byte 0 (check bits, priority, alignment, copyright, original) -/

def mCheckBits (e : Env) : Nat := e 0 >>> 6
def mPriority (e : Env) : Nat := (e 0 >>> 3) &&& 1
def mAlignment (e : Env) : Bool := e 0 &&& 0b100 != 0
def mCopyright (e : Env) : Bool := e 0 &&& 0b10 != 0
def mOriginal (e : Env) : Bool := e 0 &&& 0b1 != 0

theorem tie_expr_pes_byte0 : ∀ x : Fin 256,
    pes_check_bits (envL [x.val, 0xff, 0xff]) = mCheckBits (envL [x.val])
    ∧ pes_priority (envL [x.val, 0xff, 0xff]) = mPriority (envL [x.val])
    ∧ pes_data_alignment (envL [x.val, 0xff, 0xff]) = mAlignment (envL [x.val])
    ∧ pes_copyright (envL [x.val, 0xff, 0xff]) = mCopyright (envL [x.val])
    ∧ pes_original (envL [x.val, 0xff, 0xff]) = mOriginal (envL [x.val]) := by decide +kernel

theorem tie_model_priority (buf : Bytes) :
    Pes.pesPriority buf = (do let b ← byteAt buf 0; pure (mPriority (envL [b]))) := rfl
theorem tie_model_alignment (buf : Bytes) :
    Pes.dataAlignment buf = (do let b ← byteAt buf 0; pure (mAlignment (envL [b]))) := rfl
theorem tie_model_copyright (buf : Bytes) :
    Pes.copyrightUndefined buf = (do let b ← byteAt buf 0; pure (mCopyright (envL [b]))) := rfl
theorem tie_model_original (buf : Bytes) :
    Pes.original buf = (do let b ← byteAt buf 0; pure (mOriginal (envL [b]))) := rfl
theorem tie_model_parsed_from_bytes (buf : Bytes) : Pes.parsedFromBytes buf = (do
    if buf.length < FIXED then pure none
    else do
      let b0 ← byteAt buf 0
      let checkBits := mCheckBits (envL [b0])
      if checkBits != 0b10 then pure none
      else do
        let h ← hdl buf
        if FIXED + h > buf.length then do
          let _ ← subR buf.length FIXED
          pure none
        else do
          let f ← flagsByte buf
          let ce ← crcEnd f
          if ce > FIXED + h then do
            let _ ← subR ce FIXED
            pure none
          else pure (some buf)) := rfl

/-! ### byte 1 (the seven flags) and byte 2 (header data length) -/

theorem tie_expr_pes_flags : ∀ x : Fin 256,
    pes_pts_dts_flags (envL [0xff, x.val, 0xff]) = Pes.ptsDtsFlags x.val
    ∧ pes_escr_flag (envL [0xff, x.val, 0xff]) = Pes.escrFlag x.val
    ∧ pes_esrate_flag (envL [0xff, x.val, 0xff]) = Pes.esRateFlag x.val
    ∧ pes_trick_flag (envL [0xff, x.val, 0xff]) = Pes.trickFlag x.val
    ∧ pes_copy_info_flag (envL [0xff, x.val, 0xff]) = Pes.aciFlag x.val
    ∧ pes_crc_flag (envL [0xff, x.val, 0xff]) = Pes.crcFlag x.val
    ∧ pes_ext_flag (envL [0xff, x.val, 0xff]) = Pes.extFlag x.val := by decide +kernel
theorem tie_model_flags_byte (buf : Bytes) : Pes.flagsByte buf = byteAt buf 1 := rfl

theorem tie_expr_pes_header_data_len : ∀ x : Fin 256,
    pes_header_data_len (envL [0xff, 0xff, x.val, 0xff]) = x.val := by decide +kernel
theorem tie_model_hdl (buf : Bytes) : Pes.hdl buf = byteAt buf 2 := rfl

/-! ### the flag-dependent end-offset chain (control flow translated from the source: `match` with
its `panic!` arm, `if`, calls) -/

/-- a model result as an option (`none` = the Rust code panics) -/
def rOpt {α : Type} : R α → Option α
  | .ok a => some a
  | .panic _ => none

/-- `pts_dts_end` … `pes_crc_end` as functions of the flags byte (byte 1): same value, and the same
(unreachable: `pts_dts_flags` is two bits) panic arm -/
theorem tie_expr_pes_ends : ∀ x : Fin 256,
    pes_pts_dts_end (envL [0, x.val]) = rOpt (Pes.ptsDtsEnd x.val)
    ∧ pes_escr_end (envL [0, x.val]) = rOpt (Pes.escrEnd x.val)
    ∧ pes_es_rate_end (envL [0, x.val]) = rOpt (Pes.esRateEnd x.val)
    ∧ pes_trick_end (envL [0, x.val]) = rOpt (Pes.trickEnd x.val)
    ∧ pes_copy_info_end (envL [0, x.val]) = rOpt (Pes.aciEnd x.val)
    ∧ pes_crc_end (envL [0, x.val]) = rOpt (Pes.crcEnd x.val) := by decide +kernel

theorem code_pes_ends_total : ∀ x : Fin 256, (pes_crc_end (envL [0, x.val])).isSome = true := by
  intro x
  rw [(tie_expr_pes_ends x).2.2.2.2.2, Ts.Lemmas.C14.crcEnd_eq x.val x.isLt]
  rfl

def mEscrBase (e : Env) : Nat := Pes.escrBase (e 0) (e 1) (e 2) (e 3) (e 4)
def mEscrExt (e : Env) : Nat := Pes.escrExt (e 4) (e 5)
def mEsRate (e : Env) : Nat := Pes.esRateVal (e 0) (e 1) (e 2)

theorem tie_expr_pes_escr_base : ∀ l : List Nat, l.length ≤ 6 → (∀ x ∈ l, x < 256) →
    pes_escr_base (envL l) = mEscrBase (envL l) := by tie_linear 6
theorem tie_expr_pes_escr_ext : ∀ l : List Nat, l.length ≤ 6 → (∀ x ∈ l, x < 256) →
    pes_escr_ext (envL l) = mEscrExt (envL l) := by tie_linear 6
theorem tie_expr_pes_es_rate : ∀ l : List Nat, l.length ≤ 3 → (∀ x ∈ l, x < 256) →
    pes_es_rate (envL l) = mEsRate (envL l) := by tie_linear 3

def mTrickControl (e : Env) : Nat := e 0 >>> 5
def mTrickData (e : Env) : Nat := e 0 &&& 0b0001_1111
def mTrickFieldId (e : Env) : Nat := e 0 >>> 3
def mTrickIntra (e : Env) : Bool := (e 0 &&& 0b100) != 0
def mTrickFreq (e : Env) : Nat := e 0 &&& 0b11
def mTrickFreezeReserved (e : Env) : Nat := e 0 &&& 0b111

theorem tie_expr_pes_trick : ∀ x : Fin 256,
    pes_trick_control (envL [x.val, 0xff]) = mTrickControl (envL [x.val])
    ∧ pes_trick_data (envL [x.val, 0xff]) = mTrickData (envL [x.val])
    ∧ pes_trick_field_id (envL [x.val, 0xff]) = mTrickFieldId (envL [x.val])
    ∧ pes_trick_intra (envL [x.val, 0xff]) = mTrickIntra (envL [x.val])
    ∧ pes_trick_freq (envL [x.val, 0xff]) = mTrickFreq (envL [x.val])
    ∧ pes_trick_freeze_reserved (envL [x.val, 0xff]) = mTrickFreezeReserved (envL [x.val]) := by
  decide +kernel

theorem tie_model_trick (b : Nat) : Pes.trickOfByte b = (do
    let ctrl := mTrickControl (envL [b])
    let data := mTrickData (envL [b])
    match ctrl with
    | 0 => do let fq ← freqFromId (mTrickFreq (envL [data])); pure (.fastForward (mTrickFieldId (envL [data])) (mTrickIntra (envL [data])) fq)
    | 1 => pure (.slowMotion data)
    | 2 => pure (.freezeFrame (mTrickFieldId (envL [data])) (mTrickFreezeReserved (envL [data])))
    | 3 => do let fq ← freqFromId (mTrickFreq (envL [data])); pure (.fastReverse (mTrickFieldId (envL [data])) (mTrickIntra (envL [data])) fq)
    | 4 => pure (.slowReverse data)
    | _ => pure (.reserved ctrl)) := rfl

def mCopyInfoMarkerClear (e : Env) : Bool := e 0 &&& 0b1000_0000 == 0
def mCopyInfo (e : Env) : Nat := e 0 &&& 0b0111_1111
def mPrevCrc (e : Env) : Nat := (e 0 <<< 8) ||| e 1

theorem tie_expr_pes_copy_info : ∀ x : Fin 256,
    pes_copy_info_marker_clear (envL [x.val, 0xff]) = mCopyInfoMarkerClear (envL [x.val])
    ∧ pes_copy_info (envL [x.val, 0xff]) = mCopyInfo (envL [x.val]) := by decide +kernel
theorem tie_expr_pes_prev_crc : ∀ l : List Nat, l.length ≤ 2 → (∀ x ∈ l, x < 256) →
    pes_prev_crc (envL l) = mPrevCrc (envL l) := by tie_linear 2

theorem tie_model_copy_info (buf : Bytes) : Pes.additionalCopyInfo buf = (do
    let f ← flagsByte buf
    if aciFlag f then do
      let a ← trickEnd f
      match ← headerSlice buf a (a + 1) with
      | .error e => pure (.error e)
      | .ok s => do
        let b ← byteAt s 0
        if mCopyInfoMarkerClear (envL [b]) then pure (.error .markerBitNotSet)
        else pure (.ok (mCopyInfo (envL [b])))
    else pure (.error .fieldNotPresent)) := rfl

theorem tie_model_prev_crc (buf : Bytes) : Pes.previousCrc buf = (do
    let f ← flagsByte buf
    if crcFlag f then do
      let a ← aciEnd f
      match ← headerSlice buf a (a + 2) with
      | .error e => pure (.error e)
      | .ok s => do let s0 ← byteAt s 0; let s1 ← byteAt s 1; pure (.ok (mPrevCrc (envL [s0, s1])))
    else pure (.error .fieldNotPresent)) := rfl

end Ts.Props.Ties.Expr

namespace Ts.Props.Ties.Expr
open Ts Ts.Refl Ts.Gen.Expr Ts.Spec

theorem code_model_escr_base (bs : Bytes) : pes_escr_base (envB bs) = mEscrBase (envB bs) :=
  tie_on_bytes 6 tie_expr_pes_escr_base (by reads_below pes_escr_base) (by reads_below mEscrBase) bs

theorem code_model_escr_ext (bs : Bytes) : pes_escr_ext (envB bs) = mEscrExt (envB bs) :=
  tie_on_bytes 6 tie_expr_pes_escr_ext (by reads_below pes_escr_ext) (by reads_below mEscrExt) bs

theorem code_model_es_rate (bs : Bytes) : pes_es_rate (envB bs) = mEsRate (envB bs) :=
  tie_on_bytes 3 tie_expr_pes_es_rate (by reads_below pes_es_rate) (by reads_below mEsRate) bs

theorem code_model_pes_packet_length (bs : Bytes) : pes_packet_length (envB bs) = mPacketLength (envB bs) :=
  tie_on_bytes 6 tie_expr_pes_packet_length (by reads_below pes_packet_length)
    (by reads_below mPacketLength) bs

open Ts.Lemmas.C14 Ts.Spec.PesSpec in
theorem model_iso_escr_base (bs : Bytes) :
    mEscrBase (envB bs) = readBits bs 2 3 * 2^30 + readBits bs 6 15 * 2^15 + readBits bs 22 15 := by
  simp only [mEscrBase, envB_byteD]
  rw [escrBase_arith _ _ _ _ _ (byteD_lt bs 0) (byteD_lt bs 1) (byteD_lt bs 2) (byteD_lt bs 3) (byteD_lt bs 4)]
  have e := congrArg EscrVal.base (escrAt_eq bs 0)
  simp only [escrAt, Nat.mul_zero, Nat.zero_add] at e
  exact e.symm

open Ts.Lemmas.C14 Ts.Spec.PesSpec in
theorem model_iso_escr_ext (bs : Bytes) : mEscrExt (envB bs) = readBits bs 38 9 := by
  simp only [mEscrExt, envB_byteD]
  rw [escrExt_arith _ _ (byteD_lt bs 4) (byteD_lt bs 5)]
  have e := congrArg EscrVal.ext (escrAt_eq bs 0)
  simp only [escrAt, Nat.mul_zero, Nat.zero_add] at e
  exact e.symm

open Ts.Lemmas.C14 Ts.Spec.PesSpec in
theorem model_iso_es_rate (bs : Bytes) : mEsRate (envB bs) = readBits bs 1 22 := by
  simp only [mEsRate, envB_byteD]
  have e := esRate_val bs 0
  simp only [esRateAt, Nat.mul_zero, Nat.zero_add] at e
  exact e

open Ts.Lemmas.C16 in
theorem model_iso_pes_packet_length (bs : Bytes) : mPacketLength (envB bs) = readBits bs 32 16 := by
  simp only [mPacketLength, envB_byteD]
  rw [shl8_or _ _ (byteD_lt bs 5)]
  exact (field_0_16 bs 4).symm

/-- ESCR: `ESCR_base` `[32..30]`, `[29..15]`, `[14..0]` -/
theorem code_escr_base_is_iso (bs : Bytes) (_h : 6 ≤ bs.length) :
    pes_escr_base (envB bs) = readBits bs 2 3 * 2^30 + readBits bs 6 15 * 2^15 + readBits bs 22 15 :=
  (code_model_escr_base bs).trans (model_iso_escr_base bs)

/-- ESCR: `ESCR_extension`, 9 bits at bit 38 -/
theorem code_escr_ext_is_iso (bs : Bytes) (_h : 6 ≤ bs.length) : pes_escr_ext (envB bs) = readBits bs 38 9 :=
  (code_model_escr_ext bs).trans (model_iso_escr_ext bs)

/-- `ES_rate`, 22 bits at bit 1 -/
theorem code_es_rate_is_iso (bs : Bytes) (_h : 3 ≤ bs.length) : pes_es_rate (envB bs) = readBits bs 1 22 :=
  (code_model_es_rate bs).trans (model_iso_es_rate bs)

/-- PES packet: `PES_packet_length`, 16 bits at bit 32 -/
theorem code_pes_packet_length_is_iso (bs : Bytes) (_h : 6 ≤ bs.length) :
    pes_packet_length (envB bs) = readBits bs 32 16 :=
  (code_model_pes_packet_length bs).trans (model_iso_pes_packet_length bs)

end Ts.Props.Ties.Expr
