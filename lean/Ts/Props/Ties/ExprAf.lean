import Ts.Model.Pes
import Ts.Model.Tables
import Ts.Model.App
import Ts.Model.Values
import Ts.Gen.Consts
import Ts.Refl.OrHom
import Ts.Gen.Exprs
import Ts.Model.Af
import Ts.Props.Ties.ExprSpecCore
import Ts.Lemmas.C16
import Ts.Lemmas.C17
/-!
# Ties to `/repo/src` — adaptation field and its extension (audited with C13)

Constants (`namespace Ts.Props.Ties`): the model's literals against `Ts/Gen/Consts.lean`; see
`Ts/Props/Ties/Psi.lean`.

Expressions (`tie_expr_*`, `tie_model_*`).  See `Ts/Props/Ties/ExprTime.lean` for the method.
`Ts.Gen.Expr.af_*`, `ext_*` are translated from
`/repo/src/packet.rs` on every run.

CODE = ISO (`code_*_is_iso`): see `Ts/Props/Ties/ExprSpecCore.lean`.
-/
namespace Ts.Props.Ties
open Ts Ts.Pes Ts.Tables Ts.Demux

/-- `AdaptationField::pcr` / `opcr`: `PCR_SIZE` -/
theorem tie_pcr_slice (buf : Bytes) :
    Af.pcr buf = (do
      let f ← Af.flags buf
      if Af.pcrFlag f then
        match ← Af.slice buf 1 (1 + Gen.pcrSize) with
        | .ok s => do let c ← Time.crefFromSlice s; pure (.ok c)
        | .error e => pure (.error e)
      else pure (.error .fieldNotPresent)) ∧
    (∀ f, Af.opcrOffset f = if Af.pcrFlag f then 1 + Gen.pcrSize else 1) ∧
    (∀ f, Af.spliceOffset f = Af.opcrOffset f + if Af.opcrFlag f then Gen.pcrSize else 0) :=
  ⟨rfl, fun _ => rfl, fun _ => rfl⟩

end Ts.Props.Ties

namespace Ts.Props.Ties.Expr
open Ts Ts.Refl Ts.Gen.Expr Ts.Af

/-- the five optional-field flags and the three extension flags, as predicates of the flags byte -/
theorem tie_expr_af_flags : ∀ x : Fin 256,
    af_pcr_flag (envL [x.val]) = Af.pcrFlag x.val
    ∧ af_opcr_flag (envL [x.val]) = Af.opcrFlag x.val
    ∧ af_splice_flag (envL [x.val]) = Af.spliceFlag x.val
    ∧ af_private_flag (envL [x.val]) = Af.privFlag x.val
    ∧ af_ext_flag (envL [x.val]) = Af.extFlag x.val := by decide +kernel

theorem tie_expr_ext_flags : ∀ x : Fin 256,
    ext_ltw_flag (envL [x.val]) = Af.ltwFlag x.val
    ∧ ext_piecewise_flag (envL [x.val]) = Af.piecewiseFlag x.val
    ∧ ext_seamless_flag (envL [x.val]) = Af.seamlessFlag x.val := by decide +kernel

/-- a second byte (`0xff`) in the slice changes no flag accessor: an index moved from 0 to 1 is caught -/
theorem tie_expr_af_flags_index : ∀ x : Fin 256,
    af_pcr_flag (envL [x.val, 0xff]) = af_pcr_flag (envL [x.val])
    ∧ af_opcr_flag (envL [x.val, 0xff]) = af_opcr_flag (envL [x.val])
    ∧ af_splice_flag (envL [x.val, 0xff]) = af_splice_flag (envL [x.val])
    ∧ af_private_flag (envL [x.val, 0xff]) = af_private_flag (envL [x.val])
    ∧ af_ext_flag (envL [x.val, 0xff]) = af_ext_flag (envL [x.val])
    ∧ ext_ltw_flag (envL [x.val, 0xff]) = ext_ltw_flag (envL [x.val])
    ∧ ext_piecewise_flag (envL [x.val, 0xff]) = ext_piecewise_flag (envL [x.val])
    ∧ ext_seamless_flag (envL [x.val, 0xff]) = ext_seamless_flag (envL [x.val]) := by decide +kernel

def mDiscontinuity (e : Env) : Bool := e 0 &&& 0b1000_0000 != 0
def mRandomAccess (e : Env) : Bool := e 0 &&& 0b0100_0000 != 0
def mEsPriority (e : Env) : Nat := (e 0 &&& 0b10_0000) >>> 5

theorem tie_expr_af_indicators : ∀ x : Fin 256,
    af_discontinuity (envL [x.val, 0xff]) = mDiscontinuity (envL [x.val])
    ∧ af_random_access (envL [x.val, 0xff]) = mRandomAccess (envL [x.val])
    ∧ af_es_priority (envL [x.val, 0xff]) = mEsPriority (envL [x.val]) := by decide +kernel

theorem tie_model_discontinuity (buf : Bytes) :
    Af.discontinuity buf = (do let f ← Af.flags buf; pure (mDiscontinuity (envL [f]))) := rfl
theorem tie_model_random_access (buf : Bytes) :
    Af.randomAccess buf = (do let f ← Af.flags buf; pure (mRandomAccess (envL [f]))) := rfl
theorem tie_model_es_priority (buf : Bytes) :
    Af.esPriority buf = (do let f ← Af.flags buf; pure (mEsPriority (envL [f]))) := rfl
theorem tie_model_flags (buf : Bytes) : Af.flags buf = byteAt buf 0 := rfl

/-! ### the flag-dependent offset chains (control flow translated from the source: `if`, calls) -/

/-- `opcr_offset`, `splice_countdown_offset`, `transport_private_data_offset` as functions of the
flags byte -/
theorem tie_expr_af_offsets : ∀ x : Fin 256,
    af_opcr_offset (envL [x.val]) = Af.opcrOffset x.val
    ∧ af_splice_offset (envL [x.val]) = Af.spliceOffset x.val
    ∧ af_private_offset (envL [x.val]) = Af.privOffset x.val := by decide +kernel

/-- `piecewise_rate_offset`, `seamless_splice_offset` as functions of the extension's flags byte -/
theorem tie_expr_ext_offsets : ∀ x : Fin 256,
    ext_piecewise_offset (envL [x.val]) = Af.piecewiseOffset x.val
    ∧ ext_seamless_offset (envL [x.val]) = Af.seamlessOffset x.val := by decide +kernel

/-! ### extension fields -/

def mLtwValid (e : Env) : Bool := e 0 &&& 0b1000_0000 != 0
def mLtwOffset (e : Env) : Nat := ((e 0 &&& 0b0111_1111) <<< 8) ||| e 1
def mPiecewise (e : Env) : Nat := ((e 0 &&& 0b0011_1111) <<< 16) ||| (e 1 <<< 8) ||| e 2
def mSpliceType (e : Env) : Nat := e 0 >>> 4

theorem tie_expr_ext_ltw_valid : ∀ x : Fin 256,
    ext_ltw_valid (envL [x.val, 0xff]) = mLtwValid (envL [x.val]) := by decide +kernel
theorem tie_expr_ext_ltw_offset : ∀ l : List Nat, l.length ≤ 2 → (∀ x ∈ l, x < 256) →
    ext_ltw_offset (envL l) = mLtwOffset (envL l) := by tie_linear 2
theorem tie_expr_ext_piecewise_rate : ∀ l : List Nat, l.length ≤ 3 → (∀ x ∈ l, x < 256) →
    ext_piecewise_rate (envL l) = mPiecewise (envL l) := by tie_linear 3
theorem tie_expr_ext_splice_type : ∀ x : Fin 256,
    ext_splice_type (envL [x.val, 0xff]) = mSpliceType (envL [x.val]) := by decide +kernel

theorem tie_model_ltw (buf : Bytes) : Af.ltwOffset buf = (do
    let f ← Af.flags buf
    if Af.ltwFlag f then
      match ← Af.slice buf 1 3 with
      | .error e => pure (.error e)
      | .ok dat => do
        let d0 ← byteAt dat 0
        let valid := mLtwValid (envL [d0])
        if valid then do
          let d0' ← byteAt dat 0
          let d1 ← byteAt dat 1
          pure (.ok (some (mLtwOffset (envL [d0', d1]))))
        else pure (.ok none)
    else pure (.error .fieldNotPresent)) := rfl

theorem tie_model_piecewise (buf : Bytes) : Af.piecewiseRate buf = (do
    let f ← Af.flags buf
    if Af.piecewiseFlag f then
      let off := Af.piecewiseOffset f
      match ← Af.slice buf off (off + 3) with
      | .error e => pure (.error e)
      | .ok dat => do
        let d0 ← byteAt dat 0; let d1 ← byteAt dat 1; let d2 ← byteAt dat 2
        pure (.ok (mPiecewise (envL [d0, d1, d2])))
    else pure (.error .fieldNotPresent)) := rfl

theorem tie_model_seamless (buf : Bytes) : Af.seamlessSplice buf = (do
    let f ← Af.flags buf
    if Af.seamlessFlag f then
      let off := Af.seamlessOffset f
      match ← Af.slice buf off (off + 5) with
      | .error e => pure (.error e)
      | .ok dat => do
        let d0 ← byteAt dat 0
        let spliceType := mSpliceType (envL [d0])
        match ← Time.fromBytes dat with
        | .error e => pure (.error (.spliceTimestampError e))
        | .ok v => pure (.ok (spliceType, v))
    else pure (.error .fieldNotPresent)) := rfl

end Ts.Props.Ties.Expr

namespace Ts.Props.Ties.Expr
open Ts Ts.Refl Ts.Gen.Expr Ts.Spec

theorem code_model_piecewise_rate (bs : Bytes) : ext_piecewise_rate (envB bs) = mPiecewise (envB bs) :=
  tie_on_bytes 3 tie_expr_ext_piecewise_rate (by reads_below ext_piecewise_rate)
    (by reads_below mPiecewise) bs

theorem code_model_ltw_offset (bs : Bytes) : ext_ltw_offset (envB bs) = mLtwOffset (envB bs) :=
  tie_on_bytes 2 tie_expr_ext_ltw_offset (by reads_below ext_ltw_offset) (by reads_below mLtwOffset) bs

open Ts.Lemmas.C17 in
theorem model_iso_piecewise_rate (bs : Bytes) : mPiecewise (envB bs) = readBits bs 2 22 := by
  simp only [mPiecewise, envB_byteD]
  rw [bitrate_arith _ _ _ (byteD_lt bs 0) (byteD_lt bs 1) (byteD_lt bs 2), bitrate_field]

open Ts.Lemmas.C16 in
theorem model_iso_ltw_offset (bs : Bytes) : mLtwOffset (envB bs) = readBits bs 1 15 := by
  simp only [mLtwOffset, envB_byteD]
  have e : readBits bs 1 15 = readBits bs 1 7 * 2^8 + readBits bs (1 + 7) 8 := readBits_add bs 1 7 8
  have r1 := readBits_sub bs 0 1 7 (by omega)
  have r2 := readBits_byte bs 1
  simp only [Nat.mul_zero, Nat.zero_add, Nat.mul_one] at r1 r2
  rw [e, r1, r2, and_7f _ (byteD_lt bs 0), shl8_or _ _ (byteD_lt bs 1)]
  simp

/-- adaptation field extension: `piecewise_rate`, 22 bits at bit 2 -/
theorem code_piecewise_rate_is_iso (bs : Bytes) (_h : 3 ≤ bs.length) :
    ext_piecewise_rate (envB bs) = readBits bs 2 22 :=
  (code_model_piecewise_rate bs).trans (model_iso_piecewise_rate bs)

/-- adaptation field extension: `ltw_offset`, 15 bits at bit 1 -/
theorem code_ltw_offset_is_iso (bs : Bytes) (_h : 2 ≤ bs.length) :
    ext_ltw_offset (envB bs) = readBits bs 1 15 :=
  (code_model_ltw_offset bs).trans (model_iso_ltw_offset bs)

end Ts.Props.Ties.Expr
