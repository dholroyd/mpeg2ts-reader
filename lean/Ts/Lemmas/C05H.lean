import Ts.Spec.RoutingHistory
import Ts.Lemmas.C05
import Ts.Lemmas.C05Run
import Ts.Lemmas.C10b
import Ts.Lemmas.C19
import Ts.Props.C11
import Ts.Lemmas.C01c
/-!
# C05 over whole histories — lists of requests; single packets
-/
namespace Ts.Lemmas.C05H
open Ts Ts.Tables Ts.App Ts.Demux Ts.Spec Ts.Spec.TableSpec Ts.Spec.Routing Ts.Spec.RoutingHistory
open Ts.Spec.SectionMux Ts.Lemmas.C03 Ts.Lemmas.C10 Ts.Lemmas.C05 Ts.Lemmas.C05Run

theorem tagged_eq_zipIdx : ∀ (l : List (Nat × Req)) (n : Nat),
    tagged n l = (l.zipIdx n).map fun x => (x.1.1, (x.1.2, x.2)) := by
  intro l
  induction l with
  | nil => intro _; rfl
  | cons x rest ih => intro n; obtain ⟨p, q⟩ := x; simp [tagged, ih, List.zipIdx_cons]

theorem tagged_pids (l : List (Nat × Req)) (n : Nat) : (tagged n l).map (·.1) = l.map (·.1) := by
  rw [tagged_eq_zipIdx, List.map_map]
  exact (List.map_map (g := Prod.fst) (f := Prod.fst)).symm.trans (by rw [List.zipIdx_map_fst])

theorem built_eq_tagged (l : List (Nat × Req)) (n : Nat) :
    built n l = (tagged n l).map fun x => (x.1, handlerFor x.2.1 x.2.2) := by
  rw [built_eq_zipIdx, tagged_eq_zipIdx, List.map_map]; rfl

theorem tagged_mem (l : List (Nat × Req)) (n p : Nat) (q : Req) (t : Nat)
    (h : (p, (q, t)) ∈ tagged n l) : (p, q) ∈ l ∧ n ≤ t ∧ t < n + l.length := by
  rw [tagged_eq_zipIdx] at h
  obtain ⟨⟨⟨p', q'⟩, t'⟩, hm, e⟩ := List.mem_map.1 h
  simp only [Prod.mk.injEq] at e
  obtain ⟨rfl, rfl, rfl⟩ := e
  obtain ⟨h1, h2, e⟩ := List.mem_zipIdx hm
  exact ⟨e ▸ List.getElem_mem _, h1, h2⟩

theorem tagged_reqs : ∀ (l : List (Nat × Req)) (n : Nat),
    (tagged n l).map (fun x => x.2) = (l.map (·.2)).zipIdx n := by
  intro l n
  rw [tagged_eq_zipIdx, List.zipIdx_map, List.map_map]; rfl

theorem lastFor_map {α β : Type} (f : α → β) (l : List (Nat × α)) (p : Nat) :
    lastFor (l.map fun x => (x.1, f x.2)) p = (lastFor l p).map f := by
  unfold lastFor
  rw [← List.map_reverse, List.find?_map]
  cases h : l.reverse.find? ((fun x : Nat × β => x.1 == p) ∘ fun x : Nat × α => (x.1, f x.2)) with
  | none =>
    have : l.reverse.find? (fun x => x.1 == p) = none := h
    rw [this]; rfl
  | some a =>
    have : l.reverse.find? (fun x => x.1 == p) = some a := h
    rw [this]; rfl

theorem lastFor_mem {α : Type} (l : List (Nat × α)) (p : Nat) (a : α) (h : lastFor l p = some a) :
    (p, a) ∈ l := by
  obtain ⟨pre, post, e, -⟩ := lastFor_some l p a h
  rw [e]; simp

theorem lastFor_none_iff {α : Type} (l : List (Nat × α)) (p : Nat) :
    lastFor l p = none ↔ p ∉ l.map (·.1) := ⟨lastFor_none l p, lastFor_of_not_mem l p⟩

theorem mem_patRequests {es : List PatEntry} {p : Nat} {req : Req} (h : (p, req) ∈ patRequests es) :
    ∃ e ∈ es, e.pid = p ∧ req = patRequest e := by
  obtain ⟨e, he, hee⟩ := List.mem_map.1 h
  cases hee
  exact ⟨e, he, rfl, rfl⟩

theorem mem_pmtReqs {p : Nat} {body : Bytes} {q : Nat} {req : Req} (h : (q, req) ∈ pmtReqs p body) :
    ∃ s ∈ streamsOf body, s.pid = q ∧
      req = .stream p s.streamType q (specPcrPid body) s.descBytes (specProgramDescBytes body) := by
  obtain ⟨s, hs, hee⟩ := List.mem_map.1 h
  cases hee
  exact ⟨s, hs, rfl, rfl⟩

theorem entry_of_lastFor {es : List PatEntry} {q : Nat} {req : Req}
    (h : lastFor (patRequests es) q = some req) : ∃ e ∈ es, e.pid = q ∧ req = patRequest e :=
  mem_patRequests (lastFor_mem _ _ _ h)

theorem stream_of_lastFor {p : Nat} {body : Bytes} {q : Nat} {req : Req}
    (h : lastFor (pmtReqs p body) q = some req) : ∃ s ∈ streamsOf body, s.pid = q ∧
      req = .stream p s.streamType q (specPcrPid body) s.descBytes (specProgramDescBytes body) :=
  mem_pmtReqs (lastFor_mem _ _ _ h)

def isConstruct : Ev → Option (Req × Nat)
  | .construct r t => some (r, t)
  | _ => none

theorem constructs_eq (c : Ctx) : constructs c = c.trace.reverse.filterMap isConstruct := rfl

theorem constructs_append (c c' : Ctx) (out : List Ev) (h : c'.trace = out ++ c.trace) :
    constructs c' = constructs c ++ out.reverse.filterMap isConstruct := by
  rw [constructs_eq, constructs_eq, h, List.reverse_append, List.filterMap_append]

theorem constructs_silent (c c' : Ctx) (out : List Ev) (h : c'.trace = out ++ c.trace)
    (hs : ∀ e ∈ out, isConstruct e = none) : constructs c' = constructs c := by
  rw [constructs_append c c' out h]
  have : out.reverse.filterMap isConstruct = [] := by
    rw [List.filterMap_eq_nil_iff]
    intro e he
    exact hs e (List.mem_reverse.1 he)
  rw [this, List.append_nil]

theorem constructEvents_constructs (reqs : List (Nat × Req)) (n : Nat) :
    (constructEvents n reqs).filterMap isConstruct = (reqs.map (·.2)).zipIdx n := by
  rw [constructEvents_eq_zipIdx, List.filterMap_map, List.zipIdx_map]
  exact congrFun (List.filterMap_eq_map (f := fun x : (Nat × Req) × Nat => (x.1.2, x.2))) _

theorem constructs_ctxAfter (c : Ctx) (reqs : List (Nat × Req)) :
    constructs (ctxAfter c reqs) = constructs c ++ (reqs.map (·.2)).zipIdx c.nextTag := by
  rw [constructs_append c (ctxAfter c reqs) (constructEvents c.nextTag reqs).reverse rfl,
    List.reverse_reverse, constructEvents_constructs]

theorem zipIdx_snoc {α : Type} (l l' : List α) :
    (l ++ l').zipIdx = l.zipIdx ++ l'.zipIdx l.length := by
  rw [List.zipIdx_append]; simp

/-- a recorder (no script): records the packet, queues nothing -/
theorem consume_recorder (tag : Nat) (c : Ctx) (pk : Pk) (hs : c.cfg.script = [])
    (hl : pk.bytes.length = 188) :
    App.consume (.recorder tag) c pk = .ok (.recorder tag, c.emit (.pkt tag pk.off), []) := by
  simp only [App.consume, hs, List.lookup]
  cases c.cfg.touch
  · rfl
  · simp only [if_true, Ts.Lemmas.C01.touchPacket_ok _ hl, R.ok_bind]; rfl

/-- an elementary-stream handler: same instance, nothing queued, no request, tag counter and
configuration untouched -/
theorem consume_pes (tag : Nat) (f : PesFilter.F) (c : Ctx) (pk : Pk) (hl : pk.bytes.length = 188) :
    ∃ f' c', App.consume (.pes tag f) c pk = .ok (.pes tag f', c', []) ∧ c'.cfg = c.cfg ∧
      c'.nextTag = c.nextTag ∧ constructs c' = constructs c := by
  obtain ⟨h', c', chg, h1, -, -⟩ := Ts.Lemmas.C01.consume_total (.pes tag f) c pk trivial hl
  obtain ⟨out, f', e1, e2, h2, h3, h4, h5⟩ := Ts.Lemmas.C19.pes_consume_events tag f c pk h' c' chg hl h1
  subst e1 e2
  refine ⟨f', c', h1, h5, h4, constructs_silent c c' out h2 ?_⟩
  intro e he
  have := h3 e he
  cases e <;> first | rfl | exact this.elim

theorem idle_quiescent (v : Nat) (s : Psi.St) : Idle (some v) s ↔ Quiescent v s := Iff.rfl

/-- one packet that cannot complete a new section, through an idle section filter -/
theorem psi_rep_packetO (ov : Option Nat) (s : Psi.St) (hi : Idle ov s) (p : Bytes) (hp : RepPacketO ov p) :
    ∃ s', Psi.consume Psi.table s p = .ok (s', []) ∧ Idle ov s' := by
  cases ov with
  | some v =>
    obtain ⟨s', h1, h2, -⟩ := psi_rep_packet v s hi p hp
    exact ⟨s', h1, h2⟩
  | none =>
    obtain ⟨hl, hr⟩ := hp
    rw [consume_eq_plOf Psi.table s p hl]
    cases hpl : plOf p with
    | none => exact ⟨s, rfl, hi⟩
    | some q =>
      have hus := hr q hpl
      refine ⟨s, ?_, hi⟩
      show consumePayload Psi.table s q.us q.bytes q.off = _
      rw [consumePayload_eq Psi.table cfgOk_table s q.us q.bytes q.off (plOf_size p hl q hpl).1
        (psiInv_of_none _ _ hi.2), hus]
      unfold consumeSpec
      simp only [Bool.false_eq_true, if_false]
      rw [contSpec_idle _ _ _ (Or.inl hi.2)]

end Ts.Lemmas.C05H
