import Ts.Lemmas.C14
import Ts.Lemmas.C15
/-!
PES header: header slices, and field by field the code's masks and shifts against the `readBits`
fields at the cursor.
-/
namespace Ts.Lemmas.C14
open Ts Ts.Spec Ts.Spec.PesSpec

/-! ### slices -/

theorem limit_le (c : Bytes) : limit c ≤ c.length := Nat.min_le_right _ _
theorem limit_le_hdl (c : Bytes) : limit c ≤ 3 + byteD c 2 := by
  unfold limit; rw [hdl_eq]; exact Nat.min_le_left _ _

theorem headerSlice_eq (c : Bytes) (h3 : 3 ≤ c.length) (a n : Nat) :
    Pes.headerSlice c a (a + n) =
      .ok (if a + n ≤ limit c then .ok ((c.drop a).take n) else .error .notEnoughData) := by
  unfold Pes.headerSlice Pes.hdl limit
  rw [byteAt_ok c 2 (by omega), hdl_eq]
  simp only [R.ok_bind, Pes.FIXED]
  by_cases h1 : a + n > byteD c 2 + 3
  · have : ¬ a + n ≤ min (3 + byteD c 2) c.length := by omega
    simp [h1, this]
  · by_cases h2 : a + n > c.length
    · have : ¬ a + n ≤ min (3 + byteD c 2) c.length := by omega
      simp [h1, h2, this]
    · have : a + n ≤ min (3 + byteD c 2) c.length := by omega
      rw [sliceR_ok c a n (by omega)]
      simp [h1, h2, this]

/-! ### multi-byte bit fields -/

theorem rb_2_8_5 (c : Bytes) (pos i : Nat) (hp : pos = 8 * i + 6) :
    readBits c pos 15 = (byteD c i % 4) * 2 ^ 13 + byteD c (i + 1) * 2 ^ 5 + byteD c (i + 2) / 8 := by
  have e := rb_be c pos i 6 15 3 hp (by omega)
  simp only [be, Nat.zero_mul, Nat.zero_add, Nat.add_zero, Nat.reduceMul] at e
  have := byteD_lt c (i + 1); have := byteD_lt c (i + 2)
  omega

theorem rb_2_7 (c : Bytes) (pos i : Nat) (hp : pos = 8 * i + 6) :
    readBits c pos 9 = (byteD c i % 4) * 2 ^ 7 + byteD c (i + 1) / 2 := by
  have e := rb_be c pos i 6 9 2 hp (by omega)
  simp only [be, Nat.zero_mul, Nat.zero_add, Nat.add_zero, Nat.reduceMul] at e
  have := byteD_lt c (i + 1)
  omega

theorem rb_7_8_7 (c : Bytes) (pos i : Nat) (hp : pos = 8 * i + 1) :
    readBits c pos 22 = (byteD c i % 128) * 2 ^ 15 + byteD c (i + 1) * 2 ^ 7 + byteD c (i + 2) / 2 := by
  have e := rb_be c pos i 1 22 3 hp (by omega)
  simp only [be, Nat.zero_mul, Nat.zero_add, Nat.add_zero, Nat.reduceMul] at e
  have := byteD_lt c (i + 1); have := byteD_lt c (i + 2)
  omega

theorem rb_8_8 (c : Bytes) (pos i : Nat) (hp : pos = 8 * i) :
    readBits c pos 16 = byteD c i * 256 + byteD c (i + 1) := by
  have e := rb_be c pos i 0 16 2 hp (by omega)
  simp only [be, Nat.zero_mul, Nat.zero_add, Nat.add_zero, Nat.reduceMul] at e
  have := byteD_lt c i; have := byteD_lt c (i + 1)
  omega

theorem rb_8_8_8 (c : Bytes) (pos i : Nat) (hp : pos = 8 * i) :
    readBits c pos 24 = byteD c i * 65536 + byteD c (i + 1) * 256 + byteD c (i + 2) := by
  have e := rb_be c pos i 0 24 3 hp (by omega)
  simp only [be, Nat.zero_mul, Nat.zero_add, Nat.add_zero, Nat.reduceMul] at e
  have := byteD_lt c i; have := byteD_lt c (i + 1); have := byteD_lt c (i + 2)
  omega

/-! ### time stamps -/

theorem ts_at (c : Bytes) (a n : Nat) (h : a + n ≤ c.length) (hn : 5 ≤ n) :
    Time.fromBytes ((c.drop a).take n) = .ok (tsRes (timestampAt c a)) := by
  rw [C15.fromBytes_exact _ (by rw [length_window c a n h]; exact hn)]
  simp (disch := omega) only [readBits_window]
  unfold timestampAt
  simp only [apply_ite tsRes]
  rfl

/-! ### ESCR -/

theorem escrBase_arith (s0 s1 s2 s3 s4 : Nat) (h0 : s0 < 256) (h1 : s1 < 256) (h2 : s2 < 256)
    (h3 : s3 < 256) (h4 : s4 < 256) :
    Pes.escrBase s0 s1 s2 s3 s4 =
      (s0 / 8 % 8) * 2 ^ 30 + ((s0 % 4) * 2 ^ 13 + s1 * 2 ^ 5 + s2 / 8) * 2 ^ 15
        + ((s2 % 4) * 2 ^ 13 + s3 * 2 ^ 5 + s4 / 8) := by
  unfold Pes.escrBase
  rw [and_38 s0, and_03 s0 h0, and_f8 s2 h2, and_03 s2 h2, and_f8 s4 h4]
  simp only [Nat.shiftLeft_eq, Nat.shiftRight_eq_div_pow]
  simp (disch := omega) only [or_eq_add 30, or_eq_add 28, or_eq_add 20, or_eq_add 15, or_eq_add 13,
    or_eq_add 5]
  omega

theorem escrExt_arith (s4 s5 : Nat) (h4 : s4 < 256) (h5 : s5 < 256) :
    Pes.escrExt s4 s5 = (s4 % 4) * 2 ^ 7 + s5 / 2 := by
  unfold Pes.escrExt
  rw [and_03 s4 h4, and_fe s5 h5]
  simp only [Nat.shiftLeft_eq, Nat.shiftRight_eq_div_pow]
  simp (disch := omega) only [or_eq_add 7]
  omega

theorem escrAt_eq (c : Bytes) (a : Nat) :
    escrAt c a =
      { base := (byteD c a / 8 % 8) * 2 ^ 30
          + ((byteD c a % 4) * 2 ^ 13 + byteD c (a + 1) * 2 ^ 5 + byteD c (a + 2) / 8) * 2 ^ 15
          + ((byteD c (a + 2) % 4) * 2 ^ 13 + byteD c (a + 3) * 2 ^ 5 + byteD c (a + 4) / 8)
        ext := (byteD c (a + 4) % 4) * 2 ^ 7 + byteD c (a + 5) / 2 } := by
  unfold escrAt
  rw [rb c (8 * a + 2) a 2 3 (by omega) (by omega), rb_2_8_5 c (8 * a + 6) a (by omega),
    rb_2_8_5 c (8 * a + 22) (a + 2) (by omega), rb_2_7 c (8 * a + 38) (a + 4) (by omega)]

/-- the ESCR decode at the cursor never trips `ClockRef::from_parts`' assertions -/
theorem escr_val (c : Bytes) (a : Nat) :
    Time.crefFromParts
        (Pes.escrBase (byteD c a) (byteD c (a + 1)) (byteD c (a + 2)) (byteD c (a + 3)) (byteD c (a + 4)))
        (Pes.escrExt (byteD c (a + 4)) (byteD c (a + 5))) = .ok (escrConv (escrAt c a)) := by
  have h0 := byteD_lt c a; have h1 := byteD_lt c (a + 1); have h2 := byteD_lt c (a + 2)
  have h3 := byteD_lt c (a + 3); have h4 := byteD_lt c (a + 4); have h5 := byteD_lt c (a + 5)
  rw [escrBase_arith _ _ _ _ _ h0 h1 h2 h3 h4, escrExt_arith _ _ h4 h5, escrAt_eq]
  apply C15.crefFromParts_ok
  · omega
  · omega

/-! ### ES_rate -/

theorem esRateVal_arith (s0 s1 s2 : Nat) (h0 : s0 < 256) (h1 : s1 < 256) (h2 : s2 < 256) :
    Pes.esRateVal s0 s1 s2 = (s0 % 128) * 2 ^ 15 + s1 * 2 ^ 7 + s2 / 2 := by
  unfold Pes.esRateVal
  rw [and_7f s0 h0, and_fe s2 h2]
  simp only [Nat.shiftLeft_eq, Nat.shiftRight_eq_div_pow]
  simp (disch := omega) only [or_eq_add 15, or_eq_add 7]
  omega

theorem esRate_val (c : Bytes) (a : Nat) :
    Pes.esRateVal (byteD c a) (byteD c (a + 1)) (byteD c (a + 2)) = esRateAt c a := by
  rw [esRateVal_arith _ _ _ (byteD_lt c a) (byteD_lt c (a + 1)) (byteD_lt c (a + 2))]
  unfold esRateAt
  rw [rb_7_8_7 c (8 * a + 1) a rfl]

theorem esRateAt_lt (c : Bytes) (a : Nat) : esRateAt c a < 1 <<< 22 := by
  have := readBits_lt c (8 * a + 1) 22
  unfold esRateAt
  simp only [Nat.shiftLeft_eq]; omega

/-! ### trick mode -/

/-- the spec's reading of the trick-mode byte, on the byte value -/
def trickArith (b : Nat) : TrickVal :=
  match b / 32 % 8 with
  | 0 => .fastForward (b / 8 % 4) (b / 4 % 2 == 1) (b % 4)
  | 1 => .slowMotion (b % 32)
  | 2 => .freezeFrame (b / 8 % 4) (b % 8)
  | 3 => .fastReverse (b / 8 % 4) (b / 4 % 2 == 1) (b % 4)
  | 4 => .slowReverse (b % 32)
  | k => .reserved k

theorem trickAt_eq (c : Bytes) (p : Nat) : trickAt c p = trickArith (byteD c p) := by
  unfold trickAt trickArith
  rw [rb c (8 * p) p 0 3 (by omega) (by omega), rb c (8 * p + 3) p 3 2 rfl (by omega),
    rb c (8 * p + 5) p 5 1 rfl (by omega), rb c (8 * p + 6) p 6 2 rfl (by omega),
    rb c (8 * p + 3) p 3 5 rfl (by omega), rb c (8 * p + 5) p 5 3 rfl (by omega)]
  simp only [Nat.reduceSub, Nat.reducePow, Nat.div_one]
  rfl

/-- on every byte value, the code's decode (incl. `from_id`, which never panics) is the spec's -/
theorem tbl_trick : ∀ b : Fin 256,
    okVal (Pes.trickOfByte b.val) = some (trickConv (trickArith b.val)) := by decide +kernel

theorem trick_val (c : Bytes) (p : Nat) :
    Pes.trickOfByte (byteD c p) = .ok (trickConv (trickAt c p)) := by
  rw [trickAt_eq]
  exact eq_ok_of_okVal (tbl_trick ⟨byteD c p, byteD_lt c p⟩)

/-! ### additional copy info, CRC -/

theorem tbl_aci : ∀ b : Fin 256,
    (b.val &&& 0b1000_0000 == 0) = (b.val / 2 ^ (8 - 0 - 1) % 2 ^ 1 == 0) ∧
    b.val &&& 0b0111_1111 = b.val / 2 ^ (8 - 1 - 7) % 2 ^ 7 := by decide +kernel

theorem aci_val (c : Bytes) (p : Nat) :
    (if byteD c p &&& 0b1000_0000 == 0 then (Except.error Pes.PesErr.markerBitNotSet : Pes.Res Nat)
      else .ok (byteD c p &&& 0b0111_1111)) = copyInfoRes (.present (copyInfoAt c p)) := by
  have t := tbl_aci ⟨byteD c p, byteD_lt c p⟩
  simp only at t
  unfold copyInfoAt
  rw [rb c (8 * p) p 0 1 (by omega) (by omega), rb c (8 * p + 1) p 1 7 rfl (by omega), t.1, t.2]
  by_cases h : byteD c p / 2 ^ (8 - 0 - 1) % 2 ^ 1 = 0 <;> simp [h, copyInfoRes]

theorem crc_val (c : Bytes) (p : Nat) :
    (byteD c p <<< 8) ||| byteD c (p + 1) = crcAt c p := by
  unfold crcAt
  rw [rb_8_8 c (8 * p) p rfl, Nat.shiftLeft_eq]
  exact or_eq_add 8 (Nat.dvd_mul_left _ _) (byteD_lt c (p + 1))

end Ts.Lemmas.C14
