import Ts.Lemmas.C05Hd
import Ts.Lemmas.C05HRun
import Ts.Lemmas.AppEval
/-!
# C05 over whole histories — the tables in force

The `F10` probes and the history `movedHist` on real bytes (`observeAt`: what is read off a concrete run);
`ProgInv` and `Agree`, the invariants tying the abstract route to the tables in force
(`Current`, `currentOf`, `CollisionFreeNow`), behind `routed_by_current_pmt`.
-/
namespace Ts.Lemmas.C05He
open Ts Ts.Tables Ts.App Ts.Demux Ts.Spec Ts.Spec.TableSpec Ts.Spec.Routing Ts.Spec.RoutingHistory
open Ts.Spec.SectionMux Ts.Lemmas.C03 Ts.Lemmas.C10 Ts.Lemmas.C05 Ts.Lemmas.C05Run Ts.Lemmas.C05H
open Ts.Lemmas.C05HRun

/-- PAT version 0 with TWO programs: 1 → 0x100, 2 → 0x110 -/
def pat2V0 : Bytes :=
  [0x47, 0x40, 0x00, 0x10, 0x00, 0x00, 0xb0, 0x11, 0x00, 0x01, 0xc1, 0x00, 0x00, 0x00, 0x01, 0xe1, 0x00,
   0x00, 0x02, 0xe1, 0x10, 0x07, 0x73, 0x21, 0x0a] ++ List.replicate 163 0xff

/-- PMT version 0 of program 2 on PID 0x110: the SAME streams as program 1 (0x1b on 0x101, 0x0f on
0x102, PCR PID 0x101) -/
def pmt2V0 : Bytes :=
  [0x47, 0x41, 0x10, 0x10, 0x00, 0x02, 0xb0, 0x17, 0x00, 0x02, 0xc1, 0x00, 0x00, 0xe1, 0x01, 0xf0, 0x00,
   0x1b, 0xe1, 0x01, 0xf0, 0x00, 0x0f, 0xe1, 0x02, 0xf0, 0x00, 0x19, 0x41, 0xa1, 0xf5] ++ List.replicate 157 0xff

/-- a unit-start packet on PID 0x102 carrying the start of a PES packet (stream id 0xc0) -/
def probeA : Bytes :=
  [0x47, 0x41, 0x02, 0x10, 0x00, 0x00, 0x01, 0xc0, 0x00, 0x00, 0x80, 0x00, 0x00] ++ List.replicate 175 0x55

/-- the probe `F10 demux b0t0 …` (known finding F10 in `/verif/known_findings.json`):
PAT v0 {1 → 0x100, 2 → 0x110}, PMT(0x100) v0 {0x101, 0x102}, PMT(0x110) v0 {0x101, 0x102},
PMT(0x100) v1 {0x101}, a packet on 0x102 -/
def f10Bytes : Bytes := pat2V0 ++ pmtV0 ++ pmt2V0 ++ pmtV1 ++ probeA

/-- `F10c`: the control, without PMT(0x100) v1 -/
def f10cBytes : Bytes := pat2V0 ++ pmtV0 ++ pmt2V0 ++ probeA

/-- the `construct` callbacks up to and including PMT(0x110) v0 (both probes) -/
def constructsShared : List (Req × Nat) :=
  [(.byPid 0, 0), (.pmt 0x100 1, 1), (.pmt 0x110 2, 2),
   (.stream 0x100 0x1b 0x101 0x101 [] [], 3), (.stream 0x100 0x0f 0x102 0x101 [] [], 4),
   (.stream 0x110 0x1b 0x101 0x101 [] [], 5), (.stream 0x110 0x0f 0x102 0x101 [] [], 6)]

/-- the elementary-stream callbacks in the trace, oldest first: (tag, constructor) -/
def esTags (c : Ctx) : List (Nat × Nat) :=
  c.trace.reverse.filterMap fun e => match e with
    | .esStart t => some (t, 0) | .esBegin t _ => some (t, 1) | .esCont t _ _ => some (t, 2)
    | .esEnd t => some (t, 3) | .esCcErr t => some (t, 4) | _ => none

structure ObsAt where
  constructs : List (Req × Nat)
  pkts : List (Nat × Nat)
  es : List (Nat × Nat)
  slots : List Slot
  deriving DecidableEq, Repr

/-- `construct` callbacks, recorded packets (tag, byte offset), elementary-stream callbacks
(tag, kind), and the slots of `pids` -/
def observeAt (pids : List Nat) : R (Tab Handler × Ctx) → Option ObsAt
  | .ok (t, c) => some ⟨constructs c, pkts c, esTags c, pids.map fun p => slotOf (t.get p)⟩
  | .panic _ => none

theorem observeAt_some (pids : List Nat) (r : R (Tab Handler × Ctx)) (o : ObsAt)
    (h : observeAt pids r = some o) :
    ∃ t c, r = .ok (t, c) ∧ constructs c = o.constructs ∧ pkts c = o.pkts ∧ esTags c = o.es ∧
      (pids.map fun p => slotOf (t.get p)) = o.slots := by
  cases r with
  | panic s => cases h
  | ok tc =>
    obtain ⟨t, c⟩ := tc
    simp only [observeAt, Option.some.injEq] at h
    subst h
    exact ⟨t, c, rfl, rfl, rfl, rfl, rfl⟩

theorem esTags_some (r : R (Tab Handler × Ctx)) (l : List (Nat × Nat))
    (h : (match r with | .ok (_, c) => some (esTags c) | .panic _ => none) = some l) :
    ∃ t c, r = .ok (t, c) ∧ esTags c = l := by
  cases r with
  | panic s => cases h
  | ok tc =>
    obtain ⟨t, c⟩ := tc
    simp only [Option.some.injEq] at h
    exact ⟨t, c, rfl, h⟩

/-- one `push` of a buffer = the real loops on its framed packets (a concrete run whose framing is
known is evaluated on the packets) -/
theorem runApp_frame (cfg : Cfg) (buf : Bytes) (pks : List Pk) (h : Demux.frame buf 0 = .ok pks) :
    runApp cfg [buf] = pushModel App.sem (App.init cfg) pks := by
  rw [runApp, pushAll_cons, push_of_frame App.sem _ h, pushModel_eq_pushSpec]
  exact bind_pure _

/-- F10, after the four tables (slots 0x100, 0x101, 0x102, 0x110): PMT(0x100) v1 — applied by the
instance that applied v0 — removed 0x102 although program 2's PMT (applied in between, tag 6) lists
it: the slot is EMPTY -/
theorem f10_tables : observe (runApp {} [pat2V0 ++ pmtV0 ++ pmt2V0 ++ pmtV1]) = some
    { constructs := constructsShared ++ [(.stream 0x100 0x1b 0x101 0x101 [] [], 7)],
      pkts := [],
      slot100 := .pmt 0x100 1 [0x101], slot101 := .pes 7, slot102 := .empty,
      slot110 := .pmt 0x110 2 [0x101, 0x102] } := by
  eval_app

def patS2 : Bytes :=
  [0x00, 0xb0, 0x11, 0x00, 0x01, 0xc1, 0x00, 0x00, 0x00, 0x01, 0xe1, 0x00, 0x00, 0x02, 0xe1, 0x10,
   0x07, 0x73, 0x21, 0x0a]

/-- PMT version 0 of program 2 (body = `body0`) -/
def pmt2S0 : Bytes :=
  [0x02, 0xb0, 0x17, 0x00, 0x02, 0xc1, 0x00, 0x00, 0xe1, 0x01, 0xf0, 0x00, 0x1b, 0xe1, 0x01, 0xf0, 0x00,
   0x0f, 0xe1, 0x02, 0xf0, 0x00, 0x19, 0x41, 0xa1, 0xf5]

def pat2 : List PatEntry := [.program 1 0x100, .program 2 0x110]

/-- PAT {1 → 0x100, 2 → 0x110}; PMT(0x100) v0 {0x101, 0x102}; PMT(0x110) v0 {0x101, 0x102};
PMT(0x100) v1 {0x101} -/
def sharedHist : List Event :=
  [.patApplied 0 pat2, .pmtApplied 0x100 0 body0, .pmtApplied 0x110 0 body0, .pmtApplied 0x100 1 body1]

/-- `sharedHist` followed by the probe packet on 0x102 -/
def sharedHistP : List Event := sharedHist ++ [.esPacket 0x102]

def f10Pks : List Pk :=
  [⟨pat2V0, 0, 0, false, false⟩, ⟨pmtV0, 188, 0x100, false, false⟩, ⟨pmt2V0, 376, 0x110, false, false⟩,
   ⟨pmtV1, 564, 0x100, false, false⟩, ⟨probeA, 752, 0x102, false, false⟩]

theorem f10_frame : Demux.frame f10Bytes 0 = .ok f10Pks := by decide +kernel

/-- F10 (slots 0x100, 0x101, 0x102, 0x110): the packet on 0x102 is offered to the application as an
unknown PID (`ByPid 0x102`, tag 8) and recorded by that recorder (byte offset 752); NO
elementary-stream callback at all — exactly the Rust output of the probe -/
theorem f10_run : observeAt [0x100, 0x101, 0x102, 0x110] (runApp {} [f10Bytes]) = some
    { constructs := constructsShared ++ [(.stream 0x100 0x1b 0x101 0x101 [] [], 7), (.byPid 0x102, 8)],
      pkts := [(8, 752)],
      es := [],
      slots := [.pmt 0x100 1 [0x101], .pes 7, .recorder 8, .pmt 0x110 2 [0x101, 0x102]] } := by
  eval_app [runApp_frame _ _ _ f10_frame]

/-- control: without PMT(0x100) v1 the packet is consumed by the PES filter with tag 6 that program
2's PMT installed: `start_stream` and `begin_packet` with tag 6; no `ByPid` request -/
theorem f10c_run : observeAt [0x100, 0x101, 0x102, 0x110] (runApp {} [f10cBytes]) = some
    { constructs := constructsShared, pkts := [],
      es := [(6, 0), (6, 1)],
      slots := [.pmt 0x100 1 [0x101, 0x102], .pes 5, .pes 6, .pmt 0x110 2 [0x101, 0x102]] } := by
  eval_app

theorem shared_wf : WF initRoute sharedHist := by decide +kernel
theorem sharedP_wf : WF initRoute sharedHistP := by decide +kernel
theorem shared_not_cf : ¬ CollisionFree sharedHist := by decide +kernel

theorem re_pat2 (r : Route) (off : Nat) :
    RealisesEv r (.patApplied 0 pat2) [⟨pat2V0, off, 0, false, false⟩] :=
  re_pat_one r _ off patS2 0 pat2 (by decide +kernel)

theorem re_pmt2_0 (r : Route) (off : Nat) :
    RealisesEv r (.pmtApplied 0x110 0 body0) [⟨pmt2V0, off, 0x110, false, false⟩] :=
  re_pmt_one r 0x110 _ off pmt2S0 0 body0 (by decide +kernel)

theorem re_probeA (r : Route) (off : Nat) :
    RealisesEv r (.esPacket 0x102) [⟨probeA, off, 0x102, false, false⟩] :=
  re_es r 0x102 probeA off (by decide +kernel)

theorem f10_realises : Realises initRoute sharedHistP f10Pks :=
  Realises.cons (re_pat2 _ 0) (Realises.cons (re_pmt0 _ 188) (Realises.cons (re_pmt2_0 _ 376)
    (Realises.cons (re_pmt1 _ 564) (Realises.cons (re_probeA _ 752) (Realises.nil _)))))

theorem shared_slots :
    (run initRoute sharedHist).slots 0x102 = none ∧
    (run initRoute sharedHist).slots 0x101 = some (.stream 0x100 0x1b 0x101 0x101 [] [], 7) ∧
    (run initRoute sharedHist).slots 0x110 = some (.pmt 0x110 2, 2) ∧
    ((run initRoute sharedHist).pmt 0x110).streams = [⟨0x1b, 0x101, []⟩, ⟨0x0f, 0x102, []⟩] ∧
    (run initRoute sharedHistP).slots 0x102 = some (.byPid 0x102, 8) := by decide +kernel

theorem sharedP_requests : historyRequests initRoute sharedHistP =
    [.pmt 0x100 1, .pmt 0x110 2, .stream 0x100 0x1b 0x101 0x101 [] [], .stream 0x100 0x0f 0x102 0x101 [] [],
     .stream 0x110 0x1b 0x101 0x101 [] [], .stream 0x110 0x0f 0x102 0x101 [] [],
     .stream 0x100 0x1b 0x101 0x101 [] [], .byPid 0x102] := by decide +kernel

theorem curFrom_cons (T : Current) (ev : Event) (evs : List Event) :
    curFrom T (ev :: evs) = curFrom (stepCurrent T ev) evs := rfl

theorem curFrom_append (T : Current) (a b : List Event) : curFrom T (a ++ b) = curFrom (curFrom T a) b := by
  unfold curFrom; rw [List.foldl_append]

theorem mem_progPids (es : List PatEntry) (p : Nat) :
    p ∈ progPids es ↔ ∃ e ∈ es, isProgram e = true ∧ e.pid = p := by
  unfold progPids
  rw [List.mem_map]
  constructor
  · rintro ⟨e, he, hp⟩
    rw [List.mem_filter] at he
    exact ⟨e, he.1, he.2, hp⟩
  · rintro ⟨e, he, h1, hp⟩
    exact ⟨e, List.mem_filter.2 ⟨he, h1⟩, hp⟩

theorem progPids_of_program {es : List PatEntry} {n p : Nat} (h : PatEntry.program n p ∈ es) :
    p ∈ progPids es := (mem_progPids es p).2 ⟨_, h, rfl, rfl⟩

structure ProgInv (r : Route) : Prop where
  bound : ∀ e ∈ r.patEntries, e.pid ≤ 0x1fff
  /-- a PID routed by `Pmt(a, b)` is that PID (`a = p`) and the current PAT lists program `b` on it -/
  prog : ∀ p a b tag, r.slots p = some (.pmt a b, tag) → a = p ∧ PatEntry.program b p ∈ r.patEntries

theorem progInv_init : ProgInv initRoute := by
  refine ⟨fun e he => (by cases he), ?_⟩
  intro p a b tag h
  simp only [initRoute] at h
  split at h <;> cases h

theorem progInv_step (r : Route) (ev : Event) (h : ProgInv r) (hwf : wfEv r ev) :
    ProgInv (stepRoute r ev) := by
  cases ev with
  | patApplied ver es =>
    obtain ⟨-, -, hes⟩ := hwf
    refine ⟨fun e he => (hes e he).1, ?_⟩
    intro p a b tag hs
    show a = p ∧ PatEntry.program b p ∈ es
    rw [stepRoute_pat_slots] at hs
    rcases applied_tagged_inv _ _ _ _ _ _ hs with ⟨-, hm, -, -⟩ | ⟨-, hn, hno, hs'⟩
    · -- a request of the new PAT: of a program entry
      obtain ⟨e, he, rfl, e2⟩ := mem_patRequests hm
      cases e with
      | program pn pid => cases e2; exact ⟨rfl, he⟩
      | network pid => cases e2
    · -- a PMT slot of the old PAT that is not listed any more would have been removed
      obtain ⟨-, hmem⟩ := h.prog p a b tag hs'
      have hb : p ≤ 0x1fff := h.bound _ hmem
      exact absurd ⟨by omega, List.mem_map.2 ⟨_, hmem, rfl⟩, hn⟩ hno
  | pmtApplied p0 ver b0 =>
    refine ⟨h.bound, ?_⟩
    intro p a b tag hs
    show a = p ∧ PatEntry.program b p ∈ r.patEntries
    rw [stepRoute_pmt_slots] at hs
    rcases applied_tagged_inv _ _ _ _ _ _ hs with ⟨-, hm, -, -⟩ | ⟨-, -, -, hs'⟩
    · obtain ⟨s, -, -, e2⟩ := mem_pmtReqs hm
      cases e2
    · exact h.prog p a b tag hs'
  | esPacket q' =>
    cases hq : r.slots q' with
    | some x => rw [stepRoute_es_some r q' x hq]; exact h
    | none =>
      rw [stepRoute_es_none r q' hq]
      refine ⟨h.bound, ?_⟩
      intro p a b tag hs
      simp only at hs
      by_cases e : p = q'
      · rw [if_pos e] at hs; cases hs
      · rw [if_neg e] at hs; exact h.prog p a b tag hs
  | repetition q' => exact h

theorem progInv_run : ∀ (evs : List Event) (r : Route), ProgInv r → WF r evs → ProgInv (run r evs) := by
  intro evs
  induction evs with
  | nil => intro r h _; exact h
  | cons ev evs ih =>
    intro r h hwf
    exact ih _ (progInv_step r ev h hwf.1) hwf.2

/-- the invariant tying the abstract route to the tables in force -/
structure Agree (r : Route) (T : Current) : Prop where
  pat : r.patEntries = T.pat
  bound : ∀ e ∈ r.patEntries, e.pid ≤ 0x1fff
  /-- a PID routed to a PMT handler is announced as a program-map PID by the current PAT -/
  prog : ∀ p a b tag, r.slots p = some (.pmt a b, tag) → p ∈ progPids r.patEntries
  /-- what the current handler instance on an announced program-map PID remembers is part of the PMT
  in force on that PID -/
  inst : ∀ p ∈ progPids T.pat, ∀ s ∈ (r.pmt p).streams, ∃ b, (p, b) ∈ T.pmt ∧ s ∈ streamsOf b
  /-- every PID listed by a PMT in force is routed by the request of its (last) entry -/
  routed : ∀ p body, (p, body) ∈ T.pmt → ∀ q req, lastFor (pmtReqs p body) q = some req →
    ∃ tag, r.slots q = some (req, tag)

theorem agree_init : Agree initRoute ⟨[], []⟩ := by
  refine ⟨rfl, fun e he => (by cases he), ?_, fun p hp => (by cases hp), fun p body h => (by cases h)⟩
  intro p a b tag h
  simp only [initRoute] at h
  split at h <;> cases h

theorem agree_pat (r : Route) (T : Current) (ver : Nat) (es : List PatEntry) (h : Agree r T)
    (hPI : ProgInv (stepRoute r (.patApplied ver es)))
    (hc : CollisionFreeNow T) (hc' : CollisionFreeNow (stepCurrent T (.patApplied ver es))) :
    Agree (stepRoute r (.patApplied ver es)) (stepCurrent T (.patApplied ver es)) := by
  refine ⟨rfl, hPI.bound, fun p a b tag hs => progPids_of_program (hPI.prog p a b tag hs).2, ?_, ?_⟩
  · intro p hp s hs
    exfalso
    have hp' : p ∈ progPids es := hp
    obtain ⟨e, he, hprog, hep⟩ := (mem_progPids es p).1 hp'
    rw [stepRoute_pat_pmt] at hs
    cases hl : lastFor (tagged r.reqs.length (patRequests es)) p with
    | none =>
      have := lastFor_none _ _ hl
      rw [tagged_pids, patRequests_pids] at this
      exact this (List.mem_map.2 ⟨e, he, hep⟩)
    | some x =>
      obtain ⟨req, tag⟩ := x
      obtain ⟨e', he', e1, rfl⟩ := mem_patRequests (tagged_mem _ _ _ _ _ (lastFor_mem _ _ _ hl)).1
      have hk : isProgram e' = isProgram e := hc'.1 e' he' e he (by rw [e1, hep])
      rw [hprog] at hk
      cases e' with
      | network pid => cases hk
      | program pn pid =>
        rw [hl] at hs
        cases hs
  · intro p body hm q req hq
    have hm' : (p, body) ∈ T.pmt.filter fun x => decide (x.1 ∈ progPids es) := hm
    rw [List.mem_filter] at hm'
    obtain ⟨hmT, -⟩ := hm'
    obtain ⟨tag, hs⟩ := h.routed p body hmT q req hq
    obtain ⟨s, hs1, hs2, -⟩ := stream_of_lastFor hq
    refine ⟨tag, ?_⟩
    rw [slot_kept r q (.patApplied ver es) ⟨?_, ?_⟩]; exact hs
    · intro hmem
      obtain ⟨e, he, heq⟩ := List.mem_map.1 hmem
      exact hc'.2.1 (p, body) hm s hs1 e he (by rw [hs2, heq])
    · intro hmem
      obtain ⟨e, he, heq⟩ := List.mem_map.1 hmem
      rw [h.pat] at he
      exact hc.2.1 (p, body) hmT s hs1 e he (by rw [hs2, heq])

theorem agree_pmt (r : Route) (T : Current) (p0 ver : Nat) (b : Bytes) (h : Agree r T)
    (hPI : ProgInv (stepRoute r (.pmtApplied p0 ver b)))
    (hwf : wfEv r (.pmtApplied p0 ver b)) (hc : CollisionFreeNow T)
    (hc' : CollisionFreeNow (stepCurrent T (.pmtApplied p0 ver b))) :
    Agree (stepRoute r (.pmtApplied p0 ver b)) (stepCurrent T (.pmtApplied p0 ver b)) := by
  obtain ⟨hrt, -, -⟩ := hwf
  obtain ⟨prog0, tag0, hs0⟩ := (pmtRouted_iff r p0).1 hrt
  have hp0 : p0 ∈ progPids T.pat := by rw [← h.pat]; exact h.prog p0 _ _ _ hs0
  refine ⟨h.pat, h.bound, fun p a b' tag hs => progPids_of_program (hPI.prog p a b' tag hs).2, ?_, ?_⟩
  · intro p hp s hs
    have hp' : p ∈ progPids T.pat := hp
    rw [stepRoute_pmt_pmt] at hs
    by_cases e : p = p0
    · rw [if_pos e] at hs
      subst e
      exact ⟨b, List.mem_cons_self, hs⟩
    · rw [if_neg e] at hs
      obtain ⟨b1, hb1, hs1⟩ := h.inst p hp' s hs
      exact ⟨b1, List.mem_cons_of_mem _ (List.mem_filter.2 ⟨hb1, by simpa using e⟩), hs1⟩
  · intro p body hm q req hq
    have hm' : (p, body) ∈ (p0, b) :: T.pmt.filter fun x => decide (x.1 ≠ p0) := hm
    rcases List.mem_cons.1 hm' with e | hmf
    · simp only [Prod.mk.injEq] at e
      obtain ⟨rfl, rfl⟩ := e
      obtain ⟨tag, -, hs⟩ := applied_tagged_listed (f := r.slots) (pmtReqs p body) r.reqs.length
        ((r.pmt p).streams.map StreamInfo.pid) q req hq
      exact ⟨tag, hs⟩
    · rw [List.mem_filter] at hmf
      obtain ⟨hmT, hne⟩ := hmf
      have hne' : p ≠ p0 := by simpa using hne
      obtain ⟨tag, hs⟩ := h.routed p body hmT q req hq
      obtain ⟨s, hs1, hs2, -⟩ := stream_of_lastFor hq
      refine ⟨tag, ?_⟩
      rw [slot_kept r q (.pmtApplied p0 ver b) ⟨?_, ?_⟩]; exact hs
      · intro hmem
        obtain ⟨s', hs', heq⟩ := List.mem_map.1 hmem
        exact hne' (hc'.2.2 (p, body) hm (p0, b) List.mem_cons_self s hs1 s' hs' (by rw [hs2, heq]))
      · intro hmem
        obtain ⟨s', hs', heq⟩ := List.mem_map.1 hmem
        obtain ⟨b1, hb1, hs1'⟩ := h.inst p0 hp0 s' hs'
        exact hne' (hc.2.2 (p, body) hmT (p0, b1) hb1 s hs1 s' hs1' (by rw [hs2, heq]))

theorem agree_es (r : Route) (T : Current) (q' : Nat) (h : Agree r T)
    (hPI : ProgInv (stepRoute r (.esPacket q'))) : Agree (stepRoute r (.esPacket q')) T := by
  cases hq : r.slots q' with
  | some x => rw [stepRoute_es_some r q' x hq]; exact h
  | none =>
    refine ⟨(stepRoute_es_patEntries r q').trans h.pat, hPI.bound,
      fun p a b tag hs => progPids_of_program (hPI.prog p a b tag hs).2, ?_, ?_⟩
    · rw [stepRoute_es_pmt]; exact h.inst
    · intro p body hm q req hq'
      obtain ⟨tag, hs⟩ := h.routed p body hm q req hq'
      exact ⟨tag, by rw [slot_kept_es r q q' (by rw [hs]; exact Option.some_ne_none _)]; exact hs⟩

theorem agree_step (r : Route) (T : Current) (ev : Event) (h : Agree r T) (hPI : ProgInv r)
    (hwf : wfEv r ev) (hc : CollisionFreeNow T) (hc' : CollisionFreeNow (stepCurrent T ev)) :
    Agree (stepRoute r ev) (stepCurrent T ev) := by
  have hPI' := progInv_step r ev hPI hwf
  cases ev with
  | patApplied ver es => exact agree_pat r T ver es h hPI' hc hc'
  | pmtApplied p ver b => exact agree_pmt r T p ver b h hPI' hwf hc hc'
  | esPacket q => exact agree_es r T q h hPI'
  | repetition q => exact h

theorem agree_run : ∀ (evs : List Event) (r : Route) (T : Current), Agree r T → ProgInv r → WF r evs →
    (∀ k, CollisionFreeNow (curFrom T (evs.take k))) → Agree (run r evs) (curFrom T evs) := by
  intro evs
  induction evs with
  | nil => intro r T h _ _ _; exact h
  | cons ev evs ih =>
    intro r T h hPI hwf hcf
    obtain ⟨hw1, hw2⟩ := hwf
    exact ih _ _ (agree_step r T ev h hPI hw1 (hcf 0) (hcf 1)) (progInv_step r ev hPI hw1) hw2
      (fun k => hcf (k + 1))

theorem routed_by_current_pmt (evs : List Event) (hwf : WF initRoute evs) (hcf : CollisionFreeNowAll evs)
    (p : Nat) (body : Bytes) (hm : (p, body) ∈ (currentOf evs).pmt) (q : Nat) (req : Req)
    (hq : lastFor (pmtReqs p body) q = some req) :
    ∃ tag, (run initRoute evs).slots q = some (req, tag) :=
  (agree_run evs initRoute ⟨[], []⟩ agree_init progInv_init hwf hcf).routed p body hm q req hq

theorem cur_keeps (p : Nat) (body : Bytes) : ∀ (post : List Event) (T : Current), (p, body) ∈ T.pmt →
    (∀ ev ∈ post, (∀ v b, ev ≠ .pmtApplied p v b) ∧ ∀ v es, ev = .patApplied v es → p ∈ progPids es) →
    (p, body) ∈ (curFrom T post).pmt := by
  intro post
  induction post with
  | nil => intro T h _; exact h
  | cons ev post ih =>
    intro T h hall
    rw [curFrom_cons]
    refine ih _ ?_ (fun ev' hm => hall ev' (List.mem_cons_of_mem _ hm))
    obtain ⟨h1, h2⟩ := hall ev List.mem_cons_self
    cases ev with
    | patApplied v es =>
      exact List.mem_filter.2 ⟨h, by simpa using h2 v es rfl⟩
    | pmtApplied p' v b =>
      have hne : p ≠ p' := fun e => h1 v b (by rw [e])
      exact List.mem_cons_of_mem _ (List.mem_filter.2 ⟨h, by simpa using hne⟩)
    | esPacket q => exact h
    | repetition q => exact h

theorem cur_after_pmt (pre post : List Event) (p ver : Nat) (body : Bytes)
    (hpost : ∀ ev ∈ post, (∀ v b, ev ≠ .pmtApplied p v b) ∧ ∀ v es, ev = .patApplied v es → p ∈ progPids es) :
    (p, body) ∈ (currentOf (pre ++ .pmtApplied p ver body :: post)).pmt := by
  unfold currentOf
  rw [curFrom_append, curFrom_cons]
  exact cur_keeps p body post _ List.mem_cons_self hpost

def CurWithin (P : List PatEntry) (E : List (Nat × Nat)) (T : Current) : Prop :=
  (∀ e ∈ T.pat, e ∈ P) ∧ (∀ x ∈ T.pmt, ∀ s ∈ streamsOf x.2, (x.1, s.pid) ∈ E)

theorem curWithin_step (P : List PatEntry) (E : List (Nat × Nat)) (T : Current) (ev : Event)
    (h : CurWithin P E T) (he : EvWithin P E ev) : CurWithin P E (stepCurrent T ev) := by
  cases ev with
  | patApplied v es =>
    refine ⟨he, ?_⟩
    intro x hx
    exact h.2 x (List.mem_filter.1 hx).1
  | pmtApplied p v b =>
    refine ⟨h.1, ?_⟩
    intro x hx s hs
    rcases List.mem_cons.1 hx with e | hx'
    · subst e; exact he s hs
    · exact h.2 x (List.mem_filter.1 hx').1 s hs
  | esPacket q => exact h
  | repetition q => exact h

theorem curWithin_run (P : List PatEntry) (E : List (Nat × Nat)) : ∀ (evs : List Event) (T : Current),
    CurWithin P E T → (∀ ev ∈ evs, EvWithin P E ev) → CurWithin P E (curFrom T evs) := by
  intro evs
  induction evs with
  | nil => intro T h _; exact h
  | cons ev evs ih =>
    intro T h hall
    exact ih _ (curWithin_step P E T ev h (hall ev List.mem_cons_self))
      (fun ev' hm => hall ev' (List.mem_cons_of_mem _ hm))

theorem collisionFreeNowAll_of_collisionFree (evs : List Event) (h : CollisionFree evs) :
    CollisionFreeNowAll evs := by
  intro k
  obtain ⟨-, -, hc3, hc4, hc5⟩ := h
  have hw := curWithin_run (patEntriesOf evs) (esPairsOf evs) (evs.take k) ⟨[], []⟩
    ⟨fun e he => (by cases he), fun x hx => (by cases hx)⟩
    (fun ev hm => evWithin_of_mem evs ev (List.mem_of_mem_take hm))
  refine ⟨?_, ?_, ?_⟩
  · intro e he e' he' hp
    exact hc3 e (hw.1 e he) e' (hw.1 e' he') hp
  · intro x hx s hs e he
    exact hc4 _ (hw.2 x hx s hs) e (hw.1 e he)
  · intro x hx y hy s hs s' hs' hp
    exact hc5 _ (hw.2 x hx s hs) _ (hw.2 y hy s' hs') hp

/-- only the prefixes up to the length matter (a decidable form) -/
theorem collisionFreeNowAll_iff (evs : List Event) :
    CollisionFreeNowAll evs ↔ ∀ k ≤ evs.length, CollisionFreeNow (currentOf (evs.take k)) := by
  constructor
  · intro h k _; exact h k
  · intro h k
    by_cases hk : k ≤ evs.length
    · exact h k hk
    · rw [List.take_of_length_le (by omega)]
      have := h evs.length (Nat.le_refl _)
      rwa [List.take_length] at this

instance (evs : List Event) : Decidable (CollisionFreeNowAll evs) :=
  decidable_of_iff _ (collisionFreeNowAll_iff evs).symm

/-! ### a history that is NOT `CollisionFree` but collision-free NOW after every prefix:
PID 0x102 moves from program 1 to program 2 -/

/-- PMT body of program 2: PCR PID 0x102, 0x0f on 0x102 -/
def bodyM : Bytes := [0xe1, 0x02, 0xf0, 0x00, 0x0f, 0xe1, 0x02, 0xf0, 0x00]

def pmt2SM : Bytes :=
  [0x02, 0xb0, 0x12, 0x00, 0x02, 0xc1, 0x00, 0x00, 0xe1, 0x02, 0xf0, 0x00, 0x0f, 0xe1, 0x02, 0xf0, 0x00,
   0x3f, 0x44, 0xc7, 0xfb]

def pmt2VM : Bytes := [0x47, 0x41, 0x10, 0x10, 0x00] ++ pmt2SM ++ List.replicate 162 0xff

/-- PAT {1 → 0x100, 2 → 0x110}; PMT(0x100) v0 {0x101, 0x102}; PMT(0x100) v1 {0x101} (same instance:
0x102 is removed); PMT(0x110) v0 {0x102}; a unit-start packet on 0x102 -/
def movedBytes : Bytes := pat2V0 ++ pmtV0 ++ pmtV1 ++ pmt2VM ++ probeA

def movedHist : List Event :=
  [.patApplied 0 pat2, .pmtApplied 0x100 0 body0, .pmtApplied 0x100 1 body1, .pmtApplied 0x110 0 bodyM,
   .esPacket 0x102]

def movedPks : List Pk :=
  [⟨pat2V0, 0, 0, false, false⟩, ⟨pmtV0, 188, 0x100, false, false⟩, ⟨pmtV1, 376, 0x100, false, false⟩,
   ⟨pmt2VM, 564, 0x110, false, false⟩, ⟨probeA, 752, 0x102, false, false⟩]

theorem streams_bodyM : streamsOf bodyM = [⟨0x0f, 0x102, []⟩] := by decide +kernel
theorem bodyM_spec : specPcrPid bodyM = 0x102 ∧ specProgramDescBytes bodyM = [] := by decide +kernel
theorem moved_frame : Demux.frame movedBytes 0 = .ok movedPks := by decide +kernel
theorem moved_wf : WF initRoute movedHist := by decide +kernel
theorem moved_not_cf : ¬ CollisionFree movedHist := by decide +kernel
theorem moved_cfn : CollisionFreeNowAll movedHist := by decide +kernel

theorem re_pmt2_M (r : Route) (off : Nat) :
    RealisesEv r (.pmtApplied 0x110 0 bodyM) [⟨pmt2VM, off, 0x110, false, false⟩] :=
  re_pmt_one r 0x110 _ off pmt2SM 0 bodyM (by decide +kernel)

theorem moved_realises : Realises initRoute movedHist movedPks :=
  Realises.cons (re_pat2 _ 0) (Realises.cons (re_pmt0 _ 188) (Realises.cons (re_pmt1 _ 376)
    (Realises.cons (re_pmt2_M _ 564) (Realises.cons (re_probeA _ 752) (Realises.nil _)))))

/-- the whole model on these bytes (slots 0x100, 0x101, 0x102, 0x110): 0x102 holds the PES filter
with tag 6 built for program 2's stream request; no `ByPid` request; nothing recorded; the probe packet
produces `start_stream` and `begin_packet` with tag 6 only -/
theorem moved_run : observeAt [0x100, 0x101, 0x102, 0x110] (runApp {} [movedBytes]) = some
    { constructs := [(.byPid 0, 0), (.pmt 0x100 1, 1), (.pmt 0x110 2, 2),
        (.stream 0x100 0x1b 0x101 0x101 [] [], 3), (.stream 0x100 0x0f 0x102 0x101 [] [], 4),
        (.stream 0x100 0x1b 0x101 0x101 [] [], 5), (.stream 0x110 0x0f 0x102 0x102 [] [], 6)],
      pkts := [],
      es := [(6, 0), (6, 1)],
      slots := [.pmt 0x100 1 [0x101], .pes 5, .pes 6, .pmt 0x110 2 [0x102]] } := by
  eval_app [runApp_frame _ _ _ moved_frame]

/-! ### F7 with a unit-start probe packet: the stale handler's tag shows in the callbacks -/

/-- the F7 history (`Ts.Lemmas.C05Run.f7Bytes`) with the unit-start probe packet `probeA` -/
def f7aBytes : Bytes := patV0 ++ pmtV0 ++ Ts.Lemmas.C05Run.patV1 ++ pmtV1 ++ probeA

/-- the probe packet on 0x102 — a PID the PMT in force no longer lists — produces `start_stream` and
`begin_packet` callbacks carrying tag 3, the tag of the handler PMT v0 installed -/
theorem f7a_run : observeAt [0x100, 0x101, 0x102, 0x110] (runApp {} [f7aBytes]) = some
    { constructs := constructsV0 ++ [(.pmt 0x100 1, 4), (.pmt 0x110 2, 5), (.stream 0x100 0x1b 0x101 0x101 [] [], 6)],
      pkts := [],
      es := [(3, 0), (3, 1)],
      slots := [.pmt 0x100 1 [0x101], .pes 6, .pes 3, .pmt 0x110 2 []] } := by
  eval_app

end Ts.Lemmas.C05He
