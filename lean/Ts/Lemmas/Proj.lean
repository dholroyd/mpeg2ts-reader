import Ts.Model.App
import Ts.Lemmas.Demux
import Ts.Lemmas.C08
import Ts.Lemmas.C19
import Ts.Lemmas.C02b
import Ts.Lemmas.C05
/-!
# Per-consumer view of the application trace: the tag discipline

The application context `App.Ctx` hands out *tags* (`nextTag`) to the handlers it constructs and
records every callback in ONE shared trace.  `TagInv` (tags in the table are `< nextTag` and
pairwise distinct across slots; tagged events in the trace have a tag `< nextTag`) is what makes the
shared trace projectable; it is preserved by every step of the dispatcher.
-/
namespace Ts.Lemmas.Proj
open Ts Ts.Demux Ts.App

/-! ### tags -/

/-- the consumer tag an application event is attributed to -/
def tagOf : Ev → Option Nat
  | .pkt tag _ => some tag
  | .esStart tag => some tag
  | .esBegin tag _ => some tag
  | .esCont tag _ _ => some tag
  | .esEnd tag => some tag
  | .esCcErr tag => some tag
  | .construct _ _ => none
  | .scriptIns _ _ => none
  | .scriptRem _ => none

def hTag : Handler → Option Nat
  | .pes tag _ => some tag
  | .recorder tag => some tag
  | .pat _ _ => none
  | .pmt _ _ _ _ => none

/-- tags of the `.pes tag _` and `.recorder tag` handlers in the table, in slot order -/
def tagsIn (t : Tab Handler) : List Nat := t.filterMap (fun o => o.bind hTag)

/-- the elementary-stream callback an application event records, arguments erased (the protocol
acceptor of C08 looks at the constructor only: `protoStep_shape`) -/
def esShape : Ev → Option PesFilter.Ev
  | .esStart _ => some .start
  | .esBegin _ _ => some (.beginPkt 0 0)
  | .esCont _ _ _ => some (.cont 0 0)
  | .esEnd _ => some .endPkt
  | .esCcErr _ => some .ccErr
  | .pkt _ _ => none
  | .construct _ _ => none
  | .scriptIns _ _ => none
  | .scriptRem _ => none

theorem esShape_none_of_untagged (e : Ev) (h : tagOf e = none) : esShape e = none := by
  cases e <;> simp [tagOf] at h <;> rfl

def TabTags (t : Tab Handler) (n : Nat) : Prop :=
  (∀ p h τ, t.get p = some h → hTag h = some τ → τ < n) ∧
  (∀ p q h h' τ, t.get p = some h → t.get q = some h' → hTag h = some τ → hTag h' = some τ → p = q)

def TraceTags (c : Ctx) : Prop := ∀ e ∈ c.trace, ∀ τ, tagOf e = some τ → τ < c.nextTag

def TagInv (tc : Tab Handler × Ctx) : Prop := TabTags tc.1 tc.2.nextTag ∧ TraceTags tc.2

theorem tabTags_mono {t : Tab Handler} {n m : Nat} (h : TabTags t n) (hnm : n ≤ m) : TabTags t m :=
  ⟨fun p hd τ hg ht => Nat.lt_of_lt_of_le (h.1 p hd τ hg ht) hnm, h.2⟩

theorem tabTags_nil (n : Nat) : TabTags ([] : Tab Handler) n := by
  refine ⟨?_, ?_⟩
  · intro p h τ hg; rw [Tab.get_of_ge _ _ (by simp)] at hg; cases hg
  · intro p q h h' τ hg; rw [Tab.get_of_ge _ _ (by simp)] at hg; cases hg

theorem tabTags_insert_fresh {t : Tab Handler} {n m : Nat} (p : Nat) (h : Handler)
    (ht : TabTags t n) (hnm : n ≤ m) (hf : ∀ τ, hTag h = some τ → n ≤ τ ∧ τ < m) :
    TabTags (t.insert p h) m := by
  refine ⟨?_, ?_⟩
  · intro q hd τ hg hτ
    rw [Tab.get_insert] at hg
    split at hg
    · injection hg with hg; subst hg; exact (hf τ hτ).2
    · exact Nat.lt_of_lt_of_le (ht.1 q hd τ hg hτ) hnm
  · intro q1 q2 h1 h2 τ hg1 hg2 hτ1 hτ2
    rw [Tab.get_insert] at hg1 hg2
    split at hg1 <;> split at hg2
    · rename_i e1 e2; rw [e1, e2]
    · injection hg1 with hg1; subst hg1
      have := (hf τ hτ1).1
      have := ht.1 q2 h2 τ hg2 hτ2
      omega
    · injection hg2 with hg2; subst hg2
      have := (hf τ hτ2).1
      have := ht.1 q1 h1 τ hg1 hτ1
      omega
    · exact ht.2 q1 q2 h1 h2 τ hg1 hg2 hτ1 hτ2

theorem tabTags_insert_same {t : Tab Handler} {n : Nat} (p : Nat) (h0 h : Handler)
    (ht : TabTags t n) (hg0 : t.get p = some h0) (hs : hTag h = hTag h0) :
    TabTags (t.insert p h) n := by
  refine ⟨?_, ?_⟩
  · intro q hd τ hg hτ
    rw [Tab.get_insert] at hg
    split at hg
    · injection hg with hg; subst hg; rw [hs] at hτ; exact ht.1 p h0 τ hg0 hτ
    · exact ht.1 q hd τ hg hτ
  · intro q1 q2 h1 h2 τ hg1 hg2 hτ1 hτ2
    rw [Tab.get_insert] at hg1 hg2
    split at hg1 <;> split at hg2
    · rename_i e1 e2; rw [e1, e2]
    · rename_i e1 _
      injection hg1 with hg1; subst hg1; rw [hs] at hτ1
      rw [e1]; exact ht.2 p q2 h0 h2 τ hg0 hg2 hτ1 hτ2
    · rename_i _ e2
      injection hg2 with hg2; subst hg2; rw [hs] at hτ2
      rw [e2]; exact ht.2 q1 p h1 h0 τ hg1 hg0 hτ1 hτ2
    · exact ht.2 q1 q2 h1 h2 τ hg1 hg2 hτ1 hτ2

theorem tabTags_remove {t : Tab Handler} {n : Nat} (p : Nat) (ht : TabTags t n) :
    TabTags (t.remove p) n := by
  refine ⟨?_, ?_⟩
  · intro q hd τ hg hτ
    rw [Tab.get_remove] at hg
    split at hg
    · cases hg
    · exact ht.1 q hd τ hg hτ
  · intro q1 q2 h1 h2 τ hg1 hg2 hτ1 hτ2
    rw [Tab.get_remove] at hg1 hg2
    split at hg1
    · cases hg1
    · split at hg2
      · cases hg2
      · exact ht.2 q1 q2 h1 h2 τ hg1 hg2 hτ1 hτ2

/-! ### queued changes carry fresh, increasing tags -/

/-- the tags of the handlers a change list inserts are increasing and lie in `[lo, hi)` -/
def ChgFresh : Nat → List (Change Handler) → Nat → Prop
  | lo, [], hi => lo ≤ hi
  | lo, .remove _ :: cs, hi => ChgFresh lo cs hi
  | lo, .insert _ h :: cs, hi =>
    match hTag h with
    | none => ChgFresh lo cs hi
    | some τ => lo ≤ τ ∧ ChgFresh (τ + 1) cs hi

def chgTags (cs : List (Change Handler)) : List Nat :=
  cs.filterMap (fun ch => match ch with | .insert _ h => hTag h | .remove _ => none)

theorem chgTags_mem (cs : List (Change Handler)) (σ : Nat) :
    σ ∈ chgTags cs ↔ ∃ q h, Change.insert q h ∈ cs ∧ hTag h = some σ := by
  unfold chgTags
  rw [List.mem_filterMap]
  constructor
  · rintro ⟨ch, hm, he⟩
    cases ch with
    | insert q h => exact ⟨q, h, hm, he⟩
    | remove q => cases he
  · rintro ⟨q, h, hm, he⟩
    exact ⟨_, hm, he⟩

def IncrIn : Nat → List Nat → Nat → Prop
  | lo, [], hi => lo ≤ hi
  | lo, τ :: ts, hi => lo ≤ τ ∧ IncrIn (τ + 1) ts hi

/-- `ChgFresh` is a statement about the inserted tags only -/
theorem chgFresh_iff : ∀ (cs : List (Change Handler)) (lo hi : Nat),
    ChgFresh lo cs hi ↔ IncrIn lo (chgTags cs) hi := by
  intro cs
  induction cs with
  | nil => intro lo hi; exact Iff.rfl
  | cons a cs ih =>
    intro lo hi
    cases a with
    | remove p => exact ih lo hi
    | insert p hd =>
      cases ht : hTag hd with
      | none => simp only [ChgFresh, chgTags, List.filterMap_cons, ht]; exact ih lo hi
      | some τ => simp only [ChgFresh, chgTags, List.filterMap_cons, ht, IncrIn]; rw [← chgTags, ih]

theorem incrIn_le : ∀ (ts : List Nat) (lo hi : Nat), IncrIn lo ts hi → lo ≤ hi
  | [], _, _, h => h
  | _ :: ts, _, hi, h => by have := incrIn_le ts _ hi h.2; have := h.1; omega

theorem incrIn_mono_lo : ∀ (ts : List Nat) (lo lo' hi : Nat), lo' ≤ lo → IncrIn lo ts hi → IncrIn lo' ts hi
  | [], _, _, _, hl, h => Nat.le_trans hl h
  | _ :: _, _, _, _, hl, h => ⟨Nat.le_trans hl h.1, h.2⟩

theorem incrIn_append : ∀ (a b : List Nat) (lo mid hi : Nat), IncrIn lo a mid → IncrIn mid b hi →
    IncrIn lo (a ++ b) hi
  | [], b, lo, mid, hi, ha, hb => incrIn_mono_lo b mid lo hi ha hb
  | _ :: a, b, _, mid, hi, ha, hb => ⟨ha.1, incrIn_append a b _ mid hi ha.2 hb⟩

theorem incrIn_mem : ∀ (ts : List Nat) (lo hi : Nat), IncrIn lo ts hi → ∀ τ ∈ ts, lo ≤ τ ∧ τ < hi
  | σ :: ts, lo, hi, h, τ, hm => by
    rcases List.mem_cons.1 hm with rfl | hm
    · have := incrIn_le ts _ hi h.2
      exact ⟨h.1, by omega⟩
    · have h2 := incrIn_mem ts _ hi h.2 τ hm
      have := h.1
      exact ⟨by omega, h2.2⟩

theorem incrIn_pairwise : ∀ (ts : List Nat) (lo hi : Nat), IncrIn lo ts hi → ts.Pairwise (· < ·)
  | [], _, _, _ => List.Pairwise.nil
  | σ :: ts, _, hi, h => List.pairwise_cons.2
      ⟨fun τ hm => by have := (incrIn_mem ts _ hi h.2 τ hm).1; omega, incrIn_pairwise ts _ hi h.2⟩

theorem chgFresh_append (a b : List (Change Handler)) (lo mid hi : Nat)
    (ha : ChgFresh lo a mid) (hb : ChgFresh mid b hi) : ChgFresh lo (a ++ b) hi := by
  rw [chgFresh_iff] at ha hb ⊢
  rw [chgTags, List.filterMap_append]
  exact incrIn_append _ _ lo mid hi ha hb

theorem chgFresh_removes : ∀ (cs : List (Change Handler)) (lo hi : Nat), lo ≤ hi →
    (∀ ch ∈ cs, ∃ q, ch = Change.remove q) → ChgFresh lo cs hi := by
  intro cs
  induction cs with
  | nil => intro lo hi h _; exact h
  | cons a cs ih =>
    intro lo hi h hr
    obtain ⟨q, hq⟩ := hr a List.mem_cons_self
    subst hq
    exact ih lo hi h (fun ch hch => hr ch (List.mem_cons_of_mem _ hch))

theorem chgFresh_mem (cs : List (Change Handler)) (lo hi : Nat) (hf : ChgFresh lo cs hi)
    (q : Nat) (h : Handler) (τ : Nat) (hm : Change.insert q h ∈ cs) (hτ : hTag h = some τ) :
    lo ≤ τ ∧ τ < hi :=
  incrIn_mem _ lo hi ((chgFresh_iff cs lo hi).1 hf) τ ((chgTags_mem cs τ).2 ⟨q, h, hm, hτ⟩)

theorem chgFresh_pairwise (cs : List (Change Handler)) (lo hi : Nat) (hf : ChgFresh lo cs hi) :
    (chgTags cs).Pairwise (· < ·) :=
  incrIn_pairwise _ lo hi ((chgFresh_iff cs lo hi).1 hf)

theorem tabTags_applyChanges : ∀ (cs : List (Change Handler)) (t : Tab Handler) (lo hi : Nat),
    TabTags t lo → ChgFresh lo cs hi → TabTags (applyChanges t cs) hi := by
  intro cs
  induction cs with
  | nil => intro t lo hi ht hf; exact tabTags_mono ht hf
  | cons a cs ih =>
    intro t lo hi ht hf
    rw [applyChanges_cons]
    cases a with
    | remove p => exact ih _ lo hi (tabTags_remove p ht) hf
    | insert p hd =>
      simp only [ChgFresh] at hf
      cases hτ : hTag hd with
      | none =>
        rw [hτ] at hf
        refine ih _ lo hi (tabTags_insert_fresh p hd ht (Nat.le_refl _) ?_) hf
        intro τ h; rw [hτ] at h; cases h
      | some τ =>
        rw [hτ] at hf
        refine ih _ (τ + 1) hi (tabTags_insert_fresh p hd ht (by omega) ?_) hf.2
        intro σ h; rw [hτ] at h; injection h with h; omega

theorem get_applyChanges_cases : ∀ (cs : List (Change Handler)) (t : Tab Handler) (q : Nat) (h : Handler),
    (applyChanges t cs).get q = some h → t.get q = some h ∨ Change.insert q h ∈ cs := by
  intro cs
  induction cs with
  | nil => intro t q h hg; exact Or.inl hg
  | cons a cs ih =>
    intro t q h hg
    rw [applyChanges_cons] at hg
    rcases ih _ q h hg with h1 | h1
    · cases a with
      | remove p =>
        simp only [applyChange] at h1
        rw [Tab.get_remove] at h1
        split at h1
        · cases h1
        · exact Or.inl h1
      | insert p hd =>
        simp only [applyChange] at h1
        rw [Tab.get_insert] at h1
        split at h1
        · rename_i e
          injection h1 with h1
          subst h1 e
          exact Or.inr List.mem_cons_self
        · exact Or.inl h1
    · exact Or.inr (List.mem_cons_of_mem _ h1)

/-! ### what a piece of application code does to the context -/

/-- from `c` to `c'`: configuration untouched, tags only handed out, events only appended, each
new event satisfying `P` -/
def Emits (P : Ev → Prop) (c c' : Ctx) : Prop :=
  c'.cfg = c.cfg ∧ c.nextTag ≤ c'.nextTag ∧ ∃ out, c'.trace = out ++ c.trace ∧ ∀ e ∈ out, P e

theorem emits_refl (P : Ev → Prop) (c : Ctx) : Emits P c c := ⟨rfl, Nat.le_refl _, [], rfl, by simp⟩

theorem emits_trans {P : Ev → Prop} {a b c : Ctx} (h1 : Emits P a b) (h2 : Emits P b c) : Emits P a c := by
  obtain ⟨a1, a2, o1, a3, a4⟩ := h1
  obtain ⟨b1, b2, o2, b3, b4⟩ := h2
  refine ⟨by rw [b1, a1], by omega, o2 ++ o1, by rw [b3, a3, List.append_assoc], ?_⟩
  intro e he
  rcases List.mem_append.1 he with x | x
  · exact b4 e x
  · exact a4 e x

theorem emits_mono {P Q : Ev → Prop} {a b : Ctx} (hpq : ∀ e, P e → Q e) (h : Emits P a b) : Emits Q a b := by
  obtain ⟨a1, a2, o1, a3, a4⟩ := h
  exact ⟨a1, a2, o1, a3, fun e he => hpq e (a4 e he)⟩

theorem emits_emit (P : Ev → Prop) (c : Ctx) (e : Ev) (he : P e) : Emits P c (c.emit e) :=
  ⟨rfl, Nat.le_refl _, [e], rfl, by simpa using he⟩

theorem emits_ctxAfter (P : Ev → Prop) (c : Ctx) (reqs : List (Nat × Req))
    (h : ∀ x ∈ reqs, ∀ tag, P (.construct x.2 tag)) : Emits P c (Spec.Routing.ctxAfter c reqs) := by
  refine ⟨rfl, Nat.le_add_right _ _, _, rfl, fun e he => ?_⟩
  rw [List.mem_reverse, C05.constructEvents_eq_zipIdx] at he
  obtain ⟨⟨x, tag⟩, hx, rfl⟩ := List.mem_map.1 he
  exact h x ((List.mem_zipIdx hx).2.2 ▸ List.getElem_mem _) tag

def Untagged (e : Ev) : Prop := tagOf e = none

/-- PES handlers are only ever inserted in their initial state -/
def FreshPes (cs : List (Change Handler)) : Prop :=
  ∀ ch ∈ cs, ∀ q σ f, ch = Change.insert q (Handler.pes σ f) → f = {}

def Produces (P : Ev → Prop) (c : Ctx) (chg : List (Change Handler)) (c' : Ctx) : Prop :=
  Emits P c c' ∧ ChgFresh c.nextTag chg c'.nextTag ∧ FreshPes chg

theorem produces_nil (P : Ev → Prop) (c : Ctx) : Produces P c [] c :=
  ⟨emits_refl P c, Nat.le_refl _, by intro ch h; cases h⟩

theorem produces_append {P : Ev → Prop} {a b c : Ctx} {x y : List (Change Handler)}
    (h1 : Produces P a x b) (h2 : Produces P b y c) : Produces P a (x ++ y) c := by
  refine ⟨emits_trans h1.1 h2.1, chgFresh_append x y _ _ _ h1.2.1 h2.2.1, ?_⟩
  intro ch hch
  rcases List.mem_append.1 hch with e | e
  · exact h1.2.2 ch e
  · exact h2.2.2 ch e

theorem produces_mono {P Q : Ev → Prop} {a b : Ctx} {x : List (Change Handler)} (hpq : ∀ e, P e → Q e)
    (h : Produces P a x b) : Produces Q a x b := ⟨emits_mono hpq h.1, h.2⟩

/-! ### `construct` -/

open Ts.Spec.Routing (handlerFor built ctxAfter)

theorem hTag_handlerFor (r : Req) (tag : Nat) :
    hTag (handlerFor r tag) = none ∨ hTag (handlerFor r tag) = some tag := by
  rcases C05.handlerFor_cases r tag with h | ⟨a, b, h⟩ | h | h <;> rw [h]
  · exact .inl rfl
  · exact .inl rfl
  · exact .inr rfl
  · exact .inr rfl

theorem handlerFor_pes (r : Req) (tag σ : Nat) (f : PesFilter.F) (h : handlerFor r tag = .pes σ f) :
    f = {} ∧ σ = tag := by
  rcases C05.handlerFor_cases r tag with e | ⟨a, b, e⟩ | e | e <;> rw [e] at h <;> cases h
  exact ⟨rfl, rfl⟩

theorem construct_ctx (c : Ctx) (req : Req) :
    (construct c req).2 = { c with nextTag := c.nextTag + 1 }.emit (.construct req c.nextTag) := by
  rw [C05.construct_eq]; rfl

theorem construct_tag (c : Ctx) (req : Req) :
    hTag (construct c req).1 = none ∨ hTag (construct c req).1 = some c.nextTag := by
  rw [C05.construct_eq]; exact hTag_handlerFor req c.nextTag

theorem construct_pes (c : Ctx) (req : Req) (σ : Nat) (f : PesFilter.F)
    (h : (construct c req).1 = .pes σ f) : f = {} ∧ σ = c.nextTag := by
  rw [C05.construct_eq] at h; exact handlerFor_pes req c.nextTag σ f h

theorem construct_emits (c : Ctx) (req : Req) : Emits Untagged c (construct c req).2 := by
  rw [construct_ctx]
  exact ⟨rfl, Nat.le_succ _, [.construct req c.nextTag], rfl, by
    intro e he; simp only [List.mem_singleton] at he; subst he; rfl⟩

theorem construct_nextTag (c : Ctx) (req : Req) : (construct c req).2.nextTag = c.nextTag + 1 := by
  rw [construct_ctx]; rfl

/-! ### the table processors -/

theorem chgFresh_built : ∀ (reqs : List (Nat × Req)) (n : Nat),
    ChgFresh n ((built n reqs).map fun x => Change.insert x.1 x.2) (n + reqs.length)
  | [], n => Nat.le_refl n
  | (p, r) :: rest, n => by
    have ih := chgFresh_built rest (n + 1)
    rw [Nat.add_right_comm n 1] at ih
    show ChgFresh n (Change.insert p (handlerFor r n) :: _) (n + rest.length + 1)
    rcases hTag_handlerFor r n with h | h <;> simp only [ChgFresh, h]
    · rw [chgFresh_iff] at ih ⊢
      exact incrIn_mono_lo _ _ _ _ (Nat.le_succ n) ih
    · exact ⟨Nat.le_refl n, ih⟩

/-- what a table processor does (`C05.patSection_shape`): requests answered with consecutive tags
and queued for insertion, then removals -/
theorem produces_built (c : Ctx) (reqs : List (Nat × Req)) (rem : List Nat) :
    Produces Untagged c
      ((built c.nextTag reqs).map (fun x => Change.insert x.1 x.2) ++ rem.map Change.remove)
      (ctxAfter c reqs) := by
  refine ⟨emits_ctxAfter Untagged c reqs fun _ _ _ => rfl,
    chgFresh_append _ _ _ _ _ (chgFresh_built reqs c.nextTag)
      (chgFresh_removes _ _ _ (Nat.le_refl _) ?_), ?_⟩
  · intro ch hch
    obtain ⟨q, _, rfl⟩ := List.mem_map.1 hch
    exact ⟨q, rfl⟩
  · intro ch hch q σ f e
    subst e
    rcases List.mem_append.1 hch with hm | hm
    · obtain ⟨x, hx, e⟩ := List.mem_map.1 hm
      obtain ⟨r, tag', _, hr⟩ := C05.built_mem hx
      injection e with _ e
      exact (handlerFor_pes r tag' σ f (by rw [← hr, e])).1
    · obtain ⟨q', _, e⟩ := List.mem_map.1 hm
      cases e

theorem patSection_produces (c : Ctx) (reg : List Nat) (data : Bytes) (c' : Ctx) (reg' : List Nat)
    (chg : List (Change Handler)) (h : patSection c reg data = .ok (c', reg', chg)) :
    Produces Untagged c chg c' := by
  obtain ⟨reqs, rem, -, -, rfl, rfl⟩ := C05.patSection_shape h
  exact produces_built c reqs rem

theorem pmtSection_produces (c : Ctx) (pmtPid : Nat) (reg : List Nat) (data : Bytes) (c' : Ctx)
    (reg' : List Nat) (chg : List (Change Handler))
    (h : pmtSection c pmtPid reg data = .ok (c', reg', chg)) :
    Produces Untagged c chg c' := by
  obtain ⟨reqs, rem, -, -, rfl, rfl⟩ := C05.pmtSection_shape h
  exact produces_built c reqs rem

theorem runDeliveries_produces
    (sect : Ctx → List Nat → Bytes → R (Ctx × List Nat × List (Change Handler)))
    (hsect : ∀ c reg d c' reg' chg, sect c reg d = .ok (c', reg', chg) → Produces Untagged c chg c')
    (ds : List Psi.Delivery) (c : Ctx) (reg : List Nat) (c' : Ctx) (reg' : List Nat)
    (chg : List (Change Handler)) (h : runDeliveries sect c reg ds = .ok (c', reg', chg)) :
    Produces Untagged c chg c' :=
  C05.runDeliveries_rel sect (Produces Untagged) (produces_nil _) (fun _ _ _ _ _ => produces_append)
    ds (fun d _ c reg c' reg' chg _ => hsect c reg d.bytes c' reg' chg) c reg c' reg' chg h

theorem scriptChanges_produces : ∀ (ops : List ScriptOp) (c : Ctx),
    Produces Untagged c (scriptChanges c ops).2 (scriptChanges c ops).1 := by
  intro ops
  induction ops with
  | nil => intro c; exact produces_nil _ _
  | cons op ops ih =>
    intro c
    cases op with
    | ins pid =>
      have a := ih ({ c with nextTag := c.nextTag + 1 }.emit (.scriptIns pid c.nextTag))
      simp only [scriptChanges]
      have e0 : Emits Untagged c ({ c with nextTag := c.nextTag + 1 }.emit (.scriptIns pid c.nextTag)) :=
        ⟨rfl, Nat.le_succ _, [.scriptIns pid c.nextTag], rfl, by
          intro e he; simp only [List.mem_singleton] at he; subst he; rfl⟩
      refine ⟨emits_trans e0 a.1, ?_, ?_⟩
      · simp only [ChgFresh, hTag]
        exact ⟨Nat.le_refl _, a.2.1⟩
      · intro ch hch q σ f e
        rcases List.mem_cons.1 hch with x | x
        · rw [x] at e; cases e
        · exact a.2.2 ch x q σ f e
    | rem pid =>
      have a := ih (c.emit (.scriptRem pid))
      simp only [scriptChanges]
      have e0 : Emits Untagged c (c.emit (.scriptRem pid)) := emits_emit _ _ _ rfl
      refine ⟨emits_trans e0 a.1, ?_, ?_⟩
      · simp only [ChgFresh]
        exact a.2.1
      · intro ch hch q σ f e
        rcases List.mem_cons.1 hch with x | x
        · rw [x] at e; cases e
        · exact a.2.2 ch x q σ f e

/-! ### the elementary-stream callbacks, as a list -/

/-- the events `App.esEvents` appends for the callbacks `evs` of the packet `p` at stream offset
`base`, oldest first (`esEvents_eq_list`) -/
def esEvList (touch : Bool) (tag : Nat) (p : Bytes) (base : Nat) : List PesFilter.Ev → R (List Ev)
  | [] => .ok []
  | e :: es => do
    let a ← (match e with
      | .start => pure (Ev.esStart tag)
      | .beginPkt o l => do
        let bi ← beginInfo p base o l
        if touch then touchPesHeader (Packet.rangeBytes p (o, l))
        pure (Ev.esBegin tag bi)
      | .cont o l => pure (Ev.esCont tag (base + o) l)
      | .endPkt => pure (Ev.esEnd tag)
      | .ccErr => pure (Ev.esCcErr tag) : R Ev)
    let rest ← esEvList touch tag p base es
    pure (a :: rest)

/-- the event recorded for one callback: `esEvList` and `App.esEvents` both go callback by callback -/
def esEv (touch : Bool) (tag : Nat) (p : Bytes) (base : Nat) : PesFilter.Ev → R Ev
  | .start => pure (Ev.esStart tag)
  | .beginPkt o l => do
    let bi ← beginInfo p base o l
    if touch then touchPesHeader (Packet.rangeBytes p (o, l))
    pure (Ev.esBegin tag bi)
  | .cont o l => pure (Ev.esCont tag (base + o) l)
  | .endPkt => pure (Ev.esEnd tag)
  | .ccErr => pure (Ev.esCcErr tag)

theorem esEvList_cons (touch : Bool) (tag : Nat) (p : Bytes) (base : Nat) (e : PesFilter.Ev)
    (es : List PesFilter.Ev) :
    esEvList touch tag p base (e :: es) =
      (esEv touch tag p base e >>= fun a =>
        esEvList touch tag p base es >>= fun rest => pure (a :: rest)) := by
  cases e <;> rfl

theorem esEvents_cons (touch : Bool) (tag : Nat) (p : Bytes) (base : Nat) (c : Ctx) (e : PesFilter.Ev)
    (es : List PesFilter.Ev) :
    esEvents touch tag p base c (e :: es) =
      (esEv touch tag p base e >>= fun a => esEvents touch tag p base (c.emit a) es) := by
  cases e with
  | beginPkt o l =>
    simp only [esEvents, esEv, bind_assoc, R.pure_eq]
    cases touch <;> simp only [if_true, Bool.false_eq_true, if_false, bind_assoc, R.ok_bind]
  | _ => rfl

/-- `App.esEvents` panics exactly when `esEvList` does -/
theorem esEvents_eq_list (touch : Bool) (tag : Nat) (p : Bytes) (base : Nat) :
    ∀ (evs : List PesFilter.Ev) (c : Ctx),
      esEvents touch tag p base c evs =
        (esEvList touch tag p base evs >>= fun l => R.ok { c with trace := l.reverse ++ c.trace }) := by
  intro evs
  induction evs with
  | nil => intro c; rfl
  | cons e es ih =>
    intro c
    simp only [esEvents_cons, esEvList_cons, ih, bind_assoc, R.pure_eq, R.ok_bind, Ctx.emit,
      List.reverse_cons, List.append_assoc, List.singleton_append]

/-- the callbacks, with arguments erased, are the filter's callbacks with arguments erased -/
def norm : PesFilter.Ev → PesFilter.Ev
  | .start => .start
  | .beginPkt _ _ => .beginPkt 0 0
  | .cont _ _ => .cont 0 0
  | .endPkt => .endPkt
  | .ccErr => .ccErr

theorem esEv_ok {touch : Bool} {tag : Nat} {p : Bytes} {base : Nat} {e : PesFilter.Ev} {a : Ev}
    (h : esEv touch tag p base e = .ok a) : tagOf a = some tag ∧ esShape a = some (norm e) := by
  cases e with
  | beginPkt o l =>
    obtain ⟨bi, _, h⟩ := R.bind_eq_ok h
    cases touch with
    | false => cases h; exact ⟨rfl, rfl⟩
    | true =>
      simp only [if_true] at h
      obtain ⟨_, _, h⟩ := R.bind_eq_ok h
      cases h; exact ⟨rfl, rfl⟩
  | _ => cases h; exact ⟨rfl, rfl⟩

theorem esEvList_events (touch : Bool) (tag : Nat) (p : Bytes) (base : Nat) :
    ∀ (evs : List PesFilter.Ev) (l : List Ev), esEvList touch tag p base evs = .ok l →
      (∀ e ∈ l, tagOf e = some tag ∧ (esShape e).isSome = true) ∧
      l.filterMap esShape = evs.map norm := by
  intro evs
  induction evs with
  | nil =>
    intro l h
    cases h
    exact ⟨by simp, rfl⟩
  | cons e es ih =>
    intro l h
    rw [esEvList_cons] at h
    obtain ⟨a, ha, h⟩ := R.bind_eq_ok h
    obtain ⟨rest, hrest, h⟩ := R.bind_eq_ok h
    cases h
    have key := esEv_ok ha
    obtain ⟨ih1, ih2⟩ := ih rest hrest
    refine ⟨fun x hx => ?_, by rw [List.filterMap_cons, key.2, List.map_cons, ih2]⟩
    rcases List.mem_cons.1 hx with e' | e'
    · subst e'; exact ⟨key.1, by rw [key.2]; rfl⟩
    · exact ih1 x e'

theorem esEvList_tagged (touch : Bool) (tag : Nat) (p : Bytes) (base : Nat)
    (evs : List PesFilter.Ev) (l : List Ev) (h : esEvList touch tag p base evs = .ok l) :
    ∀ e ∈ l, tagOf e = some tag ∧ (esShape e).isSome = true :=
  (esEvList_events touch tag p base evs l h).1

theorem esEvList_shape (touch : Bool) (tag : Nat) (p : Bytes) (base : Nat)
    (evs : List PesFilter.Ev) (l : List Ev) (h : esEvList touch tag p base evs = .ok l) :
    l.filterMap esShape = evs.map norm :=
  (esEvList_events touch tag p base evs l h).2

theorem esEvents_emits (touch : Bool) (tag : Nat) (p : Bytes) (base : Nat) (evs : List PesFilter.Ev)
    (c c' : Ctx) (h : esEvents touch tag p base c evs = .ok c') :
    ∃ l, esEvList touch tag p base evs = .ok l ∧ c' = { c with trace := l.reverse ++ c.trace } := by
  rw [esEvents_eq_list] at h
  obtain ⟨l, hl, h⟩ := R.bind_eq_ok h
  exact ⟨l, hl, (R.ok_inj h).symm⟩

/-! ### one `consume` of any handler -/

/-- the events a handler may emit -/
def EvBy : Handler → Ev → Prop
  | .pes τ _, e => tagOf e = some τ ∧ (esShape e).isSome = true
  | .recorder τ, e => (tagOf e = none ∨ tagOf e = some τ) ∧ esShape e = none
  | .pat _ _, e => tagOf e = none
  | .pmt _ _ _ _, e => tagOf e = none

theorem evBy_tag (h : Handler) (e : Ev) (σ : Nat) (hb : EvBy h e) (ht : tagOf e = some σ) :
    hTag h = some σ := by
  cases h with
  | pes τ f => simp only [EvBy] at hb; rw [hb.1] at ht; exact ht
  | recorder τ =>
    simp only [EvBy] at hb
    rcases hb.1 with x | x
    · rw [x] at ht; cases ht
    · rw [x] at ht; exact ht
  | pat s r => simp only [EvBy] at hb; rw [hb] at ht; cases ht
  | pmt a b s r => simp only [EvBy] at hb; rw [hb] at ht; cases ht

theorem evBy_shape (h : Handler) (e : Ev) (hb : EvBy h e) (hn : ∀ σ f, h ≠ .pes σ f) :
    esShape e = none := by
  cases h with
  | pes τ f => exact absurd rfl (hn τ f)
  | recorder τ => exact hb.2
  | pat s r => exact esShape_none_of_untagged e hb
  | pmt a b s r => exact esShape_none_of_untagged e hb

/-- ANY handler on ANY packet: events of its own tag only (`EvBy`), queued changes carry fresh
increasing tags and insert PES handlers only in their initial state, the handler keeps tag and kind -/
theorem consume_facts (h : Handler) (c : Ctx) (pk : Pk) (h' : Handler) (c' : Ctx)
    (chg : List (Change Handler)) (hc : App.consume h c pk = .ok (h', c', chg)) :
    Produces (EvBy h) c chg c' ∧ hTag h' = hTag h ∧ (∀ σ f', h' = .pes σ f' → ∃ f, h = .pes σ f) := by
  cases h with
  | pat s reg =>
    obtain ⟨s', ds, reg', -, h2, rfl⟩ := C05.consume_pat_ok hc
    exact ⟨produces_mono (fun _ h => h) (runDeliveries_produces _ patSection_produces _ _ _ _ _ _ h2),
      rfl, fun σ f' e => by cases e⟩
  | pmt pid prog s reg =>
    obtain ⟨s', ds, reg', -, h2, rfl⟩ := C05.consume_pmt_ok hc
    exact ⟨produces_mono (fun _ h => h)
        (runDeliveries_produces _ (fun c r d => pmtSection_produces c pid r d) _ _ _ _ _ _ h2),
      rfl, fun σ f' e => by cases e⟩
  | pes tag f =>
    obtain ⟨f', evs, -, hc1, rfl, rfl⟩ := C05.consume_pes_ok hc
    obtain ⟨l, hl, rfl⟩ := esEvents_emits _ _ _ _ _ _ _ hc1
    refine ⟨⟨⟨rfl, Nat.le_refl _, l.reverse, rfl, ?_⟩, Nat.le_refl _, by intro ch h; cases h⟩, rfl,
      fun σ f'' e => by injection e with e1 e2; subst e1; exact ⟨f, rfl⟩⟩
    intro e he
    exact esEvList_tagged _ _ _ _ _ _ hl e (List.mem_reverse.1 he)
  | recorder tag =>
    have key := C05.consume_recorder_ok hc
    have e0 : Emits (EvBy (.recorder tag)) c (c.emit (.pkt tag pk.off)) :=
      emits_emit _ _ _ ⟨Or.inr rfl, rfl⟩
    cases hl : c.cfg.script.lookup (pk.off / 188) with
    | none =>
      rw [hl] at key
      cases key
      exact ⟨⟨e0, Nat.le_refl _, by intro ch h; cases h⟩, rfl, fun σ f' e => by cases e⟩
    | some ops =>
      simp only [hl, Prod.mk.injEq] at key
      obtain ⟨rfl, e⟩ := key
      have hun : ∀ e, Untagged e → EvBy (.recorder tag) e :=
        fun e he => ⟨Or.inl he, esShape_none_of_untagged e he⟩
      have a := produces_mono hun (scriptChanges_produces ops (c.emit (.pkt tag pk.off)))
      rw [← e] at a
      exact ⟨⟨emits_trans e0 a.1, a.2.1, a.2.2⟩, rfl, fun σ f' e => by cases e⟩

/-! ### lookup-or-construct -/

theorem ensure_cases (t : Tab Handler) (c : Ctx) (pid : Nat) (t1 : Tab Handler) (c1 : Ctx)
    (h : ensure App.sem t c pid = .ok (t1, c1)) :
    (t.contains pid = true ∧ t1 = t ∧ c1 = c) ∨
    (t.get pid = none ∧ t1 = t.insert pid (construct c (.byPid pid)).1
      ∧ c1 = (construct c (.byPid pid)).2) := by
  rcases ensure_ok_cases App.sem h with h | ⟨hc, hd, hk, rfl⟩
  · exact .inl h
  · have e : construct c (.byPid pid) = (hd, c1) := R.ok_inj hk
    exact .inr ⟨(Tab.contains_eq_false_iff _ _).1 hc, by rw [e], by rw [e]⟩

theorem traceTags_of_emits {c c' : Ctx} {P : Ev → Prop} (hc : TraceTags c) (he : Emits P c c')
    (hP : ∀ e, P e → ∀ τ, tagOf e = some τ → τ < c'.nextTag) : TraceTags c' := by
  obtain ⟨_, hn, out, ho, hall⟩ := he
  intro e hm τ hτ
  rw [ho] at hm
  rcases List.mem_append.1 hm with x | x
  · exact hP e (hall e x) τ hτ
  · exact Nat.lt_of_lt_of_le (hc e x τ hτ) hn

theorem ensure_emits (t : Tab Handler) (c : Ctx) (pid : Nat) (t1 : Tab Handler) (c1 : Ctx)
    (h : ensure App.sem t c pid = .ok (t1, c1)) : Emits Untagged c c1 := by
  rcases ensure_cases t c pid t1 c1 h with ⟨_, _, e2⟩ | ⟨_, _, e2⟩
  · subst e2; exact emits_refl _ _
  · subst e2; exact construct_emits c (.byPid pid)

theorem ensure_tagInv (t : Tab Handler) (c : Ctx) (pid : Nat) (t1 : Tab Handler) (c1 : Ctx)
    (hi : TagInv (t, c)) (h : ensure App.sem t c pid = .ok (t1, c1)) :
    TagInv (t1, c1) ∧ Emits Untagged c c1 := by
  have he := ensure_emits t c pid t1 c1 h
  rcases ensure_cases t c pid t1 c1 h with ⟨_, e1, e2⟩ | ⟨_, e1, e2⟩
  · subst e1 e2; exact ⟨hi, he⟩
  · subst e1 e2
    refine ⟨⟨?_, ?_⟩, he⟩
    · show TabTags (t.insert pid _) (construct c (.byPid pid)).2.nextTag
      rw [construct_nextTag]
      refine tabTags_insert_fresh pid _ hi.1 (Nat.le_succ _) ?_
      intro τ hτ
      rcases construct_tag c (.byPid pid) with x | x
      · rw [x] at hτ; cases hτ
      · rw [x] at hτ; injection hτ with hτ; subst hτ
        exact ⟨Nat.le_refl _, Nat.lt_succ_self _⟩
    · refine traceTags_of_emits hi.2 he ?_
      intro e hu τ hτ
      rw [hu] at hτ; cases hτ

/-! ### one dispatcher step -/

/-- ANY packet: every new TAGGED event carries the tag of the handler that was registered for the
packet's PID before the step, or a tag that did not exist before the step -/
theorem specStep_facts (t : Tab Handler) (c : Ctx) (pk : Pk) (t' : Tab Handler) (c' : Ctx)
    (hi : TagInv (t, c)) (h : specStep App.sem (t, c) pk = .ok (t', c')) :
    TagInv (t', c') ∧
    Emits (fun e => ∀ σ, tagOf e = some σ →
      (∃ h0, t.get pk.pid = some h0 ∧ hTag h0 = some σ) ∨ c.nextTag ≤ σ) c c' := by
  obtain ⟨t1, c1, hE, hcase⟩ := specStep_ok_cases App.sem h
  obtain ⟨hi1, he1⟩ := ensure_tagInv t c pk.pid t1 c1 hi hE
  have he1' : Emits (fun e => ∀ σ, tagOf e = some σ →
      (∃ h0, t.get pk.pid = some h0 ∧ hTag h0 = some σ) ∨ c.nextTag ≤ σ) c c1 :=
    emits_mono (fun e hu σ hσ => by rw [hu] at hσ; cases hσ) he1
  rcases hcase with ⟨_, e⟩ | ⟨_, hd, h', c2, chg, hg, hx, e⟩
  · cases e
    exact ⟨hi1, he1'⟩
  · cases e
    obtain ⟨⟨hem, hfr, _⟩, hsame, _⟩ := consume_facts hd c1 pk h' c' chg hx
    have hlt : ∀ e, EvBy hd e → ∀ σ, tagOf e = some σ → σ < c1.nextTag :=
      fun e hb σ hσ => hi1.1.1 pk.pid hd σ hg (evBy_tag hd e σ hb hσ)
    refine ⟨⟨?_, ?_⟩, emits_trans he1' (emits_mono ?_ hem)⟩
    · exact tabTags_applyChanges chg _ _ _ (tabTags_insert_same pk.pid hd h' hi1.1 hg hsame) hfr
    · exact traceTags_of_emits hi1.2 hem
        (fun e hb σ hσ => Nat.lt_of_lt_of_le (hlt e hb σ hσ) hem.2.1)
    · intro e hb σ hσ
      have htag := evBy_tag hd e σ hb hσ
      rcases ensure_cases t c pk.pid t1 c1 hE with ⟨_, e1, _⟩ | ⟨_, e1, _⟩
      · subst e1; exact Or.inl ⟨hd, hg, htag⟩
      · subst e1
        rw [Tab.get_insert_self] at hg
        injection hg with hg
        subst hg
        rcases construct_tag c (.byPid pk.pid) with x | x
        · rw [x] at htag; cases htag
        · rw [x] at htag; injection htag with htag; exact Or.inr (Nat.le_of_eq htag)

theorem specStep_tagInv (t : Tab Handler) (c : Ctx) (pk : Pk) (t' : Tab Handler) (c' : Ctx)
    (hi : TagInv (t, c)) (h : specStep App.sem (t, c) pk = .ok (t', c')) : TagInv (t', c') :=
  (specStep_facts t c pk t' c' hi h).1

theorem pushSpec_tagInv (pks : List Pk) (tc tc' : Tab Handler × Ctx) (hi : TagInv tc)
    (h : pushSpec App.sem tc pks = .ok tc') : TagInv tc' ∧ Emits (fun _ => True) tc.2 tc'.2 :=
  pushSpec_invariant App.sem (fun x => TagInv x ∧ Emits (fun _ => True) tc.2 x.2) (fun _ => True)
    (fun x pk x' hx _ hs => by
      obtain ⟨a1, a2⟩ := specStep_facts x.1 x.2 pk x'.1 x'.2 hx.1 hs
      exact ⟨a1, emits_trans hx.2 (emits_mono (fun _ _ => trivial) a2)⟩)
    pks tc tc' ⟨hi, emits_refl _ _⟩ (fun _ _ => trivial) h

theorem init_tagInv (cfg : Cfg) : TagInv (App.init cfg) := by
  unfold App.init
  dsimp only
  refine ⟨?_, ?_⟩
  · show TabTags (Tab.insert [] 0 _) (construct { cfg := cfg } (.byPid 0)).2.nextTag
    rw [construct_nextTag]
    refine tabTags_insert_fresh 0 _ (tabTags_nil 0) (Nat.le_succ _) ?_
    intro τ hτ
    rcases construct_tag { cfg := cfg } (.byPid 0) with x | x
    · rw [x] at hτ; cases hτ
    · rw [x] at hτ; injection hτ with hτ; subst hτ; exact ⟨Nat.le_refl _, Nat.lt_succ_self _⟩
  · refine traceTags_of_emits (c := { cfg := cfg }) (by intro e he; cases he)
      (construct_emits { cfg := cfg } (.byPid 0)) ?_
    intro e hu τ hτ
    rw [hu] at hτ; cases hτ

/-! ### the invariant in terms of `tagsIn` -/

theorem tagsIn_mem (t : Tab Handler) (τ : Nat) :
    τ ∈ tagsIn t ↔ ∃ p h, t.get p = some h ∧ hTag h = some τ := by
  unfold tagsIn
  rw [List.mem_filterMap]
  constructor
  · rintro ⟨o, ho, hb⟩
    obtain ⟨i, hi, hio⟩ := List.getElem_of_mem ho
    cases o with
    | none => cases hb
    | some hd =>
      refine ⟨i, hd, ?_, hb⟩
      rw [Tab.get_eq, List.getElem?_eq_getElem hi, hio]; rfl
  · rintro ⟨p, hd, hg, hτ⟩
    have hp := Tab.lt_of_get_some t p hd hg
    rw [Tab.get_eq, List.getElem?_eq_getElem hp] at hg
    simp only [Option.getD_some] at hg
    exact ⟨t[p], List.getElem_mem hp, by rw [hg]; exact hτ⟩

theorem tabTags_iff (t : Tab Handler) (n : Nat) :
    TabTags t n ↔ (∀ τ ∈ tagsIn t, τ < n) ∧ (tagsIn t).Pairwise (· ≠ ·) := by
  have hget : ∀ (i : Nat) (hi : i < t.length), t.get i = t[i] := by
    intro i hi
    rw [Tab.get_eq, List.getElem?_eq_getElem hi]; rfl
  constructor
  · intro ⟨h1, h2⟩
    refine ⟨?_, ?_⟩
    · intro τ hτ
      obtain ⟨p, hd, hg, ht⟩ := (tagsIn_mem t τ).1 hτ
      exact h1 p hd τ hg ht
    · unfold tagsIn
      rw [List.pairwise_filterMap, List.pairwise_iff_getElem]
      intro i j hi hj hij a ha b hb hab
      subst hab
      cases hoi : t[i] with
      | none => rw [hoi] at ha; cases ha
      | some x =>
        cases hoj : t[j] with
        | none => rw [hoj] at hb; cases hb
        | some y =>
          rw [hoi] at ha; rw [hoj] at hb
          have := h2 i j x y a (by rw [hget i hi, hoi]) (by rw [hget j hj, hoj]) ha hb
          omega
  · intro ⟨h1, h2⟩
    refine ⟨?_, ?_⟩
    · intro p hd τ hg ht
      exact h1 τ ((tagsIn_mem t τ).2 ⟨p, hd, hg, ht⟩)
    · unfold tagsIn at h2
      rw [List.pairwise_filterMap, List.pairwise_iff_getElem] at h2
      intro p q hp hq τ hgp hgq htp htq
      have lp := Tab.lt_of_get_some t p hp hgp
      have lq := Tab.lt_of_get_some t q hq hgq
      rw [hget p lp] at hgp
      rw [hget q lq] at hgq
      rcases Nat.lt_trichotomy p q with x | x | x
      · exact absurd rfl (h2 p q lp lq x τ (by rw [hgp]; exact htp) τ (by rw [hgq]; exact htq))
      · exact x
      · exact absurd rfl (h2 q p lq lp x τ (by rw [hgq]; exact htq) τ (by rw [hgp]; exact htp))

end Ts.Lemmas.Proj
