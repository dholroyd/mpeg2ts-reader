import Ts.Lemmas.C16
/-! Helper lemmas for C17 (descriptor loops and typed descriptors). -/
namespace Ts.Lemmas.C17
open Ts Ts.Spec Ts.Tables Ts.Spec.TableSpec Ts.Lemmas.C16

/-! ### the spec loop, one step at a time -/

theorem loop_nil : specDescLoop [] = ([], []) := by rw [specDescLoop]; simp
theorem loop_one (a : UInt8) : specDescLoop [a] = ([], [a]) := by rw [specDescLoop]; simp
theorem loop_fits (tag len : UInt8) (rest : Bytes) (h : len.toNat ≤ rest.length) :
    specDescLoop (tag :: len :: rest) = ((tag.toNat, rest.take len.toNat) :: (specDescLoop (rest.drop len.toNat)).1,
      (specDescLoop (rest.drop len.toNat)).2) := by
  rw [specDescLoop]; simp [h]
theorem loop_stop (tag len : UInt8) (rest : Bytes) (h : ¬ len.toNat ≤ rest.length) :
    specDescLoop (tag :: len :: rest) = ([], tag :: len :: rest) := by
  rw [specDescLoop]; simp [h]

/-! ### typed constructors -/

theorem typedNew_eq (tag : Nat) (p : Bytes) :
    typedNew tag p = .ok (if p.length < typedMinLength tag then .error .notEnoughData else .ok ()) := by
  unfold typedNew
  by_cases h5 : tag = 5
  · subst h5; simp [typedMinLength, descriptorLen]
  by_cases h10 : tag = 10
  · subst h10; simp [typedMinLength]
  by_cases h14 : tag = 14
  · subst h14; simp [typedMinLength, descriptorLen, assertR]
  by_cases h40 : tag = 40
  · subst h40; simp [typedMinLength, descriptorLen, assertR]
  · have : typedMinLength tag = 0 := by
      unfold typedMinLength; split <;> simp_all
    simp [h5, h10, h14, h40, this]

theorem core_eq (tag len : UInt8) (payload : Bytes) (h : len.toNat = payload.length) :
    coreFromBytes (tag :: len :: payload) = .ok (classify (tag.toNat, payload)) := by
  unfold coreFromBytes
  have h2 : ¬ ((tag :: len :: payload).length < 2) := by simp
  rw [if_neg h2, byteAt_ok _ 0 (by simp), byteAt_ok _ 1 (by simp)]
  simp only [R.ok_bind, byteD_cons_zero, byteD_cons_succ]
  have h3 : ¬ (len.toNat + 2 > (tag :: len :: payload).length) := by simp; omega
  rw [if_neg h3, Nat.add_comm, sliceR_ok _ 2 _ (by simp; omega)]
  simp only [R.ok_bind, typedNew_eq, classify]
  have : ((tag :: len :: payload).drop 2).take len.toNat = payload := by simp [h]
  rw [this]
  by_cases hm : payload.length < typedMinLength tag.toNat <;> simp [hm]

/-! ### the iterator: model = spec for every fuel that exceeds the length -/

theorem descIter_eq : ∀ (fuel : Nat) (buf : Bytes), buf.length < fuel →
    descIter fuel buf = .ok (specDescItems buf) := by
  intro fuel
  induction fuel with
  | zero => intro buf h; omega
  | succ n ih =>
    intro buf h
    rcases buf with _ | ⟨a, _ | ⟨b, rest⟩⟩
    · simp [descIter, specDescItems, loop_nil, trailingItems]
    · simp [descIter, specDescItems, loop_one, trailingItems]
    · have e0 : (a :: b :: rest).isEmpty = false := rfl
      have e1 : ¬ ((a :: b :: rest).length < 2) := by simp
      unfold descIter
      simp only [e0, Bool.false_eq_true, if_false, e1]
      rw [byteAt_ok _ 0 (by simp), byteAt_ok _ 1 (by simp)]
      simp only [R.ok_bind, byteD_cons_zero, byteD_cons_succ]
      have es : subR (a :: b :: rest).length 2 = .ok rest.length := by simp [subR]
      rw [es]
      simp only [R.ok_bind]
      by_cases hf : b.toNat ≤ rest.length
      · have hn : ¬ (b.toNat > rest.length) := by omega
        rw [if_neg hn, assertR_ok _ _ (by simp; omega)]
        simp only [R.ok_bind]
        have et : (a :: b :: rest).take (b.toNat + 2) = a :: b :: rest.take b.toNat := by
          simp [List.take_succ_cons]
        have ed : (a :: b :: rest).drop (b.toNat + 2) = rest.drop b.toNat := by simp
        have hl : (rest.drop b.toNat).length < n := by
          simp only [List.length_cons] at h; simp; omega
        rw [et, ed, core_eq a b _ (by simp [hf]), ih _ hl]
        simp [specDescItems, loop_fits a b rest hf]
      · have hn : b.toNat > rest.length := by omega
        rw [if_pos hn]
        simp [specDescItems, loop_stop a b rest hf, trailingItems]

/-! ### the spec loop tiles the buffer -/

theorem loop_props : ∀ (n : Nat) (buf : Bytes), buf.length < n →
    ((specDescLoop buf).1.map encodeDesc).flatten ++ (specDescLoop buf).2 = buf ∧
    (∀ d ∈ (specDescLoop buf).1, DescWf d) ∧
    ((specDescLoop buf).2.length < 2 ∨
      (specDescLoop buf).2.length < 2 + byteD (specDescLoop buf).2 1) := by
  intro n
  induction n with
  | zero => intro buf h; omega
  | succ n ih =>
    intro buf h
    rcases buf with _ | ⟨a, _ | ⟨b, rest⟩⟩
    · simp [loop_nil]
    · simp [loop_one]
    · by_cases hf : b.toNat ≤ rest.length
      · have hl : (rest.drop b.toNat).length < n := by
          simp only [List.length_cons] at h; simp; omega
        obtain ⟨i1, i2, i3⟩ := ih _ hl
        rw [loop_fits a b rest hf]
        refine ⟨?_, ?_, i3⟩
        · simp only [List.map_cons, List.flatten_cons, List.append_assoc]
          rw [i1]
          simp [encodeDesc, Nat.min_eq_left hf]
        · intro d hd
          simp only [List.mem_cons] at hd
          rcases hd with rfl | hd
          · have := UInt8.toNat_lt a
            have := UInt8.toNat_lt b
            unfold DescWf
            simp only [List.length_take]
            omega
          · exact i2 d hd
      · rw [loop_stop a b rest hf]
        simp [byteD_cons_zero, byteD_cons_succ]
        omega

theorem loop_encode (ds : List (Nat × Bytes)) (h : ∀ d ∈ ds, DescWf d) :
    specDescLoop ((ds.map encodeDesc).flatten) = (ds, []) := by
  induction ds with
  | nil => simpa using loop_nil
  | cons d ds ih =>
    have ih' := ih (fun y hy => h y (by simp [hy]))
    obtain ⟨h1, h2⟩ := h d (by simp)
    have e : ((d :: ds).map encodeDesc).flatten
        = UInt8.ofNat d.1 :: UInt8.ofNat d.2.length :: (d.2 ++ (ds.map encodeDesc).flatten) := by
      simp [encodeDesc]
    have hlen : (UInt8.ofNat d.2.length).toNat = d.2.length := by
      simp; omega
    have htag : (UInt8.ofNat d.1).toNat = d.1 := by
      simp; omega
    rw [e, loop_fits _ _ _ (by rw [hlen]; simp), hlen, htag]
    simp [ih']



/-! ### typed descriptors -/

theorem regFields_eq (p : Bytes) (h : 4 ≤ p.length) : regFields p = .ok (p.take 4, p.drop 4) := by
  unfold regFields
  have e := sliceR_ok p 0 4 (by omega)
  simp only [Nat.zero_add, List.drop_zero] at e
  rw [e, sliceFrom_ok p 4 h]
  rfl

theorem bitrate_arith (b0 b1 b2 : Nat) (h0 : b0 < 256) (h1 : b1 < 256) (h2 : b2 < 256) :
    ((b0 &&& 0b0011_1111) <<< 16) ||| (b1 <<< 8) ||| b2 = b0 % 64 * 65536 + b1 * 256 + b2 := by
  rw [and_3f b0 h0]
  simp only [Nat.shiftLeft_eq]
  rw [or_eq_add 16 (Nat.dvd_mul_left _ _) (by omega), or_eq_add 8 (by omega) h2]

theorem bitrate_field (p : Bytes) :
    readBits p 2 22 = byteD p 0 % 64 * 65536 + byteD p 1 * 256 + byteD p 2 := by
  have e := readBits_be p 0 2 22 3 (by omega)
  have b1 := byteD_lt p 1
  have b2 := byteD_lt p 2
  simp only [be, Nat.zero_mul, Nat.zero_add, Nat.add_zero, Nat.reduceMul, Nat.reduceSub, Nat.reducePow,
    Nat.div_one] at e
  omega

theorem maxBitrate_eq (p : Bytes) (h : 3 ≤ p.length) :
    maxBitrateFields p = .ok (readBits p 2 22, readBits p 2 22 * 400) := by
  unfold maxBitrateFields
  rw [byteAt_ok p 0 (by omega), byteAt_ok p 1 (by omega), byteAt_ok p 2 (by omega)]
  simp only [R.ok_bind]
  rw [bitrate_arith _ _ _ (byteD_lt p 0) (byteD_lt p 1) (byteD_lt p 2), ← bitrate_field]
  have := readBits_lt p 2 22
  rw [assertR_ok _ _ (by simp; omega), assertR_ok _ _ (by simp; omega)]
  simp only [R.ok_bind, R.pure_eq]
  congr 2
  omega

theorem avcFields_eq (p : Bytes) (h : 4 ≤ p.length) : avcFields p = .ok (specAvc p) := by
  unfold avcFields specAvc
  simp (disch := omega) only [byteAt_ok, R.ok_bind, R.pure_eq]
  rw [show readBits p 0 8 = _ from readBits_byte p 0, show readBits p 16 8 = _ from readBits_byte p 2,
    show (readBits p 8 1 == 1) = _ from bit_eq_mask p 1 0 (by omega),
    show (readBits p 9 1 == 1) = _ from bit_eq_mask p 1 1 (by omega),
    show (readBits p 10 1 == 1) = _ from bit_eq_mask p 1 2 (by omega),
    show (readBits p 11 1 == 1) = _ from bit_eq_mask p 1 3 (by omega),
    show (readBits p 12 1 == 1) = _ from bit_eq_mask p 1 4 (by omega),
    show (readBits p 13 1 == 1) = _ from bit_eq_mask p 1 5 (by omega),
    show (readBits p 24 1 == 1) = _ from bit_eq_mask p 3 0 (by omega),
    show (readBits p 25 1 == 1) = _ from bit_eq_mask p 3 1 (by omega),
    show (readBits p 26 1 == 1) = _ from bit_eq_mask p 3 2 (by omega),
    show readBits p 14 2 = _ from readBits_sub p 1 6 2 (by omega), and_03 _ (byteD_lt p 1)]
  simp only [Nat.reduceSub, Nat.reducePow, Nat.div_one]

/-! ### ISO 639 language iterator -/

theorem langOf_four (a b c d : UInt8) : langOf [a, b, c, d] = .lang [a, b, c] d.toNat := by
  unfold langOf
  rw [readBits_byte [a, b, c, d] 3]
  simp [byteD_cons_zero, byteD_cons_succ]

theorem languages_eq : ∀ (fuel : Nat) (buf : Bytes), buf.length < fuel →
    languages fuel buf = .ok (specLanguages buf) := by
  intro fuel
  induction fuel with
  | zero => intro buf h; omega
  | succ n ih =>
    intro buf h
    rcases buf with _ | ⟨a, _ | ⟨b, _ | ⟨c, _ | ⟨d, rest⟩⟩⟩⟩
    · simp [languages, specLanguages, chunks4]
    · simp [languages, specLanguages, chunks4]
    · simp [languages, specLanguages, chunks4]
    · simp [languages, specLanguages, chunks4]
    · have hl : rest.length < n := by simp at h; omega
      have e : languages (n + 1) (a :: b :: c :: d :: rest) = (do
          assertR (([a, b, c, d] : Bytes).length == 4) "assert_eq!(buf.len(), 4)"
          let code ← sliceR [a, b, c, d] 0 3
          let at_ ← byteAt [a, b, c, d] 3
          let r ← languages n rest
          pure (LangItem.lang code at_ :: r)) := by
        simp [languages]
        intro hh; omega
      have e1 : sliceR [a, b, c, d] 0 3 = .ok [a, b, c] := by
        have := sliceR_ok [a, b, c, d] 0 3 (by simp)
        simpa using this
      have e2 : byteAt [a, b, c, d] 3 = .ok d.toNat := by
        rw [byteAt_ok _ 3 (by simp)]; simp [byteD_cons_zero, byteD_cons_succ]
      rw [e, assertR_ok _ _ (by simp), e1, e2, ih rest hl]
      simp only [R.ok_bind, R.pure_eq, specLanguages, chunks4_cons, List.map_cons, langOf_four,
        List.length_cons]
      have : (rest.length + 1 + 1 + 1 + 1) % 4 = rest.length % 4 := by omega
      rw [this]
      rfl

theorem lang_get (p : Bytes) (i : Nat) (h : i < p.length / 4) :
    (specLanguages p)[i]? = some (.lang ((p.drop (4 * i)).take 3) (byteD p (4 * i + 3))) := by
  unfold specLanguages
  have hl : i < ((chunks4 p).map langOf).length := by
    rw [List.length_map, chunks4_length _ p (Nat.lt_succ_self _)]; exact h
  rw [List.getElem?_append_left hl, List.getElem?_map, chunks4_get i p h]
  simp only [Option.map_some, langOf]
  rw [readBits_byte _ 3, byteD_take _ 4 3 (by omega), byteD_drop, List.take_take]
  simp

theorem specLanguages_length (p : Bytes) :
    (specLanguages p).length = p.length / 4 + (if p.length % 4 = 0 then 0 else 1) := by
  unfold specLanguages
  rw [List.length_append, List.length_map, chunks4_length _ p (Nat.lt_succ_self _)]
  split <;> simp


theorem lang_last (p : Bytes) :
    (specLanguages p)[p.length / 4]?
      = if p.length % 4 = 0 then none else some (.tooShort (p.length % 4)) := by
  unfold specLanguages
  have hl : ((chunks4 p).map langOf).length = p.length / 4 := by
    rw [List.length_map, chunks4_length _ p (Nat.lt_succ_self _)]
  rw [List.getElem?_append_right (by omega), hl, Nat.sub_self]
  split <;> simp

end Ts.Lemmas.C17
