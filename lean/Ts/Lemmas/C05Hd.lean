import Ts.Lemmas.C05Hb
/-!
# C05 over whole histories — facts about the abstract routing state

Which events leave the route of a PID alone (`slot_kept`, `routed_after`); under collision-freedom the most
recent tables decide the route; dropped PIDs are un-routed — for PMTs exactly when the SAME handler
instance applied both versions.
-/
namespace Ts.Lemmas.C05H
open Ts Ts.Tables Ts.App Ts.Demux Ts.Spec Ts.Spec.TableSpec Ts.Spec.Routing Ts.Spec.RoutingHistory
open Ts.Lemmas.C05

theorem tagged_get (l : List (Nat × Req)) (n i : Nat) :
    (tagged n l)[i]? = l[i]?.map fun x => (x.1, (x.2, n + i)) := by
  rw [tagged_eq_zipIdx, List.getElem?_map, List.getElem?_zipIdx, Option.map_map]
  rfl

theorem tagged_forget (l : List (Nat × Req)) (n : Nat) : (tagged n l).map (fun x => (x.1, x.2.1)) = l := by
  rw [tagged_eq_zipIdx, List.map_map]
  exact (List.map_congr_left fun x _ => rfl).trans (List.zipIdx_map_fst n l)

theorem lastFor_tagged (l : List (Nat × Req)) (n q : Nat) :
    lastFor l q = (lastFor (tagged n l) q).map (·.1) := by
  conv => lhs; rw [← tagged_forget l n]
  exact lastFor_map (fun x : Req × Nat => x.1) (tagged n l) q

theorem applied_tagged_listed {f : Nat → Option (Req × Nat)} (l : List (Nat × Req)) (n : Nat)
    (reg : List Nat) (q : Nat) (req : Req) (h : lastFor l q = some req) :
    ∃ tag, lastFor (tagged n l) q = some (req, tag) ∧ applied f (tagged n l) reg q = some (req, tag) := by
  have hlt := lastFor_tagged l n q
  rw [h] at hlt
  cases hl : lastFor (tagged n l) q with
  | none => rw [hl] at hlt; cases hlt
  | some a =>
    rw [hl] at hlt
    simp only [Option.map_some, Option.some.injEq] at hlt
    subst hlt
    exact ⟨a.2, rfl, applied_of_lastFor _ _ _ _ _ hl⟩

/-- where a slot after `applied` over `tagged` comes from: a request of the list, with its tag; or
the old slot of a PID neither listed nor outdated -/
theorem applied_tagged_inv {f : Nat → Option (Req × Nat)} (l : List (Nat × Req)) (n : Nat)
    (reg : List Nat) (p : Nat) (req : Req) (tag : Nat) (h : applied f (tagged n l) reg p = some (req, tag)) :
    (lastFor (tagged n l) p = some (req, tag) ∧ (p, req) ∈ l ∧ n ≤ tag ∧ tag < n + l.length) ∨
    (lastFor (tagged n l) p = none ∧ p ∉ l.map (·.1) ∧ ¬ Outdated reg (l.map (·.1)) p ∧
      f p = some (req, tag)) := by
  cases hl : lastFor (tagged n l) p with
  | some x =>
    rw [applied_of_lastFor _ _ _ _ _ hl] at h
    cases h
    exact Or.inl ⟨rfl, tagged_mem _ _ _ _ _ (lastFor_mem _ _ _ hl)⟩
  | none =>
    have hn := lastFor_none _ _ hl
    rw [applied_of_not_mem _ _ _ _ hn] at h
    rw [tagged_pids] at hn h
    split at h
    · cases h
    · rename_i ho; exact Or.inr ⟨rfl, hn, ho, h⟩

/-- every routed PID's request names that PID, and is the `tag`-th request made -/
def TagInv (r : Route) : Prop :=
  ∀ p req tag, r.slots p = some (req, tag) → reqPid req = p ∧ r.reqs[tag]? = some req

theorem tagInv_applied (r : Route) (reqs : List (Nat × Req)) (reg : List Nat)
    (hpid : ∀ x ∈ reqs, reqPid x.2 = x.1) (h : TagInv r) (p : Nat) (req : Req) (tag : Nat)
    (ha : applied r.slots (tagged r.reqs.length reqs) reg p = some (req, tag)) :
    reqPid req = p ∧ (r.reqs ++ reqs.map (·.2))[tag]? = some req := by
  rcases applied_tagged_inv _ _ _ _ _ _ ha with ⟨hl, -, -, -⟩ | ⟨-, -, -, hs⟩
  · obtain ⟨i, hi⟩ := List.getElem?_of_mem (lastFor_mem _ _ _ hl)
    rw [tagged_get] at hi
    obtain ⟨y, hli, e⟩ := Option.map_eq_some_iff.1 hi
    simp only [Prod.mk.injEq] at e
    obtain ⟨rfl, rfl, rfl⟩ := e
    refine ⟨hpid y (List.mem_of_getElem? hli), ?_⟩
    rw [List.getElem?_append_right (Nat.le_add_right _ _), Nat.add_sub_cancel_left, List.getElem?_map, hli]
    rfl
  · obtain ⟨h1, h2⟩ := h p req tag hs
    exact ⟨h1, by rw [List.getElem?_append_left (List.getElem?_eq_some_iff.1 h2).1]; exact h2⟩

theorem tagInv_init : TagInv initRoute := by
  intro p req tag h
  simp only [initRoute] at h
  split at h
  · rename_i hp
    cases h
    exact ⟨hp.symm, rfl⟩
  · cases h

theorem tagInv_step (r : Route) (ev : Event) (h : TagInv r) : TagInv (stepRoute r ev) := by
  cases ev with
  | patApplied ver es =>
    intro p req tag hs
    refine tagInv_applied r (patRequests es) _ ?_ h p req tag hs
    intro ⟨q, req'⟩ hx
    obtain ⟨e, -, rfl, rfl⟩ := mem_patRequests hx
    cases e <;> rfl
  | pmtApplied q ver body =>
    intro p req tag hs
    refine tagInv_applied r (pmtReqs q body) _ ?_ h p req tag hs
    intro ⟨q', req'⟩ hx
    obtain ⟨e, -, rfl, rfl⟩ := mem_pmtReqs hx
    rfl
  | esPacket q =>
    cases hq : r.slots q with
    | some x => rw [stepRoute_es_some r q x hq]; exact h
    | none =>
      rw [stepRoute_es_none r q hq]
      intro p req tag hs
      simp only at hs
      by_cases hp : p = q
      · rw [if_pos hp] at hs
        simp only [Option.some.injEq, Prod.mk.injEq] at hs
        obtain ⟨rfl, rfl⟩ := hs
        exact ⟨hp.symm, by simp⟩
      · rw [if_neg hp] at hs
        obtain ⟨h1, h2⟩ := h p req tag hs
        refine ⟨h1, ?_⟩
        show (r.reqs ++ [Req.byPid q])[tag]? = some req
        rw [List.getElem?_append_left (List.getElem?_eq_some_iff.1 h2).1]; exact h2
  | repetition q => exact h

theorem tagInv_run (evs : List Event) (r : Route) (h : TagInv r) : TagInv (run r evs) :=
  run_ind (Q := fun _ => True) (fun r ev h _ => tagInv_step r ev h) evs r h fun _ _ => trivial

theorem tags_distinct (r : Route) (h : TagInv r) (p p' : Nat) (req req' : Req) (tag : Nat)
    (h1 : r.slots p = some (req, tag)) (h2 : r.slots p' = some (req', tag)) : p = p' := by
  obtain ⟨a1, a2⟩ := h p req tag h1
  obtain ⟨b1, b2⟩ := h p' req' tag h2
  rw [a2] at b2
  cases b2
  rw [← a1, ← b1]

theorem slot_kept (r : Route) (q : Nat) (ev : Event) (h : Unnamed r q ev) :
    (stepRoute r ev).slots q = r.slots q := by
  cases ev with
  | patApplied ver es =>
    rw [stepRoute_pat_slots]
    exact applied_untouched _ _ _ _ (by rw [tagged_pids, patRequests_pids]; exact h.1) h.2
  | pmtApplied p ver body =>
    rw [stepRoute_pmt_slots]
    exact applied_untouched _ _ _ _ (by rw [tagged_pids, pmtReqs_pids]; exact h.1) h.2
  | esPacket q' => exact h.elim
  | repetition p => exact h.elim

theorem slot_kept_es (r : Route) (q q' : Nat) (h : r.slots q ≠ none) :
    (stepRoute r (.esPacket q')).slots q = r.slots q := by
  cases hq : r.slots q' with
  | some x => rw [stepRoute_es_some r q' x hq]
  | none =>
    rw [stepRoute_es_none r q' hq]
    exact if_neg fun e => h (by rw [e]; exact hq)

/-- what the state remembers was listed by the history: entries in `P`, (program-map PID,
elementary PID) pairs in `E` -/
def Within (P : List PatEntry) (E : List (Nat × Nat)) (r : Route) : Prop :=
  (∀ e ∈ r.patEntries, e ∈ P) ∧ (∀ p s, s ∈ (r.pmt p).streams → (p, s.pid) ∈ E)

def EvWithin (P : List PatEntry) (E : List (Nat × Nat)) : Event → Prop
  | .patApplied _ es => ∀ e ∈ es, e ∈ P
  | .pmtApplied p _ body => ∀ s ∈ streamsOf body, (p, s.pid) ∈ E
  | _ => True

theorem within_init (P : List PatEntry) (E : List (Nat × Nat)) : Within P E initRoute :=
  ⟨fun e he => (by cases he), fun p s hs => (by cases hs)⟩

theorem within_step (P : List PatEntry) (E : List (Nat × Nat)) (r : Route) (ev : Event)
    (h : Within P E r) (he : EvWithin P E ev) : Within P E (stepRoute r ev) := by
  cases ev with
  | patApplied ver es =>
    refine ⟨he, ?_⟩
    intro p s hs
    rw [stepRoute_pat_pmt] at hs
    split at hs
    · cases hs
    · exact h.2 p s hs
  | pmtApplied q ver body =>
    refine ⟨h.1, ?_⟩
    intro p s hs
    rw [stepRoute_pmt_pmt] at hs
    by_cases hp : p = q
    · rw [if_pos hp] at hs
      rw [hp]; exact he s hs
    · rw [if_neg hp] at hs
      exact h.2 p s hs
  | esPacket q => unfold Within; rw [stepRoute_es_patEntries, stepRoute_es_pmt]; exact h
  | repetition q => exact h

theorem within_run (P : List PatEntry) (E : List (Nat × Nat)) : ∀ (evs : List Event) (r : Route),
    Within P E r → (∀ ev ∈ evs, EvWithin P E ev) → Within P E (run r evs) :=
  run_ind (within_step P E)

theorem mem_patEntriesOf : ∀ (evs : List Event) (ver : Nat) (es : List PatEntry),
    Event.patApplied ver es ∈ evs → ∀ e ∈ es, e ∈ patEntriesOf evs := by
  intro evs
  induction evs with
  | nil => intro _ _ h; cases h
  | cons ev evs ih =>
    intro ver es h e he
    rcases List.mem_cons.1 h with h | h
    · subst h
      simp only [patEntriesOf, List.mem_append]
      exact Or.inl he
    · have := ih ver es h e he
      cases ev <;> simp only [patEntriesOf, List.mem_append] <;> first | exact Or.inr this | exact this

theorem mem_esPairsOf : ∀ (evs : List Event) (p ver : Nat) (body : Bytes),
    Event.pmtApplied p ver body ∈ evs → ∀ s ∈ streamsOf body, (p, s.pid) ∈ esPairsOf evs := by
  intro evs
  induction evs with
  | nil => intro _ _ _ h; cases h
  | cons ev evs ih =>
    intro p ver body h s hs
    rcases List.mem_cons.1 h with h | h
    · subst h
      simp only [esPairsOf, List.mem_append]
      exact Or.inl (List.mem_map.2 ⟨s, hs, rfl⟩)
    · have := ih p ver body h s hs
      cases ev <;> simp only [esPairsOf, List.mem_append] <;> first | exact Or.inr this | exact this

theorem evWithin_of_mem (evs : List Event) (ev : Event) (h : ev ∈ evs) :
    EvWithin (patEntriesOf evs) (esPairsOf evs) ev := by
  cases ev with
  | patApplied ver es => exact mem_patEntriesOf evs ver es h
  | pmtApplied p ver body => exact mem_esPairsOf evs p ver body h
  | esPacket q => trivial
  | repetition q => trivial

/-- a route established by `ev` survives `post` if no later table event — in any state that remembers
only what the whole history lists — names the PID -/
theorem routed_after (pre post : List Event) (ev : Event) (q : Nat) (a : Req × Nat)
    (hs : (stepRoute (run initRoute pre) ev).slots q = some a)
    (hpat : ∀ v es, .patApplied v es ∈ post → ∀ r,
      Within (patEntriesOf (pre ++ ev :: post)) (esPairsOf (pre ++ ev :: post)) r →
      Unnamed r q (.patApplied v es))
    (hpmt : ∀ p v b, .pmtApplied p v b ∈ post → ∀ r,
      Within (patEntriesOf (pre ++ ev :: post)) (esPairsOf (pre ++ ev :: post)) r →
      Unnamed r q (.pmtApplied p v b)) :
    (run initRoute (pre ++ ev :: post)).slots q = some a := by
  have hall := evWithin_of_mem (pre ++ ev :: post)
  have hw := within_step _ _ _ ev
    (within_run _ _ pre initRoute (within_init _ _) fun ev' hm => hall ev' (List.mem_append_left _ hm))
    (hall ev (List.mem_append_right _ List.mem_cons_self))
  rw [run_append, run_cons]
  refine (run_ind (P := fun r => r.slots q = some a ∧ Within _ _ r) (Q := (· ∈ post)) ?_ post _ ⟨hs, hw⟩
    fun _ h => h).1
  intro r ev' ⟨hsl, hw⟩ hm
  refine ⟨?_, within_step _ _ r ev' hw (hall ev' (List.mem_append_right _ (List.mem_cons_of_mem _ hm)))⟩
  cases ev' with
  | patApplied v es => rw [slot_kept r q _ (hpat v es hm r hw)]; exact hsl
  | pmtApplied p v b => rw [slot_kept r q _ (hpmt p v b hm r hw)]; exact hsl
  | esPacket q' => rw [slot_kept_es r q q' (by rw [hsl]; exact Option.some_ne_none a)]; exact hsl
  | repetition p => exact hsl

theorem mem_pids_of_lastFor {l : List (Nat × Req)} {q : Nat} {req : Req} (h : lastFor l q = some req) :
    q ∈ l.map (·.1) := List.mem_map.2 ⟨_, lastFor_mem l q req h, rfl⟩

theorem routed_by_latest_pat (pre post : List Event) (ver : Nat) (es : List PatEntry) (q : Nat) (req : Req)
    (hcf : CollisionFree (pre ++ .patApplied ver es :: post))
    (hlast : ∀ ev ∈ post, ∀ v es', ev ≠ .patApplied v es')
    (hq : lastFor (patRequests es) q = some req) :
    ∃ tag, (run initRoute (pre ++ .patApplied ver es :: post)).slots q = some (req, tag) := by
  obtain ⟨-, -, -, hc4, -⟩ := hcf
  have hall := evWithin_of_mem (pre ++ .patApplied ver es :: post)
  -- `q` is the PID of an entry of the history
  obtain ⟨e0, he0, he0q⟩ : ∃ e ∈ patEntriesOf (pre ++ .patApplied ver es :: post), e.pid = q := by
    have := mem_pids_of_lastFor hq
    rw [patRequests_pids] at this
    obtain ⟨e, he, hep⟩ := List.mem_map.1 this
    exact ⟨e, hall _ (List.mem_append_right _ List.mem_cons_self) e he, hep⟩
  obtain ⟨tag, -, hs⟩ := applied_tagged_listed (f := (run initRoute pre).slots) (patRequests es)
    (run initRoute pre).reqs.length ((run initRoute pre).patEntries.map PatEntry.pid) q req hq
  refine ⟨tag, routed_after pre post _ q _ hs (fun v es' hm => absurd rfl (hlast _ hm v es')) ?_⟩
  -- a later PMT names no PID of a PAT entry
  intro p v body hm r hw
  have hev := hall _ (List.mem_append_right _ (List.mem_cons_of_mem _ hm))
  constructor
  · intro hmem
    obtain ⟨s, hs, hsq⟩ := List.mem_map.1 hmem
    exact hc4 _ (hev s hs) e0 he0 (by rw [he0q]; exact hsq)
  · intro hmem
    obtain ⟨s, hs, hsq⟩ := List.mem_map.1 hmem
    exact hc4 _ (hw.2 p s hs) e0 he0 (by rw [he0q]; exact hsq)

theorem routed_by_latest_pmt (pre post : List Event) (p ver : Nat) (body : Bytes) (q : Nat) (req : Req)
    (hcf : CollisionFree (pre ++ .pmtApplied p ver body :: post))
    (hlast : ∀ ev ∈ post, ∀ v b, ev ≠ .pmtApplied p v b)
    (hq : lastFor (pmtReqs p body) q = some req) :
    ∃ tag, (run initRoute (pre ++ .pmtApplied p ver body :: post)).slots q = some (req, tag) := by
  obtain ⟨-, -, -, hc4, hc5⟩ := hcf
  have hall := evWithin_of_mem (pre ++ .pmtApplied p ver body :: post)
  have hqE : (p, q) ∈ esPairsOf (pre ++ .pmtApplied p ver body :: post) := by
    have := mem_pids_of_lastFor hq
    rw [pmtReqs_pids] at this
    obtain ⟨s, hs, hsq⟩ := List.mem_map.1 this
    rw [← hsq]; exact hall _ (List.mem_append_right _ List.mem_cons_self) s hs
  obtain ⟨tag, -, hs⟩ := applied_tagged_listed (f := (run initRoute pre).slots) (pmtReqs p body)
    (run initRoute pre).reqs.length (((run initRoute pre).pmt p).streams.map StreamInfo.pid) q req hq
  refine ⟨tag, routed_after pre post _ q _ hs ?_ ?_⟩
  -- a later PAT names no elementary PID; a later PMT is on another PID and shares none
  · intro v es' hm r hw
    have hev := hall _ (List.mem_append_right _ (List.mem_cons_of_mem _ hm))
    constructor
    · intro hmem
      obtain ⟨e, he, heq⟩ := List.mem_map.1 hmem
      exact hc4 _ hqE e (hev e he) heq.symm
    · intro hmem
      obtain ⟨e, he, heq⟩ := List.mem_map.1 hmem
      exact hc4 _ hqE e (hw.1 e he) heq.symm
  · intro p' v b hm r hw
    have hev := hall _ (List.mem_append_right _ (List.mem_cons_of_mem _ hm))
    have hne : p' ≠ p := fun e => hlast _ hm v b (by rw [e])
    constructor
    · intro hmem
      obtain ⟨s, hs, hsq⟩ := List.mem_map.1 hmem
      exact hne (hc5 _ (hev s hs) _ hqE hsq)
    · intro hmem
      obtain ⟨s, hs, hsq⟩ := List.mem_map.1 hmem
      exact hne (hc5 _ (hw.2 p' s hs) _ hqE hsq)

/-- "no PAT in `post`" / "no PMT on `p` in `post`", the hypotheses of the theorems about the most recent
table, from a Boolean test (closed by `rfl` on a concrete history) -/
theorem no_pat_of (post : List Event)
    (h : post.all (fun ev => match ev with | .patApplied _ _ => false | _ => true) = true) :
    ∀ ev ∈ post, ∀ v es, ev ≠ .patApplied v es := by
  intro ev hm v es e
  subst e
  exact Bool.false_ne_true (List.all_eq_true.1 h _ hm)

theorem no_pmt_of (p : Nat) (post : List Event)
    (h : post.all (fun ev => match ev with | .pmtApplied p' _ _ => p' != p | _ => true) = true) :
    ∀ ev ∈ post, ∀ v b, ev ≠ .pmtApplied p v b := by
  intro ev hm v b e
  subst e
  have := List.all_eq_true.1 h _ hm
  simp at this

theorem pat_drop_step (r : Route) (ver : Nat) (es : List PatEntry) (q : Nat)
    (hq : q ∈ r.patEntries.map PatEntry.pid) (h13 : q ≤ 0x1fff) (hdrop : q ∉ es.map PatEntry.pid) :
    routeOf (stepRoute r (.patApplied ver es)) q = none := by
  unfold routeOf
  rw [stepRoute_pat_slots,
    applied_outdated _ _ _ _ (by rw [tagged_pids, patRequests_pids]; exact hdrop) hq h13]
  rfl

theorem pmt_drop_step (r : Route) (p ver : Nat) (body : Bytes) (q : Nat)
    (hq : q ∈ (r.pmt p).streams.map StreamInfo.pid) (h13 : q ≤ 0x1fff)
    (hdrop : q ∉ (streamsOf body).map StreamInfo.pid) :
    routeOf (stepRoute r (.pmtApplied p ver body)) q = none := by
  unfold routeOf
  rw [stepRoute_pmt_slots,
    applied_outdated _ _ _ _ (by rw [tagged_pids, pmtReqs_pids]; exact hdrop) hq h13]
  rfl

/-- a PMT applied by a FRESH instance (no PMT applied since the last PAT version) un-routes nothing (F7) -/
theorem pmt_fresh_keeps (r : Route) (p ver : Nat) (body : Bytes) (q : Nat)
    (hfresh : (r.pmt p).streams = []) (hdrop : q ∉ (streamsOf body).map StreamInfo.pid) :
    routeOf (stepRoute r (.pmtApplied p ver body)) q = routeOf r q := by
  unfold routeOf
  rw [stepRoute_pmt_slots, applied_untouched _ _ _ _ (by rw [tagged_pids, pmtReqs_pids]; exact hdrop)
    (by rw [hfresh]; simp)]

theorem pmt_inst_kept (r : Route) (p : Nat) (ev : Event)
    (h1 : ∀ v b, ev ≠ .pmtApplied p v b)
    (h2 : ∀ v es, ev = .patApplied v es → p ∉ es.map PatEntry.pid) :
    (stepRoute r ev).pmt p = r.pmt p := by
  cases ev with
  | patApplied ver es =>
    rw [stepRoute_pat_pmt]
    have : p ∉ (tagged r.reqs.length (patRequests es)).map (·.1) := by
      rw [tagged_pids, patRequests_pids]; exact h2 ver es rfl
    rw [(lastFor_none_iff _ p).2 this]
  | pmtApplied p' ver body =>
    rw [stepRoute_pmt_pmt]
    have : p ≠ p' := fun e => h1 ver body (by rw [e])
    rw [if_neg this]
  | esPacket q => rw [stepRoute_es_pmt]
  | repetition q => rfl

theorem pmt_inst_kept_run (p : Nat) : ∀ (evs : List Event) (r : Route),
    (∀ ev ∈ evs, (∀ v b, ev ≠ .pmtApplied p v b) ∧ ∀ v es, ev = .patApplied v es → p ∉ es.map PatEntry.pid) →
    (run r evs).pmt p = r.pmt p := by
  intro evs
  induction evs with
  | nil => intro r _; rfl
  | cons ev evs ih =>
    intro r h
    rw [run_cons, ih _ (fun ev' hm => h ev' (List.mem_cons_of_mem _ hm))]
    exact pmt_inst_kept r p ev (h ev List.mem_cons_self).1 (h ev List.mem_cons_self).2

theorem pat_entries_kept_run : ∀ (evs : List Event) (r : Route),
    (∀ ev ∈ evs, ∀ v es, ev ≠ .patApplied v es) → (run r evs).patEntries = r.patEntries := by
  intro evs
  induction evs with
  | nil => intro r _; rfl
  | cons ev evs ih =>
    intro r h
    rw [run_cons, ih _ (fun ev' hm => h ev' (List.mem_cons_of_mem _ hm))]
    cases ev with
    | patApplied v es => exact absurd rfl (h _ List.mem_cons_self v es)
    | pmtApplied p v b => rfl
    | esPacket q => exact stepRoute_es_patEntries r q
    | repetition q => rfl

theorem dropped_by_next_pat (r : Route) (mid : List Event) (v1 v2 : Nat) (es1 es2 : List PatEntry) (q : Nat)
    (hmid : ∀ ev ∈ mid, ∀ v es, ev ≠ .patApplied v es)
    (hq : q ∈ es1.map PatEntry.pid) (h13 : q ≤ 0x1fff) (hdrop : q ∉ es2.map PatEntry.pid) :
    routeOf (run r (.patApplied v1 es1 :: mid ++ [.patApplied v2 es2])) q = none := by
  rw [run_append, run_cons _ _ [], show ∀ r' : Route, run r' [] = r' from fun _ => rfl]
  apply pat_drop_step _ _ _ _ _ h13 hdrop
  rw [run_cons, pat_entries_kept_run mid _ hmid]
  exact hq

/-- PMT: a PID listed by one version and dropped by the next version applied on the same
program-map PID `p` is un-routed PROVIDED no PAT version listing `p` was applied in between
(the exact extra hypothesis: the same handler instance applies both versions) -/
theorem dropped_by_same_pmt_instance (r : Route) (mid : List Event) (p v1 v2 : Nat) (b1 b2 : Bytes) (q : Nat)
    (hmid : ∀ ev ∈ mid, (∀ v b, ev ≠ .pmtApplied p v b) ∧
      ∀ v es, ev = .patApplied v es → p ∉ es.map PatEntry.pid)
    (hq : q ∈ (streamsOf b1).map StreamInfo.pid) (h13 : q ≤ 0x1fff)
    (hdrop : q ∉ (streamsOf b2).map StreamInfo.pid) :
    routeOf (run r (.pmtApplied p v1 b1 :: mid ++ [.pmtApplied p v2 b2])) q = none := by
  rw [run_append, run_cons _ _ [], show ∀ r' : Route, run r' [] = r' from fun _ => rfl]
  apply pmt_drop_step _ _ _ _ _ _ h13 hdrop
  rw [run_cons, pmt_inst_kept_run p mid _ hmid, stepRoute_pmt_pmt, if_pos rfl]
  exact hq

end Ts.Lemmas.C05H
