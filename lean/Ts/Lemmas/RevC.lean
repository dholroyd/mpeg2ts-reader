import Ts.Basic
import Ts.Spec.Bits
import Ts.Spec.AfSpec
import Ts.Spec.PesSpec
import Ts.Spec.TableSpec
import Ts.Lemmas.BitOps
import Ts.Lemmas.C13
import Ts.Lemmas.C14c
import Ts.Lemmas.C15
import Ts.Lemmas.C17
/-!
# Helper lemmas shared by C12, C13, C14, C16, C17

`okVal` / `ok_of_okVal` turn a kernel evaluation of the model on concrete bytes (an `Option` equality)
into an `R.ok` equation.  C13: the closed-form cursor positions of `Ts.Spec.AfSpec` equal the
sequential parser's cursors.  C14: trick-mode / ESCR / ES_rate mask facts.  C17:
`CoreDescriptors::from_bytes` on an arbitrary buffer.
-/
namespace Ts.Lemmas.RevC
open Ts Ts.Spec

/-! ### evaluating the model in the kernel -/

def okVal {α : Type} : R α → Option α
  | .ok a => some a
  | .panic _ => none

theorem ok_of_okVal {α : Type} {x : R α} {v : α} (h : okVal x = some v) : x = .ok v := by
  cases x with
  | ok a => simp [okVal] at h; rw [h]
  | panic s => simp [okVal] at h

/-! ### C13: closed-form positions = the sequential parser's cursors -/
section C13
open Ts.Spec.AfSpec Ts.Lemmas.C13

theorem byteD_ge (b : Bytes) (i : Nat) (h : b.length ≤ i) : byteD b i = 0 := by
  unfold byteD
  rw [List.getD_eq_getElem?_getD, List.getElem?_eq_none h]; rfl

theorem cur1_pos (buf : Bytes) : cur1 buf = posOpcr buf := by
  unfold cur1 posOpcr optElem
  by_cases h : readBits buf 3 1 = 1 <;> simp [h]

theorem cur2_pos (buf : Bytes) : cur2 buf = posSplice buf := by
  unfold cur2 posSplice optElem
  rw [cur1_pos]
  by_cases h : readBits buf 4 1 = 1 <;> simp [h]

theorem cur3_pos (buf : Bytes) : cur3 buf = posPriv buf := by
  unfold cur3 posPriv optElem
  rw [cur2_pos]
  by_cases h : readBits buf 5 1 = 1 <;> simp [h]

theorem cur4_pos (buf : Bytes) : cur4 buf = posExt buf := by
  unfold cur4 posExt optLenPrefixed
  rw [cur3_pos, readBits_byte]
  by_cases h : readBits buf 6 1 = 1
  · simp only [h, beq_self_eq_true, if_true]
    by_cases hl : posPriv buf + 1 ≤ buf.length
    · rw [lenPrefixed_ok _ _ hl]; omega
    · rw [lenPrefixed_short _ _ hl, byteD_ge buf _ (by omega)]
  · simp [h]

theorem ecur1_pos (e : Bytes) : ecur1 e = posPiecewise e := by
  unfold ecur1 posPiecewise optElem
  by_cases h : readBits e 0 1 = 1 <;> simp [h]

theorem ecur2_pos (e : Bytes) : ecur2 e = posSeamless e := by
  unfold ecur2 posSeamless optElem
  rw [ecur1_pos]
  by_cases h : readBits e 1 1 = 1 <;> simp [h]

/-- the signed conversion of an unsigned byte is the standard's `tcimsbf` reading of that byte -/
theorem spliceSigned_eq_readSigned (d : Bytes) (off : Nat) :
    spliceSigned (readBits d off 8) = readSigned d off 8 := by
  unfold spliceSigned readSigned
  have e : readBits d off 8 = readBits d off 1 * 2 ^ 7 + readBits d (off + 1) 7 := readBits_add d off 1 7
  have h1 := readBits_lt d off 1
  have h2 := readBits_lt d (off + 1) 7
  rw [e]
  simp only [Nat.reduceSub, Nat.reducePow] at *
  by_cases hb : readBits d off 1 = 0
  · rw [hb]; simp; omega
  · have : readBits d off 1 = 1 := by omega
    rw [this]
    have : ¬ (1 * 128 + readBits d (off + 1) 7 < 128) := by omega
    simp only [this, if_false]
    omega

end C13

/-! ### C14: trick mode, ESCR / ES_rate masks -/
section C14
open Ts.Spec.PesSpec Ts.Lemmas.C14

theorem trickPos_eq (F : Flags) : trickPos F = curTrick F := by
  obtain ⟨pd, e, r, t, a, k, x⟩ := F
  unfold trickPos curTrick curEsRate curEscr adv
  cases e <;> cases r <;> (match pd with | 0 | 1 | 2 | 3 | _ + 4 => rfl)

theorem trickAt_reserved (c : Bytes) (p : Nat) (h : 5 ≤ readBits c (8 * p) 3) :
    trickAt c p = .reserved (readBits c (8 * p) 3) := by
  unfold trickAt
  generalize readBits c (8 * p) 3 = k at h
  match k with
  | 0 | 1 | 2 | 3 | 4 => omega
  | _ + 5 => rfl

theorem trickAt_exposed (c : Bytes) (p : Nat) : trickAt c p = (trickStdAt c p).exposed := by
  unfold trickAt trickStdAt
  generalize readBits c (8 * p) 3 = k
  match k with
  | 0 | 1 | 2 | 3 | 4 | _ + 5 => rfl

/-- on every byte whose control code is reserved, the code's decode is `Reserved { control }` -/
theorem tbl_trick_reserved : ∀ b : Fin 256, 5 ≤ b.val / 32 →
    okVal (Pes.trickOfByte b.val) = some (.reserved (b.val / 32)) := by decide +kernel

/-- or-ing in bits outside the mask `k` does not change what `&&& k` reads -/
theorem or_and_disjoint (a m k : Nat) (h : m &&& k = 0) : (a ||| m) &&& k = a &&& k := by
  rw [Nat.and_or_distrib_right, h, Nat.or_zero]

/-- ESCR: setting the four marker bits (byte 0 mask 0x04, byte 2 mask 0x04, byte 4 mask 0x04,
byte 5 mask 0x01) does not change what the code computes -/
theorem escr_markers_masked (s0 s1 s2 s3 s4 s5 : Nat) (_h0 : s0 < 256) (_h2 : s2 < 256) (_h4 : s4 < 256)
    (_h5 : s5 < 256) :
    Pes.escrBase (s0 ||| 4) s1 (s2 ||| 4) s3 (s4 ||| 4) = Pes.escrBase s0 s1 s2 s3 s4 ∧
    Pes.escrExt (s4 ||| 4) (s5 ||| 1) = Pes.escrExt s4 s5 := by
  unfold Pes.escrBase Pes.escrExt
  simp only [or_and_disjoint _ 4 0b0011_1000 rfl, or_and_disjoint _ 4 0b0000_0011 rfl,
    or_and_disjoint _ 4 0b1111_1000 rfl, or_and_disjoint _ 1 0b1111_1110 rfl, and_self]

/-- ES_rate: setting the two marker bits (byte 0 mask 0x80, byte 2 mask 0x01) does not change the
value -/
theorem esRate_markers_masked (s0 s1 s2 : Nat) (_h0 : s0 < 256) (_h2 : s2 < 256) :
    Pes.esRateVal (s0 ||| 0x80) s1 (s2 ||| 1) = Pes.esRateVal s0 s1 s2 := by
  unfold Pes.esRateVal
  rw [or_and_disjoint _ 0x80 0b0111_1111 rfl, or_and_disjoint _ 1 0b1111_1110 rfl]

end C14

/-! ### C17: `CoreDescriptors::from_bytes` on an arbitrary buffer -/
section C17
open Ts.Tables Ts.Spec.TableSpec Ts.Lemmas.C17

theorem coreFromBytes_eq (buf : Bytes) :
    coreFromBytes buf = .ok (
      if buf.length < 2 then .err .bufferTooShort
      else if buf.length < 2 + byteD buf 1 then .err .tagTooLongForBuffer
      else classify (byteD buf 0, (buf.drop 2).take (byteD buf 1))) := by
  unfold coreFromBytes
  by_cases h2 : buf.length < 2
  · simp [h2]
  · rw [if_neg h2, if_neg h2, byteAt_ok buf 0 (by omega), byteAt_ok buf 1 (by omega)]
    simp only [R.ok_bind]
    by_cases h3 : buf.length < 2 + byteD buf 1
    · have : byteD buf 1 + 2 > buf.length := by omega
      simp [h3, this]
    · have : ¬ (byteD buf 1 + 2 > buf.length) := by omega
      rw [if_neg this, if_neg h3, Nat.add_comm, sliceR_ok buf 2 _ (by omega)]
      simp only [R.ok_bind, typedNew_eq, classify]
      generalize (buf.drop 2).take (byteD buf 1) = pl
      by_cases hm : pl.length < typedMinLength (byteD buf 0) <;> simp [hm]

end C17

end Ts.Lemmas.RevC
