import Ts.Model.Time
import Ts.Spec.Bits
import Ts.Spec.TimeSpec
import Ts.Lemmas.BitOps
import Ts.Lemmas.C15
import Ts.Gen.Consts
/-!
# C15 — timestamps and clock references: range, refusal, layout round trip, 27 MHz value, wrap

`Timestamp` (`pes.rs:877-955`) and `ClockRef` (`packet.rs:86-139`).  The model decodes with the
code's byte masks and shifts; the statements below are in terms of the `uimsbf` fields of
ISO/IEC 13818-1 2.4.3.7 / 2.4.3.5 (`readBits`) and of the independent encoder
`Ts.Spec.TimeSpec.encodeTs`.  Every `= R.ok …` carries panic freedom.
-/
namespace Ts.Props.C15
open Ts Ts.Spec Ts.Spec.TimeSpec

/-! ### ties to the constants regenerated from `/repo/src/pes.rs` and `/repo/src/packet.rs`

The first four only fix a regenerated number (the `*_gen` theorems below rewrite with them).  The
regenerated constants enter the model's own equations in `tie_model_max_gen`, `ts_range_gen`,
`fromU64_refuses_iff_gen`, `crefFromSlice_range`, `crefFromParts_refuses_iff_gen` below, and in
`Ts.Props.Ties.tie_cref_from_parts`, `tie_ts_max_wrap`, `tie_from_u64_accepts_to_max`. -/
theorem tie_ts_from_u64_bound : Ts.Gen.tsFromU64Bound = 2^33 := by decide
theorem tie_ts_max : Ts.Gen.tsMax = 2^33 - 1 := by decide
theorem tie_cref_base_bound : Ts.Gen.crefBaseBound = 2^33 := by decide
theorem tie_cref_ext_bound : Ts.Gen.crefExtBound = 2^9 := by decide
theorem tie_model_max : Time.MAX = 2^33 - 1 := by decide
theorem tie_model_max_gen : Time.MAX = Ts.Gen.tsMax := by decide

/-! ### `Timestamp::from_bytes` -/

/-- On any buffer of at least 5 bytes `from_bytes` does not panic; it reports the *first* cleared
marker bit in the order 7, 23, 39, and otherwise yields the value of the three `uimsbf` fields
TS[32..30] (3 bits at bit 4), TS[29..15] (15 bits at bit 8), TS[14..0] (15 bits at bit 24). -/
theorem fromBytes_exact (buf : Bytes) (h : 5 ≤ buf.length) :
    Time.fromBytes buf = .ok (
      if readBits buf 7 1 = 0 then .error (.markerBitNotSet 7)
      else if readBits buf 23 1 = 0 then .error (.markerBitNotSet 23)
      else if readBits buf 39 1 = 0 then .error (.markerBitNotSet 39)
      else .ok (readBits buf 4 3 * 2^30 + readBits buf 8 15 * 2^15 + readBits buf 24 15)) :=
  Ts.Lemmas.C15.fromBytes_exact buf h

/-- the same statement through the named field positions of `Ts.Spec.TimeSpec` -/
theorem fromBytes_exact_spec (buf : Bytes) (h : 5 ≤ buf.length) :
    Time.fromBytes buf = .ok (
      if tsMarker buf 7 = 0 then .error (.markerBitNotSet 7)
      else if tsMarker buf 23 = 0 then .error (.markerBitNotSet 23)
      else if tsMarker buf 39 = 0 then .error (.markerBitNotSet 39)
      else .ok (tsValue buf)) :=
  Ts.Lemmas.C15.fromBytes_exact buf h

/-- Every timestamp obtainable from the parsing constructors (any buffer, any length) and from
`from_u64` lies in `0 ..= 2^33 - 1`. -/
theorem ts_range :
    (∀ (buf : Bytes) (v : Nat), Time.fromBytes buf = .ok (.ok v) → v < 2^33) ∧
    (∀ (buf : Bytes) (v : Nat), Time.fromPtsBytes buf = .ok (.ok v) → v < 2^33) ∧
    (∀ (buf : Bytes) (v : Nat), Time.fromDtsBytes buf = .ok (.ok v) → v < 2^33) ∧
    (∀ (v w : Nat), Time.fromU64 (2^33) v = .ok w → w < 2^33) := by
  refine ⟨?_, ?_, ?_, ?_⟩
  · exact Ts.Lemmas.C15.fromBytes_range
  · intro buf v h
    exact Ts.Lemmas.C15.fromBytes_range buf v (Ts.Lemmas.C15.fromPts_ok_imp buf v h)
  · intro buf v h
    exact Ts.Lemmas.C15.fromBytes_range buf v (Ts.Lemmas.C15.fromDts_ok_imp buf v h)
  · intro v w h
    unfold Time.fromU64 assertR at h
    by_cases c : v < 2^33
    · simp only [c, decide_true, if_true, R.ok_bind, R.pure_eq] at h
      injection h with h
      omega
    · simp only [c, decide_false, Bool.false_eq_true, if_false, R.panic_bind] at h
      cases h

theorem ts_range_gen :
    (∀ (buf : Bytes) (v : Nat), Time.fromBytes buf = .ok (.ok v) → v ≤ Ts.Gen.tsMax) ∧
    (∀ (buf : Bytes) (v : Nat), Time.fromPtsBytes buf = .ok (.ok v) → v ≤ Ts.Gen.tsMax) ∧
    (∀ (buf : Bytes) (v : Nat), Time.fromDtsBytes buf = .ok (.ok v) → v ≤ Ts.Gen.tsMax) ∧
    (∀ (v w : Nat), Time.fromU64 Ts.Gen.tsFromU64Bound v = .ok w → w ≤ Ts.Gen.tsMax) := by
  rw [tie_ts_max, tie_ts_from_u64_bound]
  obtain ⟨h1, h2, h3, h4⟩ := ts_range
  refine ⟨?_, ?_, ?_, ?_⟩
  · intro buf v h; have := h1 buf v h; omega
  · intro buf v h; have := h2 buf v h; omega
  · intro buf v h; have := h3 buf v h; omega
  · intro v w h; have := h4 v w h; omega

/-- `from_u64` refuses (panics on) exactly the integers `≥ 2^33`, and returns its argument
otherwise. -/
theorem fromU64_refuses_iff (v : Nat) :
    ((Time.fromU64 (2^33) v).isOk = true ↔ v < 2^33) ∧
    (v < 2^33 → Time.fromU64 (2^33) v = .ok v) := by
  by_cases c : v < 2^33
  · have e : Time.fromU64 (2^33) v = .ok v := by
      unfold Time.fromU64 assertR
      simp only [c, decide_true, if_true, R.ok_bind, R.pure_eq]
    rw [e]
    exact ⟨⟨fun _ => c, fun _ => rfl⟩, fun _ => rfl⟩
  · have e : Time.fromU64 (2^33) v = .panic "assert!(val < 1 << 33)" := by
      unfold Time.fromU64 assertR
      simp only [c, decide_false, Bool.false_eq_true, if_false, R.panic_bind]
    rw [e]
    exact ⟨⟨fun h => (by cases h), fun h => absurd h c⟩, fun h => absurd h c⟩

theorem fromU64_refuses_iff_gen (v : Nat) :
    (Time.fromU64 Ts.Gen.tsFromU64Bound v).isOk = true ↔ v < 2^33 := by
  rw [tie_ts_from_u64_bound]
  exact (fromU64_refuses_iff v).1

/-- `from_pts_bytes` / `from_dts_bytes`: an `IncorrectPrefix` error carrying the 4-bit prefix field
exactly when that field differs from `'0010'` / `'0001'`, otherwise the result of `from_bytes`. -/
theorem prefix_exact (buf : Bytes) (h : 5 ≤ buf.length) :
    Time.fromPtsBytes buf =
      (if readBits buf 0 4 = 2 then Time.fromBytes buf
       else .ok (.error (.incorrectPrefix 2 (readBits buf 0 4)))) ∧
    Time.fromDtsBytes buf =
      (if readBits buf 0 4 = 1 then Time.fromBytes buf
       else .ok (.error (.incorrectPrefix 1 (readBits buf 0 4)))) :=
  ⟨Ts.Lemmas.C15.fromPts_unfold buf (by omega), Ts.Lemmas.C15.fromDts_unfold buf (by omega)⟩

/-- the prefix error occurs exactly when the prefix field is wrong (`from_bytes` never produces it) -/
theorem prefix_error_iff (buf : Bytes) (h : 5 ≤ buf.length) :
    (Time.fromPtsBytes buf = .ok (.error (.incorrectPrefix 2 (readBits buf 0 4))) ↔ readBits buf 0 4 ≠ 2) ∧
    (Time.fromDtsBytes buf = .ok (.error (.incorrectPrefix 1 (readBits buf 0 4))) ↔ readBits buf 0 4 ≠ 1) := by
  obtain ⟨hp, hd⟩ := prefix_exact buf h
  rw [hp, hd]
  constructor
  · by_cases c : readBits buf 0 4 = 2
    · simp only [c, if_true, ne_eq, not_true_eq_false, iff_false]
      exact Ts.Lemmas.C15.fromBytes_ne_prefix buf h 2 2
    · simp only [c, if_false, ne_eq, not_false_eq_true]
  · by_cases c : readBits buf 0 4 = 1
    · simp only [c, if_true, ne_eq, not_true_eq_false, iff_false]
      exact Ts.Lemmas.C15.fromBytes_ne_prefix buf h 1 1
    · simp only [c, if_false, ne_eq, not_false_eq_true]

/-- Encoding any 33-bit value in the PTS/DTS layout (any 4-bit prefix) and decoding it yields that
value; trailing bytes do not matter; `'0010'` passes `from_pts_bytes`, `'0001'` passes
`from_dts_bytes`. -/
theorem ts_roundtrip (v : Nat) (hv : v < 2^33) :
    (∀ pfx, pfx < 16 → Time.fromBytes (encodeTs pfx v) = .ok (.ok v)) ∧
    (∀ pfx rest, pfx < 16 → Time.fromBytes (encodeTs pfx v ++ rest) = .ok (.ok v)) ∧
    Time.fromPtsBytes (encodeTs 2 v) = .ok (.ok v) ∧
    Time.fromDtsBytes (encodeTs 1 v) = .ok (.ok v) ∧
    (∀ rest, Time.fromPtsBytes (encodeTs 2 v ++ rest) = .ok (.ok v)) ∧
    (∀ rest, Time.fromDtsBytes (encodeTs 1 v ++ rest) = .ok (.ok v)) := by
  have hb : ∀ pfx rest, pfx < 16 → Time.fromBytes (encodeTs pfx v ++ rest) = .ok (.ok v) :=
    fun pfx rest hp => Ts.Lemmas.C15.fromBytes_encode pfx v rest hp hv
  have hpts := fun rest => Ts.Lemmas.C15.fromPts_encode v rest hv
  have hdts := fun rest => Ts.Lemmas.C15.fromDts_encode v rest hv
  refine ⟨?_, hb, ?_, ?_, hpts, hdts⟩
  · intro pfx hp
    have := hb pfx [] hp
    rwa [List.append_nil] at this
  · have := hpts []
    rwa [List.append_nil] at this
  · have := hdts []
    rwa [List.append_nil] at this

/-- the encoder really produces the layout: 5 bytes, the three markers set, the prefix in place -/
theorem encodeTs_layout (pfx v : Nat) (hp : pfx < 16) (hv : v < 2^33) :
    (encodeTs pfx v).length = 5 ∧ tsMarker (encodeTs pfx v) 7 = 1 ∧ tsMarker (encodeTs pfx v) 23 = 1 ∧
    tsMarker (encodeTs pfx v) 39 = 1 ∧ tsPrefix (encodeTs pfx v) = pfx ∧ tsValue (encodeTs pfx v) = v := by
  have := Ts.Lemmas.C15.encodeTs_fields pfx v [] hp hv
  rw [List.append_nil] at this
  exact ⟨rfl, this⟩

/-! ### `ClockRef` -/

/-- `ClockRef::from_slice` on at least 6 bytes: the PCR layout of 2.4.3.5 (33-bit base, 6 reserved
bits, 9-bit extension); hence `base < 2^33` and `extension < 2^9`. -/
theorem crefFromSlice_exact (d : Bytes) (h : 6 ≤ d.length) :
    Time.crefFromSlice d = .ok ⟨readBits d 0 33, readBits d 39 9⟩ ∧
    readBits d 0 33 < 2^33 ∧ readBits d 39 9 < 2^9 :=
  ⟨Ts.Lemmas.C15.crefFromSlice_ok d h, readBits_lt d 0 33, readBits_lt d 39 9⟩

/-- every clock reference `from_slice` can return (any buffer) is in range -/
theorem crefFromSlice_range (d : Bytes) (c : Time.ClockRef) (h : Time.crefFromSlice d = .ok c) :
    c.base < Ts.Gen.crefBaseBound ∧ c.ext < Ts.Gen.crefExtBound := by
  rw [tie_cref_base_bound, tie_cref_ext_bound]
  by_cases hl : 6 ≤ d.length
  · rw [Ts.Lemmas.C15.crefFromSlice_ok d hl] at h
    injection h with h
    subst h
    exact ⟨readBits_lt d 0 33, readBits_lt d 39 9⟩
  · -- too short: the read of byte 5 panics
    exfalso
    unfold Time.crefFromSlice at h
    obtain ⟨_, _, h⟩ := R.bind_eq_ok h
    obtain ⟨_, _, h⟩ := R.bind_eq_ok h
    obtain ⟨_, _, h⟩ := R.bind_eq_ok h
    obtain ⟨_, _, h⟩ := R.bind_eq_ok h
    obtain ⟨_, _, h⟩ := R.bind_eq_ok h
    obtain ⟨_, _, h⟩ := R.bind_eq_ok h
    obtain ⟨_, h5, _⟩ := R.bind_eq_ok h
    rw [Ts.Lemmas.C15.byteAt_short d 5 (by omega)] at h5
    cases h5

/-- `ClockRef::from_parts` refuses exactly the out-of-range pairs and otherwise stores its
arguments. -/
theorem crefFromParts_refuses_iff (b e : Nat) :
    ((Time.crefFromParts b e).isOk = true ↔ b < 2^33 ∧ e < 2^9) ∧
    (b < 2^33 ∧ e < 2^9 → Time.crefFromParts b e = .ok ⟨b, e⟩) := by
  have e33 : (1 <<< 33 : Nat) = 2^33 := by decide
  have e9 : (1 <<< 9 : Nat) = 2^9 := by decide
  by_cases cb : b < 2^33
  · by_cases ce : e < 2^9
    · rw [Ts.Lemmas.C15.crefFromParts_ok b e cb ce]
      exact ⟨⟨fun _ => ⟨cb, ce⟩, fun _ => rfl⟩, fun _ => rfl⟩
    · have r : Time.crefFromParts b e = .panic "assert!(extension < (1 << 9))" := by
        unfold Time.crefFromParts assertR
        rw [e33, e9]
        simp only [cb, ce, decide_true, decide_false, Bool.false_eq_true, if_true, if_false,
          R.ok_bind, R.panic_bind]
      rw [r]
      exact ⟨⟨fun h => (by cases h), fun h => absurd h.2 ce⟩, fun h => absurd h.2 ce⟩
  · have r : Time.crefFromParts b e = .panic "assert!(base < (1 << 33))" := by
      unfold Time.crefFromParts assertR
      rw [e33]
      simp only [cb, decide_false, Bool.false_eq_true, if_false, R.panic_bind]
    rw [r]
    exact ⟨⟨fun h => (by cases h), fun h => absurd h.1 cb⟩, fun h => absurd h.1 cb⟩

theorem crefFromParts_refuses_iff_gen (b e : Nat) :
    (Time.crefFromParts b e).isOk = true ↔ b < Ts.Gen.crefBaseBound ∧ e < Ts.Gen.crefExtBound := by
  rw [tie_cref_base_bound, tie_cref_ext_bound]
  exact (crefFromParts_refuses_iff b e).1

/-- the 27 MHz value of an in-range clock reference is `base * 300 + extension`; the `u64`
arithmetic cannot overflow -/
theorem cref_27mhz (c : Time.ClockRef) (hb : c.base < 2^33) (he : c.ext < 2^9) :
    Time.crefTo27MHz c = .ok (c.base * 300 + c.ext) := by
  unfold Time.crefTo27MHz assertR
  have : c.base * 300 + c.ext < 2^64 := by omega
  simp only [this, decide_true, if_true, R.ok_bind, R.pure_eq]

/-! ### wrap detection -/

/-- For an earlier timestamp `e` and a later one `d ≤ 2^32` ticks (half the range) ahead, taken
modulo `2^33`: `likely_wrapped_since` answers true exactly when the later value has numerically
wrapped. -/
theorem wrapped_iff (e d : Nat) (he : e < 2^33) (hd : d ≤ 2^32) :
    Time.likelyWrappedSince ((e + d) % 2^33) e = true ↔ e + d ≥ 2^33 := by
  unfold Time.likelyWrappedSince
  rw [tie_model_max]
  simp only [Bool.and_eq_true, decide_eq_true_eq]
  omega

/-! ### non-vacuity -/

-- a 33-bit value and prefixes satisfying the hypotheses of `ts_roundtrip`; the encoder's bytes
example : (0x1FFFFFFFF : Nat) < 2^33 ∧ (2 : Nat) < 16 := by decide
example : encodeTs 2 0x1FFFFFFFF = [0x2F, 0xFF, 0xFF, 0xFF, 0xFF] := by decide
example : encodeTs 1 0 = [0x11, 0x00, 0x01, 0x00, 0x01] := by decide
example : encodeTs 3 0x123456789 = [0x39, 0x8D, 0x15, 0xCF, 0x13] := by decide
example : Time.fromPtsBytes (encodeTs 2 0x1FFFFFFFF) = .ok (.ok 0x1FFFFFFFF) := (ts_roundtrip _ (by decide)).2.2.1
-- `fromBytes_exact` / `prefix_exact`: buffers of length ≥ 5 with a cleared marker / a wrong prefix
example : 5 ≤ ([0x21, 0x00, 0x00, 0x00, 0x01] : Bytes).length ∧
    readBits [0x21, 0x00, 0x00, 0x00, 0x01] 7 1 = 1 ∧ readBits [0x21, 0x00, 0x00, 0x00, 0x01] 23 1 = 0 := by decide
example : Time.fromBytes [0x21, 0x00, 0x00, 0x00, 0x01] = .ok (.error (.markerBitNotSet 23)) := by rfl
example : Time.fromBytes [0x20, 0x00, 0x00, 0x00, 0x00] = .ok (.error (.markerBitNotSet 7)) := by rfl
example : Time.fromBytes [0x21, 0x00, 0x01, 0x00, 0x00] = .ok (.error (.markerBitNotSet 39)) := by rfl
example : Time.fromPtsBytes [0x31, 0x00, 0x01, 0x00, 0x01] = .ok (.error (.incorrectPrefix 2 3)) := by rfl
example : Time.fromDtsBytes [0x31, 0x00, 0x01, 0x00, 0x01] = .ok (.error (.incorrectPrefix 1 3)) := by rfl
-- refusal really happens, and acceptance really happens
example : (Time.fromU64 (2^33) (2^33)).isOk = false ∧ (Time.fromU64 (2^33) (2^33 - 1)).isOk = true := by decide
example : (Time.crefFromParts (2^33) 0).isOk = false ∧ (Time.crefFromParts 0 (2^9)).isOk = false ∧
    (Time.crefFromParts (2^33 - 1) (2^9 - 1)).isOk = true := by decide
-- `crefFromSlice_exact`: a 6-byte PCR with all base and extension bits set, reserved bits clear
example : Time.crefFromSlice [0xFF, 0xFF, 0xFF, 0xFF, 0x81, 0xFF] = .ok ⟨2^33 - 1, 2^9 - 1⟩ := by rfl
-- `cref_27mhz`: the largest in-range clock reference
example : Time.crefTo27MHz ⟨2^33 - 1, 2^9 - 1⟩ = .ok ((2^33 - 1) * 300 + 511) := by rfl
-- `wrapped_iff`: both sides of the equivalence occur within the hypotheses
example : Time.likelyWrappedSince ((8589934000 + 1000) % 2^33) 8589934000 = true := by decide
example : Time.likelyWrappedSince ((1000 + 2^32) % 2^33) 1000 = false := by decide
example : Time.likelyWrappedSince ((2^33 - 1 + 2^32) % 2^33) (2^33 - 1) = true := by decide

end Ts.Props.C15
