import Ts.Lemmas.C05Hb
/-!
# C05 over whole histories — the simulation

One event of a history = the table change of its packets (`sim_step_I`), with elementary-stream packets
allowed between the packets of one table because table handlers do not look at the trace (`CtxEq`,
`pushSpec_interleaved`); one table event is proved once (`sim_table_I`).  The contiguous case (`Realises`)
is the instance at `interleaves_self` / `realisesI_of_realises`.
-/
namespace Ts.Lemmas.C05H
open Ts Ts.Tables Ts.App Ts.Demux Ts.Spec Ts.Spec.TableSpec Ts.Spec.Routing Ts.Spec.RoutingHistory
open Ts.Spec.SectionMux Ts.Lemmas.C03 Ts.Lemmas.C10 Ts.Lemmas.C05 Ts.Lemmas.C05Run

theorem step_occupied (t : Tab Handler) (c : Ctx) (pk : Pk) (h h' : Handler) (c' : Ctx)
    (hg : t.get pk.pid = some h) (hf : pk.flagged = false)
    (hc : App.consume h c pk = .ok (h', c', [])) :
    specStep App.sem (t, c) pk = .ok (t.insert pk.pid h', c') :=
  specStep_of_consume App.sem hg hf hc

theorem step_flagged (t : Tab Handler) (c : Ctx) (pk : Pk) (h : Handler)
    (hg : t.get pk.pid = some h) (hf : pk.flagged = true) :
    specStep App.sem (t, c) pk = .ok (t, c) :=
  specStep_flagged_of_contains App.sem t c pk (contains_of_get t pk.pid h hg) hf

theorem tableRouted_false (r : Route) (p : Nat) (h : tableRouted r p = false) :
    r.slots p = none ∨ ∃ req tag, r.slots p = some (req, tag) ∧ req ≠ .byPid 0 ∧ ∀ a b, req ≠ .pmt a b := by
  unfold tableRouted at h
  split at h
  · cases h
  · cases h
  · rename_i h1 h2
    cases hs : r.slots p with
    | none => exact Or.inl rfl
    | some x =>
      obtain ⟨req, tag⟩ := x
      refine Or.inr ⟨req, tag, rfl, ?_, ?_⟩
      · intro e; subst e; exact h1 tag hs
      · intro a b e; subst e; exact h2 a b tag hs

theorem tableRouted_true (r : Route) (p : Nat) (h : tableRouted r p = true) :
    (∃ tag, r.slots p = some (.byPid 0, tag)) ∨ ∃ a b tag, r.slots p = some (.pmt a b, tag) := by
  unfold tableRouted at h
  split at h
  · rename_i tag hs; exact Or.inl ⟨tag, hs⟩
  · rename_i a b tag hs; exact Or.inr ⟨a, b, tag, hs⟩
  · cases h

theorem slotRel_nontable (r : Route) (p : Nat) (req : Req) (tag : Nat) (o : Option Handler)
    (h0 : req ≠ .byPid 0) (hp : ∀ a b, req ≠ .pmt a b) (h : SlotRel r p (some (req, tag)) o) :
    o = some (.recorder tag) ∨
      ∃ f, o = some (.pes tag f) ∧ ∀ f', SlotRel r p (some (req, tag)) (some (.pes tag f')) := by
  rcases req with (_ | n) | ⟨a, b⟩ | x | ⟨pp, st, q, pcr, d1, d2⟩
  · exact absurd rfl h0
  · exact Or.inl h
  · exact absurd rfl (hp a b)
  · exact Or.inl h
  · simp only [SlotRel] at h ⊢
    by_cases hpes : isPes st = true
    · rw [if_pos hpes] at h
      obtain ⟨f, hf⟩ := h
      exact Or.inr ⟨f, hf, fun f' => by rw [if_pos hpes]; exact ⟨f', rfl⟩⟩
    · rw [if_neg hpes] at h
      exact Or.inl h

/-- a packet on an occupied slot whose handler, if the packet is not flagged, consumes it without
queuing a change or making a request and still satisfies the relation of its slot -/
theorem sim_consumed (r : Route) (t : Tab Handler) (c : Ctx) (pk : Pk) (h : Handler) (hsim : Sim r t c)
    (hg : t.get pk.pid = some h)
    (hc : pk.flagged = false → ∃ h' c', App.consume h c pk = .ok (h', c', []) ∧ c'.cfg = c.cfg ∧
      c'.nextTag = c.nextTag ∧ constructs c' = constructs c ∧
      SlotRel r pk.pid (r.slots pk.pid) (some h')) :
    ∃ t' c', specStep App.sem (t, c) pk = .ok (t', c') ∧ Sim r t' c' := by
  cases hf : pk.flagged with
  | true => exact ⟨t, c, step_flagged t c pk _ hg hf, hsim⟩
  | false =>
    obtain ⟨h', c', hc, h1, h2, h3, hrel⟩ := hc hf
    refine ⟨_, _, step_occupied t c pk _ _ _ hg hf hc, ?_⟩
    refine sim_update r t _ c c' pk.pid hsim h1 h2 h3 ?_ (fun q hq => Tab.get_insert_ne _ _ _ _ hq)
    rw [Tab.get_insert_self]; exact hrel

theorem es_occupied (r : Route) (t : Tab Handler) (c : Ctx) (pk : Pk) (req : Req) (tag : Nat)
    (hsim : Sim r t c) (hl : pk.bytes.length = 188) (hs : r.slots pk.pid = some (req, tag))
    (h0 : req ≠ .byPid 0) (hp : ∀ a b, req ≠ .pmt a b) :
    ∃ t' c', specStep App.sem (t, c) pk = .ok (t', c') ∧ Sim r t' c' := by
  have hrel := hsim.slots pk.pid
  rw [hs] at hrel
  rcases slotRel_nontable r pk.pid req tag _ h0 hp hrel with hg | ⟨f, hg, hre⟩
  · exact sim_consumed r t c pk _ hsim hg fun _ => ⟨_, _, consume_recorder tag c pk hsim.script hl, rfl, rfl,
      constructs_silent c _ [.pkt tag pk.off] rfl (by simp [isConstruct]), by rw [hs, ← hg]; exact hrel⟩
  · obtain ⟨f', c', hc, h1, h2, h3⟩ := consume_pes tag f c pk hl
    exact sim_consumed r t c pk _ hsim hg fun _ => ⟨_, c', hc, h1, h2, h3, by rw [hs]; exact hre f'⟩

theorem handlerFor_byPid (p tag : Nat) (hp : p ≠ 0) : handlerFor (.byPid p) tag = .recorder tag := by
  cases p with
  | zero => exact absurd rfl hp
  | succ n => rfl

theorem es_absent (r : Route) (t : Tab Handler) (c : Ctx) (p : Nat) (hsim : Sim r t c) (hp : p ≠ 0)
    (hs : r.slots p = none) :
    ∃ t1 c1, ensure App.sem t c p = .ok (t1, c1) ∧
      Sim { r with slots := fun q => if q = p then some (.byPid p, r.reqs.length) else r.slots q,
                   reqs := r.reqs ++ [.byPid p] } t1 c1 := by
  have hrel := hsim.slots p
  rw [hs] at hrel
  have hg : t.get p = none := hrel
  have hE : ensure App.sem t c p = .ok (t.insert p (.recorder c.nextTag),
      { c with nextTag := c.nextTag + 1, trace := Ev.construct (.byPid p) c.nextTag :: c.trace }) := by
    rw [ensure_of_absent App.sem t c p ((Tab.contains_eq_false_iff t p).2 hg)]
    show (R.ok (construct c (.byPid p)) >>= _) = _
    rw [construct_eq, handlerFor_byPid p _ hp]; rfl
  refine ⟨_, _, hE, ?_⟩
  refine { script := hsim.script, tag := ?_, log := ?_, slots := ?_, pat0 := hsim.pat0,
           pmtSelf := hsim.pmtSelf }
  · simp only [List.length_append, List.length_singleton]; rw [hsim.tag]
  · rw [constructs_append c _ [Ev.construct (.byPid p) c.nextTag] rfl, hsim.log, zipIdx_snoc, hsim.tag]
    rfl
  · intro q
    by_cases hq : q = p
    · subst hq
      simp only [if_true]
      rw [Tab.get_insert_self, hsim.tag]
      cases q with
      | zero => exact absurd rfl hp
      | succ n => rfl
    · simp only [if_neg hq]
      rw [Tab.get_insert_ne _ _ _ _ hq]
      exact slotRel_congr (hsim.slots q) (fun _ => ⟨rfl, rfl⟩) rfl

theorem sim_es (r : Route) (t : Tab Handler) (c : Ctx) (p : Nat) (pks : List Pk)
    (hsim : Sim r t c) (hwf : wfEv r (.esPacket p)) (hre : RealisesEv r (.esPacket p) pks) :
    ∃ t' c', pushSpec App.sem (t, c) pks = .ok (t', c') ∧ Sim (stepRoute r (.esPacket p)) t' c' := by
  obtain ⟨hp0, hnt⟩ := hwf
  obtain ⟨pk, rfl, rfl, hl⟩ := hre
  rw [pushSpec_cons]
  rcases tableRouted_false r pk.pid hnt with hs | ⟨req, tag, hs, h0, hp⟩
  · obtain ⟨t1, c1, hE, hsim1⟩ := es_absent r t c pk.pid hsim hp0 hs
    rw [stepRoute_es_none r pk.pid hs, ← specStep_after_ensure App.sem t c pk t1 c1 hE]
    obtain ⟨t', c', hstep, hsim'⟩ := es_occupied _ t1 c1 pk (.byPid pk.pid) r.reqs.length hsim1 hl
      (by simp) (fun e => hp0 (Req.byPid.inj e)) (by intro a b e; cases e)
    exact ⟨t', c', by rw [hstep]; rfl, hsim'⟩
  · rw [stepRoute_es_some r pk.pid _ hs]
    obtain ⟨t', c', hstep, hsim'⟩ := es_occupied r t c pk req tag hsim hl hs h0 hp
    exact ⟨t', c', by rw [hstep]; rfl, hsim'⟩

theorem sim_rep (r : Route) (t : Tab Handler) (c : Ctx) (p : Nat) (pks : List Pk)
    (hsim : Sim r t c) (hwf : wfEv r (.repetition p)) (hre : RealisesEv r (.repetition p) pks) :
    ∃ t' c', pushSpec App.sem (t, c) pks = .ok (t', c') ∧ Sim (stepRoute r (.repetition p)) t' c' := by
  obtain ⟨pk, rfl, rfl, hrep⟩ := hre
  suffices ∃ t' c', specStep App.sem (t, c) pk = .ok (t', c') ∧ Sim r t' c' by
    obtain ⟨t', c', h1, h2⟩ := this
    exact ⟨t', c', by rw [pushSpec_cons, h1]; rfl, h2⟩
  have hrel := hsim.slots pk.pid
  -- the section filter of the table handler stays idle at its version; nothing else changes
  rcases tableRouted_true r pk.pid hwf with ⟨tag, hs⟩ | ⟨a, b, tag, hs⟩
  · rw [hs] at hrel
    obtain ⟨hp0, s, hg, hidle⟩ := hrel
    refine sim_consumed r t c pk _ hsim hg fun hf => ?_
    have htv : tableVersion r pk.pid = r.patVersion := by simp only [tableVersion, hs]
    rw [htv, hf] at hrep
    obtain ⟨s', h1, hidle'⟩ := psi_rep_packetO _ s hidle pk.bytes (hrep.resolve_left (by simp))
    exact ⟨.pat s' _, c, by rw [consume_pat_eq s s' _ c pk [] h1]; rfl, rfl, rfl, rfl,
      by rw [hs]; exact ⟨hp0, s', rfl, hidle'⟩⟩
  · rw [hs] at hrel
    obtain ⟨s, hg, hidle⟩ := hrel
    refine sim_consumed r t c pk _ hsim hg fun hf => ?_
    have htv : tableVersion r pk.pid = (r.pmt pk.pid).ver := by simp only [tableVersion, hs]
    rw [htv, hf] at hrep
    obtain ⟨s', h1, hidle'⟩ := psi_rep_packetO _ s hidle pk.bytes (hrep.resolve_left (by simp))
    exact ⟨.pmt a b s' _, c, by rw [consume_pmt_eq a b s s' _ c pk [] h1]; rfl, rfl, rfl, rfl,
      by rw [hs]; exact ⟨s', rfl, hidle'⟩⟩

theorem sim_init (cfg : Cfg) (hs : cfg.script = []) : Sim initRoute (App.init cfg).1 (App.init cfg).2 := by
  refine { script := hs, tag := rfl, log := rfl, slots := ?_, pat0 := fun e he => (by cases he),
           pmtSelf := fun p s hs => (by cases hs) }
  intro p
  by_cases hp : p = 0
  · subst hp
    exact ⟨rfl, {}, Tab.get_insert_self _ _ _, rfl, rfl⟩
  · show SlotRel initRoute p (if p = 0 then _ else none) _
    rw [if_neg hp]
    show (App.init cfg).1.get p = none
    show (Tab.insert [] 0 _).get p = none
    rw [Tab.get_insert_ne _ _ _ _ hp]
    exact Tab.get_of_ge _ _ (by simp)

theorem realises_append {r : Route} {a : List Event} {pa : List Pk} (ha : Realises r a pa) :
    ∀ {b : List Event} {pb : List Pk}, Realises (run r a) b pb → Realises r (a ++ b) (pa ++ pb) := by
  induction ha with
  | nil r => intro b pb hb; exact hb
  | cons hev _ ih =>
    intro b pb hb
    rw [List.cons_append, List.append_assoc]
    exact Realises.cons hev (ih hb)

end Ts.Lemmas.C05H

namespace Ts.Lemmas.C05He
open Ts Ts.Tables Ts.App Ts.Demux Ts.Spec Ts.Spec.TableSpec Ts.Spec.Routing Ts.Spec.RoutingHistory
open Ts.Spec.SectionMux Ts.Lemmas.C03 Ts.Lemmas.C10 Ts.Lemmas.C05 Ts.Lemmas.C05Run Ts.Lemmas.C05H

/-! ### interleaving: table handlers do not look at the trace -/

/-- two contexts that agree on everything a table handler and the simulation relation look at:
configuration, tag counter, the `construct` events (other trace events may differ) -/
structure CtxEq (c1 c2 : Ctx) : Prop where
  cfg : c2.cfg = c1.cfg
  tag : c2.nextTag = c1.nextTag
  log : constructs c2 = constructs c1

theorem ctxEq_refl (c : Ctx) : CtxEq c c := ⟨rfl, rfl, rfl⟩

theorem ctxEq_trans {a b c : Ctx} (h1 : CtxEq a b) (h2 : CtxEq b c) : CtxEq a c :=
  ⟨h2.cfg.trans h1.cfg, h2.tag.trans h1.tag, h2.log.trans h1.log⟩

theorem ctxEq_ctxAfter (c1 c2 : Ctx) (reqs : List (Nat × Req)) (h : CtxEq c1 c2) :
    CtxEq (ctxAfter c1 reqs) (ctxAfter c2 reqs) := by
  refine ⟨h.cfg, ?_, ?_⟩
  · show c2.nextTag + reqs.length = c1.nextTag + reqs.length
    rw [h.tag]
  · rw [constructs_ctxAfter, constructs_ctxAfter, h.log, h.tag]

/-- a section processor whose result depends on the context only through `CtxEq` -/
def SectU (sect : Ctx → List Nat → Bytes → R (Ctx × List Nat × List (Change Handler))) : Prop :=
  ∀ c1 c2 reg data, 12 ≤ data.length → CtxEq c1 c2 → ∀ c1' reg' chg,
    sect c1 reg data = .ok (c1', reg', chg) →
    ∃ c2', sect c2 reg data = .ok (c2', reg', chg) ∧ CtxEq c1' c2'

theorem patSection_uniform : SectU patSection := by
  intro c1 c2 reg data hl heq c1' reg' chg h
  rw [patSection_eq c2 reg data hl]
  obtain ⟨-, ⟨ht, rfl, rfl, rfl⟩ | ⟨ht, rfl, rfl, rfl⟩⟩ := patSection_ok h
  · exact ⟨c2, by rw [if_pos ht], heq⟩
  · exact ⟨_, by rw [if_neg (fun h => h ht)]; simp only [heq.tag]; rfl, ctxEq_ctxAfter c1 c2 _ heq⟩

theorem pmtSection_uniform (pid : Nat) : SectU (fun c r d => pmtSection c pid r d) := by
  intro c1 c2 reg data hl heq c1' reg' chg h
  show ∃ c2', pmtSection c2 pid reg data = _ ∧ _
  rw [pmtSection_eq c2 pid reg data hl]
  obtain ⟨-, ⟨ht, rfl, rfl, rfl⟩ | ⟨ha, ht, rfl, rfl, rfl⟩⟩ := pmtSection_ok h
  · refine ⟨c2, ?_, heq⟩
    rcases ht with ht | ht
    · exact if_pos ht
    · by_cases ha : specPmtAccept (sectionBody data)
      · exact (if_neg (fun h => h ha)).trans (if_pos ht)
      · exact if_pos ha
  · refine ⟨_, ?_, ctxEq_ctxAfter c1 c2 _ heq⟩
    dsimp only
    rw [if_neg (fun h => h ha), if_neg (fun h => h ht)]
    simp only [heq.tag]; rfl

theorem runDeliveries_uniform (sect : Ctx → List Nat → Bytes → R (Ctx × List Nat × List (Change Handler)))
    (hU : SectU sect) : ∀ (ds : List Psi.Delivery) (c1 c2 : Ctx) (reg : List Nat), CtxEq c1 c2 →
    ∀ c1' reg' chg, runDeliveries sect c1 reg ds = .ok (c1', reg', chg) →
    ∃ c2', runDeliveries sect c2 reg ds = .ok (c2', reg', chg) ∧ CtxEq c1' c2' := by
  intro ds
  induction ds with
  | nil =>
    intro c1 c2 reg heq c1' reg' chg h
    cases h
    exact ⟨c2, rfl, heq⟩
  | cons d ds ih =>
    intro c1 c2 reg heq c1' reg' chg h
    simp only [runDeliveries] at h ⊢
    rw [heq.cfg]
    obtain ⟨b, hcp, h⟩ := R.bind_eq_ok h
    rw [hcp, R.ok_bind]
    cases b with
    | false => exact ih c1 c2 reg heq c1' reg' chg h
    | true =>
      simp only [if_true] at h ⊢
      obtain ⟨⟨ca, rega, chga⟩, hs, h⟩ := R.bind_eq_ok h
      obtain ⟨⟨cc, regc, chgc⟩, hr, h⟩ := R.bind_eq_ok h
      cases h
      obtain ⟨cb, hsb, heqb⟩ := hU c1 c2 reg d.bytes (crcPass_true_len _ _ hcp) heq ca rega chga hs
      obtain ⟨cd, hrd, heqd⟩ := ih ca cb rega heqb cc regc chgc hr
      exact ⟨cd, by rw [hsb, R.ok_bind, hrd]; rfl, heqd⟩

inductive TableH : Handler → Prop where
  | pat (s : Psi.St) (reg : List Nat) : TableH (.pat s reg)
  | pmt (pid prog : Nat) (s : Psi.St) (reg : List Nat) : TableH (.pmt pid prog s reg)

theorem consume_table_uniform (h : Handler) (ht : TableH h) (c1 c2 : Ctx) (pk : Pk) (heq : CtxEq c1 c2)
    (h' : Handler) (c1' : Ctx) (chg : List (Change Handler))
    (hc : App.consume h c1 pk = .ok (h', c1', chg)) :
    TableH h' ∧ ∃ c2', App.consume h c2 pk = .ok (h', c2', chg) ∧ CtxEq c1' c2' := by
  cases ht with
  | pat s reg =>
    obtain ⟨s', ds, reg', hP, hr, rfl⟩ := consume_pat_ok hc
    obtain ⟨cb, hrb, heqb⟩ := runDeliveries_uniform patSection patSection_uniform ds c1 c2 reg heq _ _ _ hr
    exact ⟨TableH.pat _ _, cb, by rw [Ts.Lemmas.C05.consume_pat_eq, hP, R.ok_bind, hrb]; rfl, heqb⟩
  | pmt pid prog s reg =>
    obtain ⟨s', ds, reg', hP, hr, rfl⟩ := consume_pmt_ok hc
    obtain ⟨cb, hrb, heqb⟩ := runDeliveries_uniform _ (pmtSection_uniform pid) ds c1 c2 reg heq _ _ _ hr
    exact ⟨TableH.pmt _ _ _ _, cb, by rw [Ts.Lemmas.C05.consume_pmt_eq, hP, R.ok_bind, hrb]; rfl, heqb⟩

/-- **the packets of ONE PID `p` (a table handler) with packets on PES-held PIDs interleaved.**
`own`: the packets of PID `p`; `pks`: `own` with unflagged 188-byte packets on PIDs in `F` inserted.
The run may start in ANY context agreeing with the `c` of `consumeAll`; slots outside `F ∪ {p}` end as if
all queued changes had been applied to the original table. -/
theorem pushSpec_interleaved (p : Nat) (F : Nat → Prop) (hpF : ¬ F p) :
    ∀ (own pks : List Pk),
    Interleaves (fun pk => pk.flagged = false ∧ pk.bytes.length = 188 ∧ F pk.pid) own pks →
    ∀ (t : Tab Handler) (c ct : Ctx) (h h' : Handler) (c' : Ctx) (chg : List (Change Handler)),
    (∀ pk ∈ own, pk.pid = p ∧ pk.flagged = false) →
    TableH h → t.get p = some h → CtxEq c ct →
    (∀ q, F q → ∃ tag f, t.get q = some (.pes tag f)) →
    consumeAll h c own = .ok (h', c', chg) →
    (∀ ch ∈ chg, ch.pid ≠ p ∧ ¬ F ch.pid) →
    ∃ t2 c2, pushSpec App.sem (t, ct) pks = .ok (t2, c2) ∧ CtxEq c' c2 ∧ t2.get p = some h' ∧
      (∀ q, q ≠ p → ¬ F q → t2.get q = (applyChanges t chg).get q) ∧
      (∀ q, F q → ∀ tag f, t.get q = some (.pes tag f) → ∃ f', t2.get q = some (.pes tag f')) := by
  intro own pks hint
  induction hint with
  | nil =>
    intro t c ct h h' c' chg _ _ hg heq hF hc _
    rw [(Ts.Props.C11.consumeAll_iff h c ⟨[], 0, 0, false, false⟩ []).1] at hc
    simp only [R.ok.injEq, Prod.mk.injEq] at hc
    obtain ⟨rfl, rfl, rfl⟩ := hc
    exact ⟨t, ct, rfl, heq, hg, fun q _ _ => rfl, fun q _ tag f e => ⟨f, e⟩⟩
  | @own o pks' pk _ ih =>
    intro t c ct h h' c' chg hall hT hg heq hF hc hno
    obtain ⟨hp, hf⟩ := hall pk List.mem_cons_self
    rw [(Ts.Props.C11.consumeAll_iff h c pk o).2] at hc
    obtain ⟨⟨h1', c1, chg1⟩, h1, hc⟩ := R.bind_eq_ok hc
    obtain ⟨⟨h2', c2, chg2⟩, h2, hc⟩ := R.bind_eq_ok hc
    cases hc
    obtain ⟨hT1, ct1, h1t, heq1⟩ := consume_table_uniform h hT c ct pk heq h1' c1 chg1 h1
    have hg' : t.get pk.pid = some h := by rw [hp]; exact hg
    have hstep := specStep_of_consume App.sem hg' hf h1t
    have hno1 : ∀ ch ∈ chg1, ch.pid ≠ p ∧ ¬ F ch.pid := fun ch hm => hno ch (List.mem_append_left _ hm)
    have hno2 : ∀ ch ∈ chg2, ch.pid ≠ p ∧ ¬ F ch.pid := fun ch hm => hno ch (List.mem_append_right _ hm)
    have hg1 : (applyChanges (t.insert pk.pid h1') chg1).get p = some h1' := by
      rw [get_applyChanges_untouched chg1 _ p (fun ch hm => (hno1 ch hm).1), hp, Tab.get_insert_self]
    have hF1 : ∀ q, F q → (applyChanges (t.insert pk.pid h1') chg1).get q = t.get q := by
      intro q hq
      rw [get_applyChanges_untouched chg1 _ q (fun ch hm e => (hno1 ch hm).2 (by rw [e]; exact hq)), hp,
        Tab.get_insert_ne _ _ _ _ (fun e => hpF (by rw [← e]; exact hq))]
    obtain ⟨t2, cf, hrun, heqf, hgp, hother, hFf⟩ := ih _ c1 ct1 h1' h2' c2 chg2
      (fun pk' hm => hall pk' (List.mem_cons_of_mem _ hm)) hT1 hg1 heq1
      (fun q hq => by rw [hF1 q hq]; exact hF q hq) h2 hno2
    refine ⟨t2, cf, ?_, heqf, hgp, ?_, fun q hq tag f e => hFf q hq tag f (by rw [hF1 q hq]; exact e)⟩
    · rw [pushSpec_cons, hstep]; exact hrun
    · intro q hq hnF
      rw [hother q hq hnF, ← applyChanges_append]
      apply get_applyChanges_congr
      rw [hp]; exact Tab.get_insert_ne _ _ _ _ hq
  | @foreign o pks' pk hfor _ ih =>
    intro t c ct h h' c' chg hall hT hg heq hF hc hno
    obtain ⟨hf, hl, hFq⟩ := hfor
    obtain ⟨tag, f, hgq⟩ := hF pk.pid hFq
    have hqp : pk.pid ≠ p := fun e => hpF (by rw [← e]; exact hFq)
    obtain ⟨f', ct1, hcons, e1, e2, e3⟩ := consume_pes tag f ct pk hl
    have hstep : specStep App.sem (t, ct) pk = .ok (t.insert pk.pid (.pes tag f'), ct1) :=
      specStep_of_consume App.sem hgq hf hcons
    have heq1 : CtxEq c ct1 := ⟨e1.trans heq.cfg, e2.trans heq.tag, e3.trans heq.log⟩
    obtain ⟨t2, cf, hrun, heqf, hgp, hother, hFf⟩ := ih (t.insert pk.pid (.pes tag f')) c ct1 h h' c' chg hall hT
      (by rw [Tab.get_insert_ne _ _ _ _ (fun e => hqp e.symm)]; exact hg) heq1
      (fun q hq => by
        by_cases e : q = pk.pid
        · rw [e, Tab.get_insert_self]; exact ⟨tag, f', rfl⟩
        · rw [Tab.get_insert_ne _ _ _ _ e]; exact hF q hq) hc hno
    refine ⟨t2, cf, ?_, heqf, hgp, ?_, ?_⟩
    · rw [pushSpec_cons, hstep]; exact hrun
    · intro q hq hnF
      rw [hother q hq hnF]
      apply get_applyChanges_congr
      exact Tab.get_insert_ne _ _ _ _ (fun e => hnF (by rw [e]; exact hFq))
    · intro q hq tag0 f0 e0
      by_cases e : q = pk.pid
      · subst e
        rw [hgq] at e0
        cases e0
        exact hFf _ hq tag f' (Tab.get_insert_self _ _ _)
      · exact hFf q hq tag0 f0 (by rw [Tab.get_insert_ne _ _ _ _ e]; exact e0)

theorem pes_of_routed {r : Route} {t : Tab Handler} {c : Ctx} (hsim : Sim r t c) {q : Nat}
    (h : pesRouted r q) :
    ∃ pp st a pcr d1 d2 tag f, r.slots q = some (.stream pp st a pcr d1 d2, tag) ∧ isPes st = true ∧
      t.get q = some (.pes tag f) := by
  obtain ⟨pp, st, a, pcr, d1, d2, tag, hs, hp⟩ := h
  have := hsim.slots q
  rw [hs] at this
  simp only [SlotRel, hp, if_true] at this
  obtain ⟨f, hf⟩ := this
  exact ⟨pp, st, a, pcr, d1, d2, tag, f, hs, hp, hf⟩

/-- the PIDs that may be interleaved with the packets of `ev` -/
def FPid (r : Route) (ev : Event) (q : Nat) : Prop := pesRouted r q ∧ Unnamed r q ev

theorem interleaves_mono {F G : Pk → Prop} (h : ∀ pk, F pk → G pk) {own pks : List Pk}
    (hi : Interleaves F own pks) : Interleaves G own pks := by
  induction hi with
  | nil => exact .nil
  | own pk _ ih => exact .own pk ih
  | foreign pk hf _ ih => exact .foreign pk (h pk hf) ih

theorem interleaves_none {F : Pk → Prop} (h : ∀ pk, ¬ F pk) {own pks : List Pk}
    (hi : Interleaves F own pks) : pks = own := by
  induction hi with
  | nil => rfl
  | own pk _ ih => rw [ih]
  | foreign pk hf _ _ => exact (h pk hf).elim

theorem interleaves_self (F : Pk → Prop) : ∀ (l : List Pk), Interleaves F l l
  | [] => .nil
  | pk :: l => .own pk (interleaves_self F l)

/-- the queue of one applied table: one insert per request, then one remove per outdated PID
(`patChanges` and `pmtChanges` are both of this form) -/
def tableChanges (n : Nat) (reqs : List (Nat × Req)) (reg : List Nat) : List (Change Handler) :=
  (built n reqs).map (fun x => Change.insert x.1 x.2) ++ (outdated reg (reqs.map (·.1))).map Change.remove

theorem patChanges_eq (c : Ctx) (reg : List Nat) (body : Bytes) :
    patChanges c reg body = tableChanges c.nextTag (patRequests (specPat body)) reg := by
  unfold patChanges tableChanges; rw [patRequests_pids]

theorem pmtChanges_eq (c : Ctx) (p : Nat) (reg : List Nat) (body : Bytes) :
    pmtChanges c p reg body = tableChanges c.nextTag (pmtReqs p body) reg := by
  unfold pmtChanges tableChanges; rw [pmtReqs_pids]; rfl

theorem mem_tableChanges_pid {n : Nat} {reqs : List (Nat × Req)} {reg : List Nat} {ch : Change Handler}
    (h : ch ∈ tableChanges n reqs reg) : ch.pid ∈ reqs.map (·.1) ∨ ch.pid ∈ reg := by
  rcases List.mem_append.1 h with h | h
  · obtain ⟨x, hx, rfl⟩ := List.mem_map.1 h
    left
    have : x.1 ∈ (built n reqs).map (·.1) := List.mem_map.2 ⟨x, hx, rfl⟩
    rwa [built_pids] at this
  · obtain ⟨q, hq, rfl⟩ := List.mem_map.1 h
    exact Or.inr ((mem_outdated _ _ _).1 hq).2.1

theorem get_tableChanges (t : Tab Handler) (n : Nat) (reqs : List (Nat × Req)) (reg : List Nat) (q : Nat) :
    (applyChanges t (tableChanges n reqs reg)).get q = applied t.get (built n reqs) reg q := by
  have := get_applied t (built n reqs) reg q
  rwa [built_pids] at this

/-- **One table event** (PAT or PMT; `p` the table's PID, `h` its handler, `reqs` the requests of the
new version, `reg` the PIDs the superseded version installed), with packets on PES-routed PIDs the event
does not name interleaved.  What the two kinds of table differ in is left as hypotheses: the `consumeAll`
of the handler over its own packets (`hall`), the abstract step (`hslots`, `hreqs`), and the relation of
the own slot (`hown`), of a freshly built handler (`hnew`) and of an untouched slot (`hkeep`) after it. -/
theorem sim_table_I (r : Route) (t : Tab Handler) (c : Ctx) (p : Nat) (h h' : Handler)
    (reqs : List (Nat × Req)) (reg : List Nat) (ev : Event) (own pks : List Pk)
    (hsim : Sim r t c) (hT : TableH h) (hg : t.get p = some h)
    (hpk : ∀ pk ∈ own, pk.pid = p ∧ pk.flagged = false)
    (hint : Interleaves (Foreign r ev) own pks)
    (hun : ∀ q, Unnamed r q ev → q ∉ reqs.map (·.1) ∧ q ∉ reg)
    (hall : consumeAll h c own = .ok (h', ctxAfter c reqs, tableChanges c.nextTag reqs reg))
    (hp1 : p ∉ reqs.map (·.1)) (hp2 : p ∉ reg) (hpnot : ¬ pesRouted r p)
    (hslots : (stepRoute r ev).slots = applied r.slots (tagged r.reqs.length reqs) reg)
    (hreqs : (stepRoute r ev).reqs = r.reqs ++ reqs.map (·.2))
    (hown : SlotRel (stepRoute r ev) p (r.slots p) (some h'))
    (hnew : ∀ q req tag, lastFor (tagged r.reqs.length reqs) q = some (req, tag) →
      SlotRel (stepRoute r ev) q (some (req, tag)) (some (handlerFor req tag)))
    (hkeep : ∀ q, q ≠ p → lastFor (tagged r.reqs.length reqs) q = none →
      ∀ a o, SlotRel r q a o → SlotRel (stepRoute r ev) q a o)
    (hpat0 : ∀ e ∈ (stepRoute r ev).patEntries, e.pid ≠ 0)
    (hpmtSelf : ∀ q, ∀ s ∈ ((stepRoute r ev).pmt q).streams, s.pid ≠ q) :
    ∃ t' c', pushSpec App.sem (t, c) pks = .ok (t', c') ∧ Sim (stepRoute r ev) t' c' := by
  -- the queue touches neither the table's own PID nor an interleaved one
  have hno : ∀ ch ∈ tableChanges c.nextTag reqs reg, ch.pid ≠ p ∧ ¬ FPid r ev ch.pid := by
    intro ch hch
    rcases mem_tableChanges_pid hch with hm | hm
    · exact ⟨fun e => hp1 (e ▸ hm), fun hF => (hun _ hF.2).1 hm⟩
    · exact ⟨fun e => hp2 (e ▸ hm), fun hF => (hun _ hF.2).2 hm⟩
  obtain ⟨t2, c2, hrun, heq, hg2, hother, hF2⟩ := pushSpec_interleaved p (FPid r ev) (fun hF => hpnot hF.1)
    own pks (interleaves_mono (fun pk h => ⟨h.1, h.2.1, h.2.2.1, h.2.2.2⟩) hint) t c c h h' _ _ hpk hT hg
    (ctxEq_refl c)
    (fun q hq => by
      obtain ⟨_, _, _, _, _, _, tag, f, -, -, hg⟩ := pes_of_routed hsim hq.1
      exact ⟨tag, f, hg⟩) hall hno
  refine ⟨t2, c2, hrun, ?_⟩
  refine { script := by rw [heq.cfg]; exact hsim.script, tag := ?_, log := ?_, slots := ?_,
           pat0 := hpat0, pmtSelf := hpmtSelf }
  · rw [heq.tag, hreqs]
    simp only [ctxAfter, List.length_append, List.length_map]
    rw [hsim.tag]
  · rw [heq.log, hreqs, constructs_ctxAfter, hsim.log, hsim.tag, zipIdx_snoc]
  · intro q
    by_cases hF : FPid r ev q
    · -- an interleaved PID: same request, same tag, the PES filter moved on
      obtain ⟨pp, st, a, pcr, d1, d2, tag, f, hs, hp, hgq⟩ := pes_of_routed hsim hF.1
      obtain ⟨f', e2⟩ := hF2 q hF tag f hgq
      rw [hslots, applied_untouched _ _ _ _ (by rw [tagged_pids]; exact (hun q hF.2).1) (hun q hF.2).2,
        hs, e2]
      simp only [SlotRel, hp, if_true]
      exact ⟨f', rfl⟩
    by_cases hqp : q = p
    · subst hqp
      rw [hslots, applied_untouched _ _ _ _ (by rw [tagged_pids]; exact hp1) hp2, hg2]
      exact hown
    · refine slots_after_table r _ t t2 r.reqs.length reqs reg q (by rw [hslots]) ?_ (hsim.slots q)
        (hnew q) (hkeep q hqp)
      rw [hother q hqp hF, ← hsim.tag]
      exact get_tableChanges t _ _ _ q

theorem pat_consumeAll (r : Route) (t : Tab Handler) (c : Ctx) (ver : Nat) (es : List PatEntry) (own : List Pk)
    (hsim : Sim r t c) (hwf : wfEv r (.patApplied ver es)) (hre : RealisesEv r (.patApplied ver es) own) :
    ∃ tag0 s sfin body, r.slots 0 = some (.byPid 0, tag0) ∧
      t.get 0 = some (.pat s (r.patEntries.map PatEntry.pid)) ∧
      (∀ pk ∈ own, pk.pid = 0 ∧ pk.flagged = false) ∧ specPat body = es ∧ Idle (some ver) sfin ∧
      consumeAll (.pat s (r.patEntries.map PatEntry.pid)) c own =
        .ok (.pat sfin ((specPat body).map PatEntry.pid), ctxAfter c (patRequests (specPat body)),
          patChanges c (r.patEntries.map PatEntry.pid) body) := by
  obtain ⟨hrouted, hver, hes⟩ := hwf
  obtain ⟨tag0, hslot0⟩ := (patRouted_iff r).1 hrouted
  have h0 := hsim.slots 0
  rw [hslot0] at h0
  obtain ⟨-, s, ht0, hidle⟩ := h0
  obtain ⟨S, htx, htid, hv, hpat⟩ := hre
  subst hv
  obtain ⟨m, off, rest, hm, hview, hus, hrest⟩ := htx.mux
  have hvne : s.lastVersion ≠ some (versionOf S) := by rw [hidle.1]; exact hver
  obtain ⟨sfin, hq, hall⟩ := Ts.Props.C11.damage_then_new_version_applied_partial_pat S htx.wf htx.len
    htx.crc m hm s (psiInv_of_none _ _ hidle.2) hvne (r.patEntries.map PatEntry.pid) c own
    (fun pk hm => (htx.pkts pk hm).2.2) off rest hview hus hrest
  rw [preSpec_idle _ _ _ hidle.2] at hall
  simp only [runDeliveries, R.ok_bind, patSection_tid0 c _ S htx.len htid, List.nil_append] at hall
  exact ⟨tag0, s, sfin, sectionBody S, hslot0, ht0, fun pk hm => ⟨(htx.pkts pk hm).1, (htx.pkts pk hm).2.1⟩,
    hpat, hq, hall⟩

theorem pmt_consumeAll (r : Route) (t : Tab Handler) (c : Ctx) (p ver : Nat) (body : Bytes) (own : List Pk)
    (hsim : Sim r t c) (hwf : wfEv r (.pmtApplied p ver body))
    (hre : RealisesEv r (.pmtApplied p ver body) own) :
    ∃ prog tag0 s sfin, r.slots p = some (.pmt p prog, tag0) ∧
      t.get p = some (.pmt p prog s ((r.pmt p).streams.map StreamInfo.pid)) ∧
      (∀ pk ∈ own, pk.pid = p ∧ pk.flagged = false) ∧ Idle (some ver) sfin ∧
      consumeAll (.pmt p prog s ((r.pmt p).streams.map StreamInfo.pid)) c own =
        .ok (.pmt p prog sfin ((streamsOf body).map StreamInfo.pid), ctxAfter c (pmtReqs p body),
          pmtChanges c p ((r.pmt p).streams.map StreamInfo.pid) body) := by
  obtain ⟨hrouted, hver, hss⟩ := hwf
  obtain ⟨prog, tag0, hslotp⟩ := (pmtRouted_iff r p).1 hrouted
  have h0 := hsim.slots p
  rw [hslotp] at h0
  obtain ⟨s, htp, hidle⟩ := h0
  obtain ⟨S, htx, htid, hv, hbody, hacc⟩ := hre
  subst hv hbody
  obtain ⟨m, off, rest, hm, hview, hus, hrest⟩ := htx.mux
  have hvne : s.lastVersion ≠ some (versionOf S) := by rw [hidle.1]; exact hver
  obtain ⟨sfin, hq, hall⟩ := Ts.Props.C11.damage_then_new_version_applied_partial_pmt p prog S htx.wf htx.len
    htx.crc m hm s (psiInv_of_none _ _ hidle.2) hvne ((r.pmt p).streams.map StreamInfo.pid) c own
    (fun pk hm => (htx.pkts pk hm).2.2) off rest hview hus hrest
  rw [preSpec_idle _ _ _ hidle.2] at hall
  simp only [runDeliveries, R.ok_bind, pmtSection_tid2 c p _ S htx.len hacc htid, List.nil_append] at hall
  exact ⟨prog, tag0, s, sfin, hslotp, htp, fun pk hm => ⟨(htx.pkts pk hm).1, (htx.pkts pk hm).2.1⟩, hq, hall⟩

theorem sim_pat_I (r : Route) (t : Tab Handler) (c : Ctx) (ver : Nat) (es : List PatEntry) (pks : List Pk)
    (hsim : Sim r t c) (hwf : wfEv r (.patApplied ver es)) (hre : RealisesEvI r (.patApplied ver es) pks) :
    ∃ t' c', pushSpec App.sem (t, c) pks = .ok (t', c') ∧ Sim (stepRoute r (.patApplied ver es)) t' c' := by
  obtain ⟨own, hown, hint⟩ := hre
  obtain ⟨tag0, s, sfin, body, hslot0, hg0, hpk, hbody, hidle, hall⟩ :=
    pat_consumeAll r t c ver es own hsim hwf hown
  subst hbody
  have hes := hwf.2.2
  rw [patChanges_eq] at hall
  refine sim_table_I r t c 0 _ _ (patRequests (specPat body)) (r.patEntries.map PatEntry.pid) _ own pks
    hsim (TableH.pat _ _) hg0 hpk hint ?_ hall ?_ ?_ ?_ (stepRoute_pat_slots r ver _) (stepRoute_pat_reqs r ver _)
    ?_ ?_ ?_ (fun e he => (hes e he).2) ?_
  · intro q hq; rw [patRequests_pids]; exact hq
  · rw [patRequests_pids]; intro hm; obtain ⟨e, he, hep⟩ := List.mem_map.1 hm; exact (hes e he).2 hep
  · intro hm; obtain ⟨e, he, hep⟩ := List.mem_map.1 hm; exact hsim.pat0 e he hep
  · rintro ⟨pp, st, a, pcr, d1, d2, tag, hs, -⟩; rw [hslot0] at hs; cases hs
  · rw [hslot0]; exact ⟨rfl, sfin, rfl, hidle⟩
  · intro q req tag hl
    obtain ⟨e, -, -, rfl⟩ := mem_patRequests (tagged_mem _ _ _ _ _ (lastFor_mem _ _ _ hl)).1
    apply slotRel_fresh
    · cases e <;> simp [patRequest]
    · intro a b hab
      rw [stepRoute_pat_pmt, hl, hab]
      exact ⟨rfl, rfl⟩
  · intro q hq0 hl a o hrel
    refine slotRel_congr hrel (fun e => absurd e hq0) ?_
    rw [stepRoute_pat_pmt, hl]
  · intro p st hst
    rw [stepRoute_pat_pmt] at hst
    split at hst
    · cases hst
    · exact hsim.pmtSelf p st hst

theorem sim_pmt_I (r : Route) (t : Tab Handler) (c : Ctx) (p ver : Nat) (body : Bytes) (pks : List Pk)
    (hsim : Sim r t c) (hwf : wfEv r (.pmtApplied p ver body))
    (hre : RealisesEvI r (.pmtApplied p ver body) pks) :
    ∃ t' c', pushSpec App.sem (t, c) pks = .ok (t', c') ∧ Sim (stepRoute r (.pmtApplied p ver body)) t' c' := by
  obtain ⟨own, hown, hint⟩ := hre
  obtain ⟨prog, tag0, s, sfin, hslotp, hgp, hpk, hidle, hall⟩ :=
    pmt_consumeAll r t c p ver body own hsim hwf hown
  have hss := hwf.2.2
  rw [pmtChanges_eq] at hall
  refine sim_table_I r t c p _ _ (pmtReqs p body) ((r.pmt p).streams.map StreamInfo.pid) _ own pks
    hsim (TableH.pmt _ _ _ _) hgp hpk hint ?_ hall ?_ ?_ ?_ (stepRoute_pmt_slots r p ver body)
    (stepRoute_pmt_reqs r p ver body) ?_ ?_ ?_ hsim.pat0 ?_
  · intro q hq; rw [pmtReqs_pids]; exact hq
  · rw [pmtReqs_pids]; intro hm; obtain ⟨e, he, hep⟩ := List.mem_map.1 hm; exact (hss e he).2 hep
  · intro hm; obtain ⟨e, he, hep⟩ := List.mem_map.1 hm; exact hsim.pmtSelf p e he hep
  · rintro ⟨pp, st, a, pcr, d1, d2, tag, hs, -⟩; rw [hslotp] at hs; cases hs
  · rw [hslotp]
    refine ⟨sfin, ?_, ?_⟩
    · rw [stepRoute_pmt_pmt, if_pos rfl]
    · rw [stepRoute_pmt_pmt, if_pos rfl]; exact hidle
  · intro q req tag hl
    obtain ⟨e, -, -, rfl⟩ := mem_pmtReqs (tagged_mem _ _ _ _ _ (lastFor_mem _ _ _ hl)).1
    exact slotRel_fresh _ _ _ _ (fun e => by cases e) (fun a b e => by cases e)
  · intro q hqp hl a o hrel
    refine slotRel_congr hrel (fun _ => ⟨rfl, rfl⟩) ?_
    rw [stepRoute_pmt_pmt, if_neg hqp]
  · intro q st hst
    rw [stepRoute_pmt_pmt] at hst
    by_cases hqp : q = p
    · rw [if_pos hqp] at hst
      rw [hqp]; exact (hss st hst).2
    · rw [if_neg hqp] at hst
      exact hsim.pmtSelf q st hst

theorem sim_step_I (r : Route) (t : Tab Handler) (c : Ctx) (ev : Event) (pks : List Pk)
    (hsim : Sim r t c) (hwf : wfEv r ev) (hre : RealisesEvI r ev pks) :
    ∃ t' c', pushSpec App.sem (t, c) pks = .ok (t', c') ∧ Sim (stepRoute r ev) t' c' := by
  cases ev with
  | patApplied ver es => exact sim_pat_I r t c ver es pks hsim hwf hre
  | pmtApplied p ver body => exact sim_pmt_I r t c p ver body pks hsim hwf hre
  | esPacket p =>
    obtain ⟨own, hown, hint⟩ := hre
    rw [interleaves_none (fun pk h => h.2.2.2) hint]
    exact sim_es r t c p own hsim hwf hown
  | repetition p =>
    obtain ⟨own, hown, hint⟩ := hre
    rw [interleaves_none (fun pk h => h.2.2.2) hint]
    exact sim_rep r t c p own hsim hwf hown

theorem sim_run_I {r : Route} {evs : List Event} {pks : List Pk} (hre : RealisesI r evs pks) :
    ∀ (t : Tab Handler) (c : Ctx), Sim r t c → WF r evs →
      ∃ t' c', pushSpec App.sem (t, c) pks = .ok (t', c') ∧ Sim (run r evs) t' c' := by
  induction hre with
  | nil r => intro t c hsim _; exact ⟨t, c, rfl, hsim⟩
  | cons hev _ ih =>
    intro t c hsim hwf
    obtain ⟨t1, c1, h1, hsim1⟩ := sim_step_I _ t c _ _ hsim hwf.1 hev
    obtain ⟨t2, c2, h2, hsim2⟩ := ih t1 c1 hsim1 hwf.2
    refine ⟨t2, c2, ?_, hsim2⟩
    rw [pushSpec_append_aux, h1]; exact h2

theorem realisesI_of_realises {r : Route} {evs : List Event} {pks : List Pk} (h : Realises r evs pks) :
    RealisesI r evs pks := by
  induction h with
  | nil r => exact .nil r
  | cons hev _ ih => exact .cons ⟨_, hev, interleaves_self _ _⟩ ih

end Ts.Lemmas.C05He
