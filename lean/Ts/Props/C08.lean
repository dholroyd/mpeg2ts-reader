import Ts.Lemmas.C08
/-!
# C08 — elementary-stream consumer notifications are well nested

"For any packet sequence on an elementary-stream PID, valid or not, the consumer's notifications are
well nested: stream-start occurs exactly once and before any packet-begin; continuation data and
packet-end occur only while a packet opened by packet-begin is open, and each packet is closed at
most once, by packet-end or by a continuity error.  Data of a PES packet whose header could not be
recognised is not delivered."

* model: `PesFilter.consume` / `PesFilter.run` (`pes.rs:88-160`, repaired tree);
* spec : the acceptor `Ts.Spec.Protocol.accepts` written from the trait documentation alone.

"packet" = any `p : Bytes` with `p.length = 188`; nothing else is assumed about its bytes.

READING of "stream-start occurs exactly once".  Proved: AT MOST once in every run
(`start_at_most_once`), BEFORE any packet-begin (`start_before_begin`), EXACTLY once in every run
that delivers a packet-begin (`start_exactly_once`).  ZERO stream-starts do occur (a PID that never
carries a payload_unit_start packet: example after `start_exactly_once`), so the literal "exactly
once for any packet sequence" is false of the code and is not claimed.

READING of the last clause (a choice).  "Could not be recognised" is read as: the unit-start packet
produced no `begin_packet`, which happens exactly when the packet has no payload or
`PesHeader::from_bytes` returned `None` (fewer than 6 payload bytes or a start-code prefix other than
`00 00 01`; `begin_iff_bytes`).  It is NOT read as "the optional PES header (flags,
`PES_header_data_length`, PTS/DTS …) is inconsistent": when `PesParsedContents::from_bytes` fails
the filter still delivers `begin_packet` (the consumer sees `PesContents::Parsed(None)`) and the
continuation data.  Under the stricter reading the clause would be false of the code; the lenient one
is taken as intended because the trait hands the consumer the `PesHeader` precisely so that it can
decide.  The choice is recorded as a THEOREM: `rejected_optional_header_still_delivered` (end of this
file) and `Ts.Props.C02Trace.rejected_optional_header_still_delivered_split` (a PES header split over
two transport packets).
-/
namespace Ts.Props.C08
open Ts Ts.Packet Ts.PesFilter Ts.Spec Ts.Spec.Protocol Ts.Lemmas.C08

/-- `consume` never panics, whatever the 188 bytes are and whatever state the filter is in -/
theorem consume_total (f : F) (p : Bytes) (h : p.length = 188) :
    ∃ f' evs, consume f p = .ok (f', evs) :=
  ⟨_, _, consume_eq f p h⟩

theorem run_total (f : F) (ps : List Bytes) (h : ∀ p ∈ ps, p.length = 188) :
    ∃ f' evss, run f ps = .ok (f', evss) :=
  ⟨_, _, run_eq f ps h⟩

/-! ### refinement of the protocol acceptor -/

abbrev abs : St → PState := Ts.Lemmas.C08.abs

example : abs .begin = .notStarted ∧ abs .started = .open_ ∧ abs .ignoreRest = .idle := ⟨rfl, rfl, rfl⟩

theorem step_ok (f f' : F) (p : Bytes) (evs : List Ev) (h : p.length = 188)
    (hc : consume f p = .ok (f', evs)) : accepts (abs f.st) evs = some (abs f'.st) := by
  obtain ⟨rfl, rfl⟩ := consume_inv h hc
  exact stepOf_accepts f p

/-- any number of arbitrary packets, from any filter state: the callbacks are accepted -/
theorem callbacks_well_nested (f f' : F) (ps : List Bytes) (evss : List (List Ev))
    (h : ∀ p ∈ ps, p.length = 188) (hr : run f ps = .ok (f', evss)) :
    accepts (abs f.st) evss.flatten = some (abs f'.st) := by
  obtain ⟨rfl, rfl⟩ := run_inv h hr
  exact runPure_accepts f ps

/-- from the freshly constructed filter the whole callback trace is accepted from `notStarted` -/
theorem callbacks_well_nested_init (f' : F) (ps : List Bytes) (evss : List (List Ev))
    (h : ∀ p ∈ ps, p.length = 188) (hr : run {} ps = .ok (f', evss)) :
    accepts .notStarted evss.flatten = some (abs f'.st) :=
  callbacks_well_nested {} f' ps evss h hr

/-! ### the clauses of the property, read off the accepted trace -/

section clauses
variable {f' : F} {ps : List Bytes} {evss : List (List Ev)}
  (h : ∀ p ∈ ps, p.length = 188) (hr : run {} ps = .ok (f', evss))
include h hr

/-- stream-start is signalled AT MOST once in the whole run from the freshly constructed filter — this,
not "exactly once", is what holds for EVERY packet sequence: the count is 0 when no packet of the run
has `payload_unit_start_indicator` set (and in general until the first such packet) -/
theorem start_at_most_once : evss.flatten.count .start ≤ 1 :=
  Protocol.start_at_most_once (callbacks_well_nested_init f' ps evss h hr)

/-- `start` comes before any packet-begin (so: exactly once as soon as there is a packet-begin) -/
theorem start_before_begin (pre post : List Ev) (o l : Nat)
    (hs : evss.flatten = pre ++ .beginPkt o l :: post) : Ev.start ∈ pre ∧ Ev.start ∉ post := by
  have hacc := callbacks_well_nested_init f' ps evss h hr
  rw [hs] at hacc
  refine ⟨Protocol.start_before_begin hacc, ?_⟩
  obtain ⟨m, _, hpost⟩ := accepts_append_some hacc
  obtain ⟨m', hm', hrest⟩ := accepts_cons_some hpost
  have := (step_begin hm').2; subst this
  exact (no_start_after_started hrest (by simp)).1

/-- "exactly once", CONDITIONALLY: stream-start occurs exactly once in any run whose trace contains a
`begin_packet` (hypothesis `hb`).  Without `hb` only `start_at_most_once` holds (example below). -/
theorem start_exactly_once (o l : Nat) (hb : Ev.beginPkt o l ∈ evss.flatten) :
    evss.flatten.count .start = 1 := by
  obtain ⟨pre, post, hs⟩ := List.append_of_mem hb
  have hmem : Ev.start ∈ evss.flatten := by
    rw [hs]; exact List.mem_append_left _ (start_before_begin h hr pre post o l hs).1
  have h1 := start_at_most_once h hr
  have h2 : 0 < evss.flatten.count .start := List.count_pos_iff.mpr hmem
  omega

/-- ZERO stream-starts: a PID that carries only continuation packets (no unit start) — no callback at
all, in particular no `start`; ONE stream-start without any `begin_packet`: a unit start whose payload
has no PES start code.  So `hb` in `start_exactly_once` cannot be dropped. -/
example :
    run {} [mkPkt 0x00 0x10 [], mkPkt 0x00 0x11 []] = .ok (⟨some 1, .begin⟩, [[], []])
    ∧ ([[], []] : List (List Ev)).flatten.count .start = 0
    ∧ run {} [mkPkt 0x40 0x10 [0, 0, 2, 0xe0, 0, 0], mkPkt 0x00 0x11 []]
        = .ok (⟨some 1, .ignoreRest⟩, [[.start], []]) := by decide +kernel

/-- continuation data and packet-end occur only while a packet opened by packet-begin is open:
the nearest preceding non-continuation callback is a packet-begin -/
theorem data_and_end_only_while_open (pre post : List Ev) (e : Ev)
    (hs : evss.flatten = pre ++ e :: post) (he : (∃ o l, e = .cont o l) ∨ e = .endPkt) :
    ∃ pre' o l mid, pre = pre' ++ .beginPkt o l :: mid ∧ ∀ x ∈ mid, ∃ o' l', x = .cont o' l' := by
  have hacc := callbacks_well_nested_init f' ps evss h hr
  rw [hs] at hacc
  obtain ⟨pre', o, l, mid, h1, h2⟩ := cont_end_preceded_by_begin hacc (by simp) he
  refine ⟨pre', o, l, mid, h1, fun x hx => ?_⟩
  have := h2 x hx
  cases x <;> simp [isCont] at this ⊢

/-- each packet is closed at most once, by packet-end or by a continuity error: after either, no
packet-end (and no data) until another packet-begin -/
theorem closed_at_most_once (pre mid post : List Ev) (c e : Ev)
    (hs : evss.flatten = pre ++ c :: (mid ++ e :: post))
    (hc : c = .endPkt ∨ c = .ccErr) (he : (∃ o l, e = .cont o l) ∨ e = .endPkt) :
    ∃ o l, Ev.beginPkt o l ∈ mid := by
  have hacc := callbacks_well_nested_init f' ps evss h hr
  rw [hs] at hacc
  exact Protocol.closed_at_most_once hacc hc he

/-- packet-begin only when no packet is open: between two packet-begins there is a closing callback -/
theorem begin_only_when_closed (pre mid post : List Ev) (o l o' l' : Nat)
    (hs : evss.flatten = pre ++ .beginPkt o l :: (mid ++ .beginPkt o' l' :: post)) :
    Ev.endPkt ∈ mid ∨ Ev.ccErr ∈ mid := by
  have hacc := callbacks_well_nested_init f' ps evss h hr
  rw [hs] at hacc
  obtain ⟨m, _, hpost⟩ := accepts_append_some hacc
  obtain ⟨m', hm', hrest⟩ := accepts_cons_some hpost
  have := (step_begin hm').2; subst this
  obtain ⟨m2, hmid, hb⟩ := accepts_append_some hrest
  obtain ⟨m3, hm3, _⟩ := accepts_cons_some hb
  have := (step_begin hm3).1; subst this
  -- `mid` leads from `open_` to `idle`: it cannot consist of continuation data only
  clear hs hacc hpost hrest hb hm3 hm'
  induction mid with
  | nil => simp at hmid
  | cons x xs ih =>
    obtain ⟨q, hq, hxs⟩ := accepts_cons_some hmid
    cases x with
    | endPkt => simp
    | ccErr => simp
    | start => simp [protoStep] at hq
    | beginPkt a b => simp [protoStep] at hq
    | cont a b =>
      have := (step_cont hq).2; subst this
      rcases ih hxs with h' | h' <;> simp [h']

end clauses

/-! ### an unrecognised PES header: nothing of that packet is delivered -/

/-- a unit-start packet that did not produce `begin_packet` leaves the filter with no open packet
(and, like every unit-start packet, carries no continuation callback itself) -/
theorem unrecognised_header_not_delivered (f f' : F) (p : Bytes) (evs : List Ev) (h : p.length = 188)
    (hc : consume f p = .ok (f', evs)) (hus : readBits p 9 1 = 1)
    (hnb : ∀ o l, Ev.beginPkt o l ∉ evs) :
    f'.st ≠ .started ∧ ∀ o l, Ev.cont o l ∉ evs := by
  obtain ⟨rfl, rfl⟩ := consume_inv h hc
  have hu : usOf p = true := (usOf_true_iff p).mpr hus
  constructor
  · intro hst
    rcases stepOf_started hst with ⟨_, o, l, hb⟩ | ⟨hu', _⟩
    · exact hnb o l hb
    · rw [hu] at hu'; cases hu'
  · intro o l hm
    have := ((stepPure_cont_mem ..).mp hm).1
    rw [hu] at this; cases this

/-- for any run from any filter state: between a unit-start packet that produced no `begin_packet`
and the next `begin_packet`, no continuation data and no `end_packet` is delivered -/
theorem unrecognised_header_not_delivered_run (f f' : F) (p : Bytes) (ps : List Bytes)
    (e1 : List Ev) (evss : List (List Ev))
    (hp : p.length = 188) (hps : ∀ q ∈ ps, q.length = 188)
    (hr : run f (p :: ps) = .ok (f', e1 :: evss)) (hus : readBits p 9 1 = 1)
    (hnb : ∀ o l, Ev.beginPkt o l ∉ e1)
    (mid rest : List Ev) (hsplit : evss.flatten = mid ++ rest) (hmid : ∀ o l, Ev.beginPkt o l ∉ mid) :
    (∀ o l, Ev.cont o l ∉ e1 ++ mid) ∧ Ev.endPkt ∉ mid := by
  have hall : ∀ q ∈ p :: ps, q.length = 188 := List.forall_mem_cons.mpr ⟨hp, hps⟩
  obtain ⟨_, he⟩ := run_inv hall hr
  simp only [runPure, List.cons.injEq] at he
  obtain ⟨rfl, rfl⟩ := he
  have ⟨hst, hnc⟩ := unrecognised_header_not_delivered f _ p _ hp (consume_eq f p hp) hus hnb
  have ⟨h1, h2⟩ := runPure_closed_until_begin _ ps hst mid rest hsplit hmid
  exact ⟨fun o l hx => (List.mem_append.mp hx).elim (hnc o l) (h1 o l), h2⟩

/-- the same after an arbitrary prefix of packets fed to the freshly constructed filter -/
theorem unrecognised_header_not_delivered_anywhere (pre : List Bytes) (p : Bytes) (ps : List Bytes)
    (f' : F) (evss : List (List Ev))
    (hpre : ∀ q ∈ pre, q.length = 188) (hp : p.length = 188) (hps : ∀ q ∈ ps, q.length = 188)
    (hr : run {} (pre ++ p :: ps) = .ok (f', evss)) (hus : readBits p 9 1 = 1) :
    ∃ epre e1 epost, evss = epre ++ e1 :: epost ∧ epre.length = pre.length ∧
      ((∀ o l, Ev.beginPkt o l ∉ e1) →
        ∀ mid rest, epost.flatten = mid ++ rest → (∀ o l, Ev.beginPkt o l ∉ mid) →
          (∀ o l, Ev.cont o l ∉ e1 ++ mid) ∧ Ev.endPkt ∉ mid) := by
  have hall' : ∀ q ∈ p :: ps, q.length = 188 := List.forall_mem_cons.mpr ⟨hp, hps⟩
  obtain ⟨_, rfl⟩ := run_inv (List.forall_mem_append.mpr ⟨hpre, hall'⟩) hr
  rw [runPure_append]
  refine ⟨(runPure {} pre).2, (stepOf (runPure {} pre).1 p).2,
    (runPure (stepOf (runPure {} pre).1 p).1 ps).2, rfl, runPure_length _ _, ?_⟩
  intro hnb mid rest hsplit hmid
  exact unrecognised_header_not_delivered_run (runPure {} pre).1 _ p ps _ _ hp hps
    (run_eq _ (p :: ps) hall') hus hnb mid rest hsplit hmid

/-- NON-VACUITY of `unrecognised_header_not_delivered_anywhere`, APPLIED to an evaluated run: prefix
= a good unit start; `p` = a unit start whose payload has start code `00 00 02` (it closes the open
packet with `end_packet` and produces no `begin_packet`); then a continuation packet, whose 184 bytes
are not delivered, and a good unit start. -/
example : ∃ f' evss epre e1 epost,
    run {} ([mkPkt 0x40 0x10 pesStart] ++ mkPkt 0x40 0x11 [0, 0, 2, 0xe0, 0, 0]
        :: [mkPkt 0x00 0x12 [], mkPkt 0x40 0x13 pesStart]) = .ok (f', evss)
    ∧ evss = [[.start, .beginPkt 4 184], [.endPkt], [], [.beginPkt 4 184]]
    ∧ evss = epre ++ e1 :: epost ∧ epre.length = 1 ∧ e1 = [.endPkt]
    ∧ (∀ o l, Ev.cont o l ∉ e1 ++ ([] : List Ev)) ∧ Ev.endPkt ∉ ([] : List Ev) := by
  have hr : run {} ([mkPkt 0x40 0x10 pesStart] ++ mkPkt 0x40 0x11 [0, 0, 2, 0xe0, 0, 0]
        :: [mkPkt 0x00 0x12 [], mkPkt 0x40 0x13 pesStart])
      = .ok (⟨some 3, .started⟩, [[.start, .beginPkt 4 184], [.endPkt], [], [.beginPkt 4 184]]) := by
    decide +kernel
  obtain ⟨epre, e1, epost, he, hl, hcl⟩ := unrecognised_header_not_delivered_anywhere
    [mkPkt 0x40 0x10 pesStart] (mkPkt 0x40 0x11 [0, 0, 2, 0xe0, 0, 0])
    [mkPkt 0x00 0x12 [], mkPkt 0x40 0x13 pesStart] _ _ (by decide +kernel) (by decide +kernel)
    (by decide +kernel) hr (by decide +kernel)
  -- `epre` has one block, so `e1` is the second block of the evaluated trace
  obtain ⟨x, rfl⟩ : ∃ x, epre = [x] := by
    cases epre with
    | nil => cases hl
    | cons x xs => cases xs with
      | nil => exact ⟨x, rfl⟩
      | cons _ _ => simp at hl
  simp only [List.cons_append, List.nil_append, List.cons.injEq] at he
  obtain ⟨rfl, rfl, rfl⟩ := he
  have := hcl (by intro o l h; simp at h) [] [Ev.beginPkt 4 184] (by simp) (by simp)
  exact ⟨_, _, [[.start, .beginPkt 4 184]], [.endPkt], [[], [.beginPkt 4 184]], hr, rfl, rfl, rfl, rfl,
    this.1, this.2⟩

/-! ### exactly when `begin_packet` is delivered, and with which bytes -/

/-- `begin_packet` with header range `(o,l)` is delivered iff the packet has the unit-start flag,
`(o,l)` is exactly its payload range, and `PesHeader::from_bytes` accepts those bytes -/
theorem begin_iff (f f' : F) (p : Bytes) (evs : List Ev) (o l : Nat) (h : p.length = 188)
    (hc : consume f p = .ok (f', evs)) :
    Ev.beginPkt o l ∈ evs ↔
      (readBits p 9 1 = 1 ∧ payloadRange p = .ok (some (o, l)) ∧
        Pes.headerFromBytes (rangeBytes p (o, l)) = .ok (some (rangeBytes p (o, l)))) := by
  obtain ⟨rfl, rfl⟩ := consume_inv h hc
  rw [show (stepOf f p).2 = (stepPure f (usOf p) (hpOf p) (ccOf p) (payOf p) (hdrOf p)).2 from rfl,
    stepPure_begin_mem, usOf_true_iff, payloadRange_eq p h, headerFromBytes_some_iff]
  constructor
  · rintro ⟨h1, h2, h3⟩
    refine ⟨h1, by rw [h2], ?_⟩
    simpa [hdrOf, h2] using h3
  · rintro ⟨h1, h2, h3⟩
    have h2' : payOf p = some (o, l) := by injection h2
    refine ⟨h1, h2', ?_⟩
    simpa [hdrOf, h2'] using h3

/-- `begin_iff` on the packet's bytes: at least the 6 fixed header bytes are present and begin with
the start code `00 00 01`; the range reaches the packet's last byte -/
theorem begin_iff_bytes (f f' : F) (p : Bytes) (evs : List Ev) (o l : Nat) (h : p.length = 188)
    (hc : consume f p = .ok (f', evs)) :
    Ev.beginPkt o l ∈ evs ↔
      (readBits p 9 1 = 1 ∧ payloadRange p = .ok (some (o, l)) ∧ o + l = 188 ∧
        6 ≤ l ∧ byteD p o = 0 ∧ byteD p (o + 1) = 0 ∧ byteD p (o + 2) = 1) := by
  rw [begin_iff f f' p evs o l h hc, headerFromBytes_some_iff]
  constructor
  · rintro ⟨h1, h2, h3⟩
    have h2' : payOf p = some (o, l) := by rw [payloadRange_eq p h] at h2; injection h2
    have hs := (payOf_sound h2').2.1
    exact ⟨h1, h2, hs, (hdrOk_range p o l (by omega)).mp h3⟩
  · rintro ⟨h1, h2, hs, h3⟩
    exact ⟨h1, h2, (hdrOk_range p o l (by omega)).mpr h3⟩

/-- at most one `begin_packet` per transport packet, and it is the last callback of that packet -/
theorem begin_unique (f f' : F) (p : Bytes) (evs : List Ev) (o l o' l' : Nat) (h : p.length = 188)
    (hc : consume f p = .ok (f', evs)) (h1 : Ev.beginPkt o l ∈ evs) (h2 : Ev.beginPkt o' l' ∈ evs) :
    o = o' ∧ l = l' := by
  have a := ((begin_iff f f' p evs o l h hc).mp h1).2.1
  have b := ((begin_iff f f' p evs o' l' h hc).mp h2).2.1
  rw [a] at b; injection b with b; injection b with b
  simpa using b

/-! ### the behaviour before the fix commits

`consumeOld` is `PesPacketFilter::consume` of snapshot `7f24334` (before `efbc9c9` = fix F1a and
`b2c46bd` = fix F1b): on a continuity error the state ALWAYS becomes `IgnoreRest` (also from `Begin`),
and on a unit start the state becomes `Started` regardless of whether a PES header was recognised.
It is NOT the model; it shows that the two defects are real violations of the protocol acceptor, on
concrete 188-byte packets. -/

def consumeOld (f : F) (p : Bytes) : R (F × List Ev) := do
  let cont ← isContinuous f p
  let (st1, ev1) := if !cont then (St.ignoreRest, [Ev.ccErr]) else (f.st, [])
  let n ← cc p
  let us ← pusi p
  if us then do
    let (st2, ev2) :=
      if st1 == .started then (st1, [Ev.endPkt])
      else (St.started, if st1 == .begin then [Ev.start] else [])
    match ← payloadRange p with
    | some r => do
      match ← Pes.headerFromBytes (rangeBytes p r) with
      | some _ => pure (⟨some n, st2⟩, ev1 ++ ev2 ++ [Ev.beginPkt r.1 r.2])
      | none => pure (⟨some n, st2⟩, ev1 ++ ev2)
    | none => pure (⟨some n, st2⟩, ev1 ++ ev2)
  else
    match st1 with
    | .started => do
      match ← payloadRange p with
      | some r => if r.2 != 0 then pure (⟨some n, st1⟩, ev1 ++ [Ev.cont r.1 r.2]) else pure (⟨some n, st1⟩, ev1)
      | none => pure (⟨some n, st1⟩, ev1)
    | .begin => do
      let _ ← pid p
      pure (⟨some n, st1⟩, ev1)
    | .ignoreRest => pure (⟨some n, st1⟩, ev1)

def runOld (f : F) : List Bytes → R (F × List (List Ev))
  | [] => .ok (f, [])
  | p :: ps => do
    let (f1, e1) ← consumeOld f p
    let (f2, e2) ← runOld f1 ps
    pure (f2, e1 :: e2)

/-! concrete packets: `mkPkt b1 b3 pay` = `47 b1 00 b3 pay… ff…` (188 bytes; `b1 = 0x40` unit start,
`b3 = 0x10 + counter` payload only), `pesStart = 00 00 01 e0 00 00` (see `Ts.Lemmas.C08`) -/

/-- **F1a** (pre-fix): `[no unit start, cc=0] [no unit start, cc=5] [unit start, good header, cc=6]`
gives `ccerr, begin` — `begin_packet` without any `start_stream`; the acceptor rejects it. -/
example :
    runOld {} [mkPkt 0x00 0x10 [], mkPkt 0x00 0x15 [], mkPkt 0x40 0x16 pesStart]
      = .ok (⟨some 6, .started⟩, [[], [.ccErr], [.beginPkt 4 184]]) := by decide +kernel
example : accepts .notStarted ([[], [Ev.ccErr], [Ev.beginPkt 4 184]] : List (List Ev)).flatten = none := by
  decide
/-- the repaired model on the same packets: `ccerr, start, begin` — accepted -/
example :
    run {} [mkPkt 0x00 0x10 [], mkPkt 0x00 0x15 [], mkPkt 0x40 0x16 pesStart]
      = .ok (⟨some 6, .started⟩, [[], [.ccErr], [.start, .beginPkt 4 184]]) := by decide +kernel

/-- **F1b** (pre-fix): `[unit start, payload without 00 00 01] [continuation] [unit start, good]`
gives `start, cont, end, begin` — data and `end_packet` for a packet never begun; rejected. -/
example :
    runOld {} [mkPkt 0x40 0x10 [], mkPkt 0x00 0x11 [], mkPkt 0x40 0x12 pesStart]
      = .ok (⟨some 2, .started⟩, [[.start], [.cont 4 184], [.endPkt, .beginPkt 4 184]]) := by
  decide +kernel
example :
    accepts .notStarted
      ([[Ev.start], [Ev.cont 4 184], [Ev.endPkt, Ev.beginPkt 4 184]] : List (List Ev)).flatten = none := by
  decide
/-- the repaired model on the same packets: `start, begin` — the unrecognised packet's data is dropped -/
example :
    run {} [mkPkt 0x40 0x10 [], mkPkt 0x00 0x11 [], mkPkt 0x40 0x12 pesStart]
      = .ok (⟨some 2, .started⟩, [[.start], [], [.beginPkt 4 184]]) := by decide +kernel

/-! ### non-vacuity -/

example : (mkPkt 0x40 0x10 pesStart).length = 188 := by decide +kernel
example : readBits (mkPkt 0x40 0x10 pesStart) 9 1 = 1 := by decide +kernel

/-- a run exhibiting every callback: start, begin, data, end, a continuity error closing a packet,
a packet with an adaptation field (payload range `(12,176)`), an unrecognised header -/
example :
    run {} [mkPkt 0x40 0x10 pesStart, mkPkt 0x00 0x11 [], mkPkt 0x40 0x12 pesStart,
            mkPkt 0x00 0x14 [], mkPkt 0x00 0x15 [],
            mkPkt 0x40 0x36 ([7, 0, 0xff, 0xff, 0xff, 0xff, 0xff, 0xff] ++ pesStart),
            mkPkt 0x40 0x17 [], mkPkt 0x00 0x18 []]
      = .ok (⟨some 8, .ignoreRest⟩,
          [[.start, .beginPkt 4 184], [.cont 4 184], [.endPkt, .beginPkt 4 184],
           [.ccErr], [], [.beginPkt 12 176], [.endPkt], []]) := by decide +kernel

example : consume {} (mkPkt 0x40 0x10 []) = .ok (⟨some 0, .ignoreRest⟩, [.start]) := by decide +kernel

/-- arbitrary garbage (not even a sync byte) is handled without panic -/
example : consume ⟨some 3, .started⟩ (List.replicate 188 0xff)
    = .ok (⟨some 15, .ignoreRest⟩, [.ccErr]) := by decide +kernel

/-! ### the READING of "header could not be recognised", as a theorem -/

theorem contents_parsed_none_of_check (h : Bytes)
    (hc : (match Pes.contents h with | .ok (.parsed none) => true | _ => false) = true) :
    Pes.contents h = .ok (.parsed none) := by
  cases hh : Pes.contents h with
  | panic s => rw [hh] at hc; cases hc
  | ok c =>
    cases c with
    | payload r => rw [hh] at hc; cases hc
    | parsed o =>
      cases o with
      | none => rfl
      | some x => rw [hh] at hc; cases hc

/-- a unit-start packet whose payload starts with the recognisable PES header `00 00 01 e0 00 00`
(stream id `e0`: a stream id WITH an optional header) followed by `00`: the optional header's
marker bits are not `'10'`, so `PesParsedContents::from_bytes` rejects it -/
def rejFirst : Bytes := mkPkt 0x40 0x10 (pesStart ++ [0x00])
/-- a continuation packet (counter 1, 184 payload bytes) -/
def rejCont : Bytes := mkPkt 0x00 0x11 []

/-- **THE READING, witnessed.**  There are two 188-byte packets — a unit start whose payload is
accepted by `PesHeader::from_bytes` (`00 00 01` prefix, ≥ 6 bytes) but whose OPTIONAL header is
rejected (`PesHeader::contents` = `Parsed(None)`, what `App.beginInfo` reports as `kind = 2`), then a
continuation — on which the filter delivers `start_stream`, `begin_packet` AND the continuation
data.  So "data of a PES packet whose header could not be recognised is not delivered" holds of the
code only when "could not be recognised" is read as "`PesHeader::from_bytes` = `None`" (then
`unrecognised_header_not_delivered…` apply), NOT as "the optional header was rejected". -/
theorem rejected_optional_header_still_delivered :
    ∃ p0 p1 : Bytes, p0.length = 188 ∧ p1.length = 188 ∧ ∃ f' o l o' l',
      run {} [p0, p1] = .ok (f', [[.start, .beginPkt o l], [.cont o' l']]) ∧
      Pes.headerFromBytes (rangeBytes p0 (o, l)) = .ok (some (rangeBytes p0 (o, l))) ∧
      Pes.contents (rangeBytes p0 (o, l)) = .ok (.parsed none) := by
  refine ⟨rejFirst, rejCont, by decide +kernel, by decide +kernel, ⟨some 1, .started⟩, 4, 184, 4, 184,
    by decide +kernel, by decide +kernel, ?_⟩
  exact contents_parsed_none_of_check _ (by decide +kernel)

/-- the contrast: the same two packets with the start-code prefix destroyed (`00 00 02`):
`PesHeader::from_bytes` = `None`, and NOTHING of the packet is delivered — neither `begin_packet` nor
the continuation data (an instance of `unrecognised_header_not_delivered_run`) -/
example : run {} [mkPkt 0x40 0x10 [0, 0, 2, 0xe0, 0, 0, 0x00], rejCont]
      = .ok (⟨some 1, .ignoreRest⟩, [[.start], []])
    ∧ Pes.headerFromBytes (rangeBytes (mkPkt 0x40 0x10 [0, 0, 2, 0xe0, 0, 0, 0x00]) (4, 184)) = .ok none := by
  decide +kernel

end Ts.Props.C08
