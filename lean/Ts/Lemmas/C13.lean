import Ts.Basic
import Ts.Spec.Bits
import Ts.Spec.AfSpec
import Ts.Lemmas.C15
import Ts.Model.Af
/-!
Adaptation field and extension: each accessor of the model ("slice at the offset the flags give,
then decode with masks and shifts") against the sequential cursor parser of `AfSpec` ("read the
element at the cursor, as `uimsbf` fields").
-/
namespace Ts.Lemmas.C13
open Ts Ts.Spec Ts.Spec.AfSpec Ts.Time Ts.Af

/-! ### flags: each is `bit_eq_mask` at its bit of the first byte -/

theorem disc_flag (buf : Bytes) : (readBits buf 0 1 == 1) = (byteD buf 0 &&& 0b1000_0000 != 0) :=
  bit_eq_mask buf 0 0 (by omega)
theorem rai_flag (buf : Bytes) : (readBits buf 1 1 == 1) = (byteD buf 0 &&& 0b0100_0000 != 0) :=
  bit_eq_mask buf 0 1 (by omega)
theorem espi_val (buf : Bytes) : readBits buf 2 1 = (byteD buf 0 &&& 0b10_0000) >>> 5 := by
  rw [show byteD buf 0 &&& 0b10_0000 = byteD buf 0 / 32 % 2 * 32 from and_mask _ 5 1,
    Nat.shiftRight_eq_div_pow, Nat.mul_div_cancel _ (by decide)]
  simpa using readBits_sub buf 0 2 1 (by omega)
theorem pcr_flag (buf : Bytes) : (readBits buf 3 1 == 1) = pcrFlag (byteD buf 0) :=
  bit_eq_mask buf 0 3 (by omega)
theorem opcr_flag (buf : Bytes) : (readBits buf 4 1 == 1) = opcrFlag (byteD buf 0) :=
  bit_eq_mask buf 0 4 (by omega)
theorem splice_flag (buf : Bytes) : (readBits buf 5 1 == 1) = spliceFlag (byteD buf 0) :=
  bit_eq_mask buf 0 5 (by omega)
theorem priv_flag (buf : Bytes) : (readBits buf 6 1 == 1) = privFlag (byteD buf 0) :=
  bit_eq_mask buf 0 6 (by omega)
theorem ext_flag (buf : Bytes) : (readBits buf 7 1 == 1) = extFlag (byteD buf 0) :=
  bit_eq_mask buf 0 7 (by omega)
theorem ltw_flag (e : Bytes) : (readBits e 0 1 == 1) = ltwFlag (byteD e 0) :=
  bit_eq_mask e 0 0 (by omega)
theorem piecewise_flag (e : Bytes) : (readBits e 1 1 == 1) = piecewiseFlag (byteD e 0) :=
  bit_eq_mask e 0 1 (by omega)
theorem seamless_flag (e : Bytes) : (readBits e 2 1 == 1) = seamlessFlag (byteD e 0) :=
  bit_eq_mask e 0 2 (by omega)

/-! ### `ClockRef::from_slice` and `Timestamp::from_bytes`, against the readings of `AfSpec` -/

theorem fromBytes_decode (d : Bytes) (h : 5 ≤ d.length) :
    fromBytes d = .ok (match seamlessOf d with
      | .error n => .error (.markerBitNotSet n)
      | .ok v => .ok v.2) := by
  -- `seamlessOf` tests the markers with `≠ 1`, `fromBytes_exact` with `= 0`
  have m : ∀ n, (readBits d n 1 ≠ 1) = (readBits d n 1 = 0) := fun n =>
    propext ⟨fun c => by have := readBits_lt d n 1; omega, fun c => by omega⟩
  rw [C15.fromBytes_exact d h]
  unfold seamlessOf
  simp only [m]
  split
  · rfl
  split
  · rfl
  split <;> rfl

theorem splice_type_bits (d : Bytes) : byteD d 0 >>> 4 = readBits d 0 4 := by
  rw [C15.field_prefix, Nat.shiftRight_eq_div_pow]

/-! ### slices and `readN` -/

theorem slice_ok (buf : Bytes) (a n : Nat) (h : a + n ≤ buf.length) :
    Af.slice buf a (a + n) = .ok (.ok ((buf.drop a).take n)) := by
  unfold Af.slice
  have h1 : ¬ (a + n > buf.length) := by omega
  rw [if_neg h1, sliceR_ok buf a n h]; rfl

theorem slice_short (buf : Bytes) (a n : Nat) (h : ¬ a + n ≤ buf.length) :
    Af.slice buf a (a + n) = .ok (.error .notEnoughData) := by
  unfold Af.slice
  have h1 : a + n > buf.length := by omega
  rw [if_pos h1]

theorem readN_ok (buf : Bytes) (a n : Nat) (h : a + n ≤ buf.length) :
    readN buf a n = some ((buf.drop a).take n) := by simp [readN, h]
theorem readN_short (buf : Bytes) (a n : Nat) (h : ¬ a + n ≤ buf.length) : readN buf a n = none := by
  simp [readN, h]

theorem flags_ok (buf : Bytes) (hne : buf ≠ []) : flags buf = .ok (byteD buf 0) :=
  byteAt_ok buf 0 (List.length_pos_iff.mpr hne)

/-! ### bridging: fixed-size optional elements

"If the flag is set, slice `n` bytes at offset `a` and decode" (every such accessor of the model) is
"read the element at cursor `a`" (the specification).  `k` is what the accessor does with the
result of the slice, `res` how the specification's outcome is reported. -/
theorem elem_field {α : Type} (buf : Bytes) (flag : Bool) (a n : Nat) (k : Res Bytes → R (Res α))
    (res : Field Bytes → Res α) (habs : res .absent = .error .fieldNotPresent)
    (htr : res .truncated = .error .notEnoughData)
    (hok : ∀ d : Bytes, d.length = n → k (.ok d) = .ok (res (.present d)))
    (herr : ∀ e, k (.error e) = .ok (.error e)) :
    (if flag = true then Af.slice buf a (a + n) >>= k
      else pure (Except.error AfErr.fieldNotPresent) : R (Res α))
      = .ok (res (optElem flag buf a n).1) := by
  cases flag
  · exact congrArg R.ok habs.symm
  · simp only [if_true, optElem]
    by_cases h : a + n ≤ buf.length
    · rw [slice_ok _ _ _ h, readN_ok _ _ _ h, R.ok_bind, hok _ (length_window _ _ _ h)]; rfl
    · rw [slice_short _ _ _ h, readN_short _ _ _ h, R.ok_bind, herr, ← htr]; rfl

theorem elem_map {α : Type} (buf : Bytes) (flag : Bool) (a n : Nat) (k : Res Bytes → R (Res α))
    (dec : Bytes → α) (hok : ∀ d : Bytes, d.length = n → k (.ok d) = .ok (.ok (dec d)))
    (herr : ∀ e, k (.error e) = .ok (.error e)) :
    (if flag = true then Af.slice buf a (a + n) >>= k
      else pure (Except.error AfErr.fieldNotPresent) : R (Res α))
      = .ok (toRes ((optElem flag buf a n).1.map dec)) :=
  elem_field buf flag a n k (fun f => toRes (f.map dec)) rfl rfl hok herr

theorem clock_decode (d : Bytes) (h : d.length = 6) :
    (do let c ← crefFromSlice d; pure (Except.ok c) : R (Res ClockRef)) = .ok (.ok (clockOf d)) := by
  rw [C15.crefFromSlice_ok d (by omega)]; rfl

theorem byte_decode (d : Bytes) (h : d.length = 1) :
    (do let v ← byteAt d 0; pure (Except.ok v) : R (Res Nat)) = .ok (.ok (readBits d 0 8)) := by
  rw [byteAt_ok d 0 (by omega), show readBits d 0 8 = byteD d 0 from readBits_byte d 0]; rfl

theorem clock_at (buf : Bytes) (a : Nat) :
    (do match ← Af.slice buf a (a + PCR_SIZE) with
        | .ok s => do let c ← crefFromSlice s; pure (Except.ok c)
        | .error e => pure (Except.error e) : R (Res ClockRef))
      = .ok (toRes ((ofOpt (readN buf a 6)).map clockOf)) :=
  elem_map buf true a 6 _ clockOf clock_decode (fun _ => rfl)

theorem byte_at (buf : Bytes) (a : Nat) :
    (do match ← Af.slice buf a (a + 1) with
        | .ok s => do let v ← byteAt s 0; pure (Except.ok v)
        | .error e => pure (Except.error e) : R (Res Nat))
      = .ok (toRes ((ofOpt (readN buf a 1)).map (fun b => readBits b 0 8))) :=
  elem_map buf true a 1 _ (fun b => readBits b 0 8) byte_decode (fun _ => rfl)

/-! ### bridging: length-prefixed elements -/

theorem len_byte (buf : Bytes) (a : Nat) : readBits ((buf.drop a).take 1) 0 8 = byteD buf a := by
  have := readBits_byte (List.take 1 (List.drop a buf)) 0
  simp only [Nat.mul_zero] at this
  rw [this, byteD_window _ _ _ _ (by omega)]; rfl

theorem lenPrefixed_ok (buf : Bytes) (a : Nat) (h : a + 1 ≤ buf.length) :
    lenPrefixed buf a = (ofOpt (readN buf (a + 1) (byteD buf a)), a + 1 + byteD buf a) := by
  unfold lenPrefixed; rw [readN_ok _ _ _ h]; simp only [len_byte]

theorem lenPrefixed_short (buf : Bytes) (a : Nat) (h : ¬ a + 1 ≤ buf.length) :
    lenPrefixed buf a = (.truncated, a + 1) := by
  unfold lenPrefixed; rw [readN_short _ _ _ h]

theorem slice_readN (buf : Bytes) (a n : Nat) :
    Af.slice buf a (a + n) = .ok (toRes (ofOpt (readN buf a n))) := by
  by_cases h : a + n ≤ buf.length
  · rw [slice_ok _ _ _ h, readN_ok _ _ _ h]; rfl
  · rw [slice_short _ _ _ h, readN_short _ _ _ h]; rfl

/-- slicing the length byte at `a` and reading it; `k` is what the accessor does with the slice,
`f` what it does with the length -/
theorem len_at {β : Type} (buf : Bytes) (a : Nat) (k : Res Bytes → R (Res β)) (f : Nat → R (Res β))
    (hok : ∀ s, k (.ok s) = byteAt s 0 >>= f) (herr : ∀ e, k (.error e) = .ok (.error e)) :
    Af.slice buf a (a + 1) >>= k =
      if a + 1 ≤ buf.length then f (byteD buf a) else .ok (.error .notEnoughData) := by
  by_cases h : a + 1 ≤ buf.length
  · rw [slice_ok _ _ _ h, if_pos h, R.ok_bind, hok, byteAt_window buf a 1 0 h (by omega), R.ok_bind,
      Nat.add_zero]
  · rw [slice_short _ _ _ h, if_neg h, R.ok_bind, herr]

theorem priv_at (buf : Bytes) (a : Nat) :
    (do match ← Af.slice buf a (a + 1) with
        | .error e => pure (Except.error e)
        | .ok s => do
          let len ← byteAt s 0
          Af.slice buf (a + 1) (a + 1 + len) : R (Res Bytes))
      = .ok (toRes (lenPrefixed buf a).1) := by
  refine Eq.trans (len_at buf a _ _ (fun _ => rfl) (fun _ => rfl)) ?_
  by_cases h : a + 1 ≤ buf.length
  · rw [if_pos h, lenPrefixed_ok _ _ h, slice_readN]
  · rw [if_neg h, lenPrefixed_short _ _ h]; rfl

theorem priv_field (buf : Bytes) (flag : Bool) (a : Nat) :
    (if flag = true then
        (do match ← Af.slice buf a (a + 1) with
            | .error e => pure (Except.error e)
            | .ok s => do
              let len ← byteAt s 0
              Af.slice buf (a + 1) (a + 1 + len))
      else pure (Except.error AfErr.fieldNotPresent) : R (Res Bytes))
      = .ok (toRes (optLenPrefixed flag buf a).1) := by
  cases flag
  · rfl
  · simp only [if_true]; exact priv_at buf a

/-- the code after `adaptation_field_extension_offset()?` -/
def extBody (buf : Bytes) (off : Nat) : R (Res Bytes) := do
  match ← Af.slice buf off (off + 1) with
  | .error e => pure (.error e)
  | .ok s => do
    let len ← byteAt s 0
    match ← Af.slice buf (off + 1) (off + 1 + len) with
    | .error e => pure (.error e)
    | .ok e => pure (extNew e)

theorem extNew_eq (e : Bytes) : extNew e = toRes (nonEmpty (.present e)) := by
  cases e <;> rfl

theorem ext_at (buf : Bytes) (a : Nat) : extBody buf a = .ok (toRes (nonEmpty (lenPrefixed buf a).1)) := by
  refine Eq.trans (len_at buf a _ _ (fun _ => rfl) (fun _ => rfl)) ?_
  by_cases h : a + 1 ≤ buf.length
  · rw [if_pos h, lenPrefixed_ok _ _ h, slice_readN]
    cases readN buf (a + 1) (byteD buf a) with
    | none => rfl
    | some e => exact congrArg R.ok (extNew_eq e)
  · rw [if_neg h, lenPrefixed_short _ _ h]; rfl

/-- `adaptation_field_extension_offset()` = the spec's cursor after the private-data element;
when the private-data length byte is missing the model reports not-enough-data, and the spec's cursor is
past the end so the extension is truncated as well -/
theorem ext_from (buf : Bytes) (pf : Bool) (a : Nat) :
    (do match ← (do
          if pf = true then
            match ← Af.slice buf a (a + 1) with
            | .error e => pure (Except.error e)
            | .ok s => do let len ← byteAt s 0; pure (Except.ok (a + (len + 1)))
          else pure (Except.ok (a + 0)) : R (Res Nat)) with
        | .error e => pure (Except.error e)
        | .ok off => extBody buf off : R (Res Bytes))
      = .ok (toRes (nonEmpty (lenPrefixed buf (optLenPrefixed pf buf a).2).1)) := by
  cases pf
  · simp only [Bool.false_eq_true, if_false, R.pure_eq, R.ok_bind, Nat.add_zero]
    exact ext_at buf a
  · simp only [if_true, optLenPrefixed]
    refine Eq.trans (congrArg (fun x : R (Res Nat) => x >>= _)
      (len_at buf a _ _ (fun _ => rfl) (fun _ => rfl))) ?_
    by_cases h : a + 1 ≤ buf.length
    · rw [if_pos h, lenPrefixed_ok _ _ h, show a + (byteD buf a + 1) = a + 1 + byteD buf a by omega]
      exact ext_at buf _
    · rw [if_neg h, lenPrefixed_short _ _ h, lenPrefixed_short _ _ (by omega)]; rfl

/-! ### extension value decoding -/

theorem ltw_decode (d : Bytes) (h : d.length = 2) :
    (do let d0 ← byteAt d 0
        let valid := d0 &&& 0b1000_0000 != 0
        if valid then do
          let d0' ← byteAt d 0
          let d1 ← byteAt d 1
          pure (Except.ok (some (((d0' &&& 0b0111_1111) <<< 8) ||| d1)))
        else pure (Except.ok none) : R (Res (Option Nat)))
      = .ok (.ok (ltwOf d)) := by
  rw [byteAt_ok d 0 (by omega), byteAt_ok d 1 (by omega)]
  simp only [R.ok_bind, R.pure_eq]
  unfold ltwOf
  rw [show (readBits d 0 1 == 1) = _ from bit_eq_mask d 0 0 (by omega)]
  cases hv : (byteD d 0 &&& 0b1000_0000 != 0)
  · simp
  · have e := readBits_be d 0 1 15 2 (by omega)
    simp only [be, Nat.zero_mul, Nat.zero_add, Nat.add_zero, Nat.reduceMul] at e
    have := byteD_lt d 1
    rw [if_pos rfl, if_pos rfl, and_7f _ (byteD_lt d 0), Nat.shiftLeft_eq,
      or_eq_add 8 (Nat.dvd_mul_left _ _) (byteD_lt d 1), e]
    congr 3; omega

theorem pw_decode (d : Bytes) (h : d.length = 3) :
    (do let d0 ← byteAt d 0; let d1 ← byteAt d 1; let d2 ← byteAt d 2
        pure (Except.ok (((d0 &&& 0b0011_1111) <<< 16) ||| (d1 <<< 8) ||| d2)) : R (Res Nat))
      = .ok (.ok (piecewiseOf d)) := by
  rw [byteAt_ok d 0 (by omega), byteAt_ok d 1 (by omega), byteAt_ok d 2 (by omega)]
  simp only [R.ok_bind, R.pure_eq]
  unfold piecewiseOf
  have e := readBits_be d 0 2 22 3 (by omega)
  simp only [be, Nat.zero_mul, Nat.zero_add, Nat.add_zero, Nat.reduceMul] at e
  have := byteD_lt d 1; have := byteD_lt d 2
  rw [and_3f _ (byteD_lt d 0), e]
  simp only [Nat.shiftLeft_eq]
  simp (disch := omega) only [or_eq_add 16, or_eq_add 8]
  congr 2; omega

theorem ss_decode (d : Bytes) (h : d.length = 5) :
    (do let d0 ← byteAt d 0
        let spliceType := d0 >>> 4
        match ← fromBytes d with
        | .error e => pure (Except.error (AfErr.spliceTimestampError e))
        | .ok v => pure (Except.ok (spliceType, v)) : R (Res (Nat × Nat)))
      = .ok (toResSplice (.present (seamlessOf d))) := by
  rw [byteAt_ok d 0 (by omega), fromBytes_decode d (by omega)]
  simp only [R.ok_bind, splice_type_bits]
  unfold seamlessOf
  -- the first cleared marker decides, on both sides
  by_cases h7 : readBits d 7 1 = 1
  · by_cases h23 : readBits d 23 1 = 1
    · by_cases h39 : readBits d 39 1 = 1
      · simp only [h7, h23, h39, ne_eq, not_true_eq_false, if_false]; rfl
      · simp only [h7, h23, h39, ne_eq, not_true_eq_false, not_false_eq_true, if_false, if_true]; rfl
    · simp only [h7, h23, ne_eq, not_true_eq_false, not_false_eq_true, if_false, if_true]; rfl
  · simp only [h7, ne_eq, not_false_eq_true, if_true]; rfl

/-! ### the spec's fields as "element at the cursor left by the preceding elements"

`specAf` threads the cursor through a chain of `let (field, cur) := …`; these equations (all by
`rfl`) name the intermediate cursors, and `cur1_eq` … `cur3_eq` show that the model's flag-computed
offsets are exactly those cursors (the fourth depends on the private-data length byte: `ext_from`). -/

def cur1 (buf : Bytes) : Nat := (optElem (readBits buf 3 1 == 1) buf 1 6).2
def cur2 (buf : Bytes) : Nat := (optElem (readBits buf 4 1 == 1) buf (cur1 buf) 6).2
def cur3 (buf : Bytes) : Nat := (optElem (readBits buf 5 1 == 1) buf (cur2 buf) 1).2
def cur4 (buf : Bytes) : Nat := (optLenPrefixed (readBits buf 6 1 == 1) buf (cur3 buf)).2

theorem spec_pcr (buf : Bytes) :
    (specAf buf).pcr = (optElem (readBits buf 3 1 == 1) buf 1 6).1.map clockOf := rfl
theorem spec_opcr (buf : Bytes) :
    (specAf buf).opcr = (optElem (readBits buf 4 1 == 1) buf (cur1 buf) 6).1.map clockOf := rfl
theorem spec_splice (buf : Bytes) :
    (specAf buf).splice
      = (optElem (readBits buf 5 1 == 1) buf (cur2 buf) 1).1.map (fun b => readBits b 0 8) := rfl
theorem spec_priv (buf : Bytes) :
    (specAf buf).priv = (optLenPrefixed (readBits buf 6 1 == 1) buf (cur3 buf)).1 := rfl
theorem spec_ext (buf : Bytes) :
    (specAf buf).ext = nonEmpty (optLenPrefixed (readBits buf 7 1 == 1) buf (cur4 buf)).1 := rfl

theorem cur1_eq (buf : Bytes) : cur1 buf = opcrOffset (byteD buf 0) := by
  unfold cur1 opcrOffset optElem PCR_SIZE; rw [pcr_flag]; cases pcrFlag (byteD buf 0) <;> rfl
theorem cur2_eq (buf : Bytes) : cur2 buf = spliceOffset (byteD buf 0) := by
  unfold cur2 spliceOffset optElem PCR_SIZE; rw [cur1_eq, opcr_flag]; cases opcrFlag (byteD buf 0) <;> rfl
theorem cur3_eq (buf : Bytes) : cur3 buf = privOffset (byteD buf 0) := by
  unfold cur3 privOffset optElem; rw [cur2_eq, splice_flag]; cases spliceFlag (byteD buf 0) <;> rfl

theorem optLenPrefixed_true (buf : Bytes) (c : Nat) : optLenPrefixed true buf c = lenPrefixed buf c := rfl

def ecur1 (e : Bytes) : Nat := (optElem (readBits e 0 1 == 1) e 1 2).2
def ecur2 (e : Bytes) : Nat := (optElem (readBits e 1 1 == 1) e (ecur1 e) 3).2

theorem spec_ltw (e : Bytes) : (specExt e).ltw = (optElem (readBits e 0 1 == 1) e 1 2).1.map ltwOf := rfl
theorem spec_piecewise (e : Bytes) :
    (specExt e).piecewise = (optElem (readBits e 1 1 == 1) e (ecur1 e) 3).1.map piecewiseOf := rfl
theorem spec_seamless (e : Bytes) :
    (specExt e).seamless = (optElem (readBits e 2 1 == 1) e (ecur2 e) 5).1.map seamlessOf := rfl

theorem ecur1_eq (e : Bytes) : ecur1 e = piecewiseOffset (byteD e 0) := by
  unfold ecur1 piecewiseOffset optElem; rw [ltw_flag]; cases ltwFlag (byteD e 0) <;> rfl
theorem ecur2_eq (e : Bytes) : ecur2 e = seamlessOffset (byteD e 0) := by
  unfold ecur2 seamlessOffset optElem; rw [ecur1_eq, piecewise_flag]; cases piecewiseFlag (byteD e 0) <;> rfl

/-! ### where `present` values come from -/

theorem readN_inside (buf : Bytes) (cur n : Nat) (d : Bytes) (h : readN buf cur n = some d) :
    cur + n ≤ buf.length ∧ d = (buf.drop cur).take n ∧ d.length = n ∧
      ∀ i, i < n → byteD d i = byteD buf (cur + i) := by
  unfold readN at h
  by_cases hl : cur + n ≤ buf.length
  · rw [if_pos hl] at h
    have hd : d = (buf.drop cur).take n := by injection h with h; exact h.symm
    refine ⟨hl, hd, ?_, ?_⟩
    · rw [hd]; exact length_window _ _ _ hl
    · intro i hi; rw [hd]; exact byteD_window _ _ _ _ hi
  · rw [if_neg hl] at h; cases h

theorem ofOpt_present {α} (o : Option α) (v : α) (h : ofOpt o = .present v) : o = some v := by
  cases o with
  | none => cases h
  | some w => injection h with h; rw [h]

theorem optElem_present (flag : Bool) (buf : Bytes) (cur n : Nat) (v : Bytes)
    (h : (optElem flag buf cur n).1 = .present v) : flag = true ∧ readN buf cur n = some v := by
  cases flag
  · cases h
  · exact ⟨rfl, ofOpt_present _ _ h⟩

theorem map_present {α β} (f : α → β) (x : Field α) (w : β) (h : x.map f = .present w) :
    ∃ v, x = .present v ∧ w = f v := by
  cases x with
  | absent => cases h
  | truncated => cases h
  | present v => injection h with h; exact ⟨v, rfl, h.symm⟩

theorem lenPrefixed_present (buf : Bytes) (cur : Nat) (v : Bytes)
    (h : (lenPrefixed buf cur).1 = .present v) :
    cur + 1 ≤ buf.length ∧ readN buf (cur + 1) (byteD buf cur) = some v := by
  by_cases hl : cur + 1 ≤ buf.length
  · rw [lenPrefixed_ok _ _ hl] at h
    exact ⟨hl, ofOpt_present _ _ h⟩
  · rw [lenPrefixed_short _ _ hl] at h; cases h

theorem optLenPrefixed_present (flag : Bool) (buf : Bytes) (cur : Nat) (v : Bytes)
    (h : (optLenPrefixed flag buf cur).1 = .present v) :
    flag = true ∧ cur + 1 ≤ buf.length ∧ readN buf (cur + 1) (byteD buf cur) = some v := by
  cases flag
  · cases h
  · exact ⟨rfl, lenPrefixed_present _ _ _ h⟩

theorem nonEmpty_present (x : Field Bytes) (v : Bytes) (h : nonEmpty x = .present v) :
    x = .present v ∧ v ≠ [] := by
  cases x with
  | absent => cases h
  | truncated => cases h
  | present w =>
    cases w with
    | nil => cases h
    | cons a t => injection h with h; subst h; exact ⟨rfl, by simp⟩

theorem toRes_ok {α} (x : Field α) (v : α) (h : toRes x = .ok v) : x = .present v := by
  cases x with
  | absent => cases h
  | truncated => cases h
  | present w => injection h with h; rw [h]

theorem toResSplice_ok (x : Field (Except Nat (Nat × Nat))) (v : Nat × Nat)
    (h : toResSplice x = .ok v) : x = .present (.ok v) := by
  match x, h with
  | .present (.ok u), h => injection h with h; rw [h]

/-- a value reported for a fixed-size element: its flag is set, its window lies inside `buf`, and
the value is the decode of exactly those bytes -/
theorem elem_present {α} (flag : Bool) (buf : Bytes) (cur n : Nat) (dec : Bytes → α) (v : α)
    (h : (optElem flag buf cur n).1.map dec = .present v) :
    flag = true ∧ cur + n ≤ buf.length ∧ v = dec ((buf.drop cur).take n) := by
  obtain ⟨d, hd, hv⟩ := map_present _ _ _ h
  obtain ⟨hf, hr⟩ := optElem_present _ _ _ _ _ hd
  obtain ⟨h1, h2, _, _⟩ := readN_inside _ _ _ _ hr
  exact ⟨hf, h1, by rw [hv, h2]⟩

theorem lenElem_present (flag : Bool) (buf : Bytes) (cur : Nat) (v : Bytes)
    (h : (optLenPrefixed flag buf cur).1 = .present v) :
    flag = true ∧ cur + 1 + byteD buf cur ≤ buf.length
      ∧ v = (buf.drop (cur + 1)).take (byteD buf cur) := by
  obtain ⟨hf, _, hr⟩ := optLenPrefixed_present _ _ _ _ h
  obtain ⟨h1, h2, _, _⟩ := readN_inside _ _ _ _ hr
  exact ⟨hf, h1, h2⟩

theorem toRes_notEnough {α} (x : Field α) : toRes x = .error .notEnoughData ↔ x = .truncated := by
  cases x <;> simp [toRes]

theorem toRes_notPresent {α} (x : Field α) : toRes x = .error .fieldNotPresent ↔ x = .absent := by
  cases x <;> simp [toRes]

end Ts.Lemmas.C13
