import Ts.Lemmas.C10
import Ts.Lemmas.C10b
import Ts.Lemmas.C10c
import Ts.Lemmas.C10d
import Ts.Props.C06
import Ts.Props.C05History
import Ts.Props.C11
import Ts.Lemmas.AppEval
/-!
# C10 — re-transmission of an already applied PAT / PMT version is a no-op

**Status: the property as written is FALSE of the pinned code in two ways (known findings F8, F9);
what is proved is the property per handler INSTANCE and per packetisation that puts at least the
8-byte fixed header into the starting packet.**

Observation points: the `Psi.table` chain (`SectionSyntaxSectionProcessor` → `DedupSection…` →
`BufferSectionSyntaxParser`; its deliveries are what reaches the CRC layer), the application's
PAT / PMT handlers (`App.consume`: context = trace of `construct` requests and consumer events +
tag counter; change list = queued insertions / removals), and the dispatcher (`Demux.specStep` /
`pushSpec`, which the real loops equal by C06 `push_refines_spec`).

`Quiescent v s` (the dedup layer remembers `v`, the buffer layer is `Complete`) speaks of the INTERNAL
field `lastVersion` of ONE handler instance.  `C10_full` states the property over whole histories
(`Spec.RoutingHistory`), "last applied on that PID" read off the history.

* **F9** (`C10_full_false`): PAT v0, PMT v0, PAT v1 (same program), PMT v0 again — the PAT version
  change rebuilt the PMT handler, the rebuilt filter has forgotten version 0, the PMT is re-applied and
  the elementary-stream handler replaced mid-PES-packet.  `C10_partial`, `C10_gap_is_F9`: with "no PAT
  version listing `p` applied since the last table on `p`" the property holds, and that is the only gap
  at history level.
* **F8** (`short_start_resets`, `C10_any_cut_false`): a unit-start packet with fewer than 3 section
  bytes after the pointer bytes resets the dedup layer; the next ordinary repetition is re-applied.
  Every theorem here excludes such packetisations through `RepPayload` → `WellFormedMux`
  (`minHeader .syntax = 8`: the starting packet carries the whole 8-byte fixed header; first shares of
  3..7 bytes set `ignore_rest` and are F13's shape, `Ts.Props.C11.short_first_share_never_applied`).
* Unapplied starts (`unapplied_start_then_repeat_reapplied`): any accepted section start with another
  `version_number` moves the version memory, applied or not; witnesses `foreign_table_between_repeats`
  (scope observation, DESIGN 8.1b) and `damaged_copy_between_repeats` (F12 of C04).
-/
namespace Ts.Props.C10
open Ts Ts.Psi Ts.Spec Ts.Spec.SectionMux Ts.Lemmas.C03 Ts.Lemmas.C10 Ts.App Ts.Demux
open Ts.Tables Ts.Spec.RoutingHistory Ts.Lemmas.C05H Ts.Lemmas.C05Run


theorem versionOf_iff (S : Bytes) :
    versionOf S = readBits S 42 5 ∧ versionOf S = (byteD S 5 >>> 1) &&& 0b0001_1111 :=
  ⟨rfl, versionOf_eq S⟩

/-- the model reads exactly this field: `TableSyntaxHeader::new(&data[3..]).version()` -/
theorem version_exact (d : Bytes) (h : 8 ≤ d.length) : Psi.tshVersion (d.drop 3) = .ok (versionOf d) :=
  tshVersion_eq d h

theorem quiescent_iff (v : Nat) (s : St) :
    Quiescent v s ↔ s.lastVersion = some v ∧ s.remaining = none := Iff.rfl

theorem repPayload_iff (v : Nat) (q : Pl) :
    RepPayload v q ↔
      (q.us = false ∨
       ∃ S m, WellFormedSection .syntax S ∧ 8 ≤ S.length ∧ versionOf S = v ∧ WellFormedMux .syntax S m
        ∧ q.us = true ∧ q.bytes = m.first S) := Iff.rfl

theorem repPacket_iff (v : Nat) (p : Bytes) :
    RepPacket v p ↔ (p.length = 188 ∧ ∀ q, plOf p = some q → RepPayload v q) := Iff.rfl

theorem quiescentH_iff (v : Nat) :
    (∀ s reg, QuiescentH v (.pat s reg) ↔ Quiescent v s)
    ∧ (∀ pid prog s reg, QuiescentH v (.pmt pid prog s reg) ↔ Quiescent v s)
    ∧ (∀ tag f, ¬ QuiescentH v (.pes tag f)) ∧ (∀ tag, ¬ QuiescentH v (.recorder tag)) :=
  ⟨fun _ _ => Iff.rfl, fun _ _ _ _ => Iff.rfl, fun _ _ h => h, fun _ h => h⟩

theorem repRel_iff (v : Nat) (h' : Handler) :
    (∀ s reg, RepRel v (.pat s reg) h' ↔ ∃ s', h' = .pat s' reg ∧ Quiescent v s' ∧ s'.buf = s.buf)
    ∧ (∀ pid prog s reg, RepRel v (.pmt pid prog s reg) h' ↔
        ∃ s', h' = .pmt pid prog s' reg ∧ Quiescent v s' ∧ s'.buf = s.buf)
    ∧ (∀ tag f, ¬ RepRel v (.pes tag f) h') ∧ (∀ tag, ¬ RepRel v (.recorder tag) h') := by
  refine ⟨?_, ?_, ?_, ?_⟩
  · intro s reg
    cases h' with
    | pat s' reg' =>
      constructor
      · rintro ⟨e, a, b⟩; subst e; exact ⟨s', rfl, a, b⟩
      · rintro ⟨s'', e, a, b⟩; cases e; exact ⟨rfl, a, b⟩
    | pmt _ _ _ _ => exact ⟨fun h => h.elim, fun ⟨_, e, _⟩ => by cases e⟩
    | pes _ _ => exact ⟨fun h => h.elim, fun ⟨_, e, _⟩ => by cases e⟩
    | recorder _ => exact ⟨fun h => h.elim, fun ⟨_, e, _⟩ => by cases e⟩
  · intro pid prog s reg
    cases h' with
    | pmt pid' prog' s' reg' =>
      constructor
      · rintro ⟨e1, e2, e3, a, b⟩; subst e1 e2 e3; exact ⟨s', rfl, a, b⟩
      · rintro ⟨s'', e, a, b⟩; cases e; exact ⟨rfl, rfl, rfl, a, b⟩
    | pat _ _ => exact ⟨fun h => h.elim, fun ⟨_, e, _⟩ => by cases e⟩
    | pes _ _ => exact ⟨fun h => h.elim, fun ⟨_, e, _⟩ => by cases e⟩
    | recorder _ => exact ⟨fun h => h.elim, fun ⟨_, e, _⟩ => by cases e⟩
  · intro tag f h; cases h' <;> exact h
  · intro tag h; cases h' <;> exact h

/-! ### the section filter -/

/-- **C10, section filter.**  In every quiescent state (version `v` remembered, buffer `Complete`;
the flags and the buffer contents arbitrary), every well-formed section-syntax section with
`version_number = v`, in every well-formed packetisation at any payload offsets: the `Psi.table` chain
does not panic and delivers NOTHING; the state is quiescent again, the inner buffer untouched.

Scope.  (1) `hm : WellFormedMux .syntax S m` puts the whole 8-byte fixed header into the starting
packet.  A start carrying 0–2 section bytes is NOT a no-op: it resets the chain (`short_start_resets`,
F8); one carrying 3–7 bytes sets `ignoreRest` and leaves the version memory alone (F13's shape,
`Ts.Props.C11.short_first_share_never_applied`).  (2) `hq : Quiescent v s` is about the field
`lastVersion` of THIS filter instance, not about what an earlier instance applied on the PID (F9,
`C10_full_false`). -/
theorem dedup_blocks_equal_version (v : Nat) (s : St) (hq : Quiescent v s)
    (S : Bytes) (hS : WellFormedSection .syntax S) (h8 : 8 ≤ S.length) (hv : versionOf S = v)
    (m : Mux) (hm : WellFormedMux .syntax S m)
    (off : Nat) (rest : List Pl) (hus : ∀ q ∈ rest, q.us = false)
    (hrest : rest.map (·.bytes) = m.rest) :
    ∃ s', runPl Psi.table s (⟨true, m.first S, off⟩ :: rest) = .ok (s', [])
      ∧ Quiescent v s' ∧ s'.buf = s.buf := by
  subst hv
  exact rep_run (versionOf S) _ s hq (mux_payloads_rep S hS h8 m hm off rest hus hrest)

/-- the same for any sequence of repetition payloads: unit-start payloads of any well-formed
packetisations of any version-`v` sections, and continuation payloads, in ANY order and number
(this also covers repetitions truncated by the next repetition's start) -/
theorem dedup_blocks_repetition_payloads (v : Nat) (s : St) (hq : Quiescent v s) (qs : List Pl)
    (h : ∀ q ∈ qs, RepPayload v q ∧ 1 ≤ q.bytes.length) :
    ∃ s', runPl Psi.table s qs = .ok (s', []) ∧ Quiescent v s' ∧ s'.buf = s.buf :=
  rep_run v qs s hq h

theorem dedup_blocks_equal_version_n (v : Nat) (s : St) (hq : Quiescent v s)
    (txs : List (Bytes × Mux × Nat × List Pl))
    (h : ∀ tx ∈ txs, WellFormedSection .syntax tx.1 ∧ 8 ≤ tx.1.length ∧ versionOf tx.1 = v
      ∧ WellFormedMux .syntax tx.1 tx.2.1 ∧ (∀ q ∈ tx.2.2.2, q.us = false)
      ∧ tx.2.2.2.map (·.bytes) = tx.2.1.rest) :
    ∃ s', runPl Psi.table s
        (txs.flatMap (fun tx => (⟨true, tx.2.1.first tx.1, tx.2.2.1⟩ : Pl) :: tx.2.2.2)) = .ok (s', [])
      ∧ Quiescent v s' ∧ s'.buf = s.buf := by
  apply rep_run v _ s hq
  intro q hq'
  obtain ⟨tx, htx, hmem⟩ := List.mem_flatMap.1 hq'
  obtain ⟨h1, h2, h3, h4, h5, h6⟩ := h tx htx
  have := mux_payloads_rep tx.1 h1 h2 tx.2.1 h4 tx.2.2.1 tx.2.2.2 h5 h6 q hmem
  rw [h3] at this
  exact this

theorem dedup_blocks_packet (v : Nat) (s : St) (hq : Quiescent v s) (p : Bytes) (hp : RepPacket v p) :
    ∃ s', Psi.consume Psi.table s p = .ok (s', []) ∧ Quiescent v s' ∧ s'.buf = s.buf :=
  psi_rep_packet v s hq p hp

/-- **how a filter becomes quiescent** (C03's `section_reassembled` through the dedup layer):
from any state satisfying the buffer invariant `PsiInv` (C03; holds in every reachable state) whose
remembered version differs from `versionOf S`, an intact well-formed transmission of `S` is
delivered exactly once — the deliveries are what the pointer bytes completed of the previous
buffer (at most one) followed by `S` — and the final state is quiescent at `versionOf S`. -/
theorem applied_sets_version (S : Bytes) (hS : WellFormedSection .syntax S) (h8 : 8 ≤ S.length)
    (m : Mux) (hm : WellFormedMux .syntax S m)
    (s : St) (hs : PsiInv .syntax s) (hv : s.lastVersion ≠ some (versionOf S))
    (off : Nat) (rest : List Pl) (hus : ∀ q ∈ rest, q.us = false)
    (hrest : rest.map (·.bytes) = m.rest) :
    ∃ sfin,
      runPl Psi.table s (⟨true, m.first S, off⟩ :: rest)
        = .ok (sfin, (preSpec Psi.table s m.pre).2
                      ++ [⟨S, if m.k = S.length then some (off + 1 + m.pre.length) else none⟩])
      ∧ (preSpec Psi.table s m.pre).2.length ≤ 1
      ∧ Quiescent (versionOf S) sfin ∧ sfin.ignoreRest = false ∧ sfin.dedupIgnore = false := by
  obtain ⟨sfin, h1, h2, h3, h4⟩ := table_applied S hS h8 m hm s hs hv off rest hus hrest
  exact ⟨sfin, h1, preSpec_length_le_one _ _ m.pre, h2, h3, h4⟩

/-- applied once, then repeated any number of times: from a state that does not remember the
version, a transmission of `S` followed by ANY sequence of repetition payloads of that version
delivers `S` exactly once in total -/
theorem applied_once_then_repeated (S : Bytes) (hS : WellFormedSection .syntax S) (h8 : 8 ≤ S.length)
    (m : Mux) (hm : WellFormedMux .syntax S m)
    (s : St) (hs : PsiInv .syntax s) (hv : s.lastVersion ≠ some (versionOf S))
    (off : Nat) (rest : List Pl) (hus : ∀ q ∈ rest, q.us = false)
    (hrest : rest.map (·.bytes) = m.rest)
    (reps : List Pl) (hreps : ∀ q ∈ reps, RepPayload (versionOf S) q ∧ 1 ≤ q.bytes.length) :
    ∃ sfin,
      runPl Psi.table s ((⟨true, m.first S, off⟩ :: rest) ++ reps)
        = .ok (sfin, (preSpec Psi.table s m.pre).2
                      ++ [⟨S, if m.k = S.length then some (off + 1 + m.pre.length) else none⟩])
      ∧ Quiescent (versionOf S) sfin := by
  obtain ⟨s1, h1, hq1, _⟩ := table_applied S hS h8 m hm s hs hv off rest hus hrest
  obtain ⟨s2, h2, hq2, _⟩ := rep_run (versionOf S) reps s1 hq1 hreps
  refine ⟨s2, ?_, hq2⟩
  rw [runPl_append, h1]
  simp only [R.ok_bind, h2, List.append_nil]

/-! ### the application's PAT / PMT handlers -/

/-- **C10, PAT handler.**  A quiescent PAT handler given a repetition packet (payload view a repetition
payload, or no payload): `consume` returns the context `c` UNCHANGED (no `construct` request, no trace
event, no tag consumed) and an EMPTY change list; the handler is again a PAT handler with the same
registered set and a quiescent filter.  Scope: per handler instance (`hq`), and `hp : RepPacket` excludes
the short starts of F8 and F13. -/
theorem pat_handler_noop (v : Nat) (s : St) (reg : List Nat) (hq : Quiescent v s) (c : Ctx) (pk : Pk)
    (hp : RepPacket v pk.bytes) :
    ∃ s', App.consume (.pat s reg) c pk = .ok (.pat s' reg, c, [])
      ∧ Quiescent v s' ∧ s'.buf = s.buf := by
  obtain ⟨s', h1, h2, h3⟩ := psi_rep_packet v s hq pk.bytes hp
  refine ⟨s', ?_, h2, h3⟩
  rw [consume_pat_eq s s' reg c pk [] h1]; rfl

/-- **C10, PMT handler** — same statement and same scope as `pat_handler_noop`.  "Per handler
instance" matters here: every applied PAT version builds a FRESH PMT handler (`lastVersion = none`)
for every program it lists, so after a PAT version change the new instance is not `Quiescent` at the
PMT version its predecessor applied (F9). -/
theorem pmt_handler_noop (v : Nat) (pid prog : Nat) (s : St) (reg : List Nat) (hq : Quiescent v s)
    (c : Ctx) (pk : Pk) (hp : RepPacket v pk.bytes) :
    ∃ s', App.consume (.pmt pid prog s reg) c pk = .ok (.pmt pid prog s' reg, c, [])
      ∧ Quiescent v s' ∧ s'.buf = s.buf := by
  obtain ⟨s', h1, h2, h3⟩ := psi_rep_packet v s hq pk.bytes hp
  refine ⟨s', ?_, h2, h3⟩
  rw [consume_pmt_eq pid prog s s' reg c pk [] h1]; rfl

theorem table_handler_noop (v : Nat) (h : Handler) (hq : QuiescentH v h) (c : Ctx) (pk : Pk)
    (hp : RepPacket v pk.bytes) :
    ∃ h', App.consume h c pk = .ok (h', c, []) ∧ RepRel v h h' :=
  app_rep_noop v h hq c pk hp

/-- packets on a table PID that carry no payload (adaptation field only, or reserved
`adaptation_field_control = 00`): nothing at all happens, in ANY filter state -/
theorem no_payload_packet_noop (s : St) (reg : List Nat) (pid prog : Nat) (c : Ctx) (pk : Pk)
    (hl : pk.bytes.length = 188) (hn : plOf pk.bytes = none) :
    App.consume (.pat s reg) c pk = .ok (.pat s reg, c, [])
      ∧ App.consume (.pmt pid prog s reg) c pk = .ok (.pmt pid prog s reg, c, []) := by
  have h1 : Psi.consume Psi.table s pk.bytes = .ok (s, []) := by
    rw [consume_eq_plOf Psi.table s pk.bytes hl, hn]
  exact ⟨by rw [consume_pat_eq s s reg c pk [] h1]; rfl,
         by rw [consume_pmt_eq pid prog s s reg c pk [] h1]; rfl⟩

theorem no_payload_is_repPacket (v : Nat) (p : Bytes) (hl : p.length = 188) (hn : plOf p = none) :
    RepPacket v p := ⟨hl, fun q hq => by rw [hn] at hq; cases hq⟩

/-! ### the dispatcher -/

/-- **C10, dispatcher.**  `t` holds a quiescent PAT / PMT handler `h` in the slot of `pk.pid`; `pk` is
an unflagged repetition packet.  One dispatcher step returns the SAME context and `t` with that one
slot rewritten by an equivalent handler (`RepRel`).  Scope as for `pat_handler_noop`; `C10_partial`
derives both hypotheses from a history. -/
theorem repetition_block_noop (v : Nat) (t : Tab Handler) (c : Ctx) (pk : Pk) (h : Handler)
    (hg : t.get pk.pid = some h) (hq : QuiescentH v h) (hf : pk.flagged = false)
    (hp : RepPacket v pk.bytes) :
    ∃ h', RepRel v h h' ∧ Demux.specStep App.sem (t, c) pk = .ok (t.insert pk.pid h', c)
      ∧ ∀ q, q ≠ pk.pid → (t.insert pk.pid h').get q = t.get q := by
  obtain ⟨h', h1, h2⟩ := step_rep_noop v t c pk h hg hq hf hp
  exact ⟨h', h1, h2, fun q hq' => Tab.get_insert_ne _ _ _ _ hq'⟩

/-- the same for the real loops of `Demultiplex::push` on a whole buffer of repetition packets of
possibly several table PIDs (`ver pid` = the version the handler INSTANCE of `pid` is quiescent at):
same context; every slot not addressed by the packets exactly as before; every quiescent table handler
at most replaced by an equivalent one ("however often it repeats and however many packets it spans") -/
theorem repetition_run_noop (ver : Nat → Nat) (t : Tab Handler) (c : Ctx) (pks : List Pk)
    (h : ∀ pk ∈ pks, pk.flagged = false ∧ RepPacket (ver pk.pid) pk.bytes
      ∧ ∃ h, t.get pk.pid = some h ∧ QuiescentH (ver pk.pid) h) :
    ∃ t', Demux.pushSpec App.sem (t, c) pks = .ok (t', c)
      ∧ Demux.pushModel App.sem (t, c) pks = .ok (t', c)
      ∧ (∀ q, (∀ pk ∈ pks, pk.pid ≠ q) → t'.get q = t.get q)
      ∧ (∀ q h, t.get q = some h → QuiescentH (ver q) h →
           ∃ h', t'.get q = some h' ∧ RepRel (ver q) h h') := by
  obtain ⟨t', h1, h2, h3⟩ := run_rep_noop ver c pks t h
  exact ⟨t', h1, by rw [Ts.Props.C06.push_refines_spec]; exact h1, h2, h3⟩

/-- in particular every elementary-stream handler — its `PesFilter.F` state with the stored
continuity counter and the open/closed phase — is exactly as before, as are recorder handlers -/
theorem es_handlers_untouched (ver : Nat → Nat) (t : Tab Handler) (c : Ctx) (pks : List Pk)
    (h : ∀ pk ∈ pks, pk.flagged = false ∧ RepPacket (ver pk.pid) pk.bytes
      ∧ ∃ h, t.get pk.pid = some h ∧ QuiescentH (ver pk.pid) h) :
    ∃ t', Demux.pushSpec App.sem (t, c) pks = .ok (t', c) ∧
      (∀ q tag f, t.get q = some (.pes tag f) → t'.get q = some (.pes tag f)) ∧
      (∀ q tag, t.get q = some (.recorder tag) → t'.get q = some (.recorder tag)) := by
  obtain ⟨t', h1, h2, _⟩ := run_rep_noop ver c pks t h
  have key : ∀ q h0, t.get q = some h0 → ¬ (∃ v, QuiescentH v h0) → t'.get q = some h0 := by
    intro q h0 hg hn
    rw [h2 q]; exact hg
    intro pk hm e
    obtain ⟨_, _, h', hg', hq'⟩ := h pk hm
    rw [e, hg] at hg'
    cases hg'
    exact hn ⟨_, hq'⟩
  exact ⟨t', h1,
    fun q tag f hg => key q _ hg (by rintro ⟨v, hv⟩; exact hv),
    fun q tag hg => key q _ hg (by rintro ⟨v, hv⟩; exact hv)⟩

/-- **C10, straddling.**  `pk1`, `pk2`: two packets of an elementary-stream PID (slot holds
`.pes tag f`), e.g. two parts of one PES packet; `reps`: any run of table repetition packets between
them.  If the run WITHOUT the repetitions succeeds with context `cB`, the run WITH them succeeds with
exactly the same context — no second stream start, no spurious packet end or continuity error — and the
stream handler ends in the same state.  F8 and F9 are exactly the situations where `hreps` fails and
the ES handler IS replaced mid-packet.  `repetitions_deletable` generalises to arbitrary interleavings. -/
theorem pes_straddles_repetition (ver : Nat → Nat) (t : Tab Handler) (c : Ctx) (pk1 pk2 : Pk)
    (reps : List Pk) (tag : Nat) (f : PesFilter.F) (hpid : pk2.pid = pk1.pid)
    (hg : t.get pk1.pid = some (.pes tag f))
    (hreps : ∀ pk ∈ reps, pk.pid ≠ pk1.pid ∧ pk.flagged = false ∧ RepPacket (ver pk.pid) pk.bytes
      ∧ ∃ h, t.get pk.pid = some h ∧ QuiescentH (ver pk.pid) h)
    (tB : Tab Handler) (cB : Ctx)
    (hB : Demux.pushSpec App.sem (t, c) [pk1, pk2] = .ok (tB, cB)) :
    ∃ tA, Demux.pushSpec App.sem (t, c) (pk1 :: (reps ++ [pk2])) = .ok (tA, cB)
      ∧ tA.get pk1.pid = tB.get pk1.pid
      ∧ (∀ r, (∀ pk ∈ reps, pk.pid ≠ r) → tA.get r = tB.get r) :=
  es_straddle ver t c pk1 pk2 reps tag f hpid hg hreps tB cB hB

/-! ### non-vacuity -/

example : WellFormedSection .syntax patGood ∧ patGood.length = 16 ∧ versionOf patGood = 0 := by
  decide +kernel

example : WellFormedMux .syntax patGood (muxOf patGood) := by decide +kernel
example : WellFormedMux .syntax patGood
    ⟨[0xaa, 0xbb], 8, [], [[0x00, 0x01, 0xe1], [0xe0, 0x2d, 0x50, 0x78, 0x04, 0xff]], [[0xff, 0xff]]⟩ := by
  decide +kernel

example : Quiescent 0 { lastVersion := some 0 } := ⟨rfl, rfl⟩
example : Quiescent 0 { lastVersion := some 0, ignoreRest := true, dedupIgnore := true, buf := patGood } :=
  ⟨rfl, rfl⟩

example : ∃ s', runPl Psi.table { lastVersion := some 0, buf := patGood }
      [⟨true, [0x02, 0xaa, 0xbb] ++ patGood.take 8, 177⟩,
       ⟨false, [0x00, 0x01, 0xe1], 185⟩,
       ⟨false, [0xe0, 0x2d, 0x50, 0x78, 0x04, 0xff], 182⟩,
       ⟨false, [0xff, 0xff], 186⟩] = .ok (s', [])
    ∧ Quiescent 0 s' ∧ s'.buf = patGood :=
  dedup_blocks_equal_version 0 _ ⟨rfl, rfl⟩ patGood (by decide +kernel) (by decide +kernel)
    (by decide +kernel)
    ⟨[0xaa, 0xbb], 8, [], [[0x00, 0x01, 0xe1], [0xe0, 0x2d, 0x50, 0x78, 0x04, 0xff]], [[0xff, 0xff]]⟩
    (by decide +kernel) 177 _ (by decide) rfl

example : ∃ sfin, runPl Psi.table {} [⟨true, plBytesOf patGood, 4⟩] = .ok (sfin, [⟨patGood, some 5⟩])
    ∧ Quiescent 0 sfin := by
  obtain ⟨sfin, h1, _, h2, _⟩ := applied_sets_version patGood patGood_wf (by decide +kernel)
    (muxOf patGood) patGood_mux {} (psiInv_of_none _ _ rfl) (by decide +kernel) 4 [] (by simp) rfl
  exact ⟨sfin, h1, h2⟩
example : Psi.consume Psi.table {} (pktOf patGood) = .ok ({ lastVersion := some 0 }, [⟨patGood, some 5⟩]) := by
  decide +kernel

theorem pktOf_patGood_rep : RepPacket 0 (pktOf patGood) :=
  repPacket_of_first 0 _ patGood (muxOf patGood) 4 (by decide +kernel) (by decide +kernel) patGood_wf
    (by decide +kernel) (by decide +kernel) patGood_mux

example : RepPacket 0 contPkt := by
  refine ⟨by decide +kernel, ?_⟩
  intro q hq
  have : plOf contPkt = some ⟨false, List.replicate 184 0xff, 4⟩ := by decide +kernel
  rw [this] at hq
  cases hq
  exact Or.inl rfl

example : RepPacket 0 afOnlyPkt :=
  no_payload_is_repPacket 0 afOnlyPkt (by decide +kernel) (by decide +kernel)

example : ∃ s', App.consume (.pat { lastVersion := some 0 } [0x1e0]) { cfg := {} } (pk0 (pktOf patGood) 188)
    = .ok (.pat s' [0x1e0], { cfg := {} }, []) ∧ Quiescent 0 s' ∧ s'.buf = [] :=
  pat_handler_noop 0 _ _ ⟨rfl, rfl⟩ _ _ pktOf_patGood_rep

example : ∃ (t : Tab Handler) (pk : Pk) (h : Handler),
    t.get pk.pid = some h ∧ QuiescentH 0 h ∧ pk.flagged = false ∧ RepPacket 0 pk.bytes
      ∧ t.get 0x100 = some (.pes 7 { cc := some 3, st := .started }) :=
  ⟨(Tab.insert [] 0 (.pat { lastVersion := some 0 } [0x1e0])).insert 0x100 (.pes 7 { cc := some 3, st := .started }),
   pk0 (pktOf patGood) 0, .pat { lastVersion := some 0 } [0x1e0],
   by rw [show (pk0 (pktOf patGood) 0).pid = 0 from rfl, Tab.get_insert_ne _ _ _ _ (by decide),
        Tab.get_insert_self],
   ⟨rfl, rfl⟩, rfl, pktOf_patGood_rep, Tab.get_insert_self _ _ _⟩

example : summary (runApp {} [pktOf patGood]) = some (481, 2, 2)
    ∧ summary (runApp {} [pktOf patGood ++ pktOf patGood ++ contPkt ++ pktOf patGood]) = some (481, 2, 2) := by
  eval_app

/-! ## The property at full strength, its two gaps (F8, F9), and the strongest true statement -/


theorem shortStart_iff (b : Bytes) : ShortStart b ↔ (1 ≤ b.length ∧ b.length < byteD b 0 + 4) := Iff.rfl

theorem appliedOn_iff (p : Nat) :
    (∀ v es, appliedOn p (.patApplied v es) = if p = 0 then some v else none)
    ∧ (∀ q v b, appliedOn p (.pmtApplied q v b) = if p ≠ 0 ∧ q = p then some v else none)
    ∧ (∀ q, appliedOn p (.esPacket q) = none) ∧ (∀ q, appliedOn p (.repetition q) = none) :=
  ⟨fun _ _ => rfl, fun _ _ _ => rfl, fun _ => rfl, fun _ => rfl⟩

theorem lastAppliedOn_iff (p v : Nat) (evs : List Event) :
    lastAppliedOn p evs = some v ↔
      ∃ pre ev post, evs = pre ++ ev :: post ∧ appliedOn p ev = some v ∧ ∀ e ∈ post, appliedOn p e = none :=
  lastAppliedOn_eq_some p v evs

theorem tablePid_iff (r : Route) (p : Nat) :
    tablePid r p = true ↔
      ((p = 0 ∧ ∃ tag, r.slots 0 = some (.byPid 0, tag)) ∨ (p ≠ 0 ∧ ∃ prog tag, r.slots p = some (.pmt p prog, tag))) := by
  unfold tablePid
  by_cases hp : p = 0
  · subst hp; rw [if_pos rfl, patRouted_iff]; simp
  · rw [if_neg hp, pmtRouted_iff]; simp [hp]

theorem rebuiltSinceLast_iff (p : Nat) (evs : List Event) :
    RebuiltSinceLast p evs ↔
      ∃ pre ev post, evs = pre ++ ev :: post ∧ (appliedOn p ev).isSome = true
        ∧ (∀ e ∈ post, appliedOn p e = none)
        ∧ ∃ e ∈ post, ∃ v es, e = .patApplied v es ∧ p ∈ es.map PatEntry.pid := Iff.rfl

theorem legalMux_iff (kind : Kind) (S : Bytes) (m : Mux) :
    WellFormedMux kind S m ↔ (LegalMux S m ∧ minHeader kind ≤ (S.take m.k ++ m.tailBytes).length) :=
  wellFormedMux_iff_legal kind S m

/-! ### F8: a short start resets the de-duplication -/

/-- **F8 mechanism.**  `q`: the payload of a unit-start packet with fewer than 3 bytes after its
pointer bytes (the 3-byte `table_id` / `section_length` part of the section header straddles two
packets, or the pointer reaches the end of the payload).  From ANY state satisfying the buffer invariant (C03; in particular every quiescent
state), `SectionPacketConsumer::consume` on the `table` chain does not panic, delivers at most the one
section its pointer bytes completed — nothing at all when the buffer layer was `Complete` — and
leaves the chain RESET: `lastVersion = none`, buffer empty and `Complete`.  The dedup layer has
forgotten the version it applied. -/
theorem short_start_resets (s : St) (hs : PsiInv .syntax s) (q : Pl) (hus : q.us = true)
    (hshort : ShortStart q.bytes) :
    ∃ s' ds, consumePayload Psi.table s q.us q.bytes q.off = .ok (s', ds)
      ∧ s'.lastVersion = none ∧ s'.remaining = none ∧ s'.buf = [] ∧ s'.dedupIgnore = false
      ∧ ds.length ≤ 1 ∧ (s.remaining = none → ds = []) := by
  rw [hus]
  obtain ⟨s', ds, h, a, b, c, d, _, e, f⟩ := short_start_consume s hs q.bytes q.off hshort
  exact ⟨s', ds, h, a, b, c, d, e, f⟩

theorem short_start_resets_packet (v : Nat) (s : St) (hq : Quiescent v s) (p : Bytes) (hl : p.length = 188)
    (q : Pl) (hpl : plOf p = some q) (hus : q.us = true) (hshort : ShortStart q.bytes) :
    ∃ s', Psi.consume Psi.table s p = .ok (s', []) ∧ s'.lastVersion = none ∧ s'.remaining = none := by
  obtain ⟨s', ds, h, a, b, c⟩ := short_start_packet s (quiescent_inv v s hq) p hl q hpl hus hshort
  rw [c hq.2] at h
  exact ⟨s', h, a, b⟩

/-- **F8, filter level, in general.**  A filter quiescent at `v`; one short-start payload; then ANY
well-formed transmission of ANY well-formed section `S` with the SAME `version_number = v`: `S` is
DELIVERED (to the CRC layer and, if its CRC verifies, applied again). -/
theorem short_start_then_repeat_reapplied (v : Nat) (s : St) (hq : Quiescent v s)
    (b : Bytes) (off0 : Nat) (hshort : ShortStart b)
    (S : Bytes) (hS : WellFormedSection .syntax S) (h8 : 8 ≤ S.length) (hv : versionOf S = v)
    (m : Mux) (hm : WellFormedMux .syntax S m) (off : Nat) (rest : List Pl)
    (hus : ∀ q ∈ rest, q.us = false) (hrest : rest.map (·.bytes) = m.rest) :
    ∃ sfin, runPl Psi.table s (⟨true, b, off0⟩ :: ⟨true, m.first S, off⟩ :: rest)
        = .ok (sfin, [⟨S, if m.k = S.length then some (off + 1 + m.pre.length) else none⟩])
      ∧ Quiescent v sfin := by
  obtain ⟨s1, ds, h1, a, b1, _, _, _, _, c⟩ := short_start_consume s (quiescent_inv v s hq) b off0 hshort
  rw [c hq.2] at h1
  obtain ⟨sfin, h2, _, h3, _⟩ := applied_sets_version S hS h8 m hm s1 (psiInv_of_none _ _ b1)
    (by rw [a]; exact fun e => by cases e) off rest hus hrest
  rw [preSpec_idle _ _ _ b1] at h2
  refine ⟨sfin, ?_, by rw [← hv]; exact h3⟩
  have e : runPl Psi.table s (⟨true, b, off0⟩ :: ⟨true, m.first S, off⟩ :: rest)
      = (consumePayload Psi.table s true b off0 >>= fun r1 =>
          runPl Psi.table r1.1 (⟨true, m.first S, off⟩ :: rest) >>= fun r2 => R.ok (r2.1, r1.2 ++ r2.2)) := by
    cases hc : consumePayload Psi.table s true b off0 with
    | panic msg => simp only [runPl, hc]; rfl
    | ok r1 =>
      obtain ⟨sa, da⟩ := r1
      simp only [runPl, hc, R.ok_bind]
      rfl
  rw [e, h1]
  simp only [R.ok_bind, h2, List.nil_append]

/-- **which hypothesis excludes F8.**  A short start is never a repetition payload: `RepPayload`
demands a `WellFormedMux`, whose clause `minHeader .syntax = 8 ≤ (S.take m.k ++ m.tailBytes).length`
puts at least 8 section bytes — the whole 8-byte fixed header — behind the pointer bytes.  (The same
clause excludes first shares of 3..7 bytes, which do not reset but set `ignore_rest`: F13's shape.)
Hence no theorem of this file whose hypothesis is `RepPayload` / `RepPacket` (and no history admitted
by `Realises`) says anything about a stream containing such a packet. -/
theorem short_start_not_repPayload (v : Nat) (q : Pl) (hus : q.us = true) (hshort : ShortStart q.bytes) :
    ¬ RepPayload v q := by
  rintro (h | ⟨S, m, _, _, _, hm, _, hb⟩)
  · rw [hus] at h; cases h
  · obtain ⟨_, hmin, hsz, _, _⟩ := hm
    have hmin' : 8 ≤ (S.take m.k ++ m.tailBytes).length := hmin
    have hfl := first_length S m
    have hlt : m.pre.length < 256 := by have := hsz.2; omega
    have hb0 : byteD (m.first S) 0 = m.pre.length := byteD_ofNat_cons _ hlt _
    obtain ⟨_, h2⟩ := hshort
    rw [hb, hb0, hfl] at h2
    omega

example : ∃ s', Psi.consume Psi.table { lastVersion := some 0 } straddlePkt = .ok (s', [])
    ∧ s'.lastVersion = none ∧ s'.remaining = none :=
  short_start_resets_packet 0 _ ⟨rfl, rfl⟩ straddlePkt straddle_plOf.2.2.1 _ straddle_plOf.1 rfl straddle_short

example : ∃ sfin, runPl Psi.table { lastVersion := some 0 }
      [⟨true, straddleMux.first patSecV0, 4⟩, ⟨true, (muxOf patSecV0).first patSecV0, 4⟩]
      = .ok (sfin, [⟨patSecV0, some 5⟩]) ∧ Quiescent 0 sfin := by
  obtain ⟨a4, a5, _, a6, a7⟩ := patSecV0_facts
  obtain ⟨sfin, h1, h2⟩ := short_start_then_repeat_reapplied 0 { lastVersion := some 0 } ⟨rfl, rfl⟩
    (straddleMux.first patSecV0) 4 straddle_short patSecV0 a4 (by rw [a5]; decide) a6
    (muxOf patSecV0) a7 4 [] (by simp) rfl
  exact ⟨sfin, h1, h2⟩

example : ¬ RepPacket 0 straddlePkt := fun h =>
  short_start_not_repPayload 0 _ rfl straddle_short (h.2 _ straddle_plOf.1)

/-- **the property for packetisations that may cut the section ANYWHERE** (filter level): in a
quiescent state, any sequence of complete transmissions of well-formed version-`v` sections, each in
any `LegalMux` packetisation (= `WellFormedMux` minus "the starting packet carries the 8-byte fixed
header"), delivers nothing -/
def C10_any_cut : Prop :=
  ∀ (v : Nat) (s : St), Quiescent v s → ∀ (txs : List (Bytes × Mux)),
    (∀ tx ∈ txs, WellFormedSection .syntax tx.1 ∧ 8 ≤ tx.1.length ∧ versionOf tx.1 = v ∧ LegalMux tx.1 tx.2) →
    ∃ s', runPl Psi.table s (txs.flatMap (fun tx => muxPayloads tx.1 tx.2)) = .ok (s', [])

/-- **F8: FALSE.**  Witness: the filter quiescent at version 0; PAT v0 transmitted with
`pointer_field = 181` so that only its first 2 bytes are in the starting payload (`straddleMux`);
then PAT v0 in one packet: the second copy is delivered. -/
theorem C10_any_cut_false : ¬ C10_any_cut := by
  intro h
  obtain ⟨a1, _, a3⟩ := straddleMux_legal
  obtain ⟨a4, a5, _, a6, _⟩ := patSecV0_facts
  obtain ⟨s', hs'⟩ := h 0 { lastVersion := some 0 } ⟨rfl, rfl⟩
    [(patSecV0, straddleMux), (patSecV0, muxOf patSecV0)] (by
      intro tx hm
      simp only [List.mem_cons, List.not_mem_nil, or_false] at hm
      rcases hm with rfl | rfl
      · exact ⟨a4, by rw [a5]; decide, a6, a1⟩
      · exact ⟨a4, by rw [a5]; decide, a6, a3⟩)
  have e : [(patSecV0, straddleMux), (patSecV0, muxOf patSecV0)].flatMap (fun tx => muxPayloads tx.1 tx.2)
      = muxPayloads patSecV0 straddleMux ++ muxPayloads patSecV0 (muxOf patSecV0) := by
    simp [List.flatMap_cons]
  rw [e, straddle_then_repeat_delivered.2] at hs'
  cases hs'

/-- **F8 on the whole application, on the exact probe bytes** (`F8 demux b0t0 …`, `F8c …` of
`/verif/known_findings.json`; `runApp {}` = harness mode `b0t0`).  `observe10` = (`construct`
requests with their tags, elementary-stream callbacks as (tag, kind), slot 0x100, slot 0x101).
Control `f8cBytes` (PAT v0, PMT v0, ES start, then PAT v0 / PMT v0 twice more): three requests, the
PES filter tagged 2 keeps slot 0x101.  `f8PrefixBytes` (… then PAT v0 with its header straddling two
packets): still nothing.  `f8Bytes` (… then PAT v0 and PMT v0 once more): both are RE-APPLIED (tags 3,
4) and slot 0x101 holds the fresh PES filter tagged 4 — the open PES packet of consumer 2 is orphaned.
Identical to the output of the real code on these bytes. -/
theorem C10_straddle_counterexample :
    observe10 (runApp {} [f8cBytes])
      = some ([(.byPid 0, 0), (.pmt 0x100 1, 1), (.stream 0x100 0x1b 0x101 0x101 [] [], 2)],
          [(2, 0), (2, 1)], .pmt 0x100 1 [0x101], .pes 2)
    ∧ observe10 (runApp {} [f8PrefixBytes])
      = some ([(.byPid 0, 0), (.pmt 0x100 1, 1), (.stream 0x100 0x1b 0x101 0x101 [] [], 2)],
          [(2, 0), (2, 1)], .pmt 0x100 1 [0x101], .pes 2)
    ∧ observe10 (runApp {} [f8Bytes])
      = some ([(.byPid 0, 0), (.pmt 0x100 1, 1), (.stream 0x100 0x1b 0x101 0x101 [] [], 2),
           (.pmt 0x100 1, 3), (.stream 0x100 0x1b 0x101 0x101 [] [], 4)],
          [(2, 0), (2, 1)], .pmt 0x100 1 [0x101], .pes 4) :=
  ⟨f8c_run, f8_prefix_run, f8_run⟩

/-- the same read as statements about the final table and trace; and the sixth packet of the probe
IS a short start on a PAT filter that has applied version 0 (`short_start_resets_packet` applies) -/
theorem C10_straddle_counterexample' :
    (∃ t c, runApp {} [f8Bytes] = .ok (t, c)
      ∧ requests (runApp {} [f8Bytes]) = [.byPid 0, .pmt 0x100 1, .stream 0x100 0x1b 0x101 0x101 [] [],
          .pmt 0x100 1, .stream 0x100 0x1b 0x101 0x101 [] []]
      ∧ Ev.construct (.stream 0x100 0x1b 0x101 0x101 [] []) 4 ∈ c.trace
      ∧ ∃ f, t.get 0x101 = some (.pes 4 f))
    ∧ requests (runApp {} [f8cBytes]) = [.byPid 0, .pmt 0x100 1, .stream 0x100 0x1b 0x101 0x101 [] []]
    ∧ (∃ q, plOf straddlePkt = some q ∧ q.us = true ∧ ShortStart q.bytes ∧ straddlePkt.length = 188) := by
  have hreq : ∀ (t : Tab Handler) (c : Ctx), requests (.ok (t, c)) = (constructs c).map (·.1) := by
    intro t c
    simp only [requests, constructs, List.map_filterMap]
    congr 1; funext e; cases e <;> rfl
  refine ⟨?_, ?_, ⟨_, straddle_plOf.1, rfl, straddle_short, straddle_plOf.2.2.1⟩⟩
  · obtain ⟨t, c, hr, hc, _, _, h101⟩ := observe10_some _ _ f8_run
    refine ⟨t, c, hr, (congrArg requests hr).trans ((hreq t c).trans ?_), ?_, slot_pes _ _ h101⟩
    · rw [hc]; decide +kernel
    · rw [← mem_constructs, hc]; decide +kernel
  · obtain ⟨t, c, hr, hc, _⟩ := observe10_some _ _ f8c_run
    refine (congrArg requests hr).trans ((hreq t c).trans ?_)
    rw [hc]; decide +kernel

/-! ### F9: the statement over whole histories is false -/

/-- **C10 at full strength, over whole histories.**  `evs`: any well-formed history of applied PAT /
PMT versions, elementary-stream packets and table repetitions (`Spec.RoutingHistory`); `pks`: any
packets realising it (`Realises`: every table transmission intact, in a well-formed packetisation —
at least the 8-byte fixed header in the starting packet, which excludes F8's short starts; no damaged
copies and no foreign tables on table PIDs), run from `Demultiplex::new` to `(t, c)`.  If the table LAST APPLIED
on PID `p` IN THE HISTORY had version `v` (`lastAppliedOn`: the last `patApplied` if `p = 0`, the last
`pmtApplied p` otherwise — no reference to any handler's state) and `p` still carries tables
(`tablePid`), then any run `reps` of repetition packets of version `v` on `p` (any number, each a
piece of any well-formed packetisation of any version-`v` section): the real loops do not panic, NO
`construct` event is appended, and every slot other than `p` is as before. -/
def C10_full : Prop :=
  ∀ (cfg : App.Cfg) (evs : List Event) (pks : List Pk) (p v : Nat) (reps : List Pk) (t : Tab Handler) (c : Ctx),
    cfg.script = [] → WF initRoute evs → Realises initRoute evs pks →
    lastAppliedOn p evs = some v → tablePid (run initRoute evs) p = true →
    pushModel App.sem (App.init cfg) pks = .ok (t, c) →
    (∀ pk ∈ reps, pk.pid = p ∧ pk.flagged = false ∧ RepPacket v pk.bytes) →
    ∃ t' c', pushModel App.sem (t, c) reps = .ok (t', c') ∧ constructs c' = constructs c
      ∧ ∀ q, q ≠ p → t'.get q = t.get q

/-- probe F9 (history = its first four packets, repetition = the fifth) meets the hypotheses of
`C10_full`, and its conclusion fails there: the repeated PMT v0 appends a `construct` event -/
theorem f9_refutes : ∃ t c, pushModel App.sem (App.init {}) f9Pks = .ok (t, c)
    ∧ lastAppliedOn 0x100 f9Hist = some 0 ∧ tablePid (run initRoute f9Hist) 0x100 = true
    ∧ (∀ pk ∈ [f9Rep], pk.pid = 0x100 ∧ pk.flagged = false ∧ RepPacket 0 pk.bytes)
    ∧ ¬ ∃ t' c', pushModel App.sem (t, c) [f9Rep] = .ok (t', c') ∧ constructs c' = constructs c
        ∧ ∀ q, q ≠ 0x100 → t'.get q = t.get q := by
  obtain ⟨t, c, -, hrun, -, -, -, hlog, -⟩ :=
    Ts.Props.C05History.routing_refines {} rfl f9Hist f9Pks f9_wf f9_realises
  refine ⟨t, c, hrun, by decide +kernel, by decide +kernel, ?_, ?_⟩
  · intro pk hm; rw [List.mem_singleton] at hm; subst hm; exact ⟨rfl, rfl, pmtPkt_rep 1 (by decide)⟩
  rintro ⟨t', c', hrep, hcs, -⟩
  have hall : pushModel App.sem (App.init {}) (f9Pks ++ [f9Rep]) = .ok (t', c') := by
    rw [Ts.Props.C06.push_refines_spec] at hrun hrep ⊢
    rw [pushSpec_append_aux, hrun]
    exact hrep
  obtain ⟨t2, c2, hr2, hc2, -⟩ := observe10_some _ _ f9_run
  rw [Ts.Props.C05History.runApp_one {} f9Bytes _ f9_frame, hall] at hr2
  cases hr2
  rw [hcs, hlog, f9_requests] at hc2
  exact absurd hc2 (by decide)

/-- **known finding F9: `C10_full` is FALSE of the pinned code.**  Witness (the first four packets
of probe F9 as the history, its fifth as the repetition): PAT v0 {1 → 0x100}, PMT v0 {0x1b on 0x101},
a packet on 0x101, PAT v1 with the SAME program loop; then PMT v0 again on 0x100.  The last table
applied on 0x100 had version 0 and the packet is a repetition packet of version 0, yet it appends a
`construct` event (the stream handler is re-requested, tag 4): PAT v1 rebuilt the PMT handler of the
unchanged program, and the new instance's `lastVersion` is `none`. -/
theorem C10_full_false : ¬ C10_full := fun h =>
  have ⟨t, c, hrun, h1, h2, h3, hno⟩ := f9_refutes
  hno (h {} f9Hist f9Pks 0x100 0 [f9Rep] t c rfl f9_wf f9_realises h1 h2 hrun h3)

/-- **F9 on the exact probe bytes** (`F9 demux b0t0 …`).  After PAT v0, PMT v0, ES start, PAT v1 the
requests are `ByPid(0)`→0, `Pmt(0x100,1)`→1, `Stream(…0x101…)`→2, `Pmt(0x100,1)`→3 (the rebuilt PMT
handler, nothing registered); slot 0x101 still holds the PES filter tagged 2, which saw `start`,
`begin`.  The repeated PMT v0 then adds `Stream(…0x101…)`→4 and REPLACES slot 0x101 by the fresh PES
filter tagged 4.  Identical to the output of the real code. -/
theorem C10_F9_counterexample :
    observe10 (runApp {} [f9PrefixBytes])
      = some ([(.byPid 0, 0), (.pmt 0x100 1, 1), (.stream 0x100 0x1b 0x101 0x101 [] [], 2), (.pmt 0x100 1, 3)],
          [(2, 0), (2, 1)], .pmt 0x100 1 [], .pes 2)
    ∧ observe10 (runApp {} [f9Bytes])
      = some ([(.byPid 0, 0), (.pmt 0x100 1, 1), (.stream 0x100 0x1b 0x101 0x101 [] [], 2), (.pmt 0x100 1, 3),
           (.stream 0x100 0x1b 0x101 0x101 [] [], 4)],
          [(2, 0), (2, 1)], .pmt 0x100 1 [0x101], .pes 4) :=
  ⟨f9_prefix_run, f9_run⟩

/-! ### the strongest true statement at history level -/

/-- **C10, partial (history level).**  The history splits as `pre ++ ev :: post` where `ev` is the
LAST table applied on `p` (version `v`; nothing in `post` applies a table on `p`) and — the extra
hypothesis — no PAT version in `post` lists `p` in its program loop (vacuous for `p = 0`).  Then, for
the packets of any realisation run from `Demultiplex::new` (either build, no recorder script), any
run of repetition packets of version `v` on `p`: the real loops return the SAME context (no request,
no elementary-stream event, no tag consumed), every other slot — every elementary-stream handler with
its continuity counter and open/closed PES state — is untouched, slot `p` holds an equivalent handler.

What `Realises` contributes (and hides): between the applications, every packet on a table PID is a
repetition packet in the sense of `RepPacket` (or carries no payload / a continuation), so no short
start (F8; fewer than the 8 fixed header bytes in the starting packet), no damaged copy (F12) and no
foreign table (DESIGN 8.1b; `unapplied_start_then_repeat_reapplied`) occurs.  What the extra hypothesis contributes: the handler instance that applied `ev` is
still the one in slot `p` (F9). -/
theorem C10_partial (cfg : App.Cfg) (hscript : cfg.script = []) (pre post : List Event) (ev : Event)
    (pks : List Pk) (p v : Nat) (reps : List Pk) (t : Tab Handler) (c : Ctx)
    (hwf : WF initRoute (pre ++ ev :: post)) (hre : Realises initRoute (pre ++ ev :: post) pks)
    (hev : appliedOn p ev = some v)
    (hpost : ∀ e ∈ post, appliedOn p e = none ∧ ∀ v' es, e = .patApplied v' es → p ∉ es.map PatEntry.pid)
    (hrt : tablePid (run initRoute (pre ++ ev :: post)) p = true)
    (hrun : pushModel App.sem (App.init cfg) pks = .ok (t, c))
    (hreps : ∀ pk ∈ reps, pk.pid = p ∧ pk.flagged = false ∧ RepPacket v pk.bytes) :
    lastAppliedOn p (pre ++ ev :: post) = some v ∧
    ∃ t' h h', pushModel App.sem (t, c) reps = .ok (t', c)
      ∧ (∀ q, q ≠ p → t'.get q = t.get q)
      ∧ t.get p = some h ∧ t'.get p = some h' ∧ RepRel v h h' := by
  refine ⟨(lastAppliedOn_eq_some p v _).2 ⟨pre, ev, post, rfl, hev, fun e he => (hpost e he).1⟩, ?_⟩
  obtain ⟨t0, c0, -, h2, hsim⟩ := Ts.Props.C05History.routing_refines_from initRoute _ _ _ pks
    (sim_init cfg hscript) hwf hre
  rw [show ((App.init cfg).1, (App.init cfg).2) = App.init cfg from rfl, hrun] at h2
  cases h2
  have htv := tableVersion_of_last initRoute pre post ev p v hev hpost hrt
  obtain ⟨t', h, h', -, a, b, d, e, f⟩ := rep_noop_of_sim _ t c hsim p v hrt htv reps hreps
  exact ⟨t', h, h', a, b, d, e, f⟩

theorem C10_partial' (cfg : App.Cfg) (evs : List Event) (pks : List Pk) (p v : Nat) (reps : List Pk)
    (t : Tab Handler) (c : Ctx) (hscript : cfg.script = []) (hwf : WF initRoute evs)
    (hre : Realises initRoute evs pks) (hlast : lastAppliedOn p evs = some v)
    (hrt : tablePid (run initRoute evs) p = true)
    (hrun : pushModel App.sem (App.init cfg) pks = .ok (t, c))
    (hreps : ∀ pk ∈ reps, pk.pid = p ∧ pk.flagged = false ∧ RepPacket v pk.bytes)
    (hno : ¬ RebuiltSinceLast p evs) :
    ∃ t', pushModel App.sem (t, c) reps = .ok (t', c) ∧ ∀ q, q ≠ p → t'.get q = t.get q := by
  obtain ⟨pre, ev, post, rfl, hev, hpost⟩ := (lastAppliedOn_eq_some p v evs).1 hlast
  have hpost' : ∀ e ∈ post, appliedOn p e = none ∧
      ∀ v' es, e = .patApplied v' es → p ∉ es.map PatEntry.pid := by
    intro e he
    refine ⟨hpost e he, ?_⟩
    intro v' es heq hmem
    exact hno ⟨pre, ev, post, rfl, by rw [hev]; rfl, hpost, e, he, v', es, heq, hmem⟩
  obtain ⟨-, t', _, _, a, b, -⟩ := C10_partial cfg hscript pre post ev pks p v reps t c hwf hre hev hpost'
    hrt hrun hreps
  exact ⟨t', a, b⟩

/-- **the gap at history level is EXACTLY F9**: whenever the conclusion of `C10_full` fails under its
hypotheses, a PAT version listing `p` was applied after the last table applied on `p`.
"Exactly" is relative to `Realises` and `RepPacket`: short starts (F8), damaged copies (F12) and
foreign tables between repetitions (DESIGN 8.1b) lie outside them, and on each the unchanged table IS
re-applied (`short_start_then_repeat_reapplied`, `unapplied_start_then_repeat_reapplied`). -/
theorem C10_gap_is_F9 (cfg : App.Cfg) (evs : List Event) (pks : List Pk) (p v : Nat) (reps : List Pk)
    (t : Tab Handler) (c : Ctx) (hscript : cfg.script = []) (hwf : WF initRoute evs)
    (hre : Realises initRoute evs pks) (hlast : lastAppliedOn p evs = some v)
    (hrt : tablePid (run initRoute evs) p = true)
    (hrun : pushModel App.sem (App.init cfg) pks = .ok (t, c))
    (hreps : ∀ pk ∈ reps, pk.pid = p ∧ pk.flagged = false ∧ RepPacket v pk.bytes)
    (hfail : ¬ ∃ t' c', pushModel App.sem (t, c) reps = .ok (t', c') ∧ constructs c' = constructs c
      ∧ ∀ q, q ≠ p → t'.get q = t.get q) :
    RebuiltSinceLast p evs := by
  apply Classical.byContradiction
  intro hno
  obtain ⟨t', a, b⟩ := C10_partial' cfg evs pks p v reps t c hscript hwf hre hlast hrt hrun hreps hno
  exact hfail ⟨t', c, a, rfl, b⟩

example : RebuiltSinceLast 0x100 f9Hist :=
  ⟨[.patApplied 0 [.program 1 0x100]], .pmtApplied 0x100 0 pmtBodyV0,
   [.esPacket 0x101, .patApplied 1 [.program 1 0x100]], rfl, by decide, by decide +kernel,
   .patApplied 1 [.program 1 0x100], by simp, 1, [.program 1 0x100], rfl, by decide⟩

/-! ### repetitions can be deleted from any interleaving -/

/-- **C10, arbitrary interleavings ("placed anywhere relative to elementary-stream packets").**
`pks`: any packet sequence in which every packet marked `isRep` is an unflagged repetition packet on
a PID whose slot (in `t`) holds a table handler quiescent at that version, and every other packet
goes to a PID whose slot holds an elementary-stream handler (any number of elementary PIDs, flagged
packets allowed).  If the run over `pks` WITH ALL REPETITION PACKETS DELETED succeeds with context
`cB`, the run over `pks` succeeds with EXACTLY the same context — so every consumer's trace of
`start_stream` / `begin_packet` / `continue_packet` / `end_packet` / `continuity_error` events is the
one it would have seen without the repetitions — and the final tables agree slot by slot, except
that on repetition PIDs the table handler may have been rewritten by an equivalent one (`RepRel`);
in particular every elementary-stream handler ends in the same state.
Scope: per handler instance and per `RepPacket`, as for `repetition_run_noop`. -/
theorem repetitions_deletable (ver : Nat → Nat) (isRep : Pk → Bool) (t : Tab Handler) (c : Ctx)
    (pks : List Pk)
    (hrep : ∀ pk ∈ pks, isRep pk = true → pk.flagged = false ∧ RepPacket (ver pk.pid) pk.bytes
      ∧ ∃ h, t.get pk.pid = some h ∧ QuiescentH (ver pk.pid) h)
    (hoth : ∀ pk ∈ pks, isRep pk = false → ∃ tag f, t.get pk.pid = some (.pes tag f))
    (tB : Tab Handler) (cB : Ctx)
    (hB : pushSpec App.sem (t, c) (pks.filter (fun pk => !isRep pk)) = .ok (tB, cB)) :
    ∃ tA, pushSpec App.sem (t, c) pks = .ok (tA, cB) ∧ pushModel App.sem (t, c) pks = .ok (tA, cB)
      ∧ (∀ q, tA.get q = tB.get q ∨
          ((∃ pk ∈ pks, isRep pk = true ∧ pk.pid = q) ∧
            ∃ hA hB, tA.get q = some hA ∧ tB.get q = some hB ∧ RepRel (ver q) hB hA))
      ∧ (∀ q tag f, tB.get q = some (.pes tag f) → tA.get q = some (.pes tag f)) := by
  obtain ⟨tA, h1, h2⟩ := reps_deletable_aux ver isRep (fun q => ∃ pk ∈ pks, isRep pk = true ∧ pk.pid = q)
    pks t t c (fun q => Or.inl rfl)
    (fun pk hm hr => by
      obtain ⟨a, b, d⟩ := hrep pk hm hr
      exact ⟨⟨pk, hm, hr, rfl⟩, a, b, d⟩) hoth tB cB hB
  refine ⟨tA, h1, by rw [Ts.Props.C06.push_refines_spec]; exact h1, h2, ?_⟩
  intro q tag f hg
  rcases h2 q with e | ⟨_, hA, hB', e1, e2, e3⟩
  · rw [e]; exact hg
  · rw [hg] at e2; cases e2; exact e3.elim

/-! ### non-vacuity of the main theorems, on the packets of the probes -/

example : ∃ s', App.consume (.pmt 0x100 1 { lastVersion := some 0 } [0x101]) exCtx (pkAt (pmtPkt 1 pmtSecV0) 4 0x100)
    = .ok (.pmt 0x100 1 s' [0x101], exCtx, []) ∧ Quiescent 0 s' ∧ s'.buf = [] :=
  pmt_handler_noop 0 _ _ _ _ ⟨rfl, rfl⟩ _ _ (pmtPkt_rep 1 (by decide))

example : ∃ s', runPl Psi.table { lastVersion := some 0 }
      [⟨true, bigMux.first bigPmt, 4⟩, ⟨false, bigPmt.drop 183 ++ List.replicate 166 0xff, 4⟩] = .ok (s', [])
    ∧ Quiescent 0 s' ∧ s'.buf = [] :=
  dedup_blocks_equal_version 0 _ ⟨rfl, rfl⟩ bigPmt bigPmt_facts.1 (by rw [bigPmt_facts.2.1]; decide)
    bigPmt_facts.2.2.1 bigMux bigPmt_facts.2.2.2.2 4 _ (by decide) rfl

example : ∃ s', runPl Psi.table { lastVersion := some 0 }
      ([⟨true, (muxOf patGood).first patGood, 4⟩] ++
       [⟨true, [0x02, 0xaa, 0xbb] ++ patGood.take 8, 177⟩, ⟨false, [0x00, 0x01, 0xe1], 185⟩,
        ⟨false, [0xe0, 0x2d, 0x50, 0x78, 0x04, 0xff], 182⟩]) = .ok (s', [])
    ∧ Quiescent 0 s' ∧ s'.buf = [] :=
  dedup_blocks_equal_version_n 0 _ ⟨rfl, rfl⟩
    [(patGood, muxOf patGood, 4, []),
     (patGood, ⟨[0xaa, 0xbb], 8, [], [[0x00, 0x01, 0xe1], [0xe0, 0x2d, 0x50, 0x78, 0x04, 0xff]], []⟩, 177,
       [⟨false, [0x00, 0x01, 0xe1], 185⟩, ⟨false, [0xe0, 0x2d, 0x50, 0x78, 0x04, 0xff], 182⟩])]
    (by
      intro tx hm
      simp only [List.mem_cons, List.not_mem_nil, or_false] at hm
      rcases hm with rfl | rfl
      · exact ⟨by decide +kernel, by decide +kernel, by decide +kernel, by decide +kernel, by simp, rfl⟩
      · exact ⟨by decide +kernel, by decide +kernel, by decide +kernel, by decide +kernel, by decide, rfl⟩)

example : ∃ sfin, runPl Psi.table {}
      ([⟨true, (muxOf patGood).first patGood, 4⟩] ++
       [⟨false, List.replicate 184 0xff, 4⟩, ⟨true, (muxOf patGood).first patGood, 4⟩])
      = .ok (sfin, [⟨patGood, some 5⟩]) ∧ Quiescent 0 sfin := by
  obtain ⟨sfin, h1, h2⟩ := applied_once_then_repeated patGood patGood_wf (by decide +kernel)
    (muxOf patGood) patGood_mux {} (psiInv_of_none _ _ rfl) (by decide +kernel) 4 [] (by simp) rfl
    [⟨false, List.replicate 184 0xff, 4⟩, ⟨true, (muxOf patGood).first patGood, 4⟩]
    (by
      intro q hm
      simp only [List.mem_cons, List.not_mem_nil, or_false] at hm
      rcases hm with rfl | rfl
      · exact ⟨Or.inl rfl, by decide +kernel⟩
      · exact ⟨Or.inr ⟨patGood, muxOf patGood, patGood_wf, by decide +kernel, rfl, patGood_mux, rfl, rfl⟩,
          by decide +kernel⟩)
  exact ⟨sfin, h1, h2⟩

theorem exReps_ok : ∀ pk ∈ [pkAt (patPkt 1 patSecV0) 1 0, pkAt (bigPkt1 1) 2 0x100, pkAt (bigPkt2 2) 3 0x100],
    pk.pid ≠ 0x101 ∧ pk.flagged = false ∧ RepPacket 0 pk.bytes
      ∧ ∃ h, exTab.get pk.pid = some h ∧ QuiescentH 0 h := by
  intro pk hm
  simp only [List.mem_cons, List.not_mem_nil, or_false] at hm
  rcases hm with rfl | rfl | rfl
  · exact ⟨by decide, rfl, patPkt_rep 1 (by decide), _, exTab_get.1, ⟨rfl, rfl⟩⟩
  · exact ⟨by decide, rfl, bigPkt1_rep 1 bigPkt_plOf.1 bigPkt_plOf.2.1, _, exTab_get.2.1, ⟨rfl, rfl⟩⟩
  · exact ⟨by decide, rfl, bigPkt2_rep 2 _ bigPkt_plOf.2.2.1 bigPkt_plOf.2.2.2.1, _, exTab_get.2.1, ⟨rfl, rfl⟩⟩

example : ∃ h', RepRel 0 (.pat { lastVersion := some 0 } [0x100]) h'
    ∧ Demux.specStep App.sem (exTab, exCtx) (pkAt (patPkt 1 patSecV0) 1 0) = .ok (exTab.insert 0 h', exCtx) := by
  obtain ⟨h', a, b, _⟩ := repetition_block_noop 0 exTab exCtx (pkAt (patPkt 1 patSecV0) 1 0) _ exTab_get.1
    ⟨rfl, rfl⟩ rfl (patPkt_rep 1 (by decide))
  exact ⟨h', a, b⟩

example : ∃ t', Demux.pushModel App.sem (exTab, exCtx)
      [pkAt (patPkt 1 patSecV0) 1 0, pkAt (bigPkt1 1) 2 0x100, pkAt (bigPkt2 2) 3 0x100] = .ok (t', exCtx)
    ∧ t'.get 0x101 = some (.pes 2 {}) := by
  have hyp := fun pk hm => (exReps_ok pk hm).2
  obtain ⟨t', _, h2, _, _⟩ := repetition_run_noop (fun _ => 0) exTab exCtx _ hyp
  obtain ⟨t'', h1', h3, _⟩ := es_handlers_untouched (fun _ => 0) exTab exCtx _ hyp
  rw [Ts.Props.C06.push_refines_spec] at h2
  rw [h2] at h1'
  cases h1'
  exact ⟨t', by rw [Ts.Props.C06.push_refines_spec]; exact h2, h3 _ _ _ exTab_get.2.2⟩

example : ∃ tA tB cB,
    Demux.pushSpec App.sem (exTab, exCtx) [pkAt esStartPkt 0 0x101, pkAt esContPkt 4 0x101] = .ok (tB, cB)
    ∧ Demux.pushSpec App.sem (exTab, exCtx)
        (pkAt esStartPkt 0 0x101 :: ([pkAt (patPkt 1 patSecV0) 1 0, pkAt (bigPkt1 1) 2 0x100,
          pkAt (bigPkt2 2) 3 0x100] ++ [pkAt esContPkt 4 0x101])) = .ok (tA, cB)
    ∧ tA.get 0x101 = tB.get 0x101 := by
  obtain ⟨⟨tB, cB⟩, hB⟩ := exists_of_isOk
    (Demux.pushSpec App.sem (exTab, exCtx) [pkAt esStartPkt 0 0x101, pkAt esContPkt 4 0x101])
    (by decide +kernel)
  obtain ⟨tA, h1, h2, _⟩ := pes_straddles_repetition (fun _ => 0) exTab exCtx (pkAt esStartPkt 0 0x101)
    (pkAt esContPkt 4 0x101) _ 2 {} rfl exTab_get.2.2 exReps_ok tB cB hB
  exact ⟨tA, tB, cB, hB, h1, h2⟩

example : ∃ tA tB cB,
    Demux.pushSpec App.sem (exTab, exCtx) [pkAt esStartPkt 1 0x101, pkAt esContPkt 3 0x101] = .ok (tB, cB)
    ∧ Demux.pushModel App.sem (exTab, exCtx)
        [pkAt (patPkt 1 patSecV0) 0 0, pkAt esStartPkt 1 0x101, pkAt (bigPkt1 1) 2 0x100,
         pkAt esContPkt 3 0x101, pkAt (bigPkt2 2) 4 0x100, pkAt (patPkt 2 patSecV0) 5 0] = .ok (tA, cB)
    ∧ tA.get 0x101 = tB.get 0x101 := by
  obtain ⟨⟨tB, cB⟩, hB⟩ := exists_of_isOk
    (Demux.pushSpec App.sem (exTab, exCtx) [pkAt esStartPkt 1 0x101, pkAt esContPkt 3 0x101])
    (by eval_app)
  obtain ⟨tA, _, h2, h3, _⟩ := repetitions_deletable (fun _ => 0) (fun pk => pk.pid != 0x101) exTab exCtx
    [pkAt (patPkt 1 patSecV0) 0 0, pkAt esStartPkt 1 0x101, pkAt (bigPkt1 1) 2 0x100,
     pkAt esContPkt 3 0x101, pkAt (bigPkt2 2) 4 0x100, pkAt (patPkt 2 patSecV0) 5 0]
    (by
      intro pk hm hr
      simp only [List.mem_cons, List.not_mem_nil, or_false] at hm
      rcases hm with rfl | rfl | rfl | rfl | rfl | rfl
      · exact ⟨rfl, patPkt_rep 1 (by decide), _, exTab_get.1, ⟨rfl, rfl⟩⟩
      · cases hr
      · exact ⟨rfl, bigPkt1_rep 1 bigPkt_plOf.1 bigPkt_plOf.2.1, _, exTab_get.2.1, ⟨rfl, rfl⟩⟩
      · cases hr
      · exact ⟨rfl, bigPkt2_rep 2 _ bigPkt_plOf.2.2.1 bigPkt_plOf.2.2.2.1, _, exTab_get.2.1, ⟨rfl, rfl⟩⟩
      · exact ⟨rfl, patPkt_rep 2 (by decide), _, exTab_get.1, ⟨rfl, rfl⟩⟩)
    (by
      intro pk hm hr
      simp only [List.mem_cons, List.not_mem_nil, or_false] at hm
      rcases hm with rfl | rfl | rfl | rfl | rfl | rfl
      · cases hr
      · exact ⟨2, {}, exTab_get.2.2⟩
      · cases hr
      · exact ⟨2, {}, exTab_get.2.2⟩
      · cases hr
      · cases hr)
    tB cB hB
  refine ⟨tA, tB, cB, hB, h2, ?_⟩
  rcases h3 0x101 with e | ⟨⟨pk, _, hr, hp⟩, _⟩
  · exact e
  · rw [hp] at hr; cases hr

example : ∃ t c t1 t2, pushModel App.sem (App.init {}) basePks = .ok (t, c)
    ∧ lastAppliedOn 0x100 baseHist = some 0 ∧ lastAppliedOn 0 baseHist = some 0
    ∧ pushModel App.sem (t, c) [pkAt (pmtPkt 1 pmtSecV0) 3 0x100] = .ok (t1, c)
    ∧ pushModel App.sem (t, c) [pkAt (patPkt 1 patSecV0) 3 0, pkAt (patPkt 2 patSecV0) 4 0] = .ok (t2, c) := by
  obtain ⟨t, c, -, hrun, -⟩ := Ts.Props.C05History.routing_refines {} rfl baseHist basePks base_wf base_realises
  obtain ⟨l1, t1, _, _, a1, _⟩ := C10_partial {} rfl [.patApplied 0 [.program 1 0x100]] [.esPacket 0x101]
    (.pmtApplied 0x100 0 pmtBodyV0) basePks 0x100 0 [pkAt (pmtPkt 1 pmtSecV0) 3 0x100] t c base_wf
    base_realises (by decide) (by
      intro e he
      simp only [List.mem_cons, List.not_mem_nil, or_false] at he
      subst he
      exact ⟨rfl, fun v' es h => by cases h⟩)
    (by decide +kernel) hrun
    (by intro pk hm; rw [List.mem_singleton] at hm; subst hm; exact ⟨rfl, rfl, pmtPkt_rep 1 (by decide)⟩)
  obtain ⟨l2, t2, _, _, a2, _⟩ := C10_partial {} rfl [] [.pmtApplied 0x100 0 pmtBodyV0, .esPacket 0x101]
    (.patApplied 0 [.program 1 0x100]) basePks 0 0
    [pkAt (patPkt 1 patSecV0) 3 0, pkAt (patPkt 2 patSecV0) 4 0] t c base_wf
    base_realises (by decide) (by
      intro e he
      simp only [List.mem_cons, List.not_mem_nil, or_false] at he
      rcases he with rfl | rfl
      · exact ⟨by decide, fun v' es h => by cases h⟩
      · exact ⟨rfl, fun v' es h => by cases h⟩)
    (by decide +kernel) hrun
    (by
      intro pk hm
      simp only [List.mem_cons, List.not_mem_nil, or_false] at hm
      rcases hm with rfl | rfl
      · exact ⟨rfl, rfl, patPkt_rep 1 (by decide)⟩
      · exact ⟨rfl, rfl, patPkt_rep 2 (by decide)⟩)
  exact ⟨t, c, t1, t2, hrun, l1, l2, a1, a2⟩

example :
    observe10 (runApp {} [patPkt 0 patSecV0 ++ bigPkt1 0 ++ bigPkt2 1 ++ esStartPkt])
      = some (bigConstructs, [(2, 0), (2, 1)], .pmt 0x100 1 [0x101], .pes 2)
    ∧ observe10 (runApp {} [patPkt 0 patSecV0 ++ bigPkt1 0 ++ bigPkt2 1 ++ esStartPkt ++ bigPkt1 2
          ++ bigPkt2 3 ++ bigPkt1 4 ++ esContPkt ++ bigPkt2 5])
      = some (bigConstructs, [(2, 0), (2, 1), (2, 2)], .pmt 0x100 1 [0x101], .pes 2) :=
  ⟨bigPmt_run, bigPmt_rep_run⟩

/-! ## Unapplied starts between repetitions

The de-duplication layer records `version_number` when a section STARTS
(`Ts.Props.C11.start_records_version`), and keys on nothing else.  So ANY accepted start with another
version on the PID moves the version memory of a quiescent filter, whether or not that section is ever
applied, and the next transmission of the unchanged table is applied again. -/

/-- **Unapplied start, mechanism.**  `s`: a filter quiescent at `v`.  One unit-start payload
`pointer_field :: pre ++ D` whose section start `D` is ACCEPTED (`hok`: syntax indicator, at least the 8
fixed header bytes, `section_length ≤ 1021` — nothing about `table_id`, completeness or CRC) and whose
`version_number` differs from `v`; then ANY continuation payloads.  The run does not panic, and the
filter remembers `versionOf D` and no longer `v` — whether or not `D`'s section is ever APPLIED (another
`table_id`: `Ts.Props.C11.crc_gate_pat_other_table_ignored`; CRC failure: C04; never completed). -/
theorem unapplied_start_records_version (v : Nat) (s : St) (hq : Quiescent v s)
    (pre D : Bytes) (off0 : Nat) (hp : pre.length < 256) (hok : startOk Psi.table D = true)
    (hver : versionOf D ≠ v)
    (conts : List Pl) (husc : ∀ q ∈ conts, q.us = false) (hnec : ∀ q ∈ conts, 1 ≤ q.bytes.length) :
    ∃ s1 ds,
      runPl Psi.table s (⟨true, UInt8.ofNat pre.length :: (pre ++ D), off0⟩ :: conts) = .ok (s1, ds)
      ∧ s1.lastVersion = some (versionOf D) ∧ s1.lastVersion ≠ some v ∧ PsiInv .syntax s1 := by
  obtain ⟨sa, da, ha, hva, hia⟩ :=
    Ts.Props.C11.start_records_version_payload s (quiescent_inv v s hq) pre D off0 hp hok
  obtain ⟨s1, dc, hc, hvc, hic⟩ := Ts.Props.C11.continuation_keeps_version conts sa hia husc hnec
  refine ⟨s1, da ++ dc, ?_, by rw [hvc, hva], ?_, hic⟩
  · simp only [runPl, ha, R.ok_bind, hc]; rfl
  · rw [hvc, hva]
    intro e
    injection e with e
    exact hver e

/-- **Unapplied start, then the unchanged table: RE-APPLIED.**  Setting of
`unapplied_start_records_version`; then an intact `WellFormedMux` transmission of ANY well-formed
section `S` with `version_number = v`, at least 12 bytes, valid CRC.  `S` IS delivered, exactly once
(after at most what its pointer bytes complete of the buffer the in-between start left), passes the CRC
layer in both builds — i.e. reaches `PatProcessor::section` / `PmtProcessor::section` although the table
did not change — and the filter is quiescent at `v` again.  Contrast `dedup_blocks_equal_version`. -/
theorem unapplied_start_then_repeat_reapplied (v : Nat) (s : St) (hq : Quiescent v s)
    (pre D : Bytes) (off0 : Nat) (hp : pre.length < 256) (hok : startOk Psi.table D = true)
    (hver : versionOf D ≠ v)
    (conts : List Pl) (husc : ∀ q ∈ conts, q.us = false) (hnec : ∀ q ∈ conts, 1 ≤ q.bytes.length)
    (S : Bytes) (hS : WellFormedSection .syntax S) (h12 : 12 ≤ S.length)
    (hcrc : Ts.CrcSpec.crc S = 0) (hv : versionOf S = v)
    (m : Mux) (hm : WellFormedMux .syntax S m) (off : Nat) (rest : List Pl)
    (hus : ∀ q ∈ rest, q.us = false) (hrest : rest.map (·.bytes) = m.rest) :
    ∃ s1 ds sfin,
      runPl Psi.table s (⟨true, UInt8.ofNat pre.length :: (pre ++ D), off0⟩ :: conts) = .ok (s1, ds)
      ∧ s1.lastVersion = some (versionOf D)
      ∧ runPl Psi.table s1 (⟨true, m.first S, off⟩ :: rest)
          = .ok (sfin, (preSpec Psi.table s1 m.pre).2
              ++ [⟨S, if m.k = S.length then some (off + 1 + m.pre.length) else none⟩])
      ∧ (preSpec Psi.table s1 m.pre).2.length ≤ 1
      ∧ runPl Psi.table s ((⟨true, UInt8.ofNat pre.length :: (pre ++ D), off0⟩ :: conts)
            ++ (⟨true, m.first S, off⟩ :: rest))
          = .ok (sfin, ds ++ ((preSpec Psi.table s1 m.pre).2
              ++ [⟨S, if m.k = S.length then some (off + 1 + m.pre.length) else none⟩]))
      ∧ (∀ b, Psi.crcPass b S = .ok true)
      ∧ Quiescent v sfin := by
  obtain ⟨s1, ds, h1, hv1, hne1, hi1⟩ :=
    unapplied_start_records_version v s hq pre D off0 hp hok hver conts husc hnec
  obtain ⟨sfin, h2, h3, h4, h5⟩ := Ts.Props.C11.damage_then_new_version_applied_partial S hS h12 hcrc m hm
    s1 hi1 (by rw [hv]; exact hne1) off rest hus hrest
  refine ⟨s1, ds, sfin, h1, hv1, h2, h3, ?_, h4, by rw [← hv]; exact h5⟩
  rw [runPl_append, h1]
  simp only [R.ok_bind, h2]

/-- the two theorems on the filter-level content of the witnesses below, from a PMT filter that has
applied version 0: (a) the private section, (b) the PMT copy with one flipped version bit, (c) the
first 8 bytes of a version-1 section, never completed; each time the next intact PMT v0 is delivered -/
example :
    (∃ s1 sfin, runPl Psi.table { lastVersion := some 0 }
          [⟨true, 0x00 :: (privSecV5 ++ List.replicate 167 0xff), 4⟩] = .ok (s1, [⟨privSecV5, some 5⟩])
        ∧ s1.lastVersion = some 5 ∧ Psi.crcPass false privSecV5 = .ok true ∧ byteD privSecV5 0 ≠ 2
        ∧ runPl Psi.table s1 [⟨true, (muxOf pmtSecV0).first pmtSecV0, 4⟩] = .ok (sfin, [⟨pmtSecV0, some 5⟩])
        ∧ Quiescent 0 sfin)
    ∧ (∃ s1 sfin, runPl Psi.table { lastVersion := some 0 }
          [⟨true, 0x00 :: (pmtSecV0Damaged ++ List.replicate 162 0xff), 4⟩]
            = .ok (s1, [⟨pmtSecV0Damaged, some 5⟩])
        ∧ s1.lastVersion = some 1 ∧ Psi.crcPass false pmtSecV0Damaged = .ok false
        ∧ runPl Psi.table s1 [⟨true, (muxOf pmtSecV0).first pmtSecV0, 4⟩] = .ok (sfin, [⟨pmtSecV0, some 5⟩])
        ∧ Quiescent 0 sfin)
    ∧ (∃ s1 sfin, runPl Psi.table { lastVersion := some 0 }
          [⟨true, 0x00 :: pmtSecV0Damaged.take 8, 4⟩] = .ok (s1, [])
        ∧ s1.lastVersion = some 1
        ∧ runPl Psi.table s1 [⟨true, (muxOf pmtSecV0).first pmtSecV0, 4⟩] = .ok (sfin, [⟨pmtSecV0, some 5⟩])
        ∧ Quiescent 0 sfin) := by
  obtain ⟨w1, w2, w3, w4, w5⟩ := pmtSecV0_facts
  have key : ∀ (D : Bytes) (vD : Nat), startOk Psi.table D = true → versionOf D = vD → vD ≠ 0 →
      ∃ s1 ds sfin, runPl Psi.table { lastVersion := some 0 } [⟨true, 0x00 :: D, 4⟩] = .ok (s1, ds)
        ∧ s1.lastVersion = some vD
        ∧ runPl Psi.table s1 [⟨true, (muxOf pmtSecV0).first pmtSecV0, 4⟩] = .ok (sfin, [⟨pmtSecV0, some 5⟩])
        ∧ Quiescent 0 sfin := by
    intro D vD hok hvD hne
    obtain ⟨s1, ds, sfin, a1, a2, a3, _, _, _, a7⟩ := unapplied_start_then_repeat_reapplied 0
      { lastVersion := some 0 } ⟨rfl, rfl⟩ [] D 4 (by decide) hok (by rw [hvD]; exact hne) [] (by simp)
      (by simp) pmtSecV0 w1 (by rw [w2]; decide) w3 w4 (muxOf pmtSecV0) w5 4 [] (by simp) rfl
    refine ⟨s1, ds, sfin, a1, by rw [a2, hvD], ?_, a7⟩
    rw [a3]
    have e1 : (muxOf pmtSecV0).pre = [] := rfl
    have e2 : (muxOf pmtSecV0).k = pmtSecV0.length := rfl
    rw [e1, e2]
    simp [preSpec]
  refine ⟨?_, ?_, ?_⟩
  · obtain ⟨s1, ds, sfin, a1, a2, a3, a4⟩ := key _ 5 between_startOk.1 between_startOk.2.2.1 (by decide)
    have e : runPl Psi.table { lastVersion := some 0 }
        [⟨true, 0x00 :: (privSecV5 ++ List.replicate 167 0xff), 4⟩]
        = .ok ({ lastVersion := some 5 }, [⟨privSecV5, some 5⟩]) := by decide +kernel
    rw [e] at a1
    cases a1
    exact ⟨_, sfin, e, a2, by decide +kernel, by decide +kernel, a3, a4⟩
  · obtain ⟨s1, ds, sfin, a1, a2, a3, a4⟩ := key _ 1 between_startOk.2.1 between_startOk.2.2.2 (by decide)
    have e : runPl Psi.table { lastVersion := some 0 }
        [⟨true, 0x00 :: (pmtSecV0Damaged ++ List.replicate 162 0xff), 4⟩]
        = .ok ({ lastVersion := some 1 }, [⟨pmtSecV0Damaged, some 5⟩]) := by decide +kernel
    rw [e] at a1
    cases a1
    exact ⟨_, sfin, e, a2, pmtSecV0Damaged_facts.2.2.2.2.2, a3, a4⟩
  · obtain ⟨s1, ds, sfin, a1, a2, a3, a4⟩ := key (pmtSecV0Damaged.take 8) 1 (by decide +kernel)
      (by decide +kernel) (by decide)
    have e : runPl Psi.table { lastVersion := some 0 } [⟨true, 0x00 :: pmtSecV0Damaged.take 8, 4⟩]
        = .ok ({ lastVersion := some 1, buf := pmtSecV0Damaged.take 8, remaining := some 13 }, []) := by
      decide +kernel
    rw [e] at a1
    cases a1
    exact ⟨_, sfin, e, a2, a3, a4⟩

/-- **Witness (a): a FOREIGN table between two repetitions** — case `N1` (`observations/`), whole
application.  Control `foreignCtlBytes` (PAT v0, PMT v0 on 0x100, ES unit start on 0x101, PMT v0, PMT v0,
ES continuation): three requests, consumer 2 sees `start`, `begin`, `continue`.  `foreignPrefixBytes`
(… ES unit start, then the private section `privSecV5` — `table_id = 0x80`, version 5, valid CRC — on
0x100): nothing requested.  `foreignBytes` (… then PMT v0 again, ES continuation): the unchanged PMT is
RE-APPLIED (`Stream(…0x101…)`→3), slot 0x101 gets the fresh PES filter tagged 3 and the continuation of
the open PES packet goes to a consumer that has not started.  Identical to the output of the real code.

SCOPE OBSERVATION (DESIGN.md 8.1b), NOT a known finding: C10 speaks of repetitions of a table, not of
a foreign table on the same PID between them; `RepPacket` / `Realises` exclude the shape (last
conjunct).  The mechanism is `unapplied_start_then_repeat_reapplied`. -/
theorem foreign_table_between_repeats :
    observe10 (runApp {} [foreignCtlBytes])
      = some ([(.byPid 0, 0), (.pmt 0x100 1, 1), (.stream 0x100 0x1b 0x101 0x101 [] [], 2)],
          [(2, 0), (2, 1), (2, 2)], .pmt 0x100 1 [0x101], .pes 2)
    ∧ observe10 (runApp {} [foreignPrefixBytes])
      = some ([(.byPid 0, 0), (.pmt 0x100 1, 1), (.stream 0x100 0x1b 0x101 0x101 [] [], 2)],
          [(2, 0), (2, 1)], .pmt 0x100 1 [0x101], .pes 2)
    ∧ observe10 (runApp {} [foreignBytes])
      = some ([(.byPid 0, 0), (.pmt 0x100 1, 1), (.stream 0x100 0x1b 0x101 0x101 [] [], 2),
           (.stream 0x100 0x1b 0x101 0x101 [] [], 3)],
          [(2, 0), (2, 1)], .pmt 0x100 1 [0x101], .pes 3)
    ∧ (WellFormedSection .syntax privSecV5 ∧ Ts.CrcSpec.crc privSecV5 = 0 ∧ versionOf privSecV5 = 5
        ∧ byteD privSecV5 0 = 0x80)
    ∧ ¬ RepPacket 0 (pmtPkt 1 privSecV5) := by
  refine ⟨foreign_ctl_run, foreign_prefix_run, foreign_run,
    ⟨privSecV5_facts.1, privSecV5_facts.2.2.1, privSecV5_facts.2.2.2.1, privSecV5_facts.2.2.2.2⟩, ?_⟩
  rintro ⟨_, h⟩
  rcases h _ between_plOf.1 with h | ⟨S, m, hS, h8, hv, hm, _, hb⟩
  · cases h
  · -- the first share of a well-formed packetisation has the section's version
    obtain ⟨hk, hmin, hcase⟩ := mux_case S m hm
    have hver := share_version S m.k m.tailBytes h8 hk hmin hcase
    have hfl := first_length S m
    have hlt : m.pre.length < 256 := by have := hm.2.2.1.2; omega
    have hb0 : byteD (m.first S) 0 = m.pre.length := byteD_ofNat_cons _ hlt _
    have hp0 : m.pre = [] := by
      have : byteD (m.first S) 0 = 0 := by rw [← hb]; rfl
      rw [hb0] at this
      exact List.eq_nil_of_length_eq_zero this
    have hsh : S.take m.k ++ m.tailBytes = privSecV5 ++ List.replicate 167 0xff := by
      have : m.first S = 0x00 :: (privSecV5 ++ List.replicate 167 0xff) := hb.symm
      unfold Mux.first at this
      rw [hp0] at this
      simpa using this
    rw [hsh, ← versionOf_eq, between_startOk.2.2.1, hv] at hver
    exact absurd hver (by decide)

/-- **Witness (b): a DAMAGED copy between two repetitions** — known finding **F12** (C04) on the PMT
PID (case `N1b`), whole application.  `pmtSecV0Damaged` = `pmtSecV0` with one flipped bit of
`version_number` (bit 46), CRC bytes unchanged, so the gate (C04) keeps it from the PMT processor.
`damagedPrefixBytes` (PAT v0, PMT v0, ES unit start, the damaged copy): nothing requested;
`damagedBytes` (… then the intact PMT v0, ES continuation): the intact, UNCHANGED PMT is re-applied and
slot 0x101 replaced mid-packet; the control is `foreignCtlBytes`.  Identical to the output of the real
code.  It needs a fault, so it lies outside C10's quantifier and outside `Realises`; the mechanism is
`unapplied_start_then_repeat_reapplied`. -/
theorem damaged_copy_between_repeats :
    pmtSecV0Damaged = Ts.CrcSpec.flipBit pmtSecV0 46
    ∧ Psi.crcPass false pmtSecV0Damaged = .ok false
    ∧ observe10 (runApp {} [damagedPrefixBytes])
      = some ([(.byPid 0, 0), (.pmt 0x100 1, 1), (.stream 0x100 0x1b 0x101 0x101 [] [], 2)],
          [(2, 0), (2, 1)], .pmt 0x100 1 [0x101], .pes 2)
    ∧ observe10 (runApp {} [damagedBytes])
      = some ([(.byPid 0, 0), (.pmt 0x100 1, 1), (.stream 0x100 0x1b 0x101 0x101 [] [], 2),
           (.stream 0x100 0x1b 0x101 0x101 [] [], 3)],
          [(2, 0), (2, 1)], .pmt 0x100 1 [0x101], .pes 3) :=
  ⟨pmtSecV0Damaged_facts.1, pmtSecV0Damaged_facts.2.2.2.2.2, damaged_prefix_run, damaged_run⟩


example : RebuiltSinceLast 0x100 f9Hist :=
  have ⟨t, c, hrun, h1, h2, h3, hno⟩ := f9_refutes
  C10_gap_is_F9 {} f9Hist f9Pks 0x100 0 [f9Rep] t c rfl f9_wf f9_realises h1 h2 hrun h3 hno

end Ts.Props.C10
