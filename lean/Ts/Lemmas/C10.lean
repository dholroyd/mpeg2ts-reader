import Ts.Props.C03
import Ts.Props.C04Crc
import Ts.Lemmas.Demux
/-!
# C10 / C11 helper lemmas: the de-duplication layer of the `Psi.table` chain

In a quiescent state (`Quiescent v s`: right after version `v` was delivered) every repetition payload
delivers nothing and keeps the state quiescent (`rep_run`); a transmission with another version is
delivered (`table_applied`); one with the remembered version never is (`table_blocked`, the core of F2).
-/
namespace Ts.Lemmas.C10
open Ts Ts.Psi Ts.Spec Ts.Spec.SectionMux Ts.Lemmas.C03


/-- `version_number`: 5 bits at bit offset 42 (byte 5, after 2 reserved bits) -/
def versionOf (S : Bytes) : Nat := readBits S 42 5

/-- what the model's `tshVersion` computes, on the whole section -/
def verField (d : Bytes) : Nat := (byteD d 5 >>> 1) &&& 0b0001_1111

theorem versionOf_eq (S : Bytes) : versionOf S = verField S := by
  unfold versionOf verField
  have r := readBits_sub S 5 2 5 (by omega)
  have e : 8 * 5 + 2 = 42 := rfl
  rw [e] at r
  rw [r, Nat.shiftRight_eq_div_pow, show (0b0001_1111 : Nat) = 2 ^ 5 - 1 from rfl,
    Nat.and_two_pow_sub_one_eq_mod]

theorem versionOf_lt (S : Bytes) : versionOf S < 32 := readBits_lt S 42 5

theorem tshVersion_eq (d : Bytes) (h : 8 ≤ d.length) : tshVersion (d.drop 3) = .ok (versionOf d) := by
  rw [versionOf_eq]
  unfold tshVersion verField
  have h5 : (5 ≤ d.length - 3) := by omega
  rw [byteAt_ok _ 2 (by rw [List.length_drop]; omega), byteD_drop]
  simp [assertR, TSH, h5]

theorem verField_share (S tail : Bytes) (k : Nat) (hk : 6 ≤ k) (hkS : k ≤ S.length) :
    verField (S.take k ++ tail) = verField S := by
  unfold verField
  rw [byteD_append_left _ _ 5 (by simp; omega), byteD_take _ _ _ (by omega)]


/-- right after version `v` was delivered (and while its repetitions pass): the dedup layer
remembers `v`, the buffer layer is `Complete` -/
def Quiescent (v : Nat) (s : St) : Prop := s.lastVersion = some v ∧ s.remaining = none

/-- `q` is one payload of a re-transmission of a well-formed section-syntax section with
version `v`: any continuation payload, or the unit-start payload of some well-formed packetisation -/
def RepPayload (v : Nat) (q : Pl) : Prop :=
  q.us = false ∨
  ∃ S m, WellFormedSection .syntax S ∧ 8 ≤ S.length ∧ versionOf S = v ∧ WellFormedMux .syntax S m
    ∧ q.us = true ∧ q.bytes = m.first S

/-- a 188-byte packet of a repetition: no payload at all (adaptation field only), or its payload
view (C12/C03d `plOf`) is a repetition payload -/
def RepPacket (v : Nat) (p : Bytes) : Prop :=
  p.length = 188 ∧ ∀ q, plOf p = some q → RepPayload v q

theorem repPacket_of_first (v : Nat) (p S : Bytes) (m : Mux) (off : Nat) (hl : p.length = 188)
    (hpl : plOf p = some ⟨true, m.first S, off⟩) (hS : WellFormedSection .syntax S) (h8 : 8 ≤ S.length)
    (hv : versionOf S = v) (hm : WellFormedMux .syntax S m) : RepPacket v p := by
  refine ⟨hl, fun q hq => ?_⟩
  rw [hpl] at hq
  cases hq
  exact Or.inr ⟨S, m, hS, h8, hv, hm, rfl, rfl⟩

theorem quiescent_inv (v : Nat) (s : St) (h : Quiescent v s) : PsiInv .syntax s :=
  psiInv_of_none _ _ h.2


theorem startOk_table_eq (d : Bytes) : startOk Psi.table d = startOk Psi.rawSection d := rfl

theorem share_startOk (S : Bytes) (hS : WellFormedSection .syntax S) (k : Nat) (tail : Bytes)
    (hk : k ≤ S.length) (hmin : 8 ≤ (S.take k ++ tail).length)
    (hcase : k = S.length ∨ (k < S.length ∧ tail = [])) :
    startOk Psi.table (S.take k ++ tail) = true :=
  (startOk_share Psi.table S hS k tail hk hmin hcase).1

theorem share_version (S : Bytes) (k : Nat) (tail : Bytes) (h8 : 8 ≤ S.length)
    (hk : k ≤ S.length) (hmin : 8 ≤ (S.take k ++ tail).length)
    (hcase : k = S.length ∨ (k < S.length ∧ tail = [])) :
    verField (S.take k ++ tail) = versionOf S := by
  have hk6 : 6 ≤ k := by
    rcases hcase with h | ⟨_, ht⟩
    · omega
    · subst ht; simp at hmin; omega
  rw [verField_share S tail k hk6 hk, versionOf_eq]


theorem startSpec_table_same (s : St) (d : Bytes) (off : Nat) (hok : startOk Psi.table d = true)
    (hv : s.lastVersion = some (verField d)) :
    startSpec Psi.table s d off = ({ s with ignoreRest := false, dedupIgnore := true }, []) := by
  unfold startSpec dedupStartSpec
  have hd : Psi.table.dedup = true := rfl
  have hb : (s.lastVersion == some (byteD d 5 >>> 1 &&& 31)) = true := by
    rw [hv]; simp [verField]
  simp only [hok, if_true, hd, hb]

theorem startSpec_table_diff (s : St) (d : Bytes) (off : Nat) (hok : startOk Psi.table d = true)
    (hv : s.lastVersion ≠ some (verField d)) :
    startSpec Psi.table s d off
      = startSpec Psi.rawSection { s with dedupIgnore := false, lastVersion := some (verField d) } d off := by
  have hok' : startOk Psi.rawSection d = true := hok
  unfold startSpec dedupStartSpec
  have hd : Psi.table.dedup = true := rfl
  have hd' : Psi.rawSection.dedup = false := rfl
  have hb : (s.lastVersion == some (byteD d 5 >>> 1 &&& 31)) = false := by
    have : ¬ s.lastVersion = some (byteD d 5 >>> 1 &&& 31) := hv
    simp [this]
  simp only [hok, hok', if_true, hd, hd', hb, Bool.false_eq_true, if_false, verField]

/-- every accepted start records the version of the section that starts — before anything is
known about its completeness or CRC -/
theorem startSpec_records (s : St) (d : Bytes) (off : Nat) (hok : startOk Psi.table d = true) :
    (startSpec Psi.table s d off).1.lastVersion = some (verField d) := by
  by_cases hv : s.lastVersion = some (verField d)
  · rw [startSpec_table_same s d off hok hv]; exact hv
  · have hok' : startOk Psi.rawSection d = true := hok
    rw [startSpec_table_diff s d off hok hv]
    have hd' : Psi.rawSection.dedup = false := rfl
    unfold startSpec dedupStartSpec bufStartSpec
    simp only [hok', if_true, hd', Bool.false_eq_true, if_false]
    by_cases hle : hdrLen d + 3 ≤ d.length <;> simp [hle]


theorem runCont_lastVersion (cfg : Cfg) (ps : List Bytes) : ∀ (s : St),
    (runCont cfg s ps).1.lastVersion = s.lastVersion := by
  induction ps with
  | nil => intro s; rfl
  | cons p ps ih => intro s; simp only [runCont]; rw [ih, (contSpec_frame cfg s p).1]

theorem contSpec_table_ignoring (s : St) (p : Bytes) (h : s.dedupIgnore = true) :
    contSpec Psi.table s p = (s, []) := by
  unfold contSpec
  simp [Psi.table, h]

theorem runCont_table_ignoring (s : St) (ps : List Bytes) (h : s.dedupIgnore = true) :
    runCont Psi.table s ps = (s, []) := by
  induction ps with
  | nil => rfl
  | cons p ps ih => simp only [runCont, contSpec_table_ignoring s p h, ih, List.append_nil]

theorem preSpec_idle (cfg : Cfg) (s : St) (pre : Bytes) (h : s.remaining = none) :
    preSpec cfg s pre = (s, []) := by
  unfold preSpec; split
  · rfl
  · exact contSpec_idle cfg s pre (Or.inl h)

theorem preSpec_length_le_one (cfg : Cfg) (s : St) (pre : Bytes) : (preSpec cfg s pre).2.length ≤ 1 := by
  unfold preSpec; split
  · simp
  · exact contSpec_length_le_one cfg s pre


theorem first_length (S : Bytes) (m : Mux) :
    (m.first S).length = 1 + m.pre.length + (S.take m.k ++ m.tailBytes).length := by
  simp only [Mux.first, List.length_cons, List.length_append]; omega

theorem consumeSpec_first_table (S : Bytes) (m : Mux) (hm : WellFormedMux .syntax S m)
    (s : St) (off : Nat) :
    consumeSpec Psi.table s true (m.first S) off
      = ((startSpec Psi.table (preSpec Psi.table s m.pre).1 (S.take m.k ++ m.tailBytes)
            (off + 1 + m.pre.length)).1,
         (preSpec Psi.table s m.pre).2 ++
           (startSpec Psi.table (preSpec Psi.table s m.pre).1 (S.take m.k ++ m.tailBytes)
             (off + 1 + m.pre.length)).2) := by
  obtain ⟨hk, hmin, hsz, hcase, hrsz⟩ := hm
  have hfl := first_length S m
  have h8 : minHeader .syntax = 8 := rfl
  rw [h8] at hmin
  exact consumeSpec_first Psi.table s m.pre (S.take m.k ++ m.tailBytes) off
    (by have := hsz.2; omega) (by omega)

theorem mux_case (S : Bytes) (m : Mux) (hm : WellFormedMux .syntax S m) :
    m.k ≤ S.length ∧ 8 ≤ (S.take m.k ++ m.tailBytes).length
      ∧ (m.k = S.length ∨ (m.k < S.length ∧ m.tailBytes = [])) := by
  obtain ⟨hk, hmin, hsz, hcase, hrsz⟩ := hm
  refine ⟨hk, hmin, ?_⟩
  rcases hcase with h | ⟨h1, h2, _⟩
  · exact Or.inl h
  · exact Or.inr ⟨h1, h2⟩


/-- unit-start payload of a same-version section in ANY state that remembers that version:
only the pointer bytes can deliver; the dedup layer starts ignoring -/
theorem first_same_version (S : Bytes) (hS : WellFormedSection .syntax S) (h8 : 8 ≤ S.length)
    (m : Mux) (hm : WellFormedMux .syntax S m) (s : St) (off : Nat)
    (hv : s.lastVersion = some (versionOf S)) :
    consumeSpec Psi.table s true (m.first S) off
      = ({ (preSpec Psi.table s m.pre).1 with ignoreRest := false, dedupIgnore := true },
         (preSpec Psi.table s m.pre).2) := by
  obtain ⟨hk, hmin, hcase⟩ := mux_case S m hm
  rw [consumeSpec_first_table S m hm s off]
  have hok := share_startOk S hS m.k m.tailBytes hk hmin hcase
  have hver := share_version S m.k m.tailBytes h8 hk hmin hcase
  rw [startSpec_table_same _ _ _ hok (by rw [(preSpec_frame _ _ _).1, hver]; exact hv)]
  simp

theorem rep_step_spec (v : Nat) (s : St) (hq : Quiescent v s) (q : Pl) (hr : RepPayload v q) :
    ∃ s', consumeSpec Psi.table s q.us q.bytes q.off = (s', [])
      ∧ Quiescent v s' ∧ s'.buf = s.buf ∧ s'.dedupIgnore = (q.us || s.dedupIgnore) := by
  rcases hr with hus | ⟨S, m, hS, h8, hver, hm, hus, hb⟩
  · refine ⟨s, ?_, hq, rfl, by simp [hus]⟩
    rw [hus]
    unfold consumeSpec
    simp only [Bool.false_eq_true, if_false]
    exact contSpec_idle _ _ _ (Or.inl hq.2)
  · rw [hus, hb, first_same_version S hS h8 m hm s q.off (by rw [hver]; exact hq.1)]
    rw [preSpec_idle _ _ _ hq.2]
    exact ⟨_, rfl, ⟨hq.1, hq.2⟩, rfl, by simp⟩

theorem rep_step (v : Nat) (s : St) (hq : Quiescent v s) (q : Pl) (hr : RepPayload v q)
    (hne : 1 ≤ q.bytes.length) :
    ∃ s', consumePayload Psi.table s q.us q.bytes q.off = .ok (s', [])
      ∧ Quiescent v s' ∧ s'.buf = s.buf := by
  obtain ⟨s', h1, h2, h3, _⟩ := rep_step_spec v s hq q hr
  refine ⟨s', ?_, h2, h3⟩
  rw [consumePayload_eq Psi.table cfgOk_table s q.us q.bytes q.off hne (quiescent_inv v s hq), h1]

theorem rep_run (v : Nat) (qs : List Pl) : ∀ (s : St), Quiescent v s →
    (∀ q ∈ qs, RepPayload v q ∧ 1 ≤ q.bytes.length) →
    ∃ s', runPl Psi.table s qs = .ok (s', []) ∧ Quiescent v s' ∧ s'.buf = s.buf := by
  induction qs with
  | nil => intro s hq _; exact ⟨s, rfl, hq, rfl⟩
  | cons q qs ih =>
    intro s hq hall
    obtain ⟨hr, hne⟩ := hall q (List.mem_cons_self ..)
    obtain ⟨s1, h1, hq1, hb1⟩ := rep_step v s hq q hr hne
    obtain ⟨s2, h2, hq2, hb2⟩ := ih s1 hq1 (fun q' hq' => hall q' (List.mem_cons_of_mem _ hq'))
    refine ⟨s2, ?_, hq2, by rw [hb2, hb1]⟩
    simp only [runPl, h1, R.ok_bind, h2]
    rfl

theorem mux_payloads_rep (S : Bytes) (hS : WellFormedSection .syntax S) (h8 : 8 ≤ S.length)
    (m : Mux) (hm : WellFormedMux .syntax S m) (off : Nat) (rest : List Pl)
    (hus : ∀ q ∈ rest, q.us = false) (hrest : rest.map (·.bytes) = m.rest) :
    ∀ q ∈ (⟨true, m.first S, off⟩ :: rest : List Pl),
      RepPayload (versionOf S) q ∧ 1 ≤ q.bytes.length := by
  intro q hq
  rcases List.mem_cons.1 hq with e | e
  · subst e
    exact ⟨Or.inr ⟨S, m, hS, h8, rfl, hm, rfl, rfl⟩, hm.2.2.1.1⟩
  · have : q.bytes ∈ m.rest := by rw [← hrest]; exact List.mem_map_of_mem e
    exact ⟨Or.inl (hus q e), (hm.2.2.2.2 _ this).1⟩


/-- C03's `section_reassembled` pushed through the dedup layer: from any state satisfying the
buffer invariant whose remembered version differs, a well-formed transmission is delivered exactly
once (after at most one delivery completed by the pointer bytes), and the state is quiescent -/
theorem table_applied (S : Bytes) (hS : WellFormedSection .syntax S) (h8 : 8 ≤ S.length)
    (m : Mux) (hm : WellFormedMux .syntax S m)
    (s : St) (hs : PsiInv .syntax s) (hv : s.lastVersion ≠ some (versionOf S))
    (off : Nat) (rest : List Pl) (hus : ∀ q ∈ rest, q.us = false)
    (hrest : rest.map (·.bytes) = m.rest) :
    ∃ sfin,
      runPl Psi.table s (⟨true, m.first S, off⟩ :: rest)
        = .ok (sfin, (preSpec Psi.table s m.pre).2
                      ++ [⟨S, if m.k = S.length then some (off + 1 + m.pre.length) else none⟩])
      ∧ Quiescent (versionOf S) sfin ∧ sfin.ignoreRest = false ∧ sfin.dedupIgnore = false := by
  obtain ⟨hk, hmin, hcase⟩ := mux_case S m hm
  obtain ⟨sfin, h1, h2, h3, h4⟩ := section_delivered Psi.table cfgOk_table S hS m hm s hs (versionOf S)
    (share_version S m.k m.tailBytes h8 hk hmin hcase) (fun _ => hv) off rest hus hrest
  exact ⟨sfin, h1, ⟨(h4 rfl).1, h2⟩, h3, (h4 rfl).2⟩


/-- from ANY state that remembers version `v` (buffer abandoned, complete, ignoring, …) a
well-formed transmission of a version-`v` section delivers only what its pointer bytes complete of
the previous buffer — never the section itself -/
theorem table_blocked (S : Bytes) (hS : WellFormedSection .syntax S) (h8 : 8 ≤ S.length)
    (m : Mux) (hm : WellFormedMux .syntax S m)
    (s : St) (hs : PsiInv .syntax s) (hv : s.lastVersion = some (versionOf S))
    (off : Nat) (rest : List Pl) (hus : ∀ q ∈ rest, q.us = false)
    (hrest : rest.map (·.bytes) = m.rest) :
    ∃ sfin,
      runPl Psi.table s (⟨true, m.first S, off⟩ :: rest) = .ok (sfin, (preSpec Psi.table s m.pre).2)
      ∧ sfin.lastVersion = some (versionOf S) ∧ sfin.dedupIgnore = true := by
  have hsizes := fun q hq => (mux_payloads_rep S hS h8 m hm off rest hus hrest q hq).2
  rw [runPl_eq Psi.table cfgOk_table _ s hs hsizes]
  simp only [runSpec]
  rw [runSpec_cont _ _ _ hus, hrest, first_same_version S hS h8 m hm s off hv]
  rw [runCont_table_ignoring _ _ rfl]
  simp only [List.append_nil]
  exact ⟨_, rfl, by rw [← hv]; exact (preSpec_frame _ _ _).1, rfl⟩

end Ts.Lemmas.C10
