import Ts.Lemmas.Projb
import Ts.Lemmas.C10b
import Ts.Lemmas.C05HRun
/-!
# Helper lemmas for C02: satisfiable hypotheses for the interleaving theorems

`QueuesNothingFor App.sem p pk` is unsatisfiable (`Ts.Props.C02.queuesNothingFor_unsat`).  `Benign` is
an INPUT-LEVEL condition on one packet relative to the table at the START of the run; if every
packet is benign no handler taking part in the run queues any change, hence `QuietAlong`, hence `Keeps`.
-/
namespace Ts.Lemmas.C02
open Ts Ts.Demux Ts.App Ts.Lemmas.Proj
open Ts.Lemmas.C10 (RepPacket QuiescentH RepRel app_rep_noop pes_consume_shape)

/-! ### `QuietAlong` implies `Keeps` -/

theorem specStep_pes_slot (t : Tab Handler) (c : Ctx) (pk : Pk) (tag : Nat) (f : PesFilter.F)
    (hg : t.get pk.pid = some (.pes tag f)) (t1 : Tab Handler) (c1 : Ctx)
    (h : specStep App.sem (t, c) pk = .ok (t1, c1)) :
    (∃ f1, t1.get pk.pid = some (.pes tag f1)) ∧ ∀ r, r ≠ pk.pid → t1.get r = t.get r := by
  obtain ⟨f1, a, b, _⟩ := Ts.Lemmas.C10.pes_step_result t c pk tag f hg t1 c1 h
  exact ⟨⟨f1, a⟩, b⟩

theorem keeps_of_quietAlong (p τ : Nat) : ∀ (xs : List Pk) (t : Tab Handler) (c : Ctx)
    (f : PesFilter.F), t.get p = some (.pes τ f) → QuietAlong App.sem p (t, c) xs →
    Keeps p τ (t, c) xs = true := by
  intro xs
  induction xs with
  | nil => intro t c f _ _; rfl
  | cons pk xs ih =>
    intro t c f hg hQ
    unfold Keeps
    cases hstep : specStep App.sem (t, c) pk with
    | panic s => rfl
    | ok r =>
      obtain ⟨t1, c1⟩ := r
      dsimp only
      have key : ∃ f1, t1.get p = some (.pes τ f1) := by
        by_cases hp : pk.pid = p
        · subst hp
          exact (specStep_pes_slot t c pk τ f hg t1 c1 hstep).1
        · refine ⟨f, ?_⟩
          rw [specStep_frame' App.sem t c pk t1 c1 p hp hstep (fun hf => hQ.1 hp hf)]
          exact hg
      obtain ⟨f1, hf1⟩ := key
      rw [(holdsPes_iff t1 p τ).2 ⟨f1, hf1⟩, ih t1 c1 f1 hf1 (hQ.2 (t1, c1) hstep)]
      rfl

/-! ### benign traffic -/

/-- INPUT-LEVEL condition on a packet `pk`, relative to a table `t` (the table at the START of the
run), the versions `ver q` the table handlers are quiescent at, and the harness script:
* (ES) the slot of `pk.pid` holds a PES handler — `pk` belongs to an elementary stream; or
* (TABLE) it holds a PAT / PMT handler quiescent at version `ver pk.pid` (C10 `QuiescentH`) and `pk`
  is flagged (transport error / scrambled: not consumed) or a repetition packet of that version
  (C10 `RepPacket`: 188 bytes whose payload, if any, is a continuation payload or the first payload
  of a packetisation of a well-formed section with that version); or
* (REC) it holds a recorder, or nothing and `pk.pid ≠ 0` (the application then constructs a
  recorder; e.g. null packets on PID 0x1fff), and `pk` is flagged or the script has no entry for
  the packet's index. -/
def Benign (ver : Nat → Nat) (script : List (Nat × List ScriptOp)) (t : Tab Handler) (pk : Pk) : Prop :=
  (∃ σ g, t.get pk.pid = some (.pes σ g))
  ∨ ((∃ h, t.get pk.pid = some h ∧ QuiescentH (ver pk.pid) h)
      ∧ (pk.flagged = true ∨ RepPacket (ver pk.pid) pk.bytes))
  ∨ (((∃ σ, t.get pk.pid = some (.recorder σ)) ∨ (t.get pk.pid = none ∧ pk.pid ≠ 0))
      ∧ (pk.flagged = true ∨ script.lookup (pk.off / 188) = none))

/-- `Benign` for the handler that consumes the packet (after lookup-or-construct) -/
def HOk (v : Nat) (script : List (Nat × List ScriptOp)) (h : Handler) (pk : Pk) : Prop :=
  (∃ σ g, h = .pes σ g)
  ∨ (QuiescentH v h ∧ (pk.flagged = true ∨ RepPacket v pk.bytes))
  ∨ ((∃ σ, h = .recorder σ) ∧ (pk.flagged = true ∨ script.lookup (pk.off / 188) = none))

theorem benign_of_some (ver : Nat → Nat) (s : List (Nat × List ScriptOp)) (t : Tab Handler) (pk : Pk)
    (h : Handler) (hg : t.get pk.pid = some h) : Benign ver s t pk ↔ HOk (ver pk.pid) s h pk := by
  unfold Benign HOk
  rw [hg]
  constructor
  · rintro (⟨σ, g, e⟩ | ⟨⟨h0, e, hq⟩, x⟩ | ⟨(⟨σ, e⟩ | ⟨e, _⟩), x⟩)
    · injection e with e; exact Or.inl ⟨σ, g, e⟩
    · injection e with e; subst e; exact Or.inr (Or.inl ⟨hq, x⟩)
    · injection e with e; exact Or.inr (Or.inr ⟨⟨σ, e⟩, x⟩)
    · cases e
  · rintro (⟨σ, g, e⟩ | ⟨hq, x⟩ | ⟨⟨σ, e⟩, x⟩)
    · exact Or.inl ⟨σ, g, by rw [e]⟩
    · exact Or.inr (Or.inl ⟨⟨h, rfl, hq⟩, x⟩)
    · exact Or.inr (Or.inr ⟨Or.inl ⟨σ, by rw [e]⟩, x⟩)

theorem benign_of_none (ver : Nat → Nat) (s : List (Nat × List ScriptOp)) (t : Tab Handler) (pk : Pk)
    (hg : t.get pk.pid = none) :
    Benign ver s t pk ↔ pk.pid ≠ 0 ∧ (pk.flagged = true ∨ s.lookup (pk.off / 188) = none) := by
  unfold Benign
  rw [hg]
  constructor
  · rintro (⟨σ, g, e⟩ | ⟨⟨h0, e, hq⟩, x⟩ | ⟨(⟨σ, e⟩ | ⟨_, e⟩), x⟩)
    · cases e
    · cases e
    · cases e
    · exact ⟨e, x⟩
  · rintro ⟨e, x⟩
    exact Or.inr (Or.inr ⟨Or.inr ⟨rfl, e⟩, x⟩)

theorem construct_byPid_ne_zero (c : Ctx) (pid : Nat) (h : pid ≠ 0) :
    (construct c (.byPid pid)).1 = .recorder c.nextTag := by
  cases pid with
  | zero => exact absurd rfl h
  | succ n => rfl

/-- NO change is queued, and the handler returned is OK for the packets the old one was OK for -/
theorem hok_consume (v : Nat) (h : Handler) (c : Ctx) (pk : Pk) (h' : Handler) (c' : Ctx)
    (chg : List (Change Handler)) (hk : HOk v c.cfg.script h pk) (hf : pk.flagged = false)
    (hc : App.consume h c pk = .ok (h', c', chg)) :
    chg = [] ∧ ∀ pk', HOk v c.cfg.script h pk' → HOk v c.cfg.script h' pk' := by
  rcases hk with ⟨σ, g, e⟩ | ⟨hq, x⟩ | ⟨⟨σ, e⟩, x⟩
  · subst e
    obtain ⟨e1, f', e2⟩ := pes_consume_shape σ g c pk h' c' chg hc
    exact ⟨e1, fun _ _ => Or.inl ⟨σ, f', e2⟩⟩
  · have hp : RepPacket v pk.bytes := by
      rcases x with x | x
      · rw [hf] at x; cases x
      · exact x
    obtain ⟨h'', h1, h2⟩ := app_rep_noop v h hq c pk hp
    rw [h1] at hc
    cases hc
    refine ⟨rfl, ?_⟩
    intro pk' hk'
    rcases hk' with ⟨σ, g, e⟩ | ⟨_, y⟩ | ⟨⟨σ, e⟩, _⟩
    · subst e; exact absurd hq (by simp [QuiescentH])
    · exact Or.inr (Or.inl ⟨h2.quiescent, y⟩)
    · subst e; exact absurd hq (by simp [QuiescentH])
  · subst e
    have hl : c.cfg.script.lookup (pk.off / 188) = none := by
      rcases x with x | x
      · rw [hf] at x; cases x
      · exact x
    have key := Ts.Lemmas.C05.consume_recorder_ok hc
    rw [hl] at key
    cases key
    exact ⟨rfl, fun _ hk' => hk'⟩

theorem ensure_benign (ver : Nat → Nat) (t : Tab Handler) (c : Ctx) (pk : Pk) (t0 : Tab Handler)
    (c0 : Ctx) (hb : Benign ver c.cfg.script t pk) (hE : ensure App.sem t c pk.pid = .ok (t0, c0)) :
    c0.cfg = c.cfg ∧ (∀ r, r ≠ pk.pid → t0.get r = t.get r) ∧
    ∃ h0, t0.get pk.pid = some h0 ∧ HOk (ver pk.pid) c.cfg.script h0 pk ∧
      ∀ pk', pk'.pid = pk.pid → Benign ver c.cfg.script t pk' → HOk (ver pk.pid) c.cfg.script h0 pk' := by
  refine ⟨?_, fun r hr => ensure_get_ne App.sem t c pk.pid t0 c0 hE r hr, ?_⟩
  · rcases ensure_cases t c pk.pid t0 c0 hE with ⟨_, _, e⟩ | ⟨_, _, e⟩
    · rw [e]
    · rw [e, construct_ctx]; rfl
  · rcases ensure_cases t c pk.pid t0 c0 hE with ⟨hc, e1, _⟩ | ⟨hn, e1, _⟩
    · obtain ⟨h, hg⟩ := (Tab.contains_eq_true_iff _ _).1 hc
      rw [e1]
      refine ⟨h, hg, (benign_of_some ver _ t pk h hg).1 hb, ?_⟩
      intro pk' hp' hb'
      have := (benign_of_some ver _ t pk' h (by rw [hp']; exact hg)).1 hb'
      rw [hp'] at this
      exact this
    · have h0 := ((benign_of_none ver _ t pk hn).1 hb)
      rw [e1, construct_byPid_ne_zero c pk.pid h0.1]
      refine ⟨_, Tab.get_insert_self _ _ _, Or.inr (Or.inr ⟨⟨_, rfl⟩, h0.2⟩), ?_⟩
      intro pk' hp' hb'
      have := ((benign_of_none ver _ t pk' (by rw [hp']; exact hn)).1 hb').2
      exact Or.inr (Or.inr ⟨⟨_, rfl⟩, this⟩)

/-- the step condition of `QuietAlong`, for every `p` at once -/
theorem benign_queues_nothing (ver : Nat → Nat) (t : Tab Handler) (c : Ctx) (pk : Pk)
    (hb : Benign ver c.cfg.script t pk) (hf : pk.flagged = false)
    (t1 : Tab Handler) (c1 : Ctx) (h h' : Handler) (c2 : Ctx) (chg : List (Change Handler))
    (hE : ensure App.sem t c pk.pid = .ok (t1, c1)) (hg : t1.get pk.pid = some h)
    (hc : App.sem.consume h c1 pk = .ok (h', c2, chg)) : chg = [] := by
  obtain ⟨hcfg, _, h0, hg0, hk0, _⟩ := ensure_benign ver t c pk t1 c1 hb hE
  rw [hg] at hg0
  injection hg0 with hg0
  subst hg0
  rw [← hcfg] at hk0
  exact (hok_consume (ver pk.pid) h c1 pk h' c2 chg hk0 hf hc).1

/-- benignity is relative to the table at the START: a step on a benign packet preserves it -/
theorem benign_step (ver : Nat → Nat) (t : Tab Handler) (c : Ctx) (pk : Pk) (t1 : Tab Handler)
    (c1 : Ctx) (hb : Benign ver c.cfg.script t pk)
    (hstep : specStep App.sem (t, c) pk = .ok (t1, c1)) :
    c1.cfg = c.cfg ∧ ∀ pk', Benign ver c.cfg.script t pk' → Benign ver c.cfg.script t1 pk' := by
  obtain ⟨t0, c0, hE, hcase⟩ := specStep_ok_cases App.sem hstep
  obtain ⟨hcfg, hne, h0, hg0, hk0, hall⟩ := ensure_benign ver t c pk t0 c0 hb hE
  -- the slot of `pk.pid` after the step holds a handler that is OK for whatever `h0` was OK for
  have key : c1.cfg = c.cfg ∧ (∀ r, r ≠ pk.pid → t1.get r = t.get r) ∧
      ∃ h1, t1.get pk.pid = some h1 ∧
        ∀ pk', HOk (ver pk.pid) c.cfg.script h0 pk' → HOk (ver pk.pid) c.cfg.script h1 pk' := by
    rcases hcase with ⟨_, e⟩ | ⟨hf, hd, h', c2, chg, hg, hx, e⟩
    · cases e
      exact ⟨hcfg, hne, h0, hg0, fun _ h => h⟩
    · cases e
      rw [hg0] at hg
      cases hg
      have hx' : App.consume h0 c0 pk = .ok (h', c1, chg) := hx
      obtain ⟨⟨⟨hc2, _⟩, _⟩, _⟩ := consume_facts h0 c0 pk h' c1 chg hx'
      have hk0' : HOk (ver pk.pid) c0.cfg.script h0 pk := by rw [hcfg]; exact hk0
      obtain ⟨hnil, hpres⟩ := hok_consume (ver pk.pid) h0 c0 pk h' c1 chg hk0' hf hx'
      subst hnil
      rw [hcfg] at hpres
      refine ⟨by rw [hc2, hcfg], ?_, h', ?_, hpres⟩
      · intro r hr
        rw [applyChanges_nil, Tab.get_insert_ne _ _ _ _ hr, hne r hr]
      · rw [applyChanges_nil, Tab.get_insert_self]
  obtain ⟨k1, k2, h1, k3, k4⟩ := key
  refine ⟨k1, ?_⟩
  intro pk' hb'
  by_cases hp' : pk'.pid = pk.pid
  · have := k4 pk' (hall pk' hp' hb')
    rw [← hp'] at this
    exact (benign_of_some ver _ t1 pk' h1 (by rw [hp']; exact k3)).2 this
  · unfold Benign at hb' ⊢
    rw [k2 pk'.pid hp']
    exact hb'

theorem quietAlong_of_benign (ver : Nat → Nat) (p : Nat) : ∀ (xs : List Pk) (t : Tab Handler) (c : Ctx),
    (∀ pk ∈ xs, Benign ver c.cfg.script t pk) → QuietAlong App.sem p (t, c) xs := by
  intro xs
  induction xs with
  | nil => intro _ _ _; trivial
  | cons pk xs ih =>
    intro t c hall
    refine ⟨?_, ?_⟩
    · intro _ hf t1 c1 h h' c2 chg hE hg hc ch hch
      rw [benign_queues_nothing ver t c pk (hall pk List.mem_cons_self) hf t1 c1 h h' c2 chg hE hg hc] at hch
      cases hch
    · rintro ⟨t1, c1⟩ hstep
      obtain ⟨hcfg, hpres⟩ := benign_step ver t c pk t1 c1 (hall pk List.mem_cons_self) hstep
      apply ih t1 c1
      intro pk' hm
      show Benign ver c1.cfg.script t1 pk'
      rw [hcfg]
      exact hpres pk' (hall pk' (List.mem_cons_of_mem _ hm))

theorem benign_of_pes (ver : Nat → Nat) (s : List (Nat × List ScriptOp)) (t : Tab Handler) (pk : Pk)
    (σ : Nat) (g : PesFilter.F) (hg : t.get pk.pid = some (.pes σ g)) : Benign ver s t pk :=
  Or.inl ⟨σ, g, hg⟩

theorem keeps_of_benign (ver : Nat → Nat) (p τ : Nat) (xs : List Pk) (t : Tab Handler) (c : Ctx)
    (f : PesFilter.F) (hg : t.get p = some (.pes τ f))
    (hall : ∀ pk ∈ xs, pk.pid ≠ p → Benign ver c.cfg.script t pk) :
    Keeps p τ (t, c) xs = true := by
  refine keeps_of_quietAlong p τ xs t c f hg (quietAlong_of_benign ver p xs t c ?_)
  intro pk hm
  by_cases hp : pk.pid = p
  · exact benign_of_pes ver _ t pk τ f (by rw [hp]; exact hg)
  · exact hall pk hm hp

/-! ### concrete data for the non-vacuity examples: an interleaving with repeated tables -/

section data
open Ts.Spec.PesMux Ts.Spec.SectionMux Ts.Lemmas.C10 Ts.Lemmas.C03

/-- the section carried by `exPat` (16 bytes, `version_number = 0`; CRC bytes are garbage, which a
repetition never gets to: the dedup layer drops it first) -/
def exPatSec : Bytes :=
  [0x00, 0xB0, 0x0D, 0x00, 0x01, 0xC1, 0x00, 0x00, 0x00, 0x01, 0xE0, 0x20, 0xDE, 0xAD, 0xBE, 0xEF]

def exPmtSec : Bytes :=
  [0x02, 0xB0, 0x17, 0x00, 0x01, 0xC1, 0x00, 0x00, 0xE0, 0x21, 0xF0, 0x00,
   0x1B, 0xE0, 0x21, 0xF0, 0x00, 0x0F, 0xE0, 0x22, 0xF0, 0x00, 0xDE, 0xAD, 0xBE, 0xEF]

theorem exPat_rep : RepPacket 0 exPat :=
  Ts.Lemmas.C05HRun.rep_of_section 0 _ exPatSec (by decide +kernel)

theorem exPmt2_rep : RepPacket 0 exPmt2 :=
  Ts.Lemmas.C05HRun.rep_of_section 0 _ exPmtSec (by decide +kernel)

def exNull : Bytes := mkTp false 0x1fff 0 none (List.replicate 184 0xff)

/-- `exPks` with a repeated PAT packet, a repeated PMT packet and a null packet in between:
`A PAT B PMT B null A A`, offsets continuing from 376 -/
def exPksRep : List Pk :=
  [⟨exA0, 376, 0x21, false, false⟩, ⟨exPat, 564, 0, false, false⟩, ⟨exB0, 752, 0x22, false, false⟩,
   ⟨exPmt2, 940, 0x20, false, false⟩, ⟨exB1, 1128, 0x22, false, false⟩,
   ⟨exNull, 1316, 0x1fff, false, false⟩, ⟨exA1, 1504, 0x21, false, false⟩,
   ⟨exA2, 1692, 0x21, false, false⟩]

theorem exTab0_0 : exTab0.get 0 = some (.pat { lastVersion := some 0 } [0x20]) := by decide +kernel
theorem exTab0_20 : exTab0.get 0x20 = some (.pmt 0x20 1 { lastVersion := some 0 } [0x21, 0x22]) := by
  decide +kernel
theorem exTab0_21 : exTab0.get 0x21 = some (.pes 2 {}) := by decide +kernel
theorem exTab0_22 : exTab0.get 0x22 = some (.pes 3 {}) := by decide +kernel

theorem exTab0_get_none (q : Nat) (h0 : q ≠ 0) (h1 : q ≠ 0x20) (h2 : q ≠ 0x21) (h3 : q ≠ 0x22) :
    exTab0.get q = none := by
  by_cases hq : q < 35
  · have key : ∀ i : Fin 35, i.val ≠ 0 → i.val ≠ 0x20 → i.val ≠ 0x21 → i.val ≠ 0x22 →
        exTab0.get i.val = none := by decide +kernel
    exact key ⟨q, hq⟩ h0 h1 h2 h3
  · have hl : exTab0.length = 35 := by decide +kernel
    unfold Tab.get
    rw [if_pos (by omega)]

theorem benign_exTab0 (pk : Pk)
    (h : pk.pid = 0x22
      ∨ ((pk.pid = 0 ∨ pk.pid = 0x20) ∧ (pk.flagged = true ∨ RepPacket 0 pk.bytes))
      ∨ (pk.pid ≠ 0 ∧ pk.pid ≠ 0x20 ∧ pk.pid ≠ 0x21 ∧ pk.pid ≠ 0x22)) :
    Benign (fun _ => 0) [] exTab0 pk := by
  rcases h with h | ⟨h | h, x⟩ | ⟨h0, h1, h2, h3⟩
  · exact Or.inl ⟨3, {}, by rw [h]; exact exTab0_22⟩
  · exact Or.inr (Or.inl ⟨⟨.pat { lastVersion := some 0 } [0x20], by rw [h]; exact exTab0_0, ⟨rfl, rfl⟩⟩, x⟩)
  · exact Or.inr (Or.inl ⟨⟨.pmt 0x20 1 { lastVersion := some 0 } [0x21, 0x22], by rw [h]; exact exTab0_20,
      ⟨rfl, rfl⟩⟩, x⟩)
  · exact Or.inr (Or.inr ⟨Or.inr ⟨exTab0_get_none _ h0 h1 h2 h3, h0⟩, Or.inr rfl⟩)

theorem exPksRep_benign : ∀ pk ∈ exPksRep, Benign (fun _ => 0) exCtx0.cfg.script exTab0 pk := by
  intro pk hm
  simp only [exPksRep, List.mem_cons, List.not_mem_nil, or_false] at hm
  rcases hm with rfl | rfl | rfl | rfl | rfl | rfl | rfl | rfl
  · exact Or.inl ⟨_, _, exTab0_21⟩
  · exact benign_exTab0 _ (Or.inr (Or.inl ⟨Or.inl rfl, Or.inr exPat_rep⟩))
  · exact benign_exTab0 _ (Or.inl rfl)
  · exact benign_exTab0 _ (Or.inr (Or.inl ⟨Or.inr rfl, Or.inr exPmt2_rep⟩))
  · exact benign_exTab0 _ (Or.inl rfl)
  · exact benign_exTab0 _ (Or.inr (Or.inr ⟨by decide, by decide, by decide, by decide⟩))
  · exact Or.inl ⟨_, _, exTab0_21⟩
  · exact Or.inl ⟨_, _, exTab0_21⟩

end data

end Ts.Lemmas.C02
