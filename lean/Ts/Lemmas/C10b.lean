import Ts.Lemmas.C10
import Ts.Lemmas.C05
/-!
# C10 / C11 helper lemmas: application handlers and the dispatcher

A repetition packet is a no-op for a quiescent PAT / PMT handler and for the dispatcher step on its
slot; elementary-stream handlers do not notice repetitions, which can be deleted from any interleaving
(`reps_deletable_aux`).  Also: a table handler fed a packet sequence (`consumeAll`), and the concrete
sections of the C10 / C11 examples.
-/
namespace Ts.Lemmas.C10
open Ts Ts.Psi Ts.Spec Ts.Spec.SectionMux Ts.Lemmas.C03 Ts.App Ts.Demux

abbrev Sect := Ctx → List Nat → Bytes → R (Ctx × List Nat × List (Change Handler))

/-! ### `runDeliveries` -/

theorem runDeliveries_append (sect : Sect) (a b : List Delivery) : ∀ (c : Ctx) (reg : List Nat),
    runDeliveries sect c reg (a ++ b) =
      (runDeliveries sect c reg a >>= fun r1 =>
        runDeliveries sect r1.1 r1.2.1 b >>= fun r2 => R.ok (r2.1, r2.2.1, r1.2.2 ++ r2.2.2)) := by
  induction a with
  | nil => intro c reg; cases h : runDeliveries sect c reg b <;> simp [runDeliveries, h]
  | cons d a ih =>
    intro c reg
    simp only [List.cons_append, runDeliveries]
    cases crcPass c.cfg.bypassCrc d.bytes with
    | panic s => rfl
    | ok pass =>
      cases pass with
      | false => simpa using ih c reg
      | true =>
        cases sect c reg d.bytes with
        | panic s => rfl
        | ok r =>
          simp only [R.ok_bind, if_true, ih r.1 r.2.1]
          cases runDeliveries sect r.1 r.2.1 a with
          | panic s => rfl
          | ok r1 => cases h : runDeliveries sect r1.1 r1.2.1 b <;> simp [h]

/-- a well-formed section-syntax section of at least 12 bytes whose CRC verifies passes the CRC
layer, in the normal and in the `cfg(fuzzing)` build -/
theorem crcPass_valid (b : Bool) (S : Bytes) (hS : WellFormedSection .syntax S) (h12 : 12 ≤ S.length)
    (hcrc : Ts.CrcSpec.crc S = 0) : Psi.crcPass b S = .ok true := by
  have hsyn : syntaxBit S = 1 := hS.2.2.2.2 rfl
  rw [syntaxBit_eq] at hsyn
  have hb1 := byteD_lt S 1
  have h80 : (byteD S 1 &&& 0b1000_0000 != 0) = true := by
    rw [and_80 _ hb1, hsyn]; rfl
  unfold Psi.crcPass
  rw [byteAt_ok S 1 (by omega)]
  have hl : ¬ S.length < 3 + 5 + 4 := by omega
  simp only [R.ok_bind, assertR, h80, if_true, Psi.COMMON, Psi.TSH, hl, if_false]
  cases b
  · simp only [Bool.false_eq_true, if_false, Ts.Props.C04.sum32_eq_bitserial, R.ok_bind, hcrc]; rfl
  · rfl

/-- the last delivery of a packet, when it passes the CRC layer, reaches the table processor
right after the earlier deliveries of that packet -/
theorem runDeliveries_last (sect : Sect) (c : Ctx) (reg : List Nat) (ds : List Delivery)
    (d : Delivery) (hpass : ∀ b, Psi.crcPass b d.bytes = .ok true) :
    runDeliveries sect c reg (ds ++ [d]) =
      (runDeliveries sect c reg ds >>= fun r1 =>
        sect r1.1 r1.2.1 d.bytes >>= fun r2 => R.ok (r2.1, r2.2.1, r1.2.2 ++ r2.2.2)) := by
  rw [runDeliveries_append]
  cases runDeliveries sect c reg ds with
  | panic s => rfl
  | ok r1 =>
    obtain ⟨c1, reg1, chg1⟩ := r1
    simp only [R.ok_bind, runDeliveries, hpass, if_true]
    cases sect c1 reg1 d.bytes with
    | panic s => rfl
    | ok r2 =>
      obtain ⟨c2, reg2, chg2⟩ := r2
      simp only [R.ok_bind, R.pure_eq, List.append_nil]

/-! ### table handlers in terms of `Psi.consume` -/

theorem consume_pat_eq (s s' : St) (reg : List Nat) (c : Ctx) (pk : Pk) (ds : List Delivery)
    (h : Psi.consume Psi.table s pk.bytes = .ok (s', ds)) :
    App.consume (.pat s reg) c pk =
      (runDeliveries patSection c reg ds >>= fun r => R.ok (.pat s' r.2.1, r.1, r.2.2)) := by
  rw [Ts.Lemmas.C05.consume_pat_eq, h]; rfl

theorem consume_pmt_eq (pid prog : Nat) (s s' : St) (reg : List Nat) (c : Ctx) (pk : Pk)
    (ds : List Delivery) (h : Psi.consume Psi.table s pk.bytes = .ok (s', ds)) :
    App.consume (.pmt pid prog s reg) c pk =
      (runDeliveries (fun c r d => pmtSection c pid r d) c reg ds >>= fun r =>
        R.ok (.pmt pid prog s' r.2.1, r.1, r.2.2)) := by
  rw [Ts.Lemmas.C05.consume_pmt_eq, h]; rfl

/-! ### repetition packets at the handler level -/

/-- a PAT / PMT handler whose section filter is quiescent at version `v` -/
def QuiescentH (v : Nat) : Handler → Prop
  | .pat s _ => Quiescent v s
  | .pmt _ _ s _ => Quiescent v s
  | _ => False

/-- `h'` is the table handler `h` after repetitions of version `v`: same kind, same parameters,
same registered set (`filters_registered`), still quiescent at `v`, inner buffer untouched -/
def RepRel (v : Nat) : Handler → Handler → Prop
  | .pat s reg, .pat s' reg' => reg' = reg ∧ Quiescent v s' ∧ s'.buf = s.buf
  | .pmt pid prog s reg, .pmt pid' prog' s' reg' =>
      pid' = pid ∧ prog' = prog ∧ reg' = reg ∧ Quiescent v s' ∧ s'.buf = s.buf
  | _, _ => False

theorem RepRel.quiescent {v : Nat} {h h' : Handler} (r : RepRel v h h') : QuiescentH v h' := by
  cases h <;> cases h' <;> simp only [RepRel] at r
  · exact r.2.1
  · exact r.2.2.2.1

theorem RepRel.refl {v : Nat} {h : Handler} (q : QuiescentH v h) : RepRel v h h := by
  cases h <;> simp only [QuiescentH] at q
  · exact ⟨rfl, q, rfl⟩
  · exact ⟨rfl, rfl, rfl, q, rfl⟩

theorem RepRel.trans {v : Nat} {h1 h2 h3 : Handler} (a : RepRel v h1 h2) (b : RepRel v h2 h3) :
    RepRel v h1 h3 := by
  cases h1 <;> cases h2 <;> simp only [RepRel] at a <;> cases h3 <;> simp only [RepRel] at b
  · exact ⟨by rw [b.1, a.1], b.2.1, by rw [b.2.2, a.2.2]⟩
  · exact ⟨by rw [b.1, a.1], by rw [b.2.1, a.2.1], by rw [b.2.2.1, a.2.2.1], b.2.2.2.1,
      by rw [b.2.2.2.2, a.2.2.2.2]⟩

/-- one repetition packet through the section filter -/
theorem psi_rep_packet (v : Nat) (s : St) (hq : Quiescent v s) (p : Bytes) (hp : RepPacket v p) :
    ∃ s', Psi.consume Psi.table s p = .ok (s', []) ∧ Quiescent v s' ∧ s'.buf = s.buf := by
  obtain ⟨hl, hr⟩ := hp
  rw [consume_eq_plOf Psi.table s p hl]
  cases hpl : plOf p with
  | none => exact ⟨s, rfl, hq, rfl⟩
  | some q => exact rep_step v s hq q (hr q hpl) (plOf_size p hl q hpl).1

/-- **C10, handler level**: a repetition packet (or a payload-less packet) is a no-op for a
quiescent PAT / PMT handler: context unchanged, no change queued -/
theorem app_rep_noop (v : Nat) (h : Handler) (hq : QuiescentH v h) (c : Ctx) (pk : Pk)
    (hp : RepPacket v pk.bytes) :
    ∃ h', App.consume h c pk = .ok (h', c, []) ∧ RepRel v h h' := by
  cases h with
  | pat s reg =>
    obtain ⟨s', h1, h2, h3⟩ := psi_rep_packet v s hq pk.bytes hp
    refine ⟨.pat s' reg, ?_, rfl, h2, h3⟩
    rw [consume_pat_eq s s' reg c pk [] h1]; rfl
  | pmt pid prog s reg =>
    obtain ⟨s', h1, h2, h3⟩ := psi_rep_packet v s hq pk.bytes hp
    refine ⟨.pmt pid prog s' reg, ?_, rfl, rfl, rfl, h2, h3⟩
    rw [consume_pmt_eq pid prog s s' reg c pk [] h1]; rfl
  | pes tag f => exact absurd hq (by simp [QuiescentH])
  | recorder tag => exact absurd hq (by simp [QuiescentH])

/-! ### repetition packets at the dispatcher level -/

theorem contains_of_get {H : Type} (t : Tab H) (p : Nat) (h : H) (hg : t.get p = some h) :
    t.contains p = true := (Tab.contains_eq_true_iff t p).2 ⟨h, hg⟩

/-- **C10, dispatcher level**: one repetition packet only rewrites its own slot with an
equivalent handler; the context (trace, tag counter) is returned unchanged -/
theorem step_rep_noop (v : Nat) (t : Tab Handler) (c : Ctx) (pk : Pk) (h : Handler)
    (hg : t.get pk.pid = some h) (hq : QuiescentH v h) (hf : pk.flagged = false)
    (hp : RepPacket v pk.bytes) :
    ∃ h', RepRel v h h' ∧ specStep App.sem (t, c) pk = .ok (t.insert pk.pid h', c) := by
  obtain ⟨h', h1, h2⟩ := app_rep_noop v h hq c pk hp
  refine ⟨h', h2, ?_⟩
  rw [specStep_consume_of_contains App.sem t c pk h (contains_of_get t pk.pid h hg) hf hg]
  show (App.consume h c pk >>= _) = _
  rw [h1]; rfl

/-! ### elementary-stream handlers do not notice repetitions -/

theorem pes_consume_shape (tag : Nat) (f : PesFilter.F) (c : Ctx) (pk : Pk)
    (h' : Handler) (c' : Ctx) (chg : List (Change Handler))
    (h : App.consume (.pes tag f) c pk = .ok (h', c', chg)) : chg = [] ∧ ∃ f', h' = .pes tag f' := by
  simp only [App.consume] at h
  obtain ⟨⟨f', evs⟩, -, h⟩ := R.bind_eq_ok h
  obtain ⟨c2, -, h⟩ := R.bind_eq_ok h
  cases h
  exact ⟨rfl, f', rfl⟩

/-- one dispatcher step on a PID whose slot holds an elementary-stream handler: the step depends
on the table only through that slot -/
theorem pes_step_eq (t : Tab Handler) (c : Ctx) (pk : Pk) (tag : Nat) (f : PesFilter.F)
    (hg : t.get pk.pid = some (.pes tag f)) :
    specStep App.sem (t, c) pk =
      if pk.flagged then .ok (t, c)
      else (App.consume (.pes tag f) c pk >>= fun x => R.ok (t.insert pk.pid x.1, x.2.1)) := by
  have hc := contains_of_get t pk.pid _ hg
  cases hf : pk.flagged with
  | true => simp only [if_true]; exact specStep_flagged_of_contains App.sem t c pk hc hf
  | false =>
    simp only [Bool.false_eq_true, if_false]
    rw [specStep_consume_of_contains App.sem t c pk _ hc hf hg]
    show (App.consume (.pes tag f) c pk >>= _) = _
    cases hcons : App.consume (.pes tag f) c pk with
    | panic m => rfl
    | ok x =>
      obtain ⟨h', c', chg⟩ := x
      obtain ⟨e, _⟩ := pes_consume_shape tag f c pk h' c' chg hcons
      subst e
      rfl

theorem pes_step_result (t : Tab Handler) (c : Ctx) (pk : Pk) (tag : Nat) (f : PesFilter.F)
    (hg : t.get pk.pid = some (.pes tag f)) (t1 : Tab Handler) (c1 : Ctx)
    (h : specStep App.sem (t, c) pk = .ok (t1, c1)) :
    ∃ f1, t1.get pk.pid = some (.pes tag f1) ∧ (∀ r, r ≠ pk.pid → t1.get r = t.get r) ∧
      ∀ (tX : Tab Handler), tX.get pk.pid = some (.pes tag f) →
        ∃ tX1, specStep App.sem (tX, c) pk = .ok (tX1, c1) ∧ tX1.get pk.pid = some (.pes tag f1)
          ∧ (∀ r, r ≠ pk.pid → tX1.get r = tX.get r) := by
  rw [pes_step_eq t c pk tag f hg] at h
  cases hf : pk.flagged with
  | true =>
    rw [hf] at h
    simp only [if_true] at h
    cases h
    refine ⟨f, hg, fun _ _ => rfl, ?_⟩
    intro tX hX
    refine ⟨tX, ?_, hX, fun _ _ => rfl⟩
    rw [pes_step_eq tX c pk tag f hX, hf]; rfl
  | false =>
    rw [hf] at h
    simp only [Bool.false_eq_true, if_false] at h
    cases hcons : App.consume (.pes tag f) c pk with
    | panic m => rw [hcons] at h; cases h
    | ok x =>
      obtain ⟨h', c', chg⟩ := x
      obtain ⟨_, f1, e⟩ := pes_consume_shape tag f c pk h' c' chg hcons
      subst e
      rw [hcons] at h
      cases h
      refine ⟨f1, Tab.get_insert_self _ _ _, fun r hr => Tab.get_insert_ne _ _ _ _ hr, ?_⟩
      intro tX hX
      refine ⟨tX.insert pk.pid (.pes tag f1), ?_, Tab.get_insert_self _ _ _,
        fun r hr => Tab.get_insert_ne _ _ _ _ hr⟩
      rw [pes_step_eq tX c pk tag f hX, hf, hcons]; rfl

/-! ### repetitions can be deleted from any interleaving with elementary-stream packets -/

/-- `tA` is `tB` after repetitions: equal slot by slot, except that on PIDs in `P` a table handler
may have been rewritten by an equivalent one (`RepRel`) -/
def RepTab (ver : Nat → Nat) (P : Nat → Prop) (tA tB : Tab Handler) : Prop :=
  ∀ q, tA.get q = tB.get q ∨
    (P q ∧ ∃ hA hB, tA.get q = some hA ∧ tB.get q = some hB ∧ RepRel (ver q) hB hA)

theorem reps_deletable_aux (ver : Nat → Nat) (isRep : Pk → Bool) (P : Nat → Prop) :
    ∀ (pks : List Pk) (tA tB : Tab Handler) (c : Ctx), RepTab ver P tA tB →
    (∀ pk ∈ pks, isRep pk = true → P pk.pid ∧ pk.flagged = false ∧ RepPacket (ver pk.pid) pk.bytes
        ∧ ∃ h, tB.get pk.pid = some h ∧ QuiescentH (ver pk.pid) h) →
    (∀ pk ∈ pks, isRep pk = false → ∃ tag f, tB.get pk.pid = some (.pes tag f)) →
    ∀ (tB' : Tab Handler) (cB : Ctx),
      pushSpec App.sem (tB, c) (pks.filter (fun pk => !isRep pk)) = .ok (tB', cB) →
      ∃ tA', pushSpec App.sem (tA, c) pks = .ok (tA', cB) ∧ RepTab ver P tA' tB' := by
  intro pks
  induction pks with
  | nil =>
    intro tA tB c hrel _ _ tB' cB h
    simp only [List.filter_nil, pushSpec_nil, R.ok.injEq, Prod.mk.injEq] at h
    obtain ⟨rfl, rfl⟩ := h
    exact ⟨tA, rfl, hrel⟩
  | cons pk pks ih =>
    intro tA tB c hrel hrep hoth tB' cB hB
    cases hr : isRep pk with
    | true =>
      have hfil : (pk :: pks).filter (fun pk => !isRep pk) = pks.filter (fun pk => !isRep pk) := by
        simp [hr]
      rw [hfil] at hB
      obtain ⟨hP, hf, hp, hB0, hgB, hqB⟩ := hrep pk List.mem_cons_self hr
      have hA : ∃ hA, tA.get pk.pid = some hA ∧ QuiescentH (ver pk.pid) hA ∧ RepRel (ver pk.pid) hB0 hA := by
        rcases hrel pk.pid with e | ⟨_, hA, hB1, e1, e2, e3⟩
        · exact ⟨hB0, by rw [e]; exact hgB, hqB, RepRel.refl hqB⟩
        · rw [hgB] at e2; cases e2; exact ⟨hA, e1, e3.quiescent, e3⟩
      obtain ⟨hA, hgA, hqA, hrA⟩ := hA
      obtain ⟨hA', hr1, hstep⟩ := step_rep_noop (ver pk.pid) tA c pk hA hgA hqA hf hp
      have hrel' : RepTab ver P (tA.insert pk.pid hA') tB := by
        intro q
        by_cases e : q = pk.pid
        · subst e; exact Or.inr ⟨hP, hA', hB0, Tab.get_insert_self _ _ _, hgB, hrA.trans hr1⟩
        · rw [Tab.get_insert_ne _ _ _ _ e]; exact hrel q
      obtain ⟨tA', h1, h2⟩ := ih _ tB c hrel' (fun pk' hm => hrep pk' (List.mem_cons_of_mem _ hm))
        (fun pk' hm => hoth pk' (List.mem_cons_of_mem _ hm)) tB' cB hB
      exact ⟨tA', by rw [pushSpec_cons, hstep]; exact h1, h2⟩
    | false =>
      have hfil : (pk :: pks).filter (fun pk => !isRep pk) = pk :: pks.filter (fun pk => !isRep pk) := by
        simp [hr]
      rw [hfil, pushSpec_cons] at hB
      obtain ⟨tag, f, hgB⟩ := hoth pk List.mem_cons_self hr
      obtain ⟨⟨tB1, c1⟩, h1, hB⟩ := R.bind_eq_ok hB
      obtain ⟨f1, hg1, hne1, hX⟩ := pes_step_result tB c pk tag f hgB tB1 c1 h1
      have hgA : tA.get pk.pid = some (.pes tag f) := by
        rcases hrel pk.pid with e | ⟨_, hA, hB1, e1, e2, e3⟩
        · rw [e]; exact hgB
        · rw [hgB] at e2; cases e2; exact e3.elim
      obtain ⟨tA1, hA1, hgA1, hneA1⟩ := hX tA hgA
      have hrel' : RepTab ver P tA1 tB1 := by
        intro q
        by_cases e : q = pk.pid
        · subst e; exact Or.inl (by rw [hgA1, hg1])
        · rw [hneA1 q e, hne1 q e]; exact hrel q
      have hrep' : ∀ pk' ∈ pks, isRep pk' = true → P pk'.pid ∧ pk'.flagged = false
          ∧ RepPacket (ver pk'.pid) pk'.bytes
          ∧ ∃ h, tB1.get pk'.pid = some h ∧ QuiescentH (ver pk'.pid) h := by
        intro pk' hm hr'
        obtain ⟨a, b, d, h, hg, hq⟩ := hrep pk' (List.mem_cons_of_mem _ hm) hr'
        refine ⟨a, b, d, h, ?_, hq⟩
        by_cases e : pk'.pid = pk.pid
        · rw [e, hgB] at hg; cases hg; exact hq.elim
        · rw [hne1 _ e]; exact hg
      have hoth' : ∀ pk' ∈ pks, isRep pk' = false → ∃ tag f, tB1.get pk'.pid = some (.pes tag f) := by
        intro pk' hm hr'
        by_cases e : pk'.pid = pk.pid
        · rw [e]; exact ⟨tag, f1, hg1⟩
        · rw [hne1 _ e]; exact hoth pk' (List.mem_cons_of_mem _ hm) hr'
      obtain ⟨tA', h1', h2'⟩ := ih tA1 tB1 c1 hrel' hrep' hoth' tB' cB hB
      exact ⟨tA', by rw [pushSpec_cons, hA1]; exact h1', h2'⟩

/-- any run of repetition packets, possibly of several table PIDs (`ver` gives each PID's
version): context unchanged; slots of other PIDs unchanged; every quiescent table handler is
replaced by an equivalent one at most -/
theorem run_rep_noop (ver : Nat → Nat) (c : Ctx) (pks : List Pk) (t : Tab Handler)
    (hall : ∀ pk ∈ pks, pk.flagged = false ∧ RepPacket (ver pk.pid) pk.bytes
      ∧ ∃ h, t.get pk.pid = some h ∧ QuiescentH (ver pk.pid) h) :
    ∃ t', pushSpec App.sem (t, c) pks = .ok (t', c)
      ∧ (∀ q, (∀ pk ∈ pks, pk.pid ≠ q) → t'.get q = t.get q)
      ∧ (∀ q h, t.get q = some h → QuiescentH (ver q) h →
           ∃ h', t'.get q = some h' ∧ RepRel (ver q) h h') := by
  -- every packet is a repetition: deleting them all leaves the empty run
  obtain ⟨t', h1, h2⟩ := reps_deletable_aux ver (fun _ => true) (fun q => ∃ pk ∈ pks, pk.pid = q)
    pks t t c (fun _ => Or.inl rfl) (fun pk hm _ => ⟨⟨pk, hm, rfl⟩, hall pk hm⟩)
    (fun _ _ h => by cases h) t c (by rw [List.filter_eq_nil_iff.2 (fun _ _ => by simp)]; rfl)
  refine ⟨t', h1, ?_, ?_⟩
  · intro q hq
    rcases h2 q with e | ⟨⟨pk, hm, e⟩, _⟩
    · exact e
    · exact absurd e (hq pk hm)
  · intro q h hg hqh
    rcases h2 q with e | ⟨_, hA, hB, e1, e2, e3⟩
    · exact ⟨h, by rw [e]; exact hg, RepRel.refl hqh⟩
    · rw [hg] at e2; cases e2; exact ⟨hA, e1, e3⟩

/-- **C10, straddling**: two packets `pk1`, `pk2` of an elementary-stream PID with any run of
table repetition packets (of other PIDs) between them: the context after `pk2` (the whole trace of
stream-start / begin / continue / end / continuity-error events) and the stream handler's state
are exactly those of the run without the repetitions -/
theorem es_straddle (ver : Nat → Nat) (t : Tab Handler) (c : Ctx) (pk1 pk2 : Pk) (reps : List Pk)
    (tag : Nat) (f : PesFilter.F) (hpid : pk2.pid = pk1.pid)
    (hg : t.get pk1.pid = some (.pes tag f))
    (hreps : ∀ pk ∈ reps, pk.pid ≠ pk1.pid ∧ pk.flagged = false ∧ RepPacket (ver pk.pid) pk.bytes
      ∧ ∃ h, t.get pk.pid = some h ∧ QuiescentH (ver pk.pid) h)
    (tB : Tab Handler) (cB : Ctx) (hB : pushSpec App.sem (t, c) [pk1, pk2] = .ok (tB, cB)) :
    ∃ tA, pushSpec App.sem (t, c) (pk1 :: (reps ++ [pk2])) = .ok (tA, cB)
      ∧ tA.get pk1.pid = tB.get pk1.pid
      ∧ (∀ r, (∀ pk ∈ reps, pk.pid ≠ r) → tA.get r = tB.get r) := by
  -- the repetitions are the packets on other PIDs than `pk1`'s
  have hfil : (pk1 :: (reps ++ [pk2])).filter (fun pk => !(pk.pid != pk1.pid)) = [pk1, pk2] := by
    have : reps.filter (fun pk => !(pk.pid != pk1.pid)) = [] :=
      List.filter_eq_nil_iff.2 (fun pk hm => by simp [(hreps pk hm).1])
    simp [List.filter_cons, List.filter_append, this, hpid]
  obtain ⟨tA, h1, h2⟩ := reps_deletable_aux ver (fun pk => pk.pid != pk1.pid)
    (fun q => ∃ pk ∈ reps, pk.pid = q) (pk1 :: (reps ++ [pk2])) t t c (fun _ => Or.inl rfl)
    (by
      intro pk hm hr
      have hne : pk.pid ≠ pk1.pid := by simpa using hr
      have hm' : pk ∈ reps := by
        rcases List.mem_cons.1 hm with e | hm
        · exact absurd (by rw [e]) hne
        · rcases List.mem_append.1 hm with hm | hm
          · exact hm
          · exact absurd (by rw [List.mem_singleton.1 hm, hpid]) hne
      exact ⟨⟨pk, hm', rfl⟩, (hreps pk hm').2⟩)
    (by
      intro pk _ hr
      have : pk.pid = pk1.pid := by simpa using hr
      exact ⟨tag, f, by rw [this]; exact hg⟩)
    tB cB (by rw [hfil]; exact hB)
  refine ⟨tA, h1, ?_, ?_⟩
  · rcases h2 pk1.pid with e | ⟨⟨pk, hm, e⟩, _⟩
    · exact e
    · exact absurd e (hreps pk hm).1
  · intro r hr
    rcases h2 r with e | ⟨⟨pk, hm, e⟩, _⟩
    · exact e
    · exact absurd e (hr pk hm)

/-! ### a handler fed a packet sequence -/

/-- the successive `consume` calls the dispatcher makes on one handler, changes concatenated -/
def consumeAll (h : Handler) (c : Ctx) : List Pk → R (Handler × Ctx × List (Change Handler))
  | [] => .ok (h, c, [])
  | pk :: pks => do
    let (h1, c1, chg1) ← App.consume h c pk
    let (h2, c2, chg2) ← consumeAll h1 c1 pks
    pure (h2, c2, chg1 ++ chg2)

theorem psi_run_total (ps : List Bytes) : ∀ (s : St), PsiInv .syntax s → (∀ p ∈ ps, p.length = 188) →
    ∃ sfin dss, Psi.run Psi.table s ps = .ok (sfin, dss) ∧ PsiInv .syntax sfin := by
  induction ps with
  | nil => intro s hs _; exact ⟨s, [], rfl, hs⟩
  | cons p ps ih =>
    intro s hs hl
    obtain ⟨s1, d1, h1, hs1⟩ := Ts.Props.C03.consume_total_inv_table s hs p (hl p (List.mem_cons_self ..))
    obtain ⟨s2, d2, h2, hs2⟩ := ih s1 hs1 (fun p' hp' => hl p' (List.mem_cons_of_mem _ hp'))
    refine ⟨s2, d1 :: d2, ?_, hs2⟩
    simp only [Psi.run, h1, R.ok_bind, h2]; rfl

/-- a table handler fed a packet sequence = the section filter run over the packets, then the
table processor run over all deliveries in order -/
theorem table_consumeAll (sect : Sect) (mk : St → List Nat → Handler)
    (hmk : ∀ s s' reg c pk ds, Psi.consume Psi.table s pk.bytes = .ok (s', ds) →
      App.consume (mk s reg) c pk =
        (runDeliveries sect c reg ds >>= fun r => R.ok (mk s' r.2.1, r.1, r.2.2)))
    (pks : List Pk) : ∀ (s : St) (c : Ctx) (reg : List Nat) (sfin : St) (dss : List (List Delivery)),
      Psi.run Psi.table s (pks.map (·.bytes)) = .ok (sfin, dss) →
      consumeAll (mk s reg) c pks =
        (runDeliveries sect c reg dss.flatten >>= fun r => R.ok (mk sfin r.2.1, r.1, r.2.2)) := by
  induction pks with
  | nil =>
    intro s c reg sfin dss h
    simp only [List.map_nil, Psi.run] at h
    cases h
    rfl
  | cons pk pks ih =>
    intro s c reg sfin dss h
    simp only [List.map_cons, Psi.run] at h
    obtain ⟨⟨s1, d1⟩, h1, h⟩ := R.bind_eq_ok h
    obtain ⟨⟨s2, d2⟩, h2, h⟩ := R.bind_eq_ok h
    cases h
    simp only [consumeAll, hmk s s1 reg c pk d1 h1, List.flatten_cons]
    rw [runDeliveries_append]
    cases runDeliveries sect c reg d1 with
    | panic m => rfl
    | ok x =>
      obtain ⟨c1, reg1, chg1⟩ := x
      simp only [R.ok_bind]
      rw [ih s1 c1 reg1 s2 d2 h2]
      cases runDeliveries sect c1 reg1 d2.flatten with
      | panic m => rfl
      | ok y => rfl

theorem pat_consumeAll (pks : List Pk) (s : St) (c : Ctx) (reg : List Nat) (sfin : St)
    (dss : List (List Delivery)) (h : Psi.run Psi.table s (pks.map (·.bytes)) = .ok (sfin, dss)) :
    consumeAll (.pat s reg) c pks =
      (runDeliveries patSection c reg dss.flatten >>= fun r => R.ok (.pat sfin r.2.1, r.1, r.2.2)) :=
  table_consumeAll patSection (fun s reg => .pat s reg)
    (fun s s' reg c pk ds h => consume_pat_eq s s' reg c pk ds h) pks s c reg sfin dss h

theorem pmt_consumeAll (pid prog : Nat) (pks : List Pk) (s : St) (c : Ctx) (reg : List Nat) (sfin : St)
    (dss : List (List Delivery)) (h : Psi.run Psi.table s (pks.map (·.bytes)) = .ok (sfin, dss)) :
    consumeAll (.pmt pid prog s reg) c pks =
      (runDeliveries (fun c r d => pmtSection c pid r d) c reg dss.flatten >>= fun r =>
        R.ok (.pmt pid prog sfin r.2.1, r.1, r.2.2)) :=
  table_consumeAll (fun c r d => pmtSection c pid r d) (fun s reg => .pmt pid prog s reg)
    (fun s s' reg c pk ds h => consume_pmt_eq pid prog s s' reg c pk ds h) pks s c reg sfin dss h

/-- packets ⇒ payload views, in the shape used by the C03 theorems -/
theorem run_of_runPl (s : St) (pkts : List Bytes) (hlen : ∀ p ∈ pkts, p.length = 188)
    (sfin : St) (ds : List Delivery) (h : runPl Psi.table s (pkts.filterMap plOf) = .ok (sfin, ds)) :
    ∃ dss, Psi.run Psi.table s pkts = .ok (sfin, dss) ∧ dss.flatten = ds :=
  flatR_eq_ok.1 ((run_flat Psi.table pkts s hlen).trans h)

/-! ### runs of payloads -/

theorem runPl_append (cfg : Psi.Cfg) (a b : List Pl) : ∀ (s : St),
    runPl cfg s (a ++ b) =
      (runPl cfg s a >>= fun r1 => runPl cfg r1.1 b >>= fun r2 => R.ok (r2.1, r1.2 ++ r2.2)) := by
  induction a with
  | nil => intro s; cases h : runPl cfg s b <;> simp [runPl, h]
  | cons q a ih =>
    intro s
    simp only [List.cons_append, runPl_cons, ih, bind_assoc, R.ok_bind, List.append_assoc]

/-- any run of non-empty payloads from a state satisfying the buffer invariant: no panic, the
invariant holds afterwards, continuation payloads and unit starts alike -/
theorem runPl_total_inv (qs : List Pl) : ∀ (s : St), PsiInv .syntax s →
    (∀ q ∈ qs, 1 ≤ q.bytes.length) →
    ∃ s' ds, runPl Psi.table s qs = .ok (s', ds) ∧ PsiInv .syntax s' := by
  intro s hs hq
  exact ⟨_, _, runPl_eq Psi.table cfgOk_table qs s hs hq, (runSpec_rule (bufRule_inv Psi.table) qs s hs).1⟩

/-! ### "last applied" (for the full-strength statement of C11) -/

/-- does a delivered section reach the table processor (CRC layer of the normal build)? -/
def passes (d : Delivery) : Bool :=
  match Psi.crcPass false d.bytes with
  | .ok true => true
  | _ => false

/-- `version_number` of the last delivered section that passed the CRC layer, if any -/
def lastApplied (ds : List Delivery) : Option Nat :=
  ((ds.filter passes).getLast?).map (fun d => versionOf d.bytes)

/-! ### concrete data for the non-vacuity examples and the C11 counter-example -/

deriving instance DecidableEq for R

/-- the 16-byte PAT section of C04 (program 1 → PMT PID 0x1e0), `version_number = 0`, valid CRC -/
def patGood : Bytes := Ts.Props.C04.patSection

/-- the same section with the last CRC bit (bit 127) inverted -/
def patBad : Bytes :=
  [0x00, 0xb0, 0x0d, 0x00, 0x01, 0xc1, 0x00, 0x00, 0x00, 0x01, 0xe1, 0xe0, 0x2d, 0x50, 0x78, 0x05]

/-- a PAT with `version_number = 1` (byte 5 = 0xc3) and its CRC -/
def patV1 : Bytes :=
  [0x00, 0xb0, 0x0d, 0x00, 0x01, 0xc3, 0x00, 0x00, 0x00, 0x01, 0xe1, 0xe0] ++
    Ts.CrcSpec.be32 (Ts.CrcSpec.crc [0x00, 0xb0, 0x0d, 0x00, 0x01, 0xc3, 0x00, 0x00, 0x00, 0x01, 0xe1, 0xe0])

/-- one transport packet on PID 0, unit start, no adaptation field, `pointer_field = 0`, carrying
the whole section `sec` followed by `0xff` stuffing -/
def pktOf (sec : Bytes) : Bytes :=
  [0x47, 0x40, 0x00, 0x10, 0x00] ++ sec ++ List.replicate (183 - sec.length) 0xff

/-- payload of `pktOf sec` -/
def plBytesOf (sec : Bytes) : Bytes := 0x00 :: (sec ++ List.replicate (183 - sec.length) 0xff)

/-- the packetisation used by `pktOf` -/
def muxOf (sec : Bytes) : Mux := ⟨[], sec.length, List.replicate (183 - sec.length) 0xff, [], []⟩

/-! `patGood` and `patV1` are what the hypotheses of the section-level theorems ask for -/

theorem patGood_wf : WellFormedSection .syntax patGood := by decide +kernel
theorem patGood_crc : Ts.CrcSpec.crc patGood = 0 := by decide +kernel
theorem patGood_mux : WellFormedMux .syntax patGood (muxOf patGood) := by decide +kernel
theorem patV1_wf : WellFormedSection .syntax patV1 := by decide +kernel
theorem patV1_crc : Ts.CrcSpec.crc patV1 = 0 := by decide +kernel
theorem patV1_mux : WellFormedMux .syntax patV1 (muxOf patV1) := by decide +kernel

/-- continuation packet on PID 0 (payload only, all stuffing) -/
def contPkt : Bytes := [0x47, 0x00, 0x00, 0x11] ++ List.replicate 184 0xff

/-- adaptation-field-only packet on PID 0 (no payload) -/
def afOnlyPkt : Bytes := [0x47, 0x00, 0x00, 0x20, 183, 0x00] ++ List.replicate 182 0xff

def pk0 (b : Bytes) (off : Nat) : Pk := ⟨b, off, 0, false, false⟩

/-- observable summary of an application run: table size, tags handed out, trace length -/
def summary : R (Tab Handler × Ctx) → Option (Nat × Nat × Nat)
  | .ok (t, c) => some (t.length, c.nextTag, c.trace.length)
  | .panic _ => none

/-- the handler requests (`construct`) recorded in the trace, oldest first -/
def requests : R (Tab Handler × Ctx) → List Req
  | .ok (_, c) => c.trace.reverse.filterMap (fun e => match e with | .construct r _ => some r | _ => none)
  | .panic _ => []

/-! ### C11: what a (possibly damaged) start leaves behind -/

/-- continuation payloads never change the remembered version -/
theorem runPl_conts_lastVersion (conts : List Pl) (s : St) (hs : PsiInv .syntax s)
    (hus : ∀ q ∈ conts, q.us = false) (hne : ∀ q ∈ conts, 1 ≤ q.bytes.length) :
    ∃ s' ds, runPl Psi.table s conts = .ok (s', ds) ∧ s'.lastVersion = s.lastVersion
      ∧ PsiInv .syntax s' := by
  obtain ⟨s', ds, h, hi⟩ := runPl_total_inv conts s hs hne
  refine ⟨s', ds, h, ?_, hi⟩
  rw [runPl_eq Psi.table cfgOk_table conts s hs hne, runSpec_cont _ _ _ hus] at h
  have e : s' = (runCont Psi.table s (conts.map (·.bytes))).1 := by
    have := R.ok.inj h; rw [this]
  rw [e]
  exact runCont_lastVersion _ _ _

/-- a unit-start payload whose section start `D` is accepted records `versionOf D` -/
theorem start_payload_records (s : St) (hs : PsiInv .syntax s) (pre D : Bytes) (off : Nat)
    (hp : pre.length < 256) (hok : startOk Psi.table D = true) :
    ∃ s' ds, consumePayload Psi.table s true (UInt8.ofNat pre.length :: (pre ++ D)) off = .ok (s', ds)
      ∧ s'.lastVersion = some (versionOf D) ∧ PsiInv .syntax s' := by
  have h8 : 8 ≤ D.length := ((startOk_iff Psi.table D).1 hok).2.1
  have h1 := consumePayload_eq Psi.table cfgOk_table s true (UInt8.ofNat pre.length :: (pre ++ D)) off
    (by simp) hs
  have hi := consumeSpec_inv Psi.table s true (UInt8.ofNat pre.length :: (pre ++ D)) off hs
  have hf := consumeSpec_first Psi.table s pre D off hp (by omega)
  refine ⟨(consumeSpec Psi.table s true (UInt8.ofNat pre.length :: (pre ++ D)) off).1,
    (consumeSpec Psi.table s true (UInt8.ofNat pre.length :: (pre ++ D)) off).2, h1, ?_, hi⟩
  rw [hf]
  show (startSpec Psi.table _ D _).1.lastVersion = _
  rw [startSpec_records _ _ _ hok, versionOf_eq]

/-- C11 (partial), handler level, generic in the table processor -/
theorem table_applied_consumeAll (sect : Sect) (mk : St → List Nat → Handler)
    (hmk : ∀ s s' reg c pk ds, Psi.consume Psi.table s pk.bytes = .ok (s', ds) →
      App.consume (mk s reg) c pk =
        (runDeliveries sect c reg ds >>= fun r => R.ok (mk s' r.2.1, r.1, r.2.2)))
    (S : Bytes) (hS : WellFormedSection .syntax S) (h12 : 12 ≤ S.length)
    (hcrc : Ts.CrcSpec.crc S = 0) (m : Mux) (hm : WellFormedMux .syntax S m)
    (s : St) (hs : PsiInv .syntax s) (hv : s.lastVersion ≠ some (versionOf S))
    (reg : List Nat) (c : Ctx) (pks : List Pk) (hlen : ∀ pk ∈ pks, pk.bytes.length = 188)
    (off : Nat) (rest : List Pl)
    (hview : (pks.map (·.bytes)).filterMap plOf = ⟨true, m.first S, off⟩ :: rest)
    (hus : ∀ q ∈ rest, q.us = false) (hrest : rest.map (·.bytes) = m.rest) :
    ∃ sfin, Quiescent (versionOf S) sfin ∧
      consumeAll (mk s reg) c pks =
        (runDeliveries sect c reg (preSpec Psi.table s m.pre).2 >>= fun r1 =>
          sect r1.1 r1.2.1 S >>= fun r2 => R.ok (mk sfin r2.2.1, r2.1, r1.2.2 ++ r2.2.2)) := by
  obtain ⟨sfin, h1, hq, _, _⟩ := table_applied S hS (by omega) m hm s hs hv off rest hus hrest
  have hlen' : ∀ p ∈ pks.map (·.bytes), p.length = 188 := by
    intro p hp
    obtain ⟨pk, hpk, e⟩ := List.mem_map.1 hp
    rw [← e]; exact hlen pk hpk
  rw [← hview] at h1
  obtain ⟨dss, hrun, hflat⟩ := run_of_runPl s (pks.map (·.bytes)) hlen' sfin _ h1
  refine ⟨sfin, hq, ?_⟩
  rw [table_consumeAll sect mk hmk pks s c reg sfin dss hrun, hflat]
  rw [runDeliveries_last sect c reg _ ⟨S, _⟩ (fun b => crcPass_valid b S hS h12 hcrc)]
  cases runDeliveries sect c reg (preSpec Psi.table s m.pre).2 with
  | panic msg => rfl
  | ok r1 =>
    simp only [R.ok_bind]
    cases sect r1.1 r1.2.1 S with
    | panic msg => rfl
    | ok r2 => rfl

theorem repRel_pat_inv {v : Nat} {s : St} {reg : List Nat} {h' : Handler}
    (r : RepRel v (.pat s reg) h') : ∃ s', h' = .pat s' reg ∧ Quiescent v s' ∧ s'.buf = s.buf := by
  cases h' with
  | pat s' reg' => obtain ⟨e, a, b⟩ := r; subst e; exact ⟨s', rfl, a, b⟩
  | pmt _ _ _ _ => exact r.elim
  | pes _ _ => exact r.elim
  | recorder _ => exact r.elim

/-- a dispatcher step on a PAT slot whose deliveries are all stopped by the CRC layer -/
theorem step_pat_gated (t : Tab Handler) (c : Ctx) (pk : Pk) (s s' : St) (reg : List Nat)
    (ds : List Delivery) (hg : t.get pk.pid = some (.pat s reg)) (hf : pk.flagged = false)
    (hpsi : Psi.consume Psi.table s pk.bytes = .ok (s', ds))
    (hgate : runDeliveries patSection c reg ds = .ok (c, reg, [])) :
    specStep App.sem (t, c) pk = .ok (t.insert pk.pid (.pat s' reg), c) := by
  rw [specStep_consume_of_contains App.sem t c pk _ (contains_of_get t pk.pid _ hg) hf hg]
  show (App.consume (.pat s reg) c pk >>= _) = _
  rw [consume_pat_eq s s' reg c pk ds hpsi, hgate]
  rfl

end Ts.Lemmas.C10
