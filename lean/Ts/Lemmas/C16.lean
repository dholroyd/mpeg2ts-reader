import Ts.Spec.TableSpec
import Ts.Lemmas.BitOps
/-! Helper lemmas for C16 (PAT and PMT bodies). -/
namespace Ts.Lemmas.C16
open Ts Ts.Spec Ts.Tables Ts.Spec.TableSpec

theorem assertR_ok (c : Bool) (s : String) (h : c = true) : assertR c s = .ok () := by
  simp [assertR, h]

theorem pidNew_ok (v : Nat) (h : v ≤ 0x1fff) : pidNew v = .ok v := by
  unfold pidNew
  rw [assertR_ok _ _ (by simpa using h)]
  rfl

/-! ### code side: masks and shifts as arithmetic -/

theorem shl8_or (a b : Nat) (hb : b < 256) : (a <<< 8) ||| b = a * 256 + b := by
  rw [Nat.shiftLeft_eq, or_eq_add 8 (Nat.dvd_mul_left _ _) hb]

theorem mask13 (a b : Nat) (ha : a < 256) (hb : b < 256) :
    ((a &&& 0b0001_1111) <<< 8) ||| b = a % 32 * 256 + b := by
  rw [and_1f a ha, shl8_or _ _ hb]

theorem mask12 (a b : Nat) (ha : a < 256) (hb : b < 256) :
    ((a &&& 0b0000_1111) <<< 8) ||| b = a % 16 * 256 + b := by
  rw [and_0f a ha, shl8_or _ _ hb]

/-! ### spec side: `uimsbf` fields as byte arithmetic -/

theorem field_0_16 (g : Bytes) (i : Nat) : readBits g (8 * i) 16 = byteD g i * 256 + byteD g (i + 1) := by
  have e := readBits_bytes g i 2
  simpa only [be, Nat.zero_mul, Nat.zero_add, Nat.add_zero, Nat.reduceMul] using e

theorem field_0_3 (g : Bytes) (i : Nat) : readBits g (8 * i) 3 = byteD g i / 32 := by
  have r := readBits_sub g i 0 3 (by omega)
  have := byteD_lt g i
  simp only [Nat.add_zero] at r
  rw [r]; omega

theorem field_0_4 (g : Bytes) (i : Nat) : readBits g (8 * i) 4 = byteD g i / 16 := by
  have r := readBits_sub g i 0 4 (by omega)
  have := byteD_lt g i
  simp only [Nat.add_zero] at r
  rw [r]; omega

theorem field_3_13 (g : Bytes) (i : Nat) :
    readBits g (8 * i + 3) 13 = byteD g i % 32 * 256 + byteD g (i + 1) := by
  have e := readBits_be g i 3 13 2 (by omega)
  have b := byteD_lt g (i + 1)
  simp only [be, Nat.zero_mul, Nat.zero_add, Nat.add_zero, Nat.reduceMul, Nat.reduceSub, Nat.pow_zero,
    Nat.div_one, Nat.reducePow] at e
  omega

theorem field_4_12 (g : Bytes) (i : Nat) :
    readBits g (8 * i + 4) 12 = byteD g i % 16 * 256 + byteD g (i + 1) := by
  have e := readBits_be g i 4 12 2 (by omega)
  have b := byteD_lt g (i + 1)
  simp only [be, Nat.zero_mul, Nat.zero_add, Nat.add_zero, Nat.reduceMul, Nat.reduceSub, Nat.pow_zero,
    Nat.div_one, Nat.reducePow] at e
  omega

theorem pat_pn (g : Bytes) : readBits g 0 16 = byteD g 0 * 256 + byteD g 1 := field_0_16 g 0
theorem pat_rsv (g : Bytes) : readBits g 16 3 = byteD g 2 / 32 := field_0_3 g 2
theorem pat_pid (g : Bytes) : readBits g 19 13 = byteD g 2 % 32 * 256 + byteD g 3 := field_3_13 g 2
theorem pmt_pcr (d : Bytes) : readBits d 3 13 = byteD d 0 % 32 * 256 + byteD d 1 := by
  have := field_3_13 d 0; simpa using this
theorem pmt_pil (d : Bytes) : readBits d 20 12 = byteD d 2 % 16 * 256 + byteD d 3 := field_4_12 d 2
theorem st_type (b : Bytes) : readBits b 0 8 = byteD b 0 := readBits_byte b 0
theorem st_rsv1 (b : Bytes) : readBits b 8 3 = byteD b 1 / 32 := field_0_3 b 1
theorem st_pid (b : Bytes) : readBits b 11 13 = byteD b 1 % 32 * 256 + byteD b 2 := field_3_13 b 1
theorem st_rsv2 (b : Bytes) : readBits b 24 4 = byteD b 3 / 16 := field_0_4 b 3
theorem st_esil (b : Bytes) : readBits b 28 12 = byteD b 3 % 16 * 256 + byteD b 4 := field_4_12 b 3

/-! ### PAT -/

theorem pat_if (pn pid : Nat) :
    (if (pn == 0) = true then (pure (PatEntry.network pid) : R PatEntry) else pure (.program pn pid))
      = .ok (if pn = 0 then .network pid else .program pn pid) := by
  by_cases h0 : pn = 0 <;> simp [h0]

theorem patEntry_ok (g : Bytes) (h : 4 ≤ g.length) : patEntryFromBytes g = .ok (patEntryOf g) := by
  unfold patEntryFromBytes patEntryOf
  simp (disch := omega) only [byteAt_ok, R.ok_bind]
  rw [shl8_or _ _ (byteD_lt g 1), mask13 _ _ (byteD_lt g 2) (byteD_lt g 3), pat_pn, pat_pid]
  have := byteD_lt g 2
  have := byteD_lt g 3
  rw [pidNew_ok _ (by omega)]
  simp only [R.ok_bind, R.pure_eq]
  exact pat_if _ _

theorem chunks4_cons (a b c d : UInt8) (rest : Bytes) :
    chunks4 (a :: b :: c :: d :: rest) = [a, b, c, d] :: chunks4 rest := by rw [chunks4]

theorem chunks4_short (buf : Bytes) (h : buf.length < 4) : chunks4 buf = [] := by
  rcases buf with _ | ⟨a, _ | ⟨b, _ | ⟨c, _ | ⟨d, rest⟩⟩⟩⟩ <;> simp [chunks4] at *
  omega

theorem chunks4_length : ∀ (n : Nat) (buf : Bytes), buf.length < n → (chunks4 buf).length = buf.length / 4 := by
  intro n
  induction n with
  | zero => intro buf h; omega
  | succ n ih =>
    intro buf h
    rcases buf with _ | ⟨a, _ | ⟨b, _ | ⟨c, _ | ⟨d, rest⟩⟩⟩⟩
    · simp [chunks4]
    · simp [chunks4]
    · simp [chunks4]
    · simp [chunks4]
    · rw [chunks4_cons, List.length_cons, ih rest (by simp at h; omega)]
      simp only [List.length_cons]
      omega

theorem patPrograms_eq : ∀ (fuel : Nat) (buf : Bytes), buf.length < fuel →
    patPrograms fuel buf = .ok (specPat buf) := by
  intro fuel
  induction fuel with
  | zero => intro buf h; omega
  | succ n ih =>
    intro buf h
    rcases buf with _ | ⟨a, _ | ⟨b, _ | ⟨c, _ | ⟨d, rest⟩⟩⟩⟩
    · simp [patPrograms, specPat, chunks4]
    · simp [patPrograms, specPat, chunks4]
    · simp [patPrograms, specPat, chunks4]
    · simp [patPrograms, specPat, chunks4]
    · have hl : rest.length < n := by simp at h; omega
      have e : patPrograms (n + 1) (a :: b :: c :: d :: rest) = (do
          let e ← patEntryFromBytes [a, b, c, d]
          let r ← patPrograms n rest
          pure (e :: r)) := by
        simp [patPrograms]
        intro hh; omega
      rw [e, patEntry_ok _ (by simp), ih rest hl]
      simp [specPat, chunks4_cons]



/-! ### PAT encoder -/

theorem beByte_toNat (w k i : Nat) : (beByte w k i).toNat = w / 2 ^ (8 * (k - 1 - i)) % 256 := by
  unfold beByte
  simp


/-! ### the encoders' words, byte by byte -/

theorem horner (q b : Nat) (hb : b < 256) : (q * 256 + b) / 256 = q ∧ (q * 256 + b) % 256 = b := by omega

/-- the digits of a five-digit number in base 256 -/
theorem digits5 (b0 b1 b2 b3 b4 : Nat) (h1 : b1 < 256) (h2 : b2 < 256) (h3 : b3 < 256) (h4 : b4 < 256) :
    let w := (((b0 * 256 + b1) * 256 + b2) * 256 + b3) * 256 + b4
    w / 2 ^ 32 = b0 ∧ w / 2 ^ 24 % 256 = b1 ∧ w / 2 ^ 16 % 256 = b2 ∧ w / 2 ^ 8 % 256 = b3 ∧
    w % 256 = b4 := by
  intro w
  have h : w / 256 / 256 / 256 / 256 = b0 ∧ w / 256 / 256 / 256 % 256 = b1 ∧ w / 256 / 256 % 256 = b2 ∧
      w / 256 % 256 = b3 ∧ w % 256 = b4 := by
    simp only [w, horner, h1, h2, h3, h4, and_self]
  simpa only [Nat.div_div_eq_div_mul, Nat.reduceMul, Nat.reducePow] using h

/-- a 3-bit field `a` and the top 5 bits of a 13-bit field `x` share a byte -/
theorem byte_3_5 (a x : Nat) (ha : a < 8) (hx : x ≤ 8191) :
    a * 32 + x / 256 < 256 ∧ (a * 32 + x / 256) / 32 = a ∧ (a * 32 + x / 256) % 32 * 256 + x % 256 = x := by
  omega

/-- a 4-bit field `a` and the top 4 bits of a 12-bit field `x` share a byte -/
theorem byte_4_4 (a x : Nat) (ha : a < 16) (hx : x < 4096) :
    a * 16 + x / 256 < 256 ∧ (a * 16 + x / 256) / 16 = a ∧ (a * 16 + x / 256) % 16 * 256 + x % 256 = x := by
  omega

theorem pat_word (pn r pid : Nat) (hpn : pn < 65536) (hpid : pid ≤ 8191) :
    let w := cat (cat (cat 0 16 pn) 3 r) 13 pid
    (w / 2 ^ 24 % 256) * 256 + (w / 2 ^ 16 % 256) = pn ∧
    (w / 2 ^ 8 % 256) % 32 * 256 + w % 256 = pid ∧ w / 2 ^ 8 % 256 / 32 = r % 8 := by
  intro w
  have e : w = (((0 * 256 + pn / 256) * 256 + pn % 256) * 256 + (r % 8 * 32 + pid / 256)) * 256
      + pid % 256 := by
    simp only [w, cat, Nat.reducePow]; omega
  obtain ⟨b3, f1, f2⟩ := byte_3_5 (r % 8) pid (Nat.mod_lt _ (by decide)) hpid
  obtain ⟨-, d1, d2, d3, d4⟩ := digits5 0 (pn / 256) (pn % 256) _ _ (Nat.div_lt_of_lt_mul hpn) (Nat.mod_lt _ (by decide)) b3
    (Nat.mod_lt pid (by decide))
  rw [e, d1, d2, d3, d4]
  exact ⟨Nat.div_add_mod' pn 256, f2, f1⟩

theorem encodePatEntry_fields (r : Nat) (e : PatEntry) (h : PatWf e) :
    readBits (encodePatEntry r e) 0 16 = patProgramNumber e ∧
    readBits (encodePatEntry r e) 19 13 = e.pid ∧ readBits (encodePatEntry r e) 16 3 = r % 8 := by
  have hb : patProgramNumber e < 65536 ∧ e.pid ≤ 8191 := by
    cases e <;> simp [PatWf, patProgramNumber, PatEntry.pid] at * <;> omega
  have w := pat_word (patProgramNumber e) r e.pid hb.1 hb.2
  rw [pat_pn, pat_pid, pat_rsv]
  unfold encodePatEntry
  simp only [byteD_cons_zero, byteD_cons_succ, beByte_toNat] at w ⊢
  simp only [Nat.reduceSub, Nat.reduceMul, Nat.pow_zero, Nat.div_one] at w ⊢
  exact w

theorem patEntryOf_encode (r : Nat) (e : PatEntry) (h : PatWf e) :
    patEntryOf (encodePatEntry r e) = e := by
  obtain ⟨f1, f2, -⟩ := encodePatEntry_fields r e h
  unfold patEntryOf
  rw [f1, f2]
  cases e with
  | network p => simp [patProgramNumber, PatEntry.pid]
  | program n p => have h1 : n ≠ 0 := h.1; simp [patProgramNumber, PatEntry.pid, h1]

theorem encodePatEntry_shape (r : Nat) (e : PatEntry) :
    ∃ a b c d, encodePatEntry r e = [a, b, c, d] := ⟨_, _, _, _, rfl⟩

theorem specPat_encode (es : List (Nat × PatEntry)) (h : ∀ x ∈ es, PatWf x.2) :
    specPat (encodePat es) = es.map (·.2) := by
  induction es with
  | nil => simp [encodePat, specPat, chunks4]
  | cons x es ih =>
    obtain ⟨a, b, c, d, he⟩ := encodePatEntry_shape x.1 x.2
    have e1 := patEntryOf_encode x.1 x.2 (h x (by simp))
    rw [he] at e1
    have ih' := ih (fun y hy => h y (by simp [hy]))
    unfold specPat encodePat at *
    simp only [List.map_cons, List.flatten_cons, he, List.cons_append, List.nil_append,
      chunks4_cons, e1, ih']

/-! ### PMT header -/

theorem pmtFromBytes_eq (data : Bytes) :
    pmtFromBytes data = .ok (if specPmtAccept data then some data else none) := by
  unfold pmtFromBytes
  by_cases h4 : data.length < 4
  · have : ¬ specPmtAccept data := by unfold specPmtAccept; omega
    simp [h4, this]
  · rw [if_neg h4, byteAt_ok data 2 (by omega), byteAt_ok data 3 (by omega)]
    simp only [R.ok_bind]
    rw [mask12 _ _ (byteD_lt data 2) (byteD_lt data 3), ← pmt_pil]
    by_cases h2 : data.length < readBits data 20 12 + 4
    · have : ¬ specPmtAccept data := by unfold specPmtAccept pmtPil; omega
      simp [h2, this]
    · have : specPmtAccept data := by unfold specPmtAccept pmtPil; omega
      simp [h2, this]

theorem pmtPcrPid_eq (data : Bytes) (h : 2 ≤ data.length) : pmtPcrPid data = .ok (specPcrPid data) := by
  unfold pmtPcrPid specPcrPid
  simp (disch := omega) only [byteAt_ok, R.ok_bind]
  rw [mask13 _ _ (byteD_lt data 0) (byteD_lt data 1), ← pmt_pcr]
  have := readBits_lt data 3 13
  exact pidNew_ok _ (by omega)

theorem pmtPil_eq (data : Bytes) (h : 4 ≤ data.length) : pmtProgramInfoLength data = .ok (pmtPil data) := by
  unfold pmtProgramInfoLength pmtPil
  simp (disch := omega) only [byteAt_ok, R.ok_bind, R.pure_eq]
  rw [mask12 _ _ (byteD_lt data 2) (byteD_lt data 3), ← pmt_pil]

theorem pmtDescriptorBytes_eq (data : Bytes) (h : specPmtAccept data) :
    pmtDescriptorBytes data = .ok (specProgramDescBytes data) := by
  unfold pmtDescriptorBytes specProgramDescBytes
  rw [pmtPil_eq data h.1]
  simp only [R.ok_bind]
  exact sliceR_ok data 4 _ h.2

/-! ### PMT stream loop: model = spec -/

theorem streamInfo_eq (buf : Bytes) :
    streamInfoFromBytes buf
      = .ok (if streamFits buf then some ((streamAt buf).info, 5 + esInfoLength buf) else none) := by
  unfold streamInfoFromBytes
  by_cases h5 : buf.length < 5
  · have : ¬ streamFits buf := by unfold streamFits; omega
    simp [h5, this]
  · rw [if_neg h5, byteAt_ok buf 3 (by omega), byteAt_ok buf 4 (by omega)]
    simp only [R.ok_bind]
    rw [mask12 _ _ (byteD_lt buf 3) (byteD_lt buf 4), ← st_esil]
    by_cases h2 : 5 + readBits buf 28 12 > buf.length
    · have : ¬ streamFits buf := by unfold streamFits esInfoLength; omega
      simp [h2, this]
    · have hf : streamFits buf := by unfold streamFits esInfoLength; omega
      rw [if_neg h2, byteAt_ok buf 0 (by omega), byteAt_ok buf 1 (by omega), byteAt_ok buf 2 (by omega)]
      simp only [R.ok_bind]
      rw [mask13 _ _ (byteD_lt buf 1) (byteD_lt buf 2), ← st_pid]
      have := readBits_lt buf 11 13
      rw [pidNew_ok _ (by omega), sliceR_ok buf 5 _ (by omega)]
      simp [hf, streamAt, StreamEnc.info, st_type]

theorem specStreams_fits (buf : Bytes) (h : streamFits buf) :
    specStreams buf = (streamAt buf :: (specStreams (buf.drop (5 + esInfoLength buf))).1,
      (specStreams (buf.drop (5 + esInfoLength buf))).2) := by
  rw [specStreams]; simp [h]

theorem specStreams_stop (buf : Bytes) (h : ¬ streamFits buf) : specStreams buf = ([], buf) := by
  rw [specStreams]; simp [h]

theorem streamIter_eq : ∀ (fuel : Nat) (buf : Bytes), buf.length < fuel →
    streamIter fuel buf = .ok ((specStreams buf).1.map StreamEnc.info) := by
  intro fuel
  induction fuel with
  | zero => intro buf h; omega
  | succ n ih =>
    intro buf h
    unfold streamIter
    by_cases he : buf.isEmpty
    · have : buf = [] := by simpa using he
      subst this
      have : ¬ streamFits ([] : Bytes) := by unfold streamFits; simp
      simp [specStreams_stop _ this]
    · rw [if_neg he, streamInfo_eq]
      by_cases hf : streamFits buf
      · have hl : (buf.drop (5 + esInfoLength buf)).length < n := by
          have := hf.1; simp; omega
        simp only [hf, if_true, R.ok_bind]
        rw [sliceFrom_ok buf _ hf.2]
        simp only [R.ok_bind]
        rw [ih _ hl, specStreams_fits buf hf]
        simp
      · simp [hf, specStreams_stop buf hf]

theorem pmtStreams_eq (data : Bytes) (h : specPmtAccept data) :
    pmtStreams data = .ok ((specStreams (specStreamBytes data)).1.map StreamEnc.info) := by
  unfold pmtStreams specStreamBytes
  rw [pmtPil_eq data h.1]
  simp only [R.ok_bind]
  have : ¬ (4 + pmtPil data > data.length) := by have := h.2; omega
  rw [if_neg this, sliceFrom_ok data _ h.2]
  simp only [R.ok_bind]
  exact streamIter_eq _ _ (by omega)

/-! ### PMT stream entries: encoder against the bit fields -/

theorem stream_word (st r1 pid r2 len : Nat) (h1 : st < 256) (h2 : pid ≤ 8191) (h3 : len < 4096) :
    let w := cat (cat (cat (cat (cat 0 8 st) 3 r1) 13 pid) 4 r2) 12 len
    w / 2 ^ 32 % 256 = st ∧ w / 2 ^ 24 % 256 / 32 = r1 % 8 ∧
    w / 2 ^ 24 % 256 % 32 * 256 + w / 2 ^ 16 % 256 = pid ∧
    w / 2 ^ 8 % 256 / 16 = r2 % 16 ∧ w / 2 ^ 8 % 256 % 16 * 256 + w % 256 = len := by
  intro w
  have e : w = (((st * 256 + (r1 % 8 * 32 + pid / 256)) * 256 + pid % 256) * 256
      + (r2 % 16 * 16 + len / 256)) * 256 + len % 256 := by
    simp only [w, cat, Nat.reducePow]; omega
  obtain ⟨b1, f1, f2⟩ := byte_3_5 (r1 % 8) pid (Nat.mod_lt _ (by decide)) h2
  obtain ⟨b3, f3, f4⟩ := byte_4_4 (r2 % 16) len (Nat.mod_lt _ (by decide)) h3
  obtain ⟨d0, d1, d2, d3, d4⟩ := digits5 st _ _ _ _ b1 (Nat.mod_lt pid (by decide)) b3
    (Nat.mod_lt len (by decide))
  rw [e, d0, d1, d2, d3, d4]
  exact ⟨Nat.mod_eq_of_lt h1, f1, f2, f3, f4⟩

theorem stream_word_inv (b0 b1 b2 b3 b4 : Nat) (h0 : b0 < 256) (h1 : b1 < 256) (h2 : b2 < 256)
    (h3 : b3 < 256) (h4 : b4 < 256) :
    let w := cat (cat (cat (cat (cat 0 8 b0) 3 (b1 / 32)) 13 (b1 % 32 * 256 + b2)) 4 (b3 / 16)) 12
      (b3 % 16 * 256 + b4)
    w / 2 ^ 32 % 256 = b0 ∧ w / 2 ^ 24 % 256 = b1 ∧ w / 2 ^ 16 % 256 = b2 ∧ w / 2 ^ 8 % 256 = b3 ∧
    w % 256 = b4 := by
  intro w
  have e : w = (((b0 * 256 + b1) * 256 + b2) * 256 + b3) * 256 + b4 := by
    simp only [w, cat, Nat.reducePow]; omega
  obtain ⟨d0, d⟩ := digits5 b0 b1 b2 b3 b4 h1 h2 h3 h4
  rw [e, d0]
  exact ⟨Nat.mod_eq_of_lt h0, d⟩

theorem encodeStream_length (e : StreamEnc) : (encodeStream e).length = 5 + e.descBytes.length := by
  simp [encodeStream]; omega

theorem encodeStream_fields (e : StreamEnc) (h : StreamWf e) (rest : Bytes) :
    readBits (encodeStream e ++ rest) 0 8 = e.streamType ∧
    readBits (encodeStream e ++ rest) 8 3 = e.reserved1 ∧
    readBits (encodeStream e ++ rest) 11 13 = e.pid ∧
    readBits (encodeStream e ++ rest) 24 4 = e.reserved2 ∧
    readBits (encodeStream e ++ rest) 28 12 = e.descBytes.length := by
  obtain ⟨h1, h2, h3, h4, h5⟩ := h
  have w := stream_word e.streamType e.reserved1 e.pid e.reserved2 e.descBytes.length h1 h3 h5
  rw [st_type, st_rsv1, st_pid, st_rsv2, st_esil]
  unfold encodeStream
  simp only [List.cons_append, byteD_cons_zero, byteD_cons_succ, beByte_toNat] at w ⊢
  simp only [Nat.reduceSub, Nat.reduceMul, Nat.pow_zero, Nat.div_one] at w ⊢
  obtain ⟨w1, w2, w3, w4, w5⟩ := w
  refine ⟨w1, ?_, w3, ?_, w5⟩
  · rw [w2]; omega
  · rw [w4]; omega


theorem streamFits_encode (e : StreamEnc) (h : StreamWf e) (rest : Bytes) :
    streamFits (encodeStream e ++ rest) := by
  unfold streamFits esInfoLength
  rw [(encodeStream_fields e h rest).2.2.2.2, List.length_append, encodeStream_length]
  omega

theorem streamAt_encode (e : StreamEnc) (h : StreamWf e) (rest : Bytes) :
    streamAt (encodeStream e ++ rest) = e := by
  obtain ⟨f1, f2, f3, f4, f5⟩ := encodeStream_fields e h rest
  unfold streamAt esInfoLength
  rw [f1, f2, f3, f4, f5]
  have : ((encodeStream e ++ rest).drop 5).take e.descBytes.length = e.descBytes := by
    simp [encodeStream]
  rw [this]

theorem drop_encode (e : StreamEnc) (h : StreamWf e) (rest : Bytes) :
    (encodeStream e ++ rest).drop (5 + esInfoLength (encodeStream e ++ rest)) = rest := by
  unfold esInfoLength
  rw [(encodeStream_fields e h rest).2.2.2.2, ← encodeStream_length]
  simp

theorem specStreams_encode (es : List StreamEnc) (h : ∀ e ∈ es, StreamWf e) :
    specStreams ((es.map encodeStream).flatten) = (es, []) := by
  induction es with
  | nil =>
    have : ¬ streamFits ([] : Bytes) := by unfold streamFits; simp
    simpa using specStreams_stop _ this
  | cons e es ih =>
    have he := h e (by simp)
    have ih' := ih (fun y hy => h y (by simp [hy]))
    simp only [List.map_cons, List.flatten_cons]
    rw [specStreams_fits _ (streamFits_encode e he _), drop_encode e he, streamAt_encode e he, ih']

/-! ### PMT stream loop: the parse tiles the buffer -/

theorem streamAt_wf (buf : Bytes) (h : streamFits buf) : StreamWf (streamAt buf) := by
  unfold StreamWf streamAt
  have := readBits_lt buf 0 8
  have := readBits_lt buf 8 3
  have := readBits_lt buf 11 13
  have := readBits_lt buf 24 4
  have := readBits_lt buf 28 12
  have := h.2
  simp only [List.length_take, List.length_drop, esInfoLength] at *
  omega

theorem encode_streamAt (buf : Bytes) (h : streamFits buf) :
    encodeStream (streamAt buf) = buf.take (5 + esInfoLength buf) := by
  obtain ⟨h5, hl⟩ := h
  rcases buf with _ | ⟨a0, _ | ⟨a1, _ | ⟨a2, _ | ⟨a3, _ | ⟨a4, rest⟩⟩⟩⟩⟩ <;>
    simp only [List.length_cons, List.length_nil] at h5 <;> try omega
  have hlen : ((a0 :: a1 :: a2 :: a3 :: a4 :: rest).drop 5).take
      (esInfoLength (a0 :: a1 :: a2 :: a3 :: a4 :: rest)) = rest.take (esInfoLength (a0 :: a1 :: a2 :: a3 :: a4 :: rest)) := by
    simp
  have hl2 : esInfoLength (a0 :: a1 :: a2 :: a3 :: a4 :: rest) ≤ rest.length := by
    simp only [List.length_cons] at hl; omega
  have w := stream_word_inv a0.toNat a1.toNat a2.toNat a3.toNat a4.toNat (UInt8.toNat_lt _)
    (UInt8.toNat_lt _) (UInt8.toNat_lt _) (UInt8.toNat_lt _) (UInt8.toNat_lt _)
  obtain ⟨w0, w1, w2, w3, w4⟩ := w
  have hes : esInfoLength (a0 :: a1 :: a2 :: a3 :: a4 :: rest) = a3.toNat % 16 * 256 + a4.toNat := by
    unfold esInfoLength; rw [st_esil]; simp only [byteD_cons_zero, byteD_cons_succ]
  unfold encodeStream streamAt
  rw [hlen, List.length_take, Nat.min_eq_left hl2, hes, st_type, st_rsv1, st_pid, st_rsv2]
  simp only [byteD_cons_zero, byteD_cons_succ]
  unfold beByte
  simp only [Nat.reduceSub, Nat.reduceMul, Nat.pow_zero, Nat.div_one]
  rw [w0, w1, w2, w3, w4]
  simp only [UInt8.ofNat_toNat, List.cons_append, List.nil_append]
  rw [show 5 + (a3.toNat % 16 * 256 + a4.toNat) = (a3.toNat % 16 * 256 + a4.toNat) + 1 + 1 + 1 + 1 + 1 by omega]
  simp only [List.take_succ_cons]


theorem specStreams_props : ∀ (n : Nat) (buf : Bytes), buf.length < n →
    ((specStreams buf).1.map encodeStream).flatten ++ (specStreams buf).2 = buf ∧
    ¬ streamFits (specStreams buf).2 ∧ (∀ e ∈ (specStreams buf).1, StreamWf e) := by
  intro n
  induction n with
  | zero => intro buf h; omega
  | succ n ih =>
    intro buf h
    by_cases hf : streamFits buf
    · have hl : (buf.drop (5 + esInfoLength buf)).length < n := by
        have := hf.1; simp; omega
      obtain ⟨i1, i2, i3⟩ := ih _ hl
      rw [specStreams_fits buf hf]
      refine ⟨?_, i2, ?_⟩
      · simp only [List.map_cons, List.flatten_cons, List.append_assoc]
        rw [i1, encode_streamAt buf hf, List.take_append_drop]
      · intro e he
        simp only [List.mem_cons] at he
        rcases he with rfl | he
        · exact streamAt_wf buf hf
        · exact i3 e he
    · rw [specStreams_stop buf hf]
      simp [hf]

/-! ### PMT body encoder -/

theorem pmt_word (rA pcr rB len : Nat) (h1 : pcr ≤ 8191) (h2 : len < 4096) :
    let w := cat (cat (cat (cat 0 3 rA) 13 pcr) 4 rB) 12 len
    w / 2 ^ 24 % 256 % 32 * 256 + w / 2 ^ 16 % 256 = pcr ∧
    w / 2 ^ 8 % 256 % 16 * 256 + w % 256 = len := by
  intro w
  have e : w = (((0 * 256 + (rA % 8 * 32 + pcr / 256)) * 256 + pcr % 256) * 256
      + (rB % 16 * 16 + len / 256)) * 256 + len % 256 := by
    simp only [w, cat, Nat.reducePow]; omega
  obtain ⟨b1, -, f1⟩ := byte_3_5 (rA % 8) pcr (Nat.mod_lt _ (by decide)) h1
  obtain ⟨b3, -, f2⟩ := byte_4_4 (rB % 16) len (Nat.mod_lt _ (by decide)) h2
  obtain ⟨-, d1, d2, d3, d4⟩ := digits5 0 _ _ _ _ b1 (Nat.mod_lt pcr (by decide)) b3
    (Nat.mod_lt len (by decide))
  rw [e, d1, d2, d3, d4]
  exact ⟨f1, f2⟩
theorem encodePmt_fields (rA pcr rB : Nat) (pd : Bytes) (ss : List StreamEnc) (h1 : pcr ≤ 0x1fff)
    (h2 : pd.length < 4096) :
    specPcrPid (encodePmt rA pcr rB pd ss) = pcr ∧ pmtPil (encodePmt rA pcr rB pd ss) = pd.length := by
  have w := pmt_word rA pcr rB pd.length h1 h2
  unfold specPcrPid pmtPil
  rw [pmt_pcr, pmt_pil]
  unfold encodePmt
  simp only [List.cons_append, byteD_cons_zero, byteD_cons_succ, beByte_toNat] at w ⊢
  simp only [Nat.reduceSub, Nat.reduceMul, Nat.pow_zero, Nat.div_one] at w ⊢
  exact w

theorem encodePmt_length (rA pcr rB : Nat) (pd : Bytes) (ss : List StreamEnc) :
    (encodePmt rA pcr rB pd ss).length = 4 + pd.length + ((ss.map encodeStream).flatten).length := by
  simp [encodePmt]; omega

theorem encodePmt_accept (rA pcr rB : Nat) (pd : Bytes) (ss : List StreamEnc) (h1 : pcr ≤ 0x1fff)
    (h2 : pd.length < 4096) : specPmtAccept (encodePmt rA pcr rB pd ss) := by
  unfold specPmtAccept
  rw [(encodePmt_fields rA pcr rB pd ss h1 h2).2, encodePmt_length]
  omega

theorem encodePmt_desc (rA pcr rB : Nat) (pd : Bytes) (ss : List StreamEnc) (h1 : pcr ≤ 0x1fff)
    (h2 : pd.length < 4096) : specProgramDescBytes (encodePmt rA pcr rB pd ss) = pd := by
  unfold specProgramDescBytes
  rw [(encodePmt_fields rA pcr rB pd ss h1 h2).2]
  simp [encodePmt]

theorem encodePmt_streams (rA pcr rB : Nat) (pd : Bytes) (ss : List StreamEnc) (h1 : pcr ≤ 0x1fff)
    (h2 : pd.length < 4096) :
    specStreamBytes (encodePmt rA pcr rB pd ss) = (ss.map encodeStream).flatten := by
  unfold specStreamBytes
  rw [(encodePmt_fields rA pcr rB pd ss h1 h2).2]
  unfold encodePmt
  rw [show 4 + pd.length = pd.length + 1 + 1 + 1 + 1 by omega]
  simp

/-! ### position of the groups -/

theorem chunks4_get : ∀ (i : Nat) (buf : Bytes), i < buf.length / 4 →
    (chunks4 buf)[i]? = some ((buf.drop (4 * i)).take 4) := by
  intro i
  induction i with
  | zero =>
    intro buf h
    rcases buf with _ | ⟨a, _ | ⟨b, _ | ⟨c, _ | ⟨d, rest⟩⟩⟩⟩ <;> simp at h
    simp [chunks4_cons]
  | succ i ih =>
    intro buf h
    rcases buf with _ | ⟨a, _ | ⟨b, _ | ⟨c, _ | ⟨d, rest⟩⟩⟩⟩ <;>
      simp only [List.length_cons, List.length_nil] at h <;> try omega
    have hi : i < rest.length / 4 := by omega
    rw [chunks4_cons, List.getElem?_cons_succ, ih rest hi]
    rw [show 4 * (i + 1) = 4 * i + 1 + 1 + 1 + 1 by omega]
    simp only [List.drop_succ_cons]


end Ts.Lemmas.C16
