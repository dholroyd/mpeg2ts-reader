import Ts.Lemmas.Demux
import Ts.Lemmas.DemuxB
import Ts.Props.C06
import Ts.Model.App
/-!
# C07 — cutting the stream at packet boundaries into successive `push` calls is irrelevant

For every handler semantics `sem`, every list of buffers whose lengths (except possibly the last)
are multiples of 188 — including empty and single-packet buffers — `pushAll` (one `push` per
buffer) equals one `push` of the concatenation: same final filter table and context (the context
carries every application callback), and a panic in one run iff the same panic in the other.
-/
namespace Ts.Props.C07
open Ts Ts.Demux

variable {H C : Type}

/-- framing never panics: every chunk of `chunks_exact(188)` has 188 bytes, so `try_new`'s length
assertion holds and the header accessors are in bounds (C12) -/
theorem frame_total (buf : Bytes) (base : Nat) : ∃ pks, frame buf base = .ok pks :=
  ⟨_, frame_eq_pure buf base⟩

theorem frame_isOk (buf : Bytes) (base : Nat) : (frame buf base).isOk = true := by
  rw [frame_eq_pure]; rfl

theorem chunks_len (buf : Bytes) : ∀ ch ∈ chunksExact 188 (buf.length / 188 + 1) buf, ch.length = 188 :=
  chunks_all_188 buf

/-- `base` = bytes pushed before -/
theorem frame_append (a b : Bytes) (base : Nat) (ha : a.length % 188 = 0) :
    frame (a ++ b) base =
      (do let x ← frame a base; let y ← frame b (base + a.length); pure (x ++ y)) := by
  rw [frame_eq_pure, frame_eq_pure, frame_eq_pure, frame_append_pure a b base ha]
  rfl

/-- stopping the double loop after `a` and restarting it on `b` (losing the cached `this_proc`,
re-running `contains`) changes nothing -/
theorem pushModel_append (sem : Sem H C) (tc : Tab H × C) (a b : List Pk) :
    pushModel sem tc (a ++ b) = (pushModel sem tc a >>= fun tc' => pushModel sem tc' b) := by
  rw [pushModel_eq_pushSpec, pushSpec_append_aux, pushModel_eq_pushSpec]
  exact bind_congr fun tc' => (pushModel_eq_pushSpec sem tc' b).symm

theorem push_append (sem : Sem H C) (tc : Tab H × C) (a b : Bytes) (base : Nat)
    (ha : a.length % 188 = 0) :
    push sem tc (a ++ b) base = (push sem tc a base >>= fun tc' => push sem tc' b (base + a.length)) := by
  unfold push
  rw [frame_append a b base ha, frame_eq_pure a, frame_eq_pure b]
  simp only [R.ok_bind, R.pure_eq]
  rw [pushModel_append]

theorem push_nil (sem : Sem H C) (tc : Tab H × C) (base : Nat) : push sem tc [] base = .ok tc := rfl

theorem pushAll_single (sem : Sem H C) (tc : Tab H × C) (b : Bytes) (base : Nat) :
    pushAll sem tc [b] base = push sem tc b base := by
  rw [pushAll_cons]
  exact bind_pure _

/-- only the LAST buffer may have a length that is not a multiple of 188 (its remainder is dropped
by `chunks_exact` in both runs) -/
theorem chunking_irrelevant_dropLast (sem : Sem H C) :
    ∀ (chunks : List Bytes) (tc : Tab H × C) (base : Nat),
      (∀ c ∈ chunks.dropLast, c.length % 188 = 0) →
      pushAll sem tc chunks base = push sem tc chunks.flatten base := by
  intro chunks
  induction chunks with
  | nil => intro tc base _; rfl
  | cons b bs ih =>
    intro tc base h
    rw [pushAll_cons, List.flatten_cons]
    cases bs with
    | nil =>
      rw [List.flatten_nil, List.append_nil]
      exact bind_pure _
    | cons b2 bs' =>
      have hb : b.length % 188 = 0 := h b (by simp [List.dropLast])
      have hrest : ∀ c ∈ (b2 :: bs').dropLast, c.length % 188 = 0 := by
        intro c hc
        apply h c
        rw [List.dropLast_cons_cons]
        exact List.mem_cons_of_mem _ hc
      rw [push_append sem tc b _ base hb]
      exact bind_congr fun tc' => ih tc' (base + b.length) hrest

/-- any cutting at transport-packet boundaries (incl. empty and single-packet buffers) gives
the same result as one call. -/
theorem chunking_irrelevant (sem : Sem H C) (tc : Tab H × C) (chunks : List Bytes) (base : Nat)
    (h : ∀ c ∈ chunks, c.length % 188 = 0) :
    pushAll sem tc chunks base = push sem tc chunks.flatten base :=
  chunking_irrelevant_dropLast sem chunks tc base
    (fun c hc => h c (List.dropLast_subset chunks hc))

theorem chunking_irrelevant_unaligned_last (sem : Sem H C) (tc : Tab H × C)
    (init : List Bytes) (last : Bytes) (base : Nat)
    (h : ∀ c ∈ init, c.length % 188 = 0) :
    pushAll sem tc (init ++ [last]) base = push sem tc (init.flatten ++ last) base := by
  have := chunking_irrelevant_dropLast sem (init ++ [last]) tc base
    (by rw [List.dropLast_concat]; exact h)
  rw [this]
  simp

theorem any_two_cuttings_agree (sem : Sem H C) (tc : Tab H × C) (cs1 cs2 : List Bytes) (base : Nat)
    (h1 : ∀ c ∈ cs1, c.length % 188 = 0) (h2 : ∀ c ∈ cs2, c.length % 188 = 0)
    (he : cs1.flatten = cs2.flatten) :
    pushAll sem tc cs1 base = pushAll sem tc cs2 base := by
  rw [chunking_irrelevant sem tc cs1 base h1, chunking_irrelevant sem tc cs2 base h2, he]

/-! ### non-vacuity -/

private def pkt5 : Bytes := [0x47, 0x00, 0x05, 0x10] ++ List.replicate 184 0
/-- PID 1, whose `exSem` handler queues changes -/
private def pkt1 : Bytes := [0x47, 0x00, 0x01, 0x10] ++ List.replicate 184 0

private theorem pkt5_len : pkt5.length = 188 := by
  unfold pkt5; rw [List.length_append, List.length_replicate]; rfl
private theorem pkt1_len : pkt1.length = 188 := by
  unfold pkt1; rw [List.length_append, List.length_replicate]; rfl

example : (frame (pkt5 ++ pkt1) 0).isOk = true := frame_isOk _ _

/-- the hypothesis of `chunking_irrelevant` is satisfiable with empty, single-packet and
multi-packet buffers -/
private theorem ex_aligned : ∀ c ∈ [[], pkt5, [], pkt1 ++ pkt5, pkt1], c.length % 188 = 0 := by
  intro c hc
  simp only [List.mem_cons, List.not_mem_nil, or_false] at hc
  rcases hc with e | e | e | e | e <;> subst e <;>
    simp only [List.length_append, pkt5_len, pkt1_len, List.length_nil]

example : pushAll exSem ([], []) [[], pkt5, [], pkt1 ++ pkt5, pkt1] 0
    = push exSem ([], []) (pkt5 ++ pkt1 ++ pkt5 ++ pkt1) 0 := by
  have := chunking_irrelevant exSem ([], []) [[], pkt5, [], pkt1 ++ pkt5, pkt1] 0 ex_aligned
  rw [this]
  simp only [List.flatten_cons, List.flatten_nil, List.nil_append, List.append_nil, List.append_assoc]

/-! ### the concrete application (library PAT / PMT / PES filters + harness application) -/

/-- **C07 for the real filters**: for every configuration and every cutting of a stream at packet
boundaries, the whole run — final handler table AND application context, hence the complete ordered
callback trace (`Ctx.trace`) — equals that of pushing the stream in one call -/
theorem app_chunking_irrelevant (cfg : Ts.App.Cfg) (chunks : List Bytes)
    (h : ∀ c ∈ chunks, c.length % 188 = 0) :
    Ts.App.runApp cfg chunks = Ts.App.runApp cfg [chunks.flatten] := by
  unfold Ts.App.runApp
  rw [chunking_irrelevant Ts.App.sem _ chunks 0 h, pushAll_single]

theorem app_trace_chunking_irrelevant (cfg : Ts.App.Cfg) (chunks : List Bytes)
    (h : ∀ c ∈ chunks, c.length % 188 = 0) (t : Tab Ts.App.Handler) (c : Ts.App.Ctx)
    (hr : Ts.App.runApp cfg [chunks.flatten] = .ok (t, c)) :
    ∃ t' c', Ts.App.runApp cfg chunks = .ok (t', c') ∧ c'.trace = c.trace :=
  ⟨t, c, by rw [app_chunking_irrelevant cfg chunks h, hr], rfl⟩

/-! ## The framing, characterised exactly (byte level)

Which packets `push(buf)` iterates over, in terms of the bytes of `buf`: `chunkAt buf k` is
`buf[188k .. 188k+188)`, `pktAt buf base k` the packet made of that chunk if its first byte is `0x47`
(`Ts/Lemmas/C06b.lean`; read back by `chunkAt_spec`, `pktAt_spec`). -/

open Ts.Spec in
/-- **FRAMING.**  `frame buf base` never panics and yields exactly, in buffer order, the packet
`pktAt buf base k` of every whole 188-byte chunk whose first byte is the sync byte `0x47` — each such
chunk once, no other packet.  The trailing `buf.length % 188` bytes are not looked at. -/
theorem frame_spec (buf : Bytes) (base : Nat) :
    frame buf base = .ok ((List.range (buf.length / 188)).filterMap (pktAt buf base)) := by
  rw [frame_eq_pure, framePure_chunks_eq]

theorem chunkAt_spec (buf : Bytes) (k : Nat) (hk : k < buf.length / 188) :
    chunkAt buf k = (buf.drop (188 * k)).take 188 ∧ (chunkAt buf k).length = 188 ∧
    ∀ i, i < 188 → byteD (chunkAt buf k) i = byteD buf (188 * k + i) := by
  refine ⟨rfl, chunkAt_length buf k hk, fun i hi => ?_⟩
  unfold chunkAt
  rw [byteD_take _ _ _ hi, byteD_drop]

open Ts.Spec in
/-- the header fields are read bit by bit as in ISO/IEC 13818-1 2.4.3.2:
`transport_error_indicator` = bit 8, `PID` = the 13 bits from bit 11, `transport_scrambling_control`
= the 2 bits from bit 24 (scrambled iff non-zero) -/
theorem pktAt_spec (buf : Bytes) (base k : Nat) :
    (byteD (chunkAt buf k) 0 ≠ 0x47 → pktAt buf base k = none) ∧
    (byteD (chunkAt buf k) 0 = 0x47 →
      ∃ pk, pktAt buf base k = some pk ∧ pk.bytes = chunkAt buf k ∧ pk.off = base + 188 * k ∧
        pk.pid = readBits pk.bytes 11 13 ∧ pk.tei = (readBits pk.bytes 8 1 == 1) ∧
        pk.scrambled = (readBits pk.bytes 24 2 != 0)) := by
  unfold pktAt
  constructor
  · intro h; simp only [h, if_false]
  · intro h; simp only [h, if_true]; exact ⟨_, rfl, rfl, rfl, rfl, rfl, rfl⟩

open Ts.Spec in
/-- the same three fields in byte arithmetic: `PID = (b1 mod 32)·256 + b2`, TEI = top bit of `b1`,
scrambling control = top two bits of `b3` -/
theorem header_fields_arith (p : Bytes) :
    readBits p 11 13 = (byteD p 1 % 32) * 256 + byteD p 2 ∧
    readBits p 8 1 = byteD p 1 / 128 ∧
    readBits p 24 2 = byteD p 3 / 64 := by
  refine ⟨?_, ?_, ?_⟩
  · -- bits 11..15 are the low five bits of byte 1, bits 16..23 are byte 2
    have e : readBits p 11 13 = readBits p (8 * 1 + 3) 5 * 2^8 + readBits p (8 * 2) 8 :=
      readBits_add p 11 5 8
    rw [e, readBits_sub p 1 3 5 (by decide), readBits_byte p 2]
    show byteD p 1 / 1 % 32 * 256 + byteD p 2 = _
    rw [Nat.div_one]
  -- the top `n` bits of a byte: `b / 2^(8-n)`, which is already below `2^n` as `b < 256`
  · exact (readBits_sub p 1 0 1 (by decide)).trans
      (Nat.mod_eq_of_lt (Nat.div_lt_of_lt_mul (byteD_lt p 1)))
  · exact (readBits_sub p 3 0 2 (by decide)).trans
      (Nat.mod_eq_of_lt (Nat.div_lt_of_lt_mul (byteD_lt p 3)))

/-- COMPLETENESS: every whole chunk with a valid sync byte IS passed, as the packet `pktAt` -/
theorem frame_complete (buf : Bytes) (base k : Nat) (hk : k < buf.length / 188)
    (hs : byteD buf (188 * k) = 0x47) :
    ∃ pks pk, frame buf base = .ok pks ∧ pk ∈ pks ∧ pktAt buf base k = some pk ∧
      pk.bytes = chunkAt buf k ∧ pk.off = base + 188 * k := by
  have h0 : byteD (chunkAt buf k) 0 = 0x47 := by
    rw [(chunkAt_spec buf k hk).2.2 0 (by omega)]; exact hs
  obtain ⟨pk, h1, h2, h3, _⟩ := (pktAt_spec buf base k).2 h0
  refine ⟨_, pk, frame_spec buf base, ?_, h1, h2, h3⟩
  rw [List.mem_filterMap]
  exact ⟨k, List.mem_range.2 hk, h1⟩

/-- SOUNDNESS: every packet passed is `pktAt` of a whole chunk, which starts with the sync byte -/
theorem frame_sound (buf : Bytes) (base : Nat) (pks : List Pk) (h : frame buf base = .ok pks) :
    ∀ pk ∈ pks, ∃ k, k < buf.length / 188 ∧ pktAt buf base k = some pk ∧
      byteD buf (188 * k) = 0x47 ∧ pk.bytes = chunkAt buf k ∧ pk.off = base + 188 * k := by
  rw [frame_spec] at h
  cases h
  intro pk hpk
  obtain ⟨k, hk, hp⟩ := List.mem_filterMap.1 hpk
  have hk' := List.mem_range.1 hk
  obtain ⟨hs, rfl⟩ := pktAt_eq_some hp
  exact ⟨k, hk', hp, ((chunkAt_spec buf k hk').2.2 0 (by omega)).symm.trans hs, rfl, rfl⟩

open Ts.Spec in
theorem frame_mem (buf : Bytes) (base : Nat) (pks : List Pk) (h : frame buf base = .ok pks) :
    ∀ pk ∈ pks, ∃ k, k < buf.length / 188 ∧ pk.off = base + 188 * k ∧
      pk.bytes = (buf.drop (188 * k)).take 188 ∧ pk.bytes.length = 188 ∧
      byteD pk.bytes 0 = 0x47 ∧ pk.pid = readBits pk.bytes 11 13 ∧ pk.pid ≤ 0x1fff := by
  intro pk hpk
  obtain ⟨k, hk, hp, _, hb, ho⟩ := frame_sound buf base pks h pk hpk
  obtain ⟨hs, e⟩ := pktAt_eq_some hp
  have hpid : pk.pid = readBits pk.bytes 11 13 := by rw [e]
  refine ⟨k, hk, ho, hb, ?_, ?_, hpid, ?_⟩
  · rw [hb]; exact chunkAt_length buf k hk
  · rw [hb]; exact hs
  · rw [hpid]; exact Props.C12.pid_le_max _

theorem frame_packets_wellformed (buf : Bytes) (base : Nat) (pks : List Pk) (h : frame buf base = .ok pks) :
    ∀ pk ∈ pks, pk.bytes.length = 188 ∧ byteD pk.bytes 0 = 0x47 := by
  intro pk hpk
  obtain ⟨_, _, _, _, hl, hs, _⟩ := frame_mem buf base pks h pk hpk
  exact ⟨hl, hs⟩

/-- IN ORDER, each chunk at most once: the stream offsets of the framed packets strictly increase -/
theorem frame_offsets_increasing (buf : Bytes) (base : Nat) (pks : List Pk)
    (h : frame buf base = .ok pks) : (pks.map (·.off)).Pairwise (· < ·) := by
  rw [frame_spec] at h
  cases h
  rw [List.pairwise_map, List.pairwise_filterMap]
  refine List.Pairwise.imp ?_ (List.pairwise_lt_range (n := buf.length / 188))
  intro a b hab pa ha pb hb
  obtain ⟨_, rfl⟩ := pktAt_eq_some ha
  obtain ⟨_, rfl⟩ := pktAt_eq_some hb
  show base + 188 * a < base + 188 * b
  omega

theorem frame_ignores_tail (buf : Bytes) (base : Nat) :
    frame buf base = frame (buf.take (188 * (buf.length / 188))) base := by
  rw [frame_spec, frame_spec]
  have hl : (buf.take (188 * (buf.length / 188))).length / 188 = buf.length / 188 := by
    rw [List.length_take, Nat.min_eq_left (Nat.mul_div_le _ _), Nat.mul_div_cancel_left _ (by omega)]
  rw [hl]
  congr 1
  apply filterMap_congr
  intro k hk
  have hk' := List.mem_range.1 hk
  unfold pktAt
  rw [chunkAt_take buf k hk']

theorem frame_tail_irrelevant (buf tail tail' : Bytes) (base : Nat) (hb : buf.length % 188 = 0)
    (h1 : tail.length < 188) (h2 : tail'.length < 188) :
    frame (buf ++ tail) base = frame (buf ++ tail') base := by
  rw [frame_append buf tail base hb, frame_append buf tail' base hb]
  have e1 : frame tail (base + buf.length) = .ok [] := by
    rw [frame_eq_pure, chunks_short tail h1]; rfl
  have e2 : frame tail' (base + buf.length) = .ok [] := by
    rw [frame_eq_pure, chunks_short tail' h2]; rfl
  rw [e1, e2]

/-- **C06 + C07 on raw bytes**: if one `push` of `buf` under the logging wrapper succeeds, the
packets handed to `consume` during that `push` — all handlers together, in call order — are exactly
the non-flagged ones among the chunks of `buf` that start with the sync byte, in buffer order, each
once and unmodified; and the `push` without logging gives the same table and context. -/
theorem push_delivers_framed (sem : Sem H C) (t : Tab H) (c : C) (buf : Bytes) (base : Nat)
    (t' : Tab H) (c' : C) (log : List (H × Pk))
    (h : push (logSem sem) (t, (c, [])) buf base = .ok (t', (c', log))) :
    log.map (·.2) =
      ((List.range (buf.length / 188)).filterMap (pktAt buf base)).filter (fun pk => !pk.flagged) ∧
    push sem (t, c) buf base = .ok (t', c') := by
  rw [push_of_frame _ _ (frame_spec buf base)] at h ⊢
  exact C06.delivered_exactly_once_in_order sem t c _ t' c' log h

/-! ### non-vacuity (framing) -/

private def pktBad : Bytes := List.replicate 188 0
private def pkt1f : Bytes := [0x47, 0x80, 0x01, 0x50] ++ List.replicate 184 0

private theorem frame_ex : frame (pkt5 ++ pktBad ++ pkt1f ++ [0x47, 1, 2]) 1000 =
    .ok [⟨pkt5, 1000, 5, false, false⟩, ⟨pkt1f, 1376, 1, true, true⟩] := by
  rw [frame_spec]; exact congrArg R.ok (by decide +kernel)

/-- a buffer of two valid packets (PID 5; PID 1 with TEI set and scrambling `01`), one chunk without
sync byte between them, and 3 trailing bytes: exactly the two valid chunks are framed, at offsets
`base` and `base + 376`, with the fields of bytes 1-3 -/
example : frame (pkt5 ++ pktBad ++ pkt1f ++ [0x47, 1, 2]) 1000 =
    .ok [⟨pkt5, 1000, 5, false, false⟩, ⟨pkt1f, 1376, 1, true, true⟩] := frame_ex

/-- `frame_complete` applies to chunk 2 of that buffer -/
example : ∃ pks pk, frame (pkt5 ++ pktBad ++ pkt1f ++ [0x47, 1, 2]) 1000 = .ok pks ∧ pk ∈ pks ∧
    pk.off = 1376 := by
  obtain ⟨pks, pk, h1, h2, _, _, h5⟩ :=
    frame_complete (pkt5 ++ pktBad ++ pkt1f ++ [0x47, 1, 2]) 1000 2 (by decide +kernel) (by decide +kernel)
  exact ⟨pks, pk, h1, h2, h5⟩

/-- `push_delivers_framed` on that buffer with `exSem`: the scrambled/TEI packet reaches no handler -/
example : push (logSem exSem) ([], ([], [])) (pkt5 ++ pktBad ++ pkt1f ++ [0x47, 1, 2]) 1000 =
    .ok ([none, some 0, none, none, none, some 1],
      ([9005, 500, 9001], [(0, ⟨pkt5, 1000, 5, false, false⟩)])) := by
  rw [push_of_frame _ _ frame_ex]; rfl

end Ts.Props.C07
