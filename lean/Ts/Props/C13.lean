import Ts.Model.Af
import Ts.Spec.Bits
import Ts.Spec.AfSpec
import Ts.Lemmas.C13
import Ts.Lemmas.RevC
import Ts.Gen.Consts
/-!
# C13 — adaptation-field and extension accessors are bit-exact and never read outside the field

For every non-empty adaptation-field byte string `buf` (what `AdaptationField::new` asserts) each
accessor of the model (`packet.rs:158-389`: offsets *computed from the flags*) equals the field the
sequential cursor parser `specAf` / `specExt` (`Ts/Spec/AfSpec.lean`: ISO/IEC 13818-1 2.4.3.4 /
2.4.3.5 read top to bottom) finds:

* flag clear           ⇒ `FieldNotPresent`      (`Field.absent`)
* does not fit inside  ⇒ `NotEnoughData`        (`Field.truncated`)
* otherwise            ⇒ the `uimsbf` value of the bytes at the cursor (`Field.present`)

All results are `R.ok`: no accessor panics.  A reported value is always decoded from
`readN buf cur n` with `cur + n ≤ buf.length`; `never_outside_model_at` /
`never_outside_ext_model_at` name `cur` in closed form (`posOpcr` … `posSeamless` of `AfSpec`).

Readings — places where the specification follows the code rather than the letter of the standard:
* **`splice_countdown` is unsigned.**  The standard declares it `8 tcimsbf` (two's complement); the
  crate returns the raw `u8`.  `splice_countdown_is_raw_byte` says the API value is the byte read
  as `0..=255`; `splice_countdown_signed_reading` gives the conversion `spliceSigned` to the
  standard's value (byte `0xFF` ↦ API 255, standard −1).
* **An extension of length 0 is `NotEnoughData`** (`nonEmpty` in the spec): this follows
  `AdaptationFieldExtension::new`; the standard makes the extension's flags byte mandatory, so a
  zero length is malformed, but the choice of *which* error is the crate's.
* **Marker bits** of the seamless-splice DTS_next_AU are checked (first cleared one reported);
  the 6 reserved bits of PCR/OPCR, the reserved bits of the extension and of piecewise_rate are
  ignored, as the standard requires of decoders.
* Every theorem assumes `buf ≠ []` (what `AdaptationField::new` asserts); for adaptation fields
  taken from a packet this is `Ts.Props.C12.af_nonempty`.
* Not tied to regenerated constants (no constant exists in `Ts/Gen/Consts.lean`): the element sizes
  1 (splice_countdown), 2 (ltw), 3 (piecewise_rate), 5 (seamless splice) and the flag masks.
-/
namespace Ts.Props.C13
open Ts Ts.Spec Ts.Spec.AfSpec Ts.Time Ts.Af Ts.Lemmas.C13 Ts.Lemmas.RevC

/-! ### tie to the constant regenerated from `/repo/src/packet.rs` -/
theorem tie_pcr_size : Ts.Gen.pcrSize = Af.PCR_SIZE ∧ Ts.Gen.pcrSize = 6 := by decide

/-! ### `AdaptationField::new` -/

theorem af_new_iff (buf : Bytes) : (Af.new buf).isOk = true ↔ buf ≠ [] := by
  unfold Af.new assertR
  cases buf <;> simp [R.isOk, bind]

theorem af_new_ok (buf : Bytes) (hne : buf ≠ []) : Af.new buf = .ok buf := by
  cases buf with
  | nil => exact absurd rfl hne
  | cons a t => rfl

/-! ### indicators (2.4.3.4, bits 0..2 of the first byte) -/

theorem indicators_exact (buf : Bytes) (hne : buf ≠ []) :
    Af.discontinuity buf = .ok (readBits buf 0 1 == 1)
      ∧ Af.randomAccess buf = .ok (readBits buf 1 1 == 1)
      ∧ Af.esPriority buf = .ok (readBits buf 2 1) := by
  unfold Af.discontinuity Af.randomAccess Af.esPriority
  rw [flags_ok buf hne, disc_flag, rai_flag, espi_val]
  exact ⟨rfl, rfl, rfl⟩

theorem indicators_spec (buf : Bytes) (hne : buf ≠ []) :
    Af.discontinuity buf = .ok (specAf buf).discontinuity
      ∧ Af.randomAccess buf = .ok (specAf buf).randomAccess
      ∧ Af.esPriority buf = .ok (specAf buf).esPriority :=
  indicators_exact buf hne

/-! ### optional elements of the adaptation field -/

theorem pcr_exact (buf : Bytes) (hne : buf ≠ []) : Af.pcr buf = .ok (toRes (specAf buf).pcr) := by
  unfold Af.pcr
  rw [flags_ok buf hne, spec_pcr, pcr_flag]
  exact elem_map buf _ 1 6 _ clockOf clock_decode (fun _ => rfl)

theorem opcr_exact (buf : Bytes) (hne : buf ≠ []) : Af.opcr buf = .ok (toRes (specAf buf).opcr) := by
  unfold Af.opcr
  rw [flags_ok buf hne, spec_opcr, opcr_flag, cur1_eq]
  exact elem_map buf _ _ 6 _ clockOf clock_decode (fun _ => rfl)

theorem splice_exact (buf : Bytes) (hne : buf ≠ []) :
    Af.spliceCountdown buf = .ok (toRes (specAf buf).splice) := by
  unfold Af.spliceCountdown
  rw [flags_ok buf hne, spec_splice, splice_flag, cur2_eq]
  exact elem_map buf _ _ 1 _ (fun b => readBits b 0 8) byte_decode (fun _ => rfl)

theorem private_exact (buf : Bytes) (hne : buf ≠ []) :
    Af.privateData buf = .ok (toRes (specAf buf).priv) := by
  unfold Af.privateData
  rw [flags_ok buf hne, spec_priv, priv_flag, cur3_eq]
  exact priv_field buf _ _

theorem extension_exact (buf : Bytes) (hne : buf ≠ []) :
    Af.extension buf = .ok (toRes (specAf buf).ext) := by
  unfold Af.extension
  rw [flags_ok buf hne, spec_ext, ext_flag]
  unfold cur4
  rw [priv_flag, cur3_eq]
  simp only [R.ok_bind]
  generalize byteD buf 0 = f
  cases h5 : extFlag f
  · rfl
  · rw [if_pos rfl, optLenPrefixed_true]
    exact ext_from buf (privFlag f) (privOffset f)

/-! ### adaptation field extension (2.4.3.5) -/

theorem ltw_exact (e : Bytes) (hne : e ≠ []) : Af.ltwOffset e = .ok (toRes (specExt e).ltw) := by
  unfold Af.ltwOffset
  rw [flags_ok e hne, spec_ltw, ltw_flag]
  exact elem_map e _ 1 2 _ ltwOf ltw_decode (fun _ => rfl)

theorem piecewise_exact (e : Bytes) (hne : e ≠ []) :
    Af.piecewiseRate e = .ok (toRes (specExt e).piecewise) := by
  unfold Af.piecewiseRate
  rw [flags_ok e hne, spec_piecewise, piecewise_flag, ecur1_eq]
  exact elem_map e _ _ 3 _ piecewiseOf pw_decode (fun _ => rfl)

theorem seamless_exact (e : Bytes) (hne : e ≠ []) :
    Af.seamlessSplice e = .ok (toResSplice (specExt e).seamless) := by
  unfold Af.seamlessSplice
  rw [flags_ok e hne, spec_seamless, seamless_flag, ecur2_eq]
  exact elem_field e _ _ 5 _ (fun f => toResSplice (f.map seamlessOf)) rfl rfl ss_decode (fun _ => rfl)

/-- whatever `adaptation_field_extension()` hands out is non-empty, so the three extension theorems
apply to it -/
theorem extension_nonempty (buf : Bytes) (hne : buf ≠ []) (e : Bytes)
    (h : Af.extension buf = .ok (.ok e)) : e ≠ [] := by
  rw [extension_exact buf hne] at h
  injection h with h
  have := toRes_ok _ _ h
  rw [spec_ext] at this
  exact (nonEmpty_present _ _ this).2

/-! ### no panics -/

theorem no_panic (buf : Bytes) (hne : buf ≠ []) :
    (Af.discontinuity buf).isOk ∧ (Af.randomAccess buf).isOk ∧ (Af.esPriority buf).isOk
      ∧ (Af.pcr buf).isOk ∧ (Af.opcr buf).isOk ∧ (Af.spliceCountdown buf).isOk
      ∧ (Af.privateData buf).isOk ∧ (Af.extension buf).isOk
      ∧ (Af.ltwOffset buf).isOk ∧ (Af.piecewiseRate buf).isOk ∧ (Af.seamlessSplice buf).isOk := by
  obtain ⟨h1, h2, h3⟩ := indicators_exact buf hne
  rw [h1, h2, h3, pcr_exact buf hne, opcr_exact buf hne, splice_exact buf hne, private_exact buf hne,
    extension_exact buf hne, ltw_exact buf hne, piecewise_exact buf hne, seamless_exact buf hne]
  simp [R.isOk]

/-! ### clear flag ⇒ not present; overrun ⇒ not enough data (the spec's reading, made explicit) -/

theorem optElem_cases (flag : Bool) (buf : Bytes) (cur n : Nat) :
    (flag = false → (optElem flag buf cur n).1 = .absent)
      ∧ (flag = true → ¬ cur + n ≤ buf.length → (optElem flag buf cur n).1 = .truncated)
      ∧ (flag = true → cur + n ≤ buf.length →
          (optElem flag buf cur n).1 = .present ((buf.drop cur).take n)) := by
  refine ⟨?_, ?_, ?_⟩
  · intro h; subst h; rfl
  · intro h hl; subst h; unfold optElem; rw [if_pos rfl, readN_short _ _ _ hl]; rfl
  · intro h hl; subst h; unfold optElem; rw [if_pos rfl, readN_ok _ _ _ hl]; rfl

theorem pcr_flag_clear (buf : Bytes) (hne : buf ≠ []) (h : readBits buf 3 1 = 0) :
    Af.pcr buf = .ok (.error .fieldNotPresent) := by
  rw [pcr_exact buf hne, spec_pcr, h]; rfl

theorem pcr_overrun (buf : Bytes) (hne : buf ≠ []) (h : readBits buf 3 1 = 1) (hl : buf.length < 7) :
    Af.pcr buf = .ok (.error .notEnoughData) := by
  rw [pcr_exact buf hne, spec_pcr, h]
  have := (optElem_cases true buf 1 6).2.1 rfl (by omega)
  simp only [beq_self_eq_true, this]; rfl

theorem pcr_value (buf : Bytes) (hne : buf ≠ []) (h : readBits buf 3 1 = 1) (hl : 7 ≤ buf.length) :
    Af.pcr buf = .ok (.ok ⟨readBits ((buf.drop 1).take 6) 0 33, readBits ((buf.drop 1).take 6) 39 9⟩) := by
  rw [pcr_exact buf hne, spec_pcr, h]
  have := (optElem_cases true buf 1 6).2.2 rfl (by omega)
  simp only [beq_self_eq_true, this]; rfl

/-! ### never assembled from bytes outside the field

The accessors receive only `buf`, so trivially no byte outside it can influence a result.  The
content of the clause is that a *reported value* is decoded from a window `readN buf cur n` that
lies inside `buf` (`readN_inside`: `cur + n ≤ buf.length`, and byte `i` of the window is byte
`cur + i` of `buf`): the specification reads its elements through `readN`, and the
exactness theorems carry that to the model. -/

theorem readN_window (buf : Bytes) (cur n : Nat) (d : Bytes) (h : readN buf cur n = some d) :
    cur + n ≤ buf.length ∧ d = (buf.drop cur).take n ∧ d.length = n ∧
      ∀ i, i < n → byteD d i = byteD buf (cur + i) :=
  readN_inside buf cur n d h

/-- Each value comes from the window at its element's position: the flag is set, the window starts
at the closed-form position of the element (`posOpcr`, `posSplice`, `posPriv`, `posExt`, written
from the flag bits and — for `posExt` — the private-data length byte), it lies inside `buf`, and
the value is the decode of exactly those bytes. -/
theorem never_outside_model_at (buf : Bytes) (hne : buf ≠ []) :
    (∀ v, Af.pcr buf = .ok (.ok v) →
        readBits buf 3 1 = 1 ∧ 1 + 6 ≤ buf.length ∧ v = clockOf ((buf.drop 1).take 6))
      ∧ (∀ v, Af.opcr buf = .ok (.ok v) →
        readBits buf 4 1 = 1 ∧ posOpcr buf + 6 ≤ buf.length
          ∧ v = clockOf ((buf.drop (posOpcr buf)).take 6))
      ∧ (∀ v, Af.spliceCountdown buf = .ok (.ok v) →
        readBits buf 5 1 = 1 ∧ posSplice buf + 1 ≤ buf.length ∧ v = byteD buf (posSplice buf))
      ∧ (∀ v, Af.privateData buf = .ok (.ok v) →
        readBits buf 6 1 = 1 ∧ posPriv buf + 1 + byteD buf (posPriv buf) ≤ buf.length
          ∧ v = (buf.drop (posPriv buf + 1)).take (byteD buf (posPriv buf)))
      ∧ (∀ v, Af.extension buf = .ok (.ok v) →
        readBits buf 7 1 = 1 ∧ posExt buf + 1 + byteD buf (posExt buf) ≤ buf.length
          ∧ v = (buf.drop (posExt buf + 1)).take (byteD buf (posExt buf)) ∧ v ≠ []) := by
  refine ⟨?_, ?_, ?_, ?_, ?_⟩
  · intro v h
    rw [pcr_exact buf hne, spec_pcr] at h
    obtain ⟨hf, h1, hv⟩ := elem_present _ _ _ _ _ _ (toRes_ok _ _ (R.ok.inj h))
    exact ⟨eq_of_beq hf, h1, hv⟩
  · intro v h
    rw [opcr_exact buf hne, spec_opcr, cur1_pos] at h
    obtain ⟨hf, h1, hv⟩ := elem_present _ _ _ _ _ _ (toRes_ok _ _ (R.ok.inj h))
    exact ⟨eq_of_beq hf, h1, hv⟩
  · intro v h
    rw [splice_exact buf hne, spec_splice, cur2_pos] at h
    obtain ⟨hf, h1, hv⟩ := elem_present _ _ _ _ _ _ (toRes_ok _ _ (R.ok.inj h))
    exact ⟨eq_of_beq hf, h1, hv.trans (len_byte buf _)⟩
  · intro v h
    rw [private_exact buf hne, spec_priv, cur3_pos] at h
    obtain ⟨hf, h1, hv⟩ := lenElem_present _ _ _ _ (toRes_ok _ _ (R.ok.inj h))
    exact ⟨eq_of_beq hf, h1, hv⟩
  · intro v h
    rw [extension_exact buf hne, spec_ext, cur4_pos] at h
    obtain ⟨hp, hnv⟩ := nonEmpty_present _ _ (toRes_ok _ _ (R.ok.inj h))
    obtain ⟨hf, h1, hv⟩ := lenElem_present _ _ _ _ hp
    exact ⟨eq_of_beq hf, h1, hv, hnv⟩

/-- the same for the extension (`e ≠ []`, which `extension_nonempty` provides) -/
theorem never_outside_ext_model_at (e : Bytes) (hne : e ≠ []) :
    (∀ v, Af.ltwOffset e = .ok (.ok v) →
        readBits e 0 1 = 1 ∧ 1 + 2 ≤ e.length ∧ v = ltwOf ((e.drop 1).take 2))
      ∧ (∀ v, Af.piecewiseRate e = .ok (.ok v) →
        readBits e 1 1 = 1 ∧ posPiecewise e + 3 ≤ e.length
          ∧ v = piecewiseOf ((e.drop (posPiecewise e)).take 3))
      ∧ (∀ v, Af.seamlessSplice e = .ok (.ok v) →
        readBits e 2 1 = 1 ∧ posSeamless e + 5 ≤ e.length
          ∧ seamlessOf ((e.drop (posSeamless e)).take 5) = .ok v) := by
  refine ⟨?_, ?_, ?_⟩
  · intro v h
    rw [ltw_exact e hne, spec_ltw] at h
    obtain ⟨hf, h1, hv⟩ := elem_present _ _ _ _ _ _ (toRes_ok _ _ (R.ok.inj h))
    exact ⟨eq_of_beq hf, h1, hv⟩
  · intro v h
    rw [piecewise_exact e hne, spec_piecewise, ecur1_pos] at h
    obtain ⟨hf, h1, hv⟩ := elem_present _ _ _ _ _ _ (toRes_ok _ _ (R.ok.inj h))
    exact ⟨eq_of_beq hf, h1, hv⟩
  · intro v h
    rw [seamless_exact e hne, spec_seamless, ecur2_pos] at h
    obtain ⟨hf, h1, hv⟩ := elem_present _ _ _ _ _ _ (toResSplice_ok _ _ (R.ok.inj h))
    exact ⟨eq_of_beq hf, h1, hv.symm⟩

/-- the model: every value an accessor returns is decoded from *some* window inside `buf`; the
window offset `cur` is existentially quantified here, `never_outside_model_at` names it. -/
theorem never_outside_model (buf : Bytes) (hne : buf ≠ []) :
    (∀ v, Af.pcr buf = .ok (.ok v) →
        ∃ cur d, cur + 6 ≤ buf.length ∧ d = (buf.drop cur).take 6 ∧ v = clockOf d)
      ∧ (∀ v, Af.opcr buf = .ok (.ok v) →
        ∃ cur d, cur + 6 ≤ buf.length ∧ d = (buf.drop cur).take 6 ∧ v = clockOf d)
      ∧ (∀ v, Af.spliceCountdown buf = .ok (.ok v) → ∃ cur, cur + 1 ≤ buf.length ∧ v = byteD buf cur)
      ∧ (∀ v, Af.privateData buf = .ok (.ok v) →
        ∃ cur n, cur + n ≤ buf.length ∧ v = (buf.drop cur).take n)
      ∧ (∀ v, Af.extension buf = .ok (.ok v) →
        ∃ cur n, cur + n ≤ buf.length ∧ v = (buf.drop cur).take n) := by
  obtain ⟨a1, a2, a3, a4, a5⟩ := never_outside_model_at buf hne
  refine ⟨?_, ?_, ?_, ?_, ?_⟩
  · intro v h; obtain ⟨_, h1, hv⟩ := a1 v h; exact ⟨_, _, h1, rfl, hv⟩
  · intro v h; obtain ⟨_, h1, hv⟩ := a2 v h; exact ⟨_, _, h1, rfl, hv⟩
  · intro v h; obtain ⟨_, h1, hv⟩ := a3 v h; exact ⟨_, h1, hv⟩
  · intro v h; obtain ⟨_, h1, hv⟩ := a4 v h; exact ⟨_, _, h1, hv⟩
  · intro v h; obtain ⟨_, h1, hv, _⟩ := a5 v h; exact ⟨_, _, h1, hv⟩

theorem never_outside_ext_model (e : Bytes) (hne : e ≠ []) :
    (∀ v, Af.ltwOffset e = .ok (.ok v) →
        ∃ cur d, cur + 2 ≤ e.length ∧ d = (e.drop cur).take 2 ∧ v = ltwOf d)
      ∧ (∀ v, Af.piecewiseRate e = .ok (.ok v) →
        ∃ cur d, cur + 3 ≤ e.length ∧ d = (e.drop cur).take 3 ∧ v = piecewiseOf d)
      ∧ (∀ v, Af.seamlessSplice e = .ok (.ok v) →
        ∃ cur d, cur + 5 ≤ e.length ∧ d = (e.drop cur).take 5 ∧ seamlessOf d = .ok v) := by
  obtain ⟨a1, a2, a3⟩ := never_outside_ext_model_at e hne
  refine ⟨?_, ?_, ?_⟩
  · intro v h; obtain ⟨_, h1, hv⟩ := a1 v h; exact ⟨_, _, h1, rfl, hv⟩
  · intro v h; obtain ⟨_, h1, hv⟩ := a2 v h; exact ⟨_, _, h1, rfl, hv⟩
  · intro v h; obtain ⟨_, h1, hv⟩ := a3 v h; exact ⟨_, _, h1, rfl, hv⟩

/-! ### splice_countdown: raw byte, and its signed reading -/

/-- `splice_countdown()` returns the byte at `posSplice buf` as an UNSIGNED number `0..=255`; the
standard's reading of the same 8 bits is signed (`splice_countdown_signed_reading`) -/
theorem splice_countdown_is_raw_byte (buf : Bytes) (hne : buf ≠ [])
    (hf : readBits buf 5 1 = 1) (hfit : posSplice buf + 1 ≤ buf.length) :
    Af.spliceCountdown buf = .ok (.ok (byteD buf (posSplice buf)))
      ∧ byteD buf (posSplice buf) = readBits buf (8 * posSplice buf) 8
      ∧ byteD buf (posSplice buf) < 256 := by
  refine ⟨?_, (readBits_byte buf _).symm, byteD_lt buf _⟩
  rw [splice_exact buf hne, spec_splice, cur2_pos, hf]
  have := (optElem_cases true buf (posSplice buf) 1).2.2 rfl hfit
  simp only [beq_self_eq_true, this, Field.map, toRes, len_byte]

/-- for every `v` the accessor returns, `spliceSigned v` is the `tcimsbf` (two's complement) reading
of the 8 bits at the element's position.  A caller that wants ISO/IEC 13818-1's `splice_countdown`
must apply `spliceSigned` (in Rust: `as i8`) to the returned `u8`. -/
theorem splice_countdown_signed_reading (buf : Bytes) (hne : buf ≠ []) (v : Nat)
    (h : Af.spliceCountdown buf = .ok (.ok v)) :
    spliceSigned v = readSigned buf (8 * posSplice buf) 8
      ∧ -128 ≤ spliceSigned v ∧ spliceSigned v ≤ 127
      ∧ (v < 128 → spliceSigned v = v) ∧ (128 ≤ v → spliceSigned v = (v : Int) - 256) := by
  obtain ⟨_, hl, hv⟩ := (never_outside_model_at buf hne).2.2.1 v h
  have hlt : v < 256 := by rw [hv]; exact byteD_lt _ _
  refine ⟨?_, ?_, ?_, ?_, ?_⟩
  · rw [hv, ← readBits_byte buf (posSplice buf)]
    exact spliceSigned_eq_readSigned buf _
  all_goals (unfold spliceSigned; split <;> omega)

/-! ### non-vacuity -/

/-- all five flags (and the three indicators) set, every element fits:
PCR, OPCR, splice_countdown, 2 private bytes, an 11-byte extension with ltw + piecewise + seamless -/
def exFull : Bytes :=
  [0xFF, 0x12, 0x34, 0x56, 0x78, 0x80, 0x2A, 0x00, 0x00, 0x00, 0x01, 0x7F, 0x05, 0xFE,
   0x02, 0xAA, 0xBB, 0x0B, 0xE0, 0x81, 0x23, 0xC1, 0x02, 0x03, 0x5B, 0x22, 0x45, 0x66, 0x89]

def exExt : Bytes := [0xE0, 0x81, 0x23, 0xC1, 0x02, 0x03, 0x5B, 0x22, 0x45, 0x66, 0x89]

example : (specAf exFull).pcr = .present ⟨0x2468ACF1, 42⟩ := by decide +kernel
example : (specAf exFull).opcr = .present ⟨2, 261⟩ := by decide +kernel
example : (specAf exFull).splice = .present 0xFE := by decide +kernel
example : (specAf exFull).priv = .present [0xAA, 0xBB] := by decide +kernel
example : (specAf exFull).ext = .present exExt := by decide +kernel
example : Af.pcr exFull = .ok (.ok ⟨0x2468ACF1, 42⟩) := by
  rw [pcr_exact exFull (by decide), show (specAf exFull).pcr = .present ⟨0x2468ACF1, 42⟩ by decide +kernel]; rfl
example : Af.extension exFull = .ok (.ok exExt) := by
  rw [extension_exact exFull (by decide), show (specAf exFull).ext = .present exExt by decide +kernel]; rfl

example : (specExt exExt).ltw = .present (some 0x0123) := by decide +kernel
example : (specExt exExt).piecewise = .present 0x010203 := by decide +kernel
example : (specExt exExt).seamless = .present (.ok (5, 5512442692)) := by rfl
/-- marker bit 23 cleared -/
example : (specExt [0xE0, 0x81, 0x23, 0xC1, 0x02, 0x03, 0x5B, 0x22, 0x44, 0x66, 0x89]).seamless
    = .present (.error 23) := by rfl
example : Af.seamlessSplice exExt = .ok (.ok (5, 5512442692)) := by
  rw [seamless_exact exExt (by decide),
    show (specExt exExt).seamless = .present (.ok (5, 5512442692)) by rfl]; rfl
example : Af.seamlessSplice [0xE0, 0x81, 0x23, 0xC1, 0x02, 0x03, 0x5B, 0x22, 0x44, 0x66, 0x89]
    = .ok (.error (.spliceTimestampError (.markerBitNotSet 23))) := by
  rw [seamless_exact _ (by decide),
    show (specExt [0xE0, 0x81, 0x23, 0xC1, 0x02, 0x03, 0x5B, 0x22, 0x44, 0x66, 0x89]).seamless
      = .present (.error 23) by rfl]; rfl
/-- one byte short: seamless_splice is truncated, the elements before it are unaffected -/
example : (specExt (exExt.take 10)).seamless = .truncated
    ∧ (specExt (exExt.take 10)).piecewise = .present 0x010203 := ⟨by rfl, by decide +kernel⟩

/-- cut in the middle of OPCR: PCR still present, OPCR and everything after it truncated -/
example : (specAf (exFull.take 10)).pcr = .present ⟨0x2468ACF1, 42⟩
    ∧ (specAf (exFull.take 10)).opcr = .truncated
    ∧ (specAf (exFull.take 10)).splice = .truncated
    ∧ (specAf (exFull.take 10)).priv = .truncated
    ∧ (specAf (exFull.take 10)).ext = .truncated := by decide +kernel
example : Af.opcr (exFull.take 10) = .ok (.error .notEnoughData) := by
  rw [opcr_exact _ (by decide), show (specAf (exFull.take 10)).opcr = .truncated by decide +kernel]; rfl

/-- transport_private_data_length = 5 but only two bytes follow: private data and the extension
behind it are not-enough-data -/
def exOver : Bytes := [0x03, 0x05, 0xAA, 0xBB]
example : (specAf exOver).priv = .truncated ∧ (specAf exOver).ext = .truncated
    ∧ (specAf exOver).pcr = .absent := by decide +kernel
example : Af.privateData exOver = .ok (.error .notEnoughData) := by
  rw [private_exact _ (by decide), show (specAf exOver).priv = .truncated by decide +kernel]; rfl

/-- an extension of length 0 is reported as not-enough-data (`AdaptationFieldExtension::new`) -/
example : (specAf [0x01, 0x00]).ext = .truncated := by decide +kernel

/-! #### further examples -/

/-- OPCR without PCR (flags 0x08): the OPCR starts right after the flags byte -/
def exOpcrOnly : Bytes := [0x08, 0xFF, 0xFF, 0xFF, 0xFF, 0x81, 0xFF]
example : posOpcr exOpcrOnly = 1 ∧ (specAf exOpcrOnly).pcr = .absent
    ∧ (specAf exOpcrOnly).opcr = .present ⟨2 ^ 33 - 1, 511⟩ := by decide +kernel
example : Af.opcr exOpcrOnly = .ok (.ok ⟨2 ^ 33 - 1, 511⟩) ∧ Af.pcr exOpcrOnly = .ok (.error .fieldNotPresent) :=
  ⟨by rfl, by rfl⟩
/-- PCR and OPCR: the OPCR starts at byte 7 -/
example : posOpcr exFull = 7 ∧ posSplice exFull = 13 ∧ posPriv exFull = 14 ∧ posExt exFull = 17 := by
  decide +kernel
/-- ltw_flag set but ltw_valid_flag = 0: `Ok(None)` -/
example : (specExt [0x80, 0x01, 0x23]).ltw = .present none
    ∧ Af.ltwOffset [0x80, 0x01, 0x23] = .ok (.ok none) := ⟨by decide +kernel, by rfl⟩
/-- splice_countdown byte 0xFF: the API value is 255, the standard's (`tcimsbf`) value is −1;
byte 0x7F is +127 in both readings, byte 0x80 is 128 resp. −128 -/
example : Af.spliceCountdown [0x04, 0xFF] = .ok (.ok 255) ∧ spliceSigned 255 = -1
    ∧ readSigned [0x04, 0xFF] 8 8 = -1 := ⟨by rfl, by decide, by decide +kernel⟩
example : spliceSigned 127 = 127 ∧ spliceSigned 128 = -128 ∧ spliceSigned 0 = 0 := by decide
example : exFull ≠ [] ∧ readBits exFull 5 1 = 1 ∧ posSplice exFull + 1 ≤ exFull.length
    ∧ byteD exFull (posSplice exFull) = 0xFE := by decide +kernel

/-! #### evaluated instances of `never_outside_model_at` / `never_outside_ext_model_at`

Each conjunct is applied to `exFull` / `exExt` (all flags set, everything fits), and what it returns
is compared with the evaluated positions `posOpcr exFull = 7`, `posSplice = 13`, `posPriv = 14`,
`posExt = 17`. -/

example : readBits exFull 3 1 = 1 ∧ 1 + 6 ≤ exFull.length
    ∧ (⟨0x2468ACF1, 42⟩ : ClockRef) = clockOf ((exFull.drop 1).take 6) :=
  (never_outside_model_at exFull (by decide)).1 ⟨0x2468ACF1, 42⟩ (by
    rw [pcr_exact exFull (by decide), show (specAf exFull).pcr = .present ⟨0x2468ACF1, 42⟩ by decide +kernel]; rfl)

example : readBits exFull 4 1 = 1 ∧ posOpcr exFull + 6 ≤ exFull.length
    ∧ (⟨2, 261⟩ : ClockRef) = clockOf ((exFull.drop (posOpcr exFull)).take 6) :=
  (never_outside_model_at exFull (by decide)).2.1 ⟨2, 261⟩ (by
    rw [opcr_exact exFull (by decide), show (specAf exFull).opcr = .present ⟨2, 261⟩ by decide +kernel]; rfl)

example : readBits exFull 5 1 = 1 ∧ posSplice exFull + 1 ≤ exFull.length
    ∧ 0xFE = byteD exFull (posSplice exFull) :=
  (never_outside_model_at exFull (by decide)).2.2.1 0xFE (by
    rw [splice_exact exFull (by decide), show (specAf exFull).splice = .present 0xFE by decide +kernel]; rfl)

example : readBits exFull 6 1 = 1 ∧ posPriv exFull + 1 + byteD exFull (posPriv exFull) ≤ exFull.length
    ∧ [0xAA, 0xBB] = (exFull.drop (posPriv exFull + 1)).take (byteD exFull (posPriv exFull)) :=
  (never_outside_model_at exFull (by decide)).2.2.2.1 [0xAA, 0xBB] (by
    rw [private_exact exFull (by decide), show (specAf exFull).priv = .present [0xAA, 0xBB] by decide +kernel]; rfl)

example : readBits exFull 7 1 = 1 ∧ posExt exFull + 1 + byteD exFull (posExt exFull) ≤ exFull.length
    ∧ exExt = (exFull.drop (posExt exFull + 1)).take (byteD exFull (posExt exFull)) ∧ exExt ≠ [] :=
  (never_outside_model_at exFull (by decide)).2.2.2.2 exExt (by
    rw [extension_exact exFull (by decide), show (specAf exFull).ext = .present exExt by decide +kernel]; rfl)

/-- the windows: bytes 1..6, 7..12, 13, 15..16 (after the length byte at 14), 18..28 (after the
length byte at 17) of the 29-byte field -/
example : exFull.length = 29 ∧ posOpcr exFull = 7 ∧ posSplice exFull = 13 ∧ posPriv exFull = 14
    ∧ byteD exFull 14 = 2 ∧ posExt exFull = 17 ∧ byteD exFull 17 = 11 := by decide +kernel

example : readBits exExt 0 1 = 1 ∧ 1 + 2 ≤ exExt.length
    ∧ (some 0x0123 : Option Nat) = ltwOf ((exExt.drop 1).take 2) :=
  (never_outside_ext_model_at exExt (by decide)).1 (some 0x0123) (by
    rw [ltw_exact exExt (by decide), show (specExt exExt).ltw = .present (some 0x0123) by decide +kernel]; rfl)

example : readBits exExt 1 1 = 1 ∧ posPiecewise exExt + 3 ≤ exExt.length
    ∧ 0x010203 = piecewiseOf ((exExt.drop (posPiecewise exExt)).take 3) :=
  (never_outside_ext_model_at exExt (by decide)).2.1 0x010203 (by
    rw [piecewise_exact exExt (by decide), show (specExt exExt).piecewise = .present 0x010203 by decide +kernel]; rfl)

example : readBits exExt 2 1 = 1 ∧ posSeamless exExt + 5 ≤ exExt.length
    ∧ seamlessOf ((exExt.drop (posSeamless exExt)).take 5) = .ok (5, 5512442692) :=
  (never_outside_ext_model_at exExt (by decide)).2.2 (5, 5512442692) (by
    rw [seamless_exact exExt (by decide),
      show (specExt exExt).seamless = .present (.ok (5, 5512442692)) by rfl]; rfl)

example : exExt.length = 11 ∧ posPiecewise exExt = 3 ∧ posSeamless exExt = 6 := by decide +kernel

end Ts.Props.C13
