import Ts.Props.Ties.StmtPsi
import Ts.Model.App
/-!
# Statement-level tie — the PAT / PMT chain INCLUDING the CRC gate, up to the application (audited with C04)

`Ts/Props/Ties/StmtPsi.lean` maps the whole-section calls of the buffering layer to the model's
deliveries at once, and `tie_stmt_crc` takes as a hypothesis that the header handed to the CRC gate
was parsed from the first three bytes of the same data.  Here that hypothesis is *proved of the
composed translation*: the chain is run keeping the calls (`…K` functions, header and table-syntax
header included), every `section` call it emits satisfies `HdrOk` (`table_calls_hdrOk`), the
`K` chain projects onto the delivery chain (`tableStepK_deliv`), and therefore the translated
consumer → processor → de-duplication → buffering → CRC gate, composed, passes on exactly the
deliveries of the model's `Psi.consume` that the model's `crcPass` lets through
(`code_consume_table_gated`).
-/
-- as in `StmtPsi.lean`: the simp lists cover equivalent spellings of the source
set_option linter.unusedSimpArgs false
namespace Ts.Props.Ties.StmtPsi
open Ts Ts.Psi Ts.Stmt Ts.Gen.PsiGen Ts.Lemmas.C03

theorem foldCalls_all {σ C D : Type} (f : σ → C → R (σ × List D)) (P : C → Prop) (Q : D → Prop)
    (hf : ∀ s c r, P c → f s c = .ok r → ∀ d ∈ r.2, Q d) :
    ∀ (cs : List C) (s : σ) (r : σ × List D), (∀ c ∈ cs, P c) → foldCalls f s cs = .ok r → ∀ d ∈ r.2, Q d := by
  intro cs
  induction cs with
  | nil => intro s r _ e; cases e; exact List.forall_mem_nil _
  | cons c cs ih =>
    intro s r hP e
    obtain ⟨hc, hcs⟩ := List.forall_mem_cons.1 hP
    obtain ⟨r1, h1, e⟩ := R.bind_eq_ok e
    obtain ⟨r2, h2, e⟩ := R.bind_eq_ok e
    cases e
    exact List.forall_mem_append.2 ⟨hf s c r1 hc h1, ih r1.1 r2 hcs h2⟩

theorem thenCalls_all {σ τ C D : Type} (x : R (σ × List C)) (f : τ → C → R (τ × List D)) (t : τ)
    (P : C → Prop) (Q : D → Prop) (hx : ∀ r, x = .ok r → ∀ c ∈ r.2, P c)
    (hf : ∀ s c r, P c → f s c = .ok r → ∀ d ∈ r.2, Q d) :
    ∀ r, thenCalls x f t = .ok r → ∀ d ∈ r.2, Q d := by
  intro r e
  obtain ⟨r1, h1, e⟩ := R.bind_eq_ok e
  obtain ⟨r2, h2, e⟩ := R.bind_eq_ok e
  cases e
  exact foldCalls_all f P Q hf r1.2 t r2 (hx r1 h1) h2

theorem foldCalls_map {σ C D E : Type} (f : σ → C → R (σ × List D)) (g : D → E) :
    ∀ (cs : List C) (s : σ),
      foldCalls (fun s c => rmap (fun r => (r.1, r.2.map g)) (f s c)) s cs
        = rmap (fun r => (r.1, r.2.map g)) (foldCalls f s cs) := by
  intro cs
  induction cs with
  | nil => intro s; rfl
  | cons c cs ih =>
    intro s
    simp only [foldCalls, ih, bind_rmap, rmap_bind, rmap_ok, List.map_append]

theorem thenCalls_map {σ τ C D E : Type} (x : R (σ × List C)) (f : τ → C → R (τ × List D)) (g : D → E) (t : τ) :
    thenCalls x (fun s c => rmap (fun r => (r.1, r.2.map g)) (f s c)) t
      = rmap (fun r => (r.1, r.2.map g)) (thenCalls x f t) := by
  simp only [thenCalls, foldCalls_map, bind_rmap, rmap_bind, rmap_ok]

def callDeliv : BufferSectionSyntaxParser.Call → Delivery
  | .«section» _ _ x => delivOf x

def bufSStepK (fz : Bool) (b : BufferSectionSyntaxParser.Self) :
    DedupSectionSyntaxPayloadParser.Call → R (BufferSectionSyntaxParser.Self × List BufferSectionSyntaxParser.Call)
  | .start_syntax_section h t d => BufferSectionSyntaxParser.start_syntax_section fz b h t d
  | .continue_syntax_section d => BufferSectionSyntaxParser.continue_syntax_section fz b d
  | .reset => BufferSectionSyntaxParser.reset fz b

theorem bufSStep_eq (fz : Bool) :
    bufSStep fz = fun b c => rmap (fun r => (r.1, r.2.map callDeliv)) (bufSStepK fz b c) := by
  funext b c
  cases c <;> rfl

def dbStepK (fz : Bool) (db : DB) (c : SectionSyntaxSectionProcessor.Call) : R (DB × List BufferSectionSyntaxParser.Call) :=
  thenCalls (dedupStep fz db.1 c) (bufSStepK fz) db.2

theorem dbStep_eq (fz : Bool) :
    dbStep fz = fun db c => rmap (fun r => (r.1, r.2.map callDeliv)) (dbStepK fz db c) := by
  funext db c
  unfold dbStep dbStepK
  rw [bufSStep_eq, thenCalls_map]

def tableStepK (fz : Bool) (st : TableSt) (c : SectionPacketConsumer.Call) :
    R (TableSt × List BufferSectionSyntaxParser.Call) :=
  thenCalls (procStep fz st.1 c) (dbStepK fz) st.2

theorem tableStep_eq (fz : Bool) :
    tableStep fz = fun st c => rmap (fun r => (r.1, r.2.map callDeliv)) (tableStepK fz st c) := by
  funext st c
  unfold tableStep overS tableStepK
  rw [dbStep_eq, thenCalls_map]

def chainConsumeK {σ D : Type} (fz : Bool) (step : σ → SectionPacketConsumer.Call → R (σ × List D))
    (st : σ) (pk : Pk) : R (σ × List D) :=
  rmap (fun r => (r.1.2, r.2)) (thenCalls (SectionPacketConsumer.consume fz {} pk) step st)

theorem chainConsume_table_eq (fz : Bool) (st : TableSt) (pk : Pk) :
    chainConsume fz (tableStep fz) st pk
      = rmap (fun r => (r.1, r.2.map callDeliv)) (chainConsumeK fz (tableStepK fz) st pk) := by
  unfold chainConsume chainConsumeK
  rw [tableStep_eq, thenCalls_map, rmap_rmap, rmap_rmap]

/-! ### the header travels unchanged from `consume` to the whole-section call -/

/-- one predicate at the call types of the four layers: a call that starts (or hands over) a section
carries the header parsed from the first three bytes of the data it carries -/
def HdrOk : BufferSectionSyntaxParser.Call → Prop
  | .«section» h _ d => 3 ≤ d.bytes.length ∧ Psi.headerNew (d.bytes.take 3) = .ok h
def OkD : DedupSectionSyntaxPayloadParser.Call → Prop
  | .start_syntax_section h _ d => 3 ≤ d.bytes.length ∧ Psi.headerNew (d.bytes.take 3) = .ok h
  | _ => True
def OkS : SectionSyntaxSectionProcessor.Call → Prop
  | .start_syntax_section h _ d => 3 ≤ d.bytes.length ∧ Psi.headerNew (d.bytes.take 3) = .ok h
  | _ => True
def OkC : SectionPacketConsumer.Call → Prop
  | .start_section h d => 3 ≤ d.bytes.length ∧ Psi.headerNew (d.bytes.take 3) = .ok h
  | _ => True

theorem mem_singleton_or_nil {α : Type} {P : α → Prop} {l : List α} (x : α) (h : l = [x] ∨ l = []) (hx : P x) :
    ∀ y ∈ l, P y := by
  intro y hy
  rcases h with rfl | rfl
  · simp at hy; rw [hy]; exact hx
  · cases hy

theorem consume_calls_ok (fz : Bool) (s : SectionPacketConsumer.Self) (pk : Pk) (r : SectionPacketConsumer.Self × List SectionPacketConsumer.Call)
    (e : SectionPacketConsumer.consume fz s pk = .ok r) : ∀ c ∈ r.2, OkC c := by
  unfold SectionPacketConsumer.consume at e
  rcases pk with ⟨pl, us⟩
  cases pl with
  | none => simp only [R.pure_eq] at e; cases e; exact List.forall_mem_nil _
  | some pb =>
    simp only [] at e
    cases us
    · simp only [Bool.false_eq_true, if_false, R.pure_eq, List.nil_append] at e
      cases e; exact List.forall_mem_singleton.2 trivial
    · simp only [if_true, Slice.get, Slice.len] at e
      obtain ⟨pointer, _, e⟩ := R.bind_eq_ok e
      obtain ⟨sd, _, e⟩ := R.bind_eq_ok e
      -- the new section `ns` after the pointer field: too short for a header, or a header parsed from it
      have fin : ∀ (pre : List SectionPacketConsumer.Call) (ns : Slice) (r' : SectionPacketConsumer.Self × List SectionPacketConsumer.Call),
          (∀ c ∈ pre, OkC c) →
          (if decide (ns.bytes.length < 3) = true then (R.ok (s, pre ++ [SectionPacketConsumer.Call.reset]) : R _)
            else ns.upto 3 >>= fun t => Stmt.headerNew t >>= fun h => R.ok (s, pre ++ [SectionPacketConsumer.Call.start_section h ns])) = .ok r' →
          ∀ c ∈ r'.2, OkC c := by
        intro pre ns r' hpre e'
        by_cases h3 : ns.bytes.length < 3
        · simp only [h3, decide_true, if_true] at e'
          cases e'
          exact List.forall_mem_append.2 ⟨hpre, List.forall_mem_singleton.2 trivial⟩
        · have h3' : 3 ≤ ns.bytes.length := by omega
          simp only [h3, decide_false, Bool.false_eq_true, if_false, upto_ok ns 3 h3', R.ok_bind, Stmt.headerNew] at e'
          obtain ⟨h, hh, e'⟩ := R.bind_eq_ok e'
          cases e'
          exact List.forall_mem_append.2 ⟨hpre, List.forall_mem_singleton.2 ⟨h3', hh⟩⟩
      by_cases hp : pointer > 0
      · simp only [hp, decide_true, if_true] at e
        by_cases hge : pointer ≥ sd.bytes.length
        · simp only [hge, decide_true, if_true, R.pure_eq, List.nil_append] at e
          cases e; exact List.forall_mem_singleton.2 trivial
        · simp only [hge, decide_false, Bool.false_eq_true, if_false] at e
          obtain ⟨rem, _, e⟩ := R.bind_eq_ok e
          obtain ⟨ns, _, e⟩ := R.bind_eq_ok e
          exact fin [.continue_section rem] ns r (List.forall_mem_singleton.2 trivial) e
      · simp only [hp, decide_false, Bool.false_eq_true, if_false] at e
        obtain ⟨ns, _, e⟩ := R.bind_eq_ok e
        exact fin [] ns r (List.forall_mem_nil _) e

theorem procStep_ok (fz : Bool) (p : SectionSyntaxSectionProcessor.Self) (c : SectionPacketConsumer.Call)
    (r : SectionSyntaxSectionProcessor.Self × List SectionSyntaxSectionProcessor.Call)
    (hc : OkC c) (e : procStep fz p c = .ok r) : ∀ c' ∈ r.2, OkS c' := by
  cases c with
  | continue_section d =>
    unfold procStep SectionSyntaxSectionProcessor.continue_section at e
    simp only [R.pure_eq, List.nil_append] at e
    split at e <;> cases e
    · exact List.forall_mem_singleton.2 trivial
    · exact List.forall_mem_nil _
  | reset =>
    unfold procStep SectionSyntaxSectionProcessor.reset at e
    simp only [R.pure_eq, List.nil_append] at e
    cases e; exact List.forall_mem_singleton.2 trivial
  | start_section h d =>
    unfold procStep SectionSyntaxSectionProcessor.start_section at e
    simp only [R.pure_eq, List.nil_append] at e
    split at e
    · cases e; exact List.forall_mem_nil _
    · split at e
      · cases e; exact List.forall_mem_nil _
      · split at e
        · cases e; exact List.forall_mem_nil _
        · obtain ⟨t1, _, e⟩ := R.bind_eq_ok e
          obtain ⟨t2, _, e⟩ := R.bind_eq_ok e
          cases e
          exact List.forall_mem_singleton.2 hc

theorem dedupStep_ok (fz : Bool) (d : DedupSectionSyntaxPayloadParser.Self) (c : SectionSyntaxSectionProcessor.Call)
    (r : DedupSectionSyntaxPayloadParser.Self × List DedupSectionSyntaxPayloadParser.Call)
    (hc : OkS c) (e : dedupStep fz d c = .ok r) : ∀ c' ∈ r.2, OkD c' := by
  cases c with
  | continue_syntax_section x =>
    unfold dedupStep DedupSectionSyntaxPayloadParser.continue_syntax_section at e
    simp only [R.pure_eq, List.nil_append] at e
    split at e <;> cases e
    · exact List.forall_mem_singleton.2 trivial
    · exact List.forall_mem_nil _
  | reset =>
    unfold dedupStep DedupSectionSyntaxPayloadParser.reset at e
    simp only [R.pure_eq, List.nil_append] at e
    cases e; exact List.forall_mem_singleton.2 trivial
  | start_syntax_section h t x =>
    unfold dedupStep DedupSectionSyntaxPayloadParser.start_syntax_section at e
    simp only [R.pure_eq, List.nil_append] at e
    -- however often the version is read, it is `v`
    cases hv : Stmt.tshVersion t with
    | panic m =>
      cases hl : d.last_version <;> simp only [hl, hv, R.panic_bind] at e <;> cases e
    | ok v =>
      cases hl : d.last_version with
      | none =>
        simp only [hl, hv, R.ok_bind] at e
        cases e; exact List.forall_mem_singleton.2 hc
      | some last =>
        simp only [hl, hv, R.ok_bind] at e
        split at e <;> cases e
        · exact List.forall_mem_nil _
        · exact List.forall_mem_singleton.2 hc

theorem bufSStepK_ok (fz : Bool) (b : BufferSectionSyntaxParser.Self) (c : DedupSectionSyntaxPayloadParser.Call)
    (r : BufferSectionSyntaxParser.Self × List BufferSectionSyntaxParser.Call)
    (hc : OkD c) (e : bufSStepK fz b c = .ok r) : ∀ c' ∈ r.2, HdrOk c' := by
  cases c with
  | reset =>
    unfold bufSStepK BufferSectionSyntaxParser.reset at e
    simp only [R.pure_eq] at e
    cases e; exact List.forall_mem_nil _
  | start_syntax_section h t d =>
    obtain ⟨h3, hh⟩ := hc
    unfold bufSStepK BufferSectionSyntaxParser.start_syntax_section at e
    simp only [R.pure_eq, List.nil_append, Slice.len] at e
    by_cases hle : h.sectionLength + 3 ≤ d.bytes.length
    · simp only [hle, decide_true, if_true, upto_ok d _ hle, R.ok_bind] at e
      cases e
      refine List.forall_mem_singleton.2 ⟨by simp; omega, ?_⟩
      show Psi.headerNew (List.take 3 (List.take (h.sectionLength + 3) d.bytes)) = R.ok h
      rw [List.take_take, Nat.min_eq_left (by omega)]
      exact hh
    · simp only [hle, decide_false, Bool.false_eq_true, if_false] at e
      obtain ⟨n, _, e⟩ := R.bind_eq_ok e
      cases e; exact List.forall_mem_nil _
  | continue_syntax_section d =>
    unfold bufSStepK BufferSectionSyntaxParser.continue_syntax_section at e
    cases hst : b.state with
    | Complete => simp only [hst, R.pure_eq] at e; cases e; exact List.forall_mem_nil _
    | Buffering n =>
      simp only [hst, R.pure_eq, List.nil_append] at e
      have hl : d.len = d.bytes.length := rfl
      have hsplit : ∃ nr : Nat,
          ((if (nr == 0) = true then
              d.upto n >>= fun t3 => (Slice.ofVec (b.buf ++ t3.bytes)).upto 3 >>= fun t4 => Stmt.headerNew t4 >>= fun t5 =>
                (Slice.ofVec (b.buf ++ t3.bytes)).from 3 >>= fun t6 => Stmt.tshNew t6 >>= fun t7 =>
                  R.ok (({ buf := b.buf ++ t3.bytes, state := BufferSectionState.Complete } : BufferSectionSyntaxParser.Self),
                    [BufferSectionSyntaxParser.Call.«section» t5 t7 (Slice.ofVec (b.buf ++ t3.bytes))])
            else R.ok ({ buf := b.buf ++ d.bytes, state := BufferSectionState.Buffering nr }, [])) = R.ok r) := by
        -- what follows only needs SOME new remaining count.  Spelled `if len > remaining { 0 } else
        -- { remaining - len }` it is rewritten by `newRem1-3`; spelled `remaining.saturating_sub(len)` it is
        -- translated to `n - len` and there is nothing to rewrite (hence `try`)
        try simp only [newRem1, newRem2, newRem3, R.ok_bind] at e
        exact ⟨n - d.len, e⟩
      obtain ⟨nr, e⟩ := hsplit
      split at e
      · obtain ⟨t3, _, e⟩ := R.bind_eq_ok e
        obtain ⟨t4, h4, e⟩ := R.bind_eq_ok e
        obtain ⟨hd, h2, e⟩ := R.bind_eq_ok e
        obtain ⟨t6, _, e⟩ := R.bind_eq_ok e
        obtain ⟨t7, _, e⟩ := R.bind_eq_ok e
        cases e
        have hb : 3 ≤ (b.buf ++ t3.bytes).length := upto_le h4
        rw [Slice.ofVec, upto_ok ⟨b.buf ++ t3.bytes, none⟩ 3 hb] at h4
        cases h4
        exact List.forall_mem_singleton.2 ⟨hb, h2⟩
      · cases e; exact List.forall_mem_nil _

/-- every whole-section call the composed PAT / PMT chain makes carries the header parsed from the
first three bytes of the very data it hands over -/
theorem tableStepK_hdrOk (fz : Bool) (st : TableSt) (c : SectionPacketConsumer.Call)
    (r : TableSt × List BufferSectionSyntaxParser.Call) (hc : OkC c) (e : tableStepK fz st c = .ok r) :
    ∀ x ∈ r.2, HdrOk x := by
  unfold tableStepK at e
  refine thenCalls_all (procStep fz st.1 c) (dbStepK fz) st.2 OkS HdrOk ?_ ?_ r e
  · intro r1 e1; exact procStep_ok fz st.1 c r1 hc e1
  · intro db c1 r2 hc1 e2
    unfold dbStepK at e2
    refine thenCalls_all (dedupStep fz db.1 c1) (bufSStepK fz) db.2 OkD HdrOk ?_ ?_ r2 e2
    · intro r3 e3; exact dedupStep_ok fz db.1 c1 r3 hc1 e3
    · intro b c2 r4 hc2 e4; exact bufSStepK_ok fz b c2 r4 hc2 e4

theorem table_calls_hdrOk (fz : Bool) (st : TableSt) (pk : Pk) (r : TableSt × List BufferSectionSyntaxParser.Call)
    (e : chainConsumeK fz (tableStepK fz) st pk = .ok r) : ∀ x ∈ r.2, HdrOk x := by
  obtain ⟨r1, h1, rfl⟩ := rmap_eq_ok e
  refine thenCalls_all (SectionPacketConsumer.consume fz {} pk) (tableStepK fz) st OkC HdrOk ?_ ?_ r1 h1
  · intro r0 e0; exact consume_calls_ok fz {} pk r0 e0
  · intro s c r2 hc e2; exact tableStepK_hdrOk fz s c r2 hc e2

def gateDeliv : CrcCheckWholeSectionSyntaxPayloadParser.Call → Delivery
  | .«section» _ _ x => delivOf x

/-- every whole-section call handed to the translated CRC gate, in order; what the gate passes on
(to the PAT / PMT table processor) as deliveries -/
def gated (fz : Bool) : List BufferSectionSyntaxParser.Call → R (List Delivery)
  | [] => .ok []
  | .«section» h t d :: cs =>
    CrcCheckWholeSectionSyntaxPayloadParser.section fz {} h t d >>= fun r1 =>
      gated fz cs >>= fun r2 => .ok (r1.2.map gateDeliv ++ r2)

/-- the model: the deliveries that `crcPass` lets through (`App.runDeliveries` filters with it) -/
def gatedM (fz : Bool) : List Delivery → R (List Delivery)
  | [] => .ok []
  | d :: ds => Psi.crcPass fz d.bytes >>= fun p => gatedM fz ds >>= fun r => .ok ((if p then [d] else []) ++ r)

theorem gate_ok (fz : Bool) : ∀ (cs : List BufferSectionSyntaxParser.Call), (∀ c ∈ cs, HdrOk c) →
    erase (gated fz cs) = erase (gatedM fz (cs.map callDeliv)) := by
  intro cs
  induction cs with
  | nil => intro _; rfl
  | cons c cs ih =>
    intro hall
    rcases c with ⟨h, t, d⟩
    have hc : HdrOk (.«section» h t d) := hall _ (List.mem_cons_self ..)
    have ih' := ih (fun c' hc' => hall c' (List.mem_cons_of_mem _ hc'))
    have key := tie_stmt_crc fz h t d hc.1 hc.2
    show erase (CrcCheckWholeSectionSyntaxPayloadParser.section fz {} h t d >>= fun r1 =>
        gated fz cs >>= fun r2 => R.ok (r1.2.map gateDeliv ++ r2))
      = erase (Psi.crcPass fz d.bytes >>= fun p =>
        gatedM fz (cs.map callDeliv) >>= fun r => R.ok ((if p then [delivOf d] else []) ++ r))
    have e1 : (CrcCheckWholeSectionSyntaxPayloadParser.section fz {} h t d >>= fun r1 =>
        gated fz cs >>= fun r2 => R.ok (r1.2.map gateDeliv ++ r2))
        = rmap (fun r => r.2) (CrcCheckWholeSectionSyntaxPayloadParser.section fz {} h t d) >>= fun l =>
          gated fz cs >>= fun r2 => R.ok (l.map gateDeliv ++ r2) := by
      rw [bind_rmap]
    have e2 : (Psi.crcPass fz d.bytes >>= fun p =>
        gatedM fz (cs.map callDeliv) >>= fun r => R.ok ((if p then [delivOf d] else []) ++ r))
        = rmap (fun pass => if pass then [CrcCheckWholeSectionSyntaxPayloadParser.Call.«section» h t d] else [])
            (Psi.crcPass fz d.bytes) >>= fun l =>
          gatedM fz (cs.map callDeliv) >>= fun r2 => R.ok (l.map gateDeliv ++ r2) := by
      rw [bind_rmap]
      congr 1
      funext p
      cases p <;> rfl
    rw [e1, e2]
    refine erase_bind_congr key ?_
    intro l
    exact erase_bind_congr ih' (fun _ => rfl)

/-- what reaches the table processor from one packet: the translated consumer → section-syntax
processor → de-duplication → buffering → CRC gate, composed -/
def tableGated (fz : Bool) (st : TableSt) (pk : Pk) : R (TableSt × List Delivery) :=
  chainConsumeK fz (tableStepK fz) st pk >>= fun r => rmap (fun ds => (r.1, ds)) (gated fz r.2)

/-- CODE = MODEL for the whole PAT / PMT section path, CRC gate included: on every 188-byte packet
and from every state of every layer, the composed translation hands the table processor exactly the
deliveries of the model's `Psi.consume` that the model's `crcPass` lets through (both builds), and
panics exactly when the model does -/
theorem code_consume_table_gated (fz : Bool) (s : St) (p : Bytes) (h : p.length = 188) :
    erase (tableGated fz (concTable s) (pkOf p))
      = erase (Psi.consume Psi.table s p >>= fun r => rmap (fun ds => (concTable r.1, ds)) (gatedM fz r.2)) := by
  have hcode := code_consume_table fz s p h
  rw [chainConsume_table_eq] at hcode
  unfold tableGated
  cases hk : chainConsumeK fz (tableStepK fz) (concTable s) (pkOf p) with
  | panic m =>
    rw [hk] at hcode
    cases hm : Psi.consume Psi.table s p with
    | panic m' => rfl
    | ok r' => rw [hm] at hcode; cases hcode
  | ok r =>
    rw [hk] at hcode
    cases hm : Psi.consume Psi.table s p with
    | panic m' => rw [hm] at hcode; cases hcode
    | ok r' =>
      rw [hm] at hcode
      simp only [rmap_ok] at hcode
      have h1 : r.1 = concTable r'.1 := congrArg (fun x => x.1) (R.ok.inj hcode)
      have h2 : r.2.map callDeliv = r'.2 := congrArg (fun x => x.2) (R.ok.inj hcode)
      simp only [R.ok_bind]
      rw [h1, ← h2]
      exact erase_rmap _ (gate_ok fz r.2 (table_calls_hdrOk fz (concTable s) (pkOf p) r hk))

end Ts.Props.Ties.StmtPsi

/-!
## From the translated section chain to the application model

`App.consume` hands the deliveries of `Psi.consume` to `App.runDeliveries`, which asks `crcPass` for
each one and runs the table processor on those that pass.  `runDeliveries_gated` separates the two:
(up to which of two panics is reported first) `runDeliveries` is "filter with `crcPass`" —
`gatedM`, which `code_consume_table_gated` proves equal to the translated CRC gate composed with
the translated chain — followed by the table processor on what passed.  So the PAT / PMT handler
of the model is: the section path *as translated from the source*, then `patSection` /
`pmtSection` (the hand-written part of the model).
-/
namespace Ts.Props.Ties.StmtPsi
open Ts Ts.Psi Ts.Stmt Ts.Demux Ts.App

abbrev SectFn := Ctx → List Nat → Bytes → R (Ctx × List Nat × List (Change Handler))

def runPassed (sect : SectFn) (c : Ctx) (reg : List Nat) : List Delivery → R (Ctx × List Nat × List (Change Handler))
  | [] => .ok (c, reg, [])
  | d :: ds =>
    sect c reg d.bytes >>= fun r1 => runPassed sect r1.1 r1.2.1 ds >>= fun r2 => .ok (r2.1, r2.2.1, r1.2.2 ++ r2.2.2)

theorem runPassed_nil_append (sect : SectFn) (c : Ctx) (reg : List Nat) (ds : List Delivery) :
    runPassed sect c reg ([] ++ ds) = runPassed sect c reg ds := rfl

theorem runDeliveries_gated (sect : SectFn) (hcfg : ∀ c reg d r, sect c reg d = .ok r → r.1.cfg = c.cfg) :
    ∀ (ds : List Delivery) (c : Ctx) (reg : List Nat),
      erase (App.runDeliveries sect c reg ds)
        = erase (gatedM c.cfg.bypassCrc ds >>= fun ps => runPassed sect c reg ps) := by
  intro ds
  induction ds with
  | nil => intro c reg; rfl
  | cons d ds ih =>
    intro c reg
    unfold App.runDeliveries gatedM
    simp only [R.bind_assoc, R.ok_bind]
    cases hp : Psi.crcPass c.cfg.bypassCrc d.bytes with
    | panic m => rfl
    | ok p =>
      simp only [R.ok_bind]
      cases p
      · simp only [Bool.false_eq_true, if_false, List.nil_append]
        exact ih c reg
      · simp only [if_true, List.singleton_append]
        -- right-hand side: `gatedM rest` first, then `sect` on `d`; commute them (up to the panic reported)
        have hr : erase (gatedM c.cfg.bypassCrc ds >>= fun r => runPassed sect c reg (d :: r))
            = erase (sect c reg d.bytes >>= fun r1 => gatedM c.cfg.bypassCrc ds >>= fun r =>
                runPassed sect r1.1 r1.2.1 r >>= fun r2 => R.ok (r2.1, r2.2.1, r1.2.2 ++ r2.2.2)) := by
          show erase (gatedM c.cfg.bypassCrc ds >>= fun r => sect c reg d.bytes >>= fun r1 =>
              runPassed sect r1.1 r1.2.1 r >>= fun r2 => R.ok (r2.1, r2.2.1, r1.2.2 ++ r2.2.2)) = _
          exact erase_bind_comm _ _ _
        rw [hr]
        cases hs : sect c reg d.bytes with
        | panic m => rfl
        | ok r1 =>
          rcases r1 with ⟨c1, reg1, chg1⟩
          simp only [R.ok_bind]
          rw [← hcfg c reg d.bytes _ hs]
          have h3 := erase_bind_congr (g := fun r2 => R.ok (r2.1, r2.2.1, chg1 ++ r2.2.2)) (ih c1 reg1) (fun _ => rfl)
          simpa [R.bind_assoc] using h3

theorem patSection_cfg (c : Ctx) (reg : List Nat) (d : Bytes) (r : Ctx × List Nat × List (Change Handler))
    (e : patSection c reg d = .ok r) : r.1.cfg = c.cfg :=
  Ts.Props.C04.patSection_cfg c reg d r.1 r.2.1 r.2.2 e

theorem pmtSection_cfg (pid : Nat) (c : Ctx) (reg : List Nat) (d : Bytes) (r : Ctx × List Nat × List (Change Handler))
    (e : pmtSection c pid reg d = .ok r) : r.1.cfg = c.cfg :=
  Ts.Props.C04.pmtSection_cfg c pid reg d r.1 r.2.1 r.2.2 e

/-- the section path of a table handler of the MODEL on one packet — `Psi.consume`, then
`runDeliveries` with the table processor `sect` — is (up to which panic is reported) the section path
TRANSLATED FROM THE SOURCE (consumer → processor → de-duplication → buffering → CRC gate, composed),
followed by `sect` on what the gate passed on -/
theorem handler_is_translated_path (sect : SectFn) (hcfg : ∀ c reg d r, sect c reg d = .ok r → r.1.cfg = c.cfg)
    (s : Psi.St) (reg : List Nat) (c : Ctx) (p : Bytes) (h : p.length = 188) :
    erase (tableGated c.cfg.bypassCrc (concTable s) (pkOf p) >>= fun g =>
        rmap (fun x => (g.1, x)) (runPassed sect c reg g.2))
      = erase (Psi.consume Psi.table s p >>= fun r =>
        rmap (fun x => (concTable r.1, x)) (App.runDeliveries sect c reg r.2)) := by
  have A := code_consume_table_gated c.cfg.bypassCrc s p h
  have L := erase_bind_congr (g := fun g => rmap (fun x => (g.1, x)) (runPassed sect c reg g.2))
    (g' := fun g => rmap (fun x => (g.1, x)) (runPassed sect c reg g.2)) A (fun _ => rfl)
  rw [L]
  simp only [R.bind_assoc, bind_rmap]
  refine erase_bind_congr rfl ?_
  intro r
  have := erase_rmap (fun x => (concTable r.1, x)) (runDeliveries_gated sect hcfg r.2 c reg)
  rw [this, rmap_bind]

theorem pat_handler_is_translated_path (s : Psi.St) (reg : List Nat) (c : Ctx) (p : Bytes) (h : p.length = 188) :
    erase (tableGated c.cfg.bypassCrc (concTable s) (pkOf p) >>= fun g =>
        rmap (fun x => (g.1, x)) (runPassed patSection c reg g.2))
      = erase (Psi.consume Psi.table s p >>= fun r =>
        rmap (fun x => (concTable r.1, x)) (App.runDeliveries patSection c reg r.2)) :=
  handler_is_translated_path patSection patSection_cfg s reg c p h

theorem pmt_handler_is_translated_path (pid : Nat) (s : Psi.St) (reg : List Nat) (c : Ctx) (p : Bytes)
    (h : p.length = 188) :
    erase (tableGated c.cfg.bypassCrc (concTable s) (pkOf p) >>= fun g =>
        rmap (fun x => (g.1, x)) (runPassed (fun c r d => pmtSection c pid r d) c reg g.2))
      = erase (Psi.consume Psi.table s p >>= fun r =>
        rmap (fun x => (concTable r.1, x)) (App.runDeliveries (fun c r d => pmtSection c pid r d) c reg r.2)) :=
  handler_is_translated_path _ (fun c reg d r e => pmtSection_cfg pid c reg d r e) s reg c p h

end Ts.Props.Ties.StmtPsi
