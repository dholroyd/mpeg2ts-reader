import Ts.Lemmas.C01
import Ts.Props.C03
import Ts.Lemmas.C04b
import Ts.Lemmas.C05
import Ts.Props.C08
/-!
# C01, part 2: handler invariant, section handlers, elementary-stream callbacks

`SynInv` (while a section is being buffered its `section_syntax_indicator` is set) together with
`PsiInvFull` gives: every delivery of `Psi.consume Psi.table` has the syntax bit set, which
discharges `assert!(header.section_syntax_indicator)` in the CRC layer.
-/
namespace Ts.Lemmas.C01
open Ts Ts.Psi Ts.Spec Ts.Spec.SectionMux Ts.Lemmas.C03 Ts.Demux Ts.App

/-! ### syntax bit of buffered / delivered sections -/

/-- while `Buffering`, the buffered header has `section_syntax_indicator = 1` -/
def SynInv (s : St) : Prop := ∀ n, s.remaining = some n → hdrSyn s.buf = true

/-- **PAT / PMT section reassembly is total on arbitrary packets**, keeps the invariants, and every
section it hands to the CRC layer has the syntax bit set, 3..1024 bytes -/
theorem consume_table_total (s : St) (hs : PsiInvFull .syntax s) (hy : SynInv s)
    (p : Bytes) (hp : p.length = 188) :
    ∃ s' ds, Psi.consume Psi.table s p = .ok (s', ds) ∧ PsiInvFull .syntax s' ∧ SynInv s'
      ∧ ds.length ≤ 2
      ∧ ∀ d ∈ ds, byteD d.bytes 1 &&& 0b1000_0000 ≠ 0 ∧ 3 ≤ d.bytes.length ∧ d.bytes.length ≤ 1024 := by
  have hc := consume_eq_spec Psi.table cfgOk_table s hs.1 p hp
  obtain ⟨hg, hd⟩ := C04b.consume_table_gateInv s ⟨hs.1, hy⟩ p hp _ _ hc
  have hf := consumeSpecPk_rule (bufRule_invFull Psi.table) s p hs
  exact ⟨_, _, hc, hf.1, hg.2, consumeSpecPk_length_le_two _ _ _,
    fun d hm => ⟨(hd d hm).1, (hd d hm).2, (hf.2 d hm).1⟩⟩

/-! ### the CRC layer -/

/-- `CrcCheckWholeSectionSyntaxPayloadParser::section` never panics on a section with the syntax
bit set (either build), and lets through only sections of at least 12 bytes -/
theorem crcPass_total (bp : Bool) (data : Bytes) (hs : byteD data 1 &&& 0b1000_0000 ≠ 0)
    (hl : 3 ≤ data.length) :
    ∃ b, Psi.crcPass bp data = .ok b ∧ (b = true → 12 ≤ data.length) :=
  ⟨_, C04b.crcPass_eq bp data hs (by omega), fun h => of_decide_eq_true (Bool.and_eq_true_iff.1 h).1⟩

/-! ### the handler invariant -/

/-- PAT / PMT handlers carry a section-reassembly state satisfying the buffer invariants;
PES filters and recorders need nothing (C08: the PES filter is total in every state) -/
def HInv : Handler → Prop
  | .pat s _ => PsiInvFull .syntax s ∧ SynInv s
  | .pmt _ _ s _ => PsiInvFull .syntax s ∧ SynInv s
  | .pes _ _ => True
  | .recorder _ => True

/-- a queued change is fine if the handler it inserts satisfies the invariant -/
def ChgOk : Change Handler → Prop
  | .insert _ h => HInv h
  | .remove _ => True

theorem psi_init_ok : PsiInvFull .syntax ({} : St) ∧ SynInv ({} : St) :=
  ⟨psiInvFull_of_none _ _ rfl, fun _ hn => nomatch hn⟩

theorem handlerFor_hinv (r : Req) (tag : Nat) : HInv (Routing.handlerFor r tag) := by
  rcases C05.handlerFor_cases r tag with e | ⟨a, b, e⟩ | e | e <;> rw [e]
  · exact psi_init_ok
  · exact psi_init_ok
  · trivial
  · trivial

theorem construct_hinv (c : Ctx) (req : Req) : HInv (construct c req).1 := by
  rw [C05.construct_eq]; exact handlerFor_hinv _ _

theorem construct_cfg (c : Ctx) (req : Req) : (construct c req).2.cfg = c.cfg := by
  rw [C05.construct_eq]

/-- the change queue of an applied table: every inserted handler is a freshly constructed one -/
theorem changes_ok (tag : Nat) (reqs : List (Nat × Req)) (rem : List Nat) :
    ∀ ch ∈ (Routing.built tag reqs).map (fun x => Change.insert x.1 x.2) ++ rem.map Change.remove,
      ChgOk ch := by
  intro ch hch
  rcases List.mem_append.1 hch with hm | hm
  · obtain ⟨x, hx, rfl⟩ := List.mem_map.1 hm
    obtain ⟨r, tag', -, e⟩ := C05.built_mem hx
    show HInv x.2
    rw [e]
    exact handlerFor_hinv r tag'
  · obtain ⟨p, -, rfl⟩ := List.mem_map.1 hm
    trivial

/-! ### PAT / PMT section handlers on ARBITRARY section bytes -/

theorem patSection_total (c : Ctx) (reg : List Nat) (data : Bytes) (h12 : 12 ≤ data.length) :
    ∃ c' reg' chg, patSection c reg data = .ok (c', reg', chg) ∧ ∀ ch ∈ chg, ChgOk ch := by
  rw [C05.patSection_eq c reg data h12]
  split
  · exact ⟨c, reg, [], rfl, by simp⟩
  · exact ⟨_, _, _, rfl, changes_ok _ _ _⟩

theorem pmtSection_total (c : Ctx) (pmtPid : Nat) (reg : List Nat) (data : Bytes) (h12 : 12 ≤ data.length) :
    ∃ c' reg' chg, pmtSection c pmtPid reg data = .ok (c', reg', chg) ∧ ∀ ch ∈ chg, ChgOk ch := by
  rw [C05.pmtSection_eq c pmtPid reg data h12]
  dsimp only
  split
  · exact ⟨c, reg, [], rfl, by simp⟩
  · split
    · exact ⟨c, reg, [], rfl, by simp⟩
    · exact ⟨_, _, _, rfl, changes_ok _ _ _⟩

/-- the CRC gate followed by a total table processor is total -/
theorem runDeliveries_total
    (sect : Ctx → List Nat → Bytes → R (Ctx × List Nat × List (Change Handler)))
    (hsect : ∀ c reg data, 12 ≤ data.length →
      ∃ c' reg' chg, sect c reg data = .ok (c', reg', chg) ∧ ∀ ch ∈ chg, ChgOk ch) :
    ∀ (ds : List Delivery) (c : Ctx) (reg : List Nat),
      (∀ d ∈ ds, byteD d.bytes 1 &&& 0b1000_0000 ≠ 0 ∧ 3 ≤ d.bytes.length) →
      ∃ c' reg' chg, runDeliveries sect c reg ds = .ok (c', reg', chg) ∧ ∀ ch ∈ chg, ChgOk ch := by
  intro ds
  induction ds with
  | nil => intro c reg _; exact ⟨c, reg, [], rfl, by simp⟩
  | cons d ds ih =>
    intro c reg h
    obtain ⟨hd1, hd2⟩ := h d (List.mem_cons_self ..)
    have hrest := fun d' hm => h d' (List.mem_cons_of_mem _ hm)
    obtain ⟨b, hb, hb12⟩ := crcPass_total c.cfg.bypassCrc d.bytes hd1 hd2
    unfold runDeliveries
    simp only [hb, R.ok_bind]
    cases b
    · simp only [Bool.false_eq_true, if_false]
      exact ih c reg hrest
    · simp only [if_true]
      obtain ⟨c1, reg1, chg1, h1, hc1⟩ := hsect c reg d.bytes (hb12 rfl)
      obtain ⟨c2, reg2, chg2, h2, hc2⟩ := ih c1 reg1 hrest
      simp only [h1, R.ok_bind, h2]
      refine ⟨_, _, _, rfl, ?_⟩
      intro ch hch
      rcases List.mem_append.1 hch with hch | hch
      · exact hc1 ch hch
      · exact hc2 ch hch

/-! ### elementary-stream callbacks -/

theorem beginInfo_total (p : Bytes) (base o l : Nat) (h6 : 6 ≤ (Packet.rangeBytes p (o, l)).length) :
    ∃ bi, beginInfo p base o l = .ok bi := by
  unfold beginInfo
  simp only [Props.C14.stream_id_exact _ h6, Props.C14.packet_length_exact _ h6,
    Props.C14.contents_kind _ h6, R.ok_bind]
  generalize Packet.rangeBytes p (o, l) = h at h6 ⊢
  by_cases hin : readBits h 24 8 ∈ PesSpec.noHeaderIds
  · simp only [if_pos hin]; exact ⟨_, rfl⟩
  · simp only [if_neg hin]
    by_cases hacc : PesSpec.parsedAccepted (h.drop 6)
    · simp only [if_pos hacc]
      have hpb : Pes.parsedFromBytes (h.drop 6) = .ok (some (h.drop 6)) := by
        rw [Props.C14.parsed_accept_iff, if_pos hacc]
      obtain ⟨_, _, _, b2, _⟩ := Props.C14.pes_fields_exact_accepted _ hpb
      simp only [Lemmas.C14.ptsDts_exact _ hacc.1, b2, R.ok_bind]
      exact ⟨_, rfl⟩
    · simp only [if_neg hacc]; exact ⟨_, rfl⟩

theorem esEvents_total (touch : Bool) (tag : Nat) (p : Bytes) (base : Nat) :
    ∀ (evs : List PesFilter.Ev) (c : Ctx),
      (∀ o l, PesFilter.Ev.beginPkt o l ∈ evs → 6 ≤ (Packet.rangeBytes p (o, l)).length) →
      ∃ c', esEvents touch tag p base c evs = .ok c' := by
  intro evs
  induction evs with
  | nil => intro c _; exact ⟨c, rfl⟩
  | cons e es ih =>
    intro c h
    have hrest := fun o l hm => h o l (List.mem_cons_of_mem _ hm)
    unfold esEvents
    cases e with
    | start => simp only [R.pure_eq, R.ok_bind]; exact ih _ hrest
    | cont o l => simp only [R.pure_eq, R.ok_bind]; exact ih _ hrest
    | endPkt => simp only [R.pure_eq, R.ok_bind]; exact ih _ hrest
    | ccErr => simp only [R.pure_eq, R.ok_bind]; exact ih _ hrest
    | beginPkt o l =>
      have h6 := h o l (List.mem_cons_self ..)
      obtain ⟨bi, hbi⟩ := beginInfo_total p base o l h6
      simp only [hbi, R.ok_bind, R.pure_eq]
      cases touch
      · simp only [Bool.false_eq_true, if_false, R.ok_bind]
        exact ih _ hrest
      · simp only [if_true, touchPesHeader_ok _ h6, R.ok_bind]
        exact ih _ hrest

/-- every `begin_packet` callback of the PES filter carries an accepted (≥ 6 bytes) PES header -/
theorem begin_len (f f' : PesFilter.F) (p : Bytes) (evs : List PesFilter.Ev) (hp : p.length = 188)
    (hc : PesFilter.consume f p = .ok (f', evs)) (o l : Nat) (hm : PesFilter.Ev.beginPkt o l ∈ evs) :
    6 ≤ (Packet.rangeBytes p (o, l)).length := by
  have := ((Props.C08.begin_iff f f' p evs o l hp hc).1 hm).2.2
  rw [Props.C14.header_accept_iff] at this
  by_cases hh : 6 ≤ (Packet.rangeBytes p (o, l)).length ∧ readBits (Packet.rangeBytes p (o, l)) 0 24 = 1
  · exact hh.1
  · rw [if_neg hh] at this; cases this

end Ts.Lemmas.C01
