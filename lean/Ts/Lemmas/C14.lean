import Ts.Lemmas.BitOps
import Ts.Spec.Bits
import Ts.Spec.PesSpec
import Ts.Model.Pes
/-!
PES header: translations between the specification's and the model's result types, bit-field
lemmas, the closed form of the sequential parser, the flag tests, and the offset chain against the
parser's cursor.
-/
namespace Ts.Lemmas.C14
open Ts Ts.Spec Ts.Spec.PesSpec

/-! ### translations: spec outcomes to the model's (= the code's) result types -/

def tsRes : Ts33 → Time.TsRes
  | .markerCleared b => .error (.markerBitNotSet b)
  | .value v => .ok v

def ptsDtsConv : PtsDtsVal → Pes.PtsDts
  | .ptsOnly p => .ptsOnly (tsRes p)
  | .both p d => .both (tsRes p) (tsRes d)

def escrConv (e : EscrVal) : Time.ClockRef := ⟨e.base, e.ext⟩

def trickConv : TrickVal → Pes.Trick
  | .fastForward a b c => .fastForward a b c
  | .slowMotion r => .slowMotion r
  | .freezeFrame a b => .freezeFrame a b
  | .fastReverse a b c => .fastReverse a b c
  | .slowReverse r => .slowReverse r
  | .reserved k => .reserved k

/-- present ↦ `Ok`, absent ↦ `FieldNotPresent`, truncated ↦ `NotEnoughData`,
forbidden ↦ `PtsDtsFlagsInvalid` -/
def resOf {α β : Type} (conv : α → β) : Field α → Pes.Res β
  | .absent => .error .fieldNotPresent
  | .forbidden => .error .ptsDtsFlagsInvalid
  | .truncated => .error .notEnoughData
  | .present v => .ok (conv v)

/-- additional_copy_info: a present field with a cleared marker is `MarkerBitNotSet` -/
def copyInfoRes : Field CopyInfoVal → Pes.Res Nat
  | .absent => .error .fieldNotPresent
  | .forbidden => .error .ptsDtsFlagsInvalid
  | .truncated => .error .notEnoughData
  | .present .markerCleared => .error .markerBitNotSet
  | .present (.value v) => .ok v

/-! ### `R` results as options (to state finite tables decidably) -/

def okVal {α : Type} : R α → Option α
  | .ok a => some a
  | .panic _ => none

theorem eq_ok_of_okVal {α : Type} {x : R α} {v : α} (h : okVal x = some v) : x = .ok v := by
  cases x with
  | ok a => simp [okVal] at h; rw [h]
  | panic s => simp [okVal] at h

/-! ### bit fields at symbolic byte positions -/

theorem rb (c : Bytes) (pos i o n : Nat) (hp : pos = 8 * i + o) (h : o + n ≤ 8) :
    readBits c pos n = byteD c i / 2 ^ (8 - o - n) % 2 ^ n := by
  subst hp; exact readBits_sub c i o n h

/-- a field inside the `k` bytes from byte `i` on (`readBits_be` at a position given as an expression) -/
theorem rb_be (c : Bytes) (pos i o n k : Nat) (hp : pos = 8 * i + o) (h : o + n ≤ 8 * k) :
    readBits c pos n = be c i k / 2 ^ (8 * k - o - n) % 2 ^ n := by
  subst hp; exact readBits_be c i o n k h

theorem rb_byte (c : Bytes) (pos i : Nat) (hp : pos = 8 * i) : readBits c pos 8 = byteD c i := by
  subst hp; exact readBits_byte c i

theorem flagBit_eq (c : Bytes) (pos i o : Nat) (hp : pos = 8 * i + o) (h : o + 1 ≤ 8) :
    flagBit c pos = (byteD c i / 2 ^ (8 - o - 1) % 2 == 1) := by
  unfold flagBit; rw [rb c pos i o 1 hp h]

/-! ### the flag byte -/

def flagsOfByte (f : Nat) : Flags :=
  { ptsDts := f / 64 % 4
    escr := f / 32 % 2 == 1
    esRate := f / 16 % 2 == 1
    trick := f / 8 % 2 == 1
    copyInfo := f / 4 % 2 == 1
    crc := f / 2 % 2 == 1
    ext := f % 2 == 1 }

theorem flagsOf_eq (c : Bytes) : flagsOf c = flagsOfByte (byteD c 1) := by
  unfold flagsOf flagsOfByte
  rw [rb c 8 1 0 2 (by omega) (by omega), flagBit_eq c 10 1 2 (by omega) (by omega),
    flagBit_eq c 11 1 3 (by omega) (by omega), flagBit_eq c 12 1 4 (by omega) (by omega),
    flagBit_eq c 13 1 5 (by omega) (by omega), flagBit_eq c 14 1 6 (by omega) (by omega),
    flagBit_eq c 15 1 7 (by omega) (by omega)]
  simp

theorem hdl_eq (c : Bytes) : hdl c = byteD c 2 := rb_byte c 16 2 (by omega)

/-! ### closed form of the sequential parser: where each field is read -/

def ptsDtsSize : Nat → Nat
  | 2 => 5
  | 3 => 10
  | _ => 0

/-- cursor after an `n`-byte field guarded by `flag` -/
def adv (flag : Bool) (n cur : Nat) : Nat := if flag then cur + n else cur

theorem le_adv (flag : Bool) (n cur : Nat) : cur ≤ adv flag n cur := by
  unfold adv; split <;> omega

def curEscr (F : Flags) : Nat := 3 + ptsDtsSize F.ptsDts
def curEsRate (F : Flags) : Nat := adv F.escr 6 (curEscr F)
def curTrick (F : Flags) : Nat := adv F.esRate 3 (curEsRate F)
def curCopyInfo (F : Flags) : Nat := adv F.trick 1 (curTrick F)
def curCrc (F : Flags) : Nat := adv F.copyInfo 1 (curCopyInfo F)
def curExt (F : Flags) : Nat := adv F.crc 2 (curCrc F)

/-- outcome of an `n`-byte field read at `cur` -/
def fieldAt {α : Type} (c : Bytes) (flag : Bool) (n : Nat) (decode : Nat → α) (cur : Nat) : Field α :=
  if !flag then .absent else if cur + n ≤ limit c then .present (decode cur) else .truncated

/-- `parse` with its cursor threading resolved: every field is read at the cursor that the flags
before it determine -/
theorem parse_closed (c : Bytes) : parse c =
    let F := flagsOf c
    { priority := readBits c 4 1, dataAlignment := flagBit c 5, copyright := flagBit c 6
      original := flagBit c 7
      ptsDts := match F.ptsDts with
        | 2 => fieldAt c true 5 (fun p => PtsDtsVal.ptsOnly (timestampAt c p)) 3
        | 3 => fieldAt c true 10 (fun p => PtsDtsVal.both (timestampAt c p) (timestampAt c (p + 5))) 3
        | 1 => Field.forbidden
        | _ => Field.absent
      escr := fieldAt c F.escr 6 (escrAt c) (curEscr F)
      esRate := fieldAt c F.esRate 3 (esRateAt c) (curEsRate F)
      trick := fieldAt c F.trick 1 (trickAt c) (curTrick F)
      copyInfo := fieldAt c F.copyInfo 1 (copyInfoAt c) (curCopyInfo F)
      prevCrc := fieldAt c F.crc 2 (crcAt c) (curCrc F)
      extension := if !F.ext then .absent
        else if curExt F ≤ 3 + hdl c ∧ 3 + hdl c ≤ c.length then
          .present (curExt F, 3 + hdl c - curExt F)
        else .truncated
      fixedEnd := curExt F
      payloadOffset := 3 + hdl c } := by
  unfold parse
  generalize flagsOf c = F
  obtain ⟨pd, e, r, t, a, k, x⟩ := F
  match pd with
  | 0 | 1 | 2 | 3 | _ + 4 => rfl

theorem parse_ptsDts (c : Bytes) : (parse c).ptsDts =
    match (flagsOf c).ptsDts with
    | 2 => fieldAt c true 5 (fun p => PtsDtsVal.ptsOnly (timestampAt c p)) 3
    | 3 => fieldAt c true 10 (fun p => PtsDtsVal.both (timestampAt c p) (timestampAt c (p + 5))) 3
    | 1 => Field.forbidden
    | _ => Field.absent := by
  rw [parse_closed]

theorem parse_escr (c : Bytes) :
    (parse c).escr = fieldAt c (flagsOf c).escr 6 (escrAt c) (curEscr (flagsOf c)) := by
  rw [parse_closed]

theorem parse_esRate (c : Bytes) :
    (parse c).esRate = fieldAt c (flagsOf c).esRate 3 (esRateAt c) (curEsRate (flagsOf c)) := by
  rw [parse_closed]

theorem parse_trick (c : Bytes) :
    (parse c).trick = fieldAt c (flagsOf c).trick 1 (trickAt c) (curTrick (flagsOf c)) := by
  rw [parse_closed]

theorem parse_copyInfo (c : Bytes) :
    (parse c).copyInfo = fieldAt c (flagsOf c).copyInfo 1 (copyInfoAt c) (curCopyInfo (flagsOf c)) := by
  rw [parse_closed]

theorem parse_prevCrc (c : Bytes) :
    (parse c).prevCrc = fieldAt c (flagsOf c).crc 2 (crcAt c) (curCrc (flagsOf c)) := by
  rw [parse_closed]

theorem parse_extension (c : Bytes) :
    (parse c).extension =
      if !(flagsOf c).ext then .absent
      else if curExt (flagsOf c) ≤ 3 + hdl c ∧ 3 + hdl c ≤ c.length then
        .present (curExt (flagsOf c), 3 + hdl c - curExt (flagsOf c))
      else .truncated := by
  rw [parse_closed]

theorem parse_fixedEnd (c : Bytes) : (parse c).fixedEnd = curExt (flagsOf c) := by
  rw [parse_closed]

theorem fixedFieldsEnd_eq (F : Flags) : fixedFieldsEnd F = curExt F := by
  obtain ⟨pd, e, r, t, a, k, x⟩ := F
  match pd with
  | 0 | 1 | 2 | 3 | _ + 4 => rfl

theorem parse_payloadOffset (c : Bytes) : (parse c).payloadOffset = 3 + hdl c := by
  rw [parse_closed]

theorem parse_bits (c : Bytes) : (parse c).priority = readBits c 4 1 ∧
    (parse c).dataAlignment = flagBit c 5 ∧ (parse c).copyright = flagBit c 6 ∧
    (parse c).original = flagBit c 7 := by
  rw [parse_closed]; exact ⟨rfl, rfl, rfl, rfl⟩

theorem three_le_curExt (F : Flags) : 3 ≤ curExt F := by
  have h0 : 3 ≤ curEscr F := by unfold curEscr; omega
  have h1 := le_adv F.escr 6 (curEscr F)
  have h2 := le_adv F.esRate 3 (curEsRate F)
  have h3 := le_adv F.trick 1 (curTrick F)
  have h4 := le_adv F.copyInfo 1 (curCopyInfo F)
  have h5 := le_adv F.crc 2 (curCrc F)
  unfold curExt curCrc curCopyInfo curTrick curEsRate at *
  omega

/-! ### the flag byte: the model's flag tests are the parser's flags, and its offset chain is the
parser's cursor -/

theorem shr_bit (f k : Nat) : ((f >>> k) &&& 1 != 0) = (f / 2 ^ k % 2 == 1) := by
  rw [Nat.shiftRight_eq_div_pow, Nat.and_one_is_mod]
  rcases Nat.mod_two_eq_zero_or_one (f / 2 ^ k) with h | h <;> rw [h] <;> rfl

theorem escrFlag_eq (f : Nat) : Pes.escrFlag f = (flagsOfByte f).escr := shr_bit f 5
theorem esRateFlag_eq (f : Nat) : Pes.esRateFlag f = (flagsOfByte f).esRate := shr_bit f 4
theorem trickFlag_eq (f : Nat) : Pes.trickFlag f = (flagsOfByte f).trick := shr_bit f 3
theorem aciFlag_eq (f : Nat) : Pes.aciFlag f = (flagsOfByte f).copyInfo := shr_bit f 2
theorem crcFlag_eq (f : Nat) : Pes.crcFlag f = (flagsOfByte f).crc := shr_bit f 1
theorem extFlag_eq (f : Nat) : Pes.extFlag f = (flagsOfByte f).ext := and_01 f

theorem ptsDts_lt (f : Nat) : (flagsOfByte f).ptsDts < 4 := by
  unfold flagsOfByte; exact Nat.mod_lt _ (by decide)

/-- one link of the model's offset chain is one step of the parser's cursor -/
theorem end_step (prev : R Nat) (cur : Nat) (hp : prev = .ok cur) (mf sf : Bool) (hfl : mf = sf)
    (n : Nat) : (do let e ← prev; pure (e + if mf then n else 0) : R Nat) = .ok (adv sf n cur) := by
  subst hp hfl; cases mf <;> rfl

section
variable (f : Nat) (hf : f < 256)
include hf
theorem ptsDtsFlags_eq : Pes.ptsDtsFlags f = (flagsOfByte f).ptsDts :=
  (Nat.shiftRight_eq_div_pow f 6).trans (Nat.mod_eq_of_lt (by omega)).symm
/-- `pts_dts_end` never reaches its panic arm: the flag value is below 4 -/
theorem ptsDtsEnd_eq : Pes.ptsDtsEnd f = .ok (curEscr (flagsOfByte f)) := by
  have hlt := ptsDts_lt f
  unfold Pes.ptsDtsEnd curEscr
  rw [ptsDtsFlags_eq f hf]
  generalize (flagsOfByte f).ptsDts = pd at *
  match pd, hlt with
  | 0, _ | 1, _ | 2, _ | 3, _ => rfl
theorem escrEnd_eq : Pes.escrEnd f = .ok (curEsRate (flagsOfByte f)) :=
  end_step _ _ (ptsDtsEnd_eq f hf) _ _ (escrFlag_eq f) _
theorem esRateEnd_eq : Pes.esRateEnd f = .ok (curTrick (flagsOfByte f)) :=
  end_step _ _ (escrEnd_eq f hf) _ _ (esRateFlag_eq f) _
theorem trickEnd_eq : Pes.trickEnd f = .ok (curCopyInfo (flagsOfByte f)) :=
  end_step _ _ (esRateEnd_eq f hf) _ _ (trickFlag_eq f) _
theorem aciEnd_eq : Pes.aciEnd f = .ok (curCrc (flagsOfByte f)) :=
  end_step _ _ (trickEnd_eq f hf) _ _ (aciFlag_eq f) _
theorem crcEnd_eq : Pes.crcEnd f = .ok (curExt (flagsOfByte f)) :=
  end_step _ _ (aciEnd_eq f hf) _ _ (crcFlag_eq f) _
end

end Ts.Lemmas.C14
