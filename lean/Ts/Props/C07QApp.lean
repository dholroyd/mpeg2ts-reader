import Ts.Props.C07Q
import Ts.Model.AppQ
/-!
# C07 for an application whose `construct` queues changes — the concrete instance

`Ts.AppQ.semQ cs` is the harness application with a construct script `cs` (the `demuxq` / `cutsq`
ops run it against the real code).  With the empty script it IS the application of
`Ts/Model/App.lean` on the older dispatcher model, so every theorem about `App.runApp` speaks about
`AppQ.runAppQ cfg []` as well; with any script, chunking is irrelevant.
-/
namespace Ts.Props.C07QApp
open Ts Ts.Demux Ts.DemuxQ Ts.App Ts.AppQ Ts.Props.C07Q

/-- with no construct script the application queues nothing from `construct` -/
theorem semQ_nil : semQ [] = SemQ.ofSem App.sem := by
  unfold semQ SemQ.ofSem constructQ constructP App.sem
  congr 1

/-- successive pushes: the dispatcher with explicit pending queue, started with nothing pending and
an application whose `construct` queues nothing, is the older model with `[]` appended -/
theorem pushAllQ_ofSem (sem : Sem Handler Ctx) (bufs : List Bytes) : ∀ (tc : Tab Handler × Ctx) (base : Nat),
    pushAllQ (SemQ.ofSem sem) (tc.1, tc.2, []) bufs base =
      (match pushAll sem tc bufs base with
       | .ok (t, c) => .ok (t, c, [])
       | .panic s => .panic s) := by
  induction bufs with
  | nil => intro tc base; rfl
  | cons b bs ih =>
    intro tc base
    unfold pushAllQ pushAll
    rw [ofSem_agrees_push sem tc b base]
    cases h : push sem tc b base with
    | panic s => rfl
    | ok tc' =>
      rcases tc' with ⟨t, c⟩
      simp only [R.ok_bind]
      exact ih (t, c) (base + b.length)

/-- MODEL COMPATIBILITY: `runAppQ` with the empty construct script is `runApp` -/
theorem runAppQ_nil (cfg : Cfg) (pushes : List Bytes) :
    runAppQ cfg [] pushes =
      (match runApp cfg pushes with
       | .ok (t, c) => .ok (t, c, [])
       | .panic s => .panic s) := by
  unfold runAppQ runApp
  rw [semQ_nil]
  exact pushAllQ_ofSem App.sem pushes (App.init cfg) 0

/-- C07 for the application with ANY construct script: any packet-aligned cutting of the input (the
last piece may be unaligned) gives the same final table, context (callback trace included) and
pending changeset as a single push -/
theorem app_chunking_irrelevantQ (cfg : Cfg) (cs : List (Nat × List ScriptOp)) (bufs : List Bytes)
    (h : ∀ c ∈ bufs.dropLast, c.length % 188 = 0) :
    runAppQ cfg cs bufs = runAppQ cfg cs [bufs.flatten] := by
  unfold runAppQ
  exact chunking_irrelevantQ_general (semQ cs) (initQ cfg cs) bufs 0 h

/-- two cuttings of the same bytes agree -/
theorem app_any_two_cuttings_agreeQ (cfg : Cfg) (cs : List (Nat × List ScriptOp)) (cs1 cs2 : List Bytes)
    (h1 : ∀ c ∈ cs1, c.length % 188 = 0) (h2 : ∀ c ∈ cs2, c.length % 188 = 0) (he : cs1.flatten = cs2.flatten) :
    runAppQ cfg cs cs1 = runAppQ cfg cs cs2 := by
  unfold runAppQ
  exact any_two_cuttings_agreeQ (semQ cs) (initQ cfg cs) cs1 cs2 0 h1 h2 he

end Ts.Props.C07QApp
