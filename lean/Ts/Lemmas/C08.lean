import Ts.Model.PesFilter
import Ts.Props.C12
import Ts.Lemmas.C14c
import Ts.Spec.Protocol
/-!
# Helper lemmas for C08 / C09 (PES filter state machine)

1. total characterisation of every fallible call `consume` makes on a 188-byte packet, so that
   `consume f p = .ok (stepPure f (summary of p))` with `stepPure` a pure case analysis;
2. `stepPure` in closed form (`stepPure_eq`) and the facts read off it;
3. structural lemmas about `run`.
-/
namespace Ts.Lemmas.C08
open Ts Ts.Packet Ts.PesFilter Ts.Spec Ts.Spec.Protocol Ts.Props.C12

/-! ### `PesHeader::from_bytes` is total -/

/-- the six fixed bytes are present and start with the start-code prefix `00 00 01` -/
def hdrOk (b : Bytes) : Bool :=
  decide (6 ≤ b.length) && (byteD b 0 == 0 && (byteD b 1 == 0 && byteD b 2 == 1))

theorem hdrOk_iff (b : Bytes) :
    hdrOk b = true ↔ 6 ≤ b.length ∧ byteD b 0 = 0 ∧ byteD b 1 = 0 ∧ byteD b 2 = 1 := by
  simp [hdrOk]

theorem hdrOk_iff_prefix (b : Bytes) : hdrOk b = true ↔ 6 ≤ b.length ∧ readBits b 0 24 = 1 := by
  rw [hdrOk_iff, Ts.Lemmas.C14.rb_8_8_8 b 0 0 rfl]
  have := byteD_lt b 0; have := byteD_lt b 1; have := byteD_lt b 2
  simp only [Nat.zero_add]
  omega

theorem headerFromBytes_eq (b : Bytes) :
    Pes.headerFromBytes b = .ok (if hdrOk b then some b else none) := by
  rw [Ts.Lemmas.C14.headerFromBytes_eq]
  simp only [← hdrOk_iff_prefix]

/-! ### the packet summary `consume` depends on -/

def usOf (p : Bytes) : Bool := readBits p 9 1 == 1
def hpOf (p : Bytes) : Bool := hasPayload (byteD p 3)
def ccOf (p : Bytes) : Nat := readBits p 28 4
def payOf (p : Bytes) : Option (Nat × Nat) :=
  (splitSpec (hasAf (byteD p 3)) (hasPayload (byteD p 3)) (byteD p 4)).2
def hdrOf (p : Bytes) : Bool :=
  match payOf p with
  | some r => hdrOk (rangeBytes p r)
  | none => false

/-- `is_continuous` as a pure function of the stored counter, the payload flag and the counter -/
def continuous (fc : Option Nat) (hp : Bool) (n : Nat) : Bool :=
  match fc with
  | some c => if hp then follows n c else n == c
  | none => true

theorem isContinuous_eq (f : F) (p : Bytes) (h : p.length = 188) :
    isContinuous f p = .ok (continuous f.cc (hpOf p) (ccOf p)) := by
  unfold isContinuous continuous hpOf ccOf
  cases hc : f.cc with
  | none => rfl
  | some c =>
    simp only [byte3, byteAt_ok p 3 (by omega), cc_exact p h, R.ok_bind, R.pure_eq]
    cases hasPayload (byteD p 3) <;> rfl

/-- `consume` on already-decoded inputs -/
def stepPure (f : F) (us hp : Bool) (n : Nat) (pay : Option (Nat × Nat)) (hdr : Bool) : F × List Ev :=
  let cont := continuous f.cc hp n
  let st1 := if !cont then (if f.st != .begin then St.ignoreRest else f.st) else f.st
  let ev1 := if !cont then [Ev.ccErr] else []
  if us then
    let ev2 := if st1 == .started then [Ev.endPkt] else if st1 == .begin then [Ev.start] else []
    match pay with
    | some r =>
      if hdr then (⟨some n, .started⟩, ev1 ++ ev2 ++ [Ev.beginPkt r.1 r.2])
      else (⟨some n, .ignoreRest⟩, ev1 ++ ev2)
    | none => (⟨some n, .ignoreRest⟩, ev1 ++ ev2)
  else
    match st1 with
    | .started =>
      match pay with
      | some r => if r.2 != 0 then (⟨some n, st1⟩, ev1 ++ [Ev.cont r.1 r.2]) else (⟨some n, st1⟩, ev1)
      | none => (⟨some n, st1⟩, ev1)
    | _ => (⟨some n, st1⟩, ev1)

def stepOf (f : F) (p : Bytes) : F × List Ev :=
  stepPure f (usOf p) (hpOf p) (ccOf p) (payOf p) (hdrOf p)

theorem consume_eq (f : F) (p : Bytes) (h : p.length = 188) : consume f p = .ok (stepOf f p) := by
  unfold consume stepOf stepPure
  rw [isContinuous_eq f p h, cc_exact p h, pusi_exact p h, payload_exact p h, pid_exact p h]
  simp only [R.ok_bind, R.pure_eq]
  unfold hdrOf
  show _ = R.ok (if usOf p = true then _ else _)
  unfold usOf payOf
  generalize continuous f.cc (hpOf p) (ccOf p) = b
  generalize (splitSpec (hasAf (byteD p 3)) (hasPayload (byteD p 3)) (byteD p 4)).2 = pay
  generalize (readBits p 9 1 == 1) = us
  rcases pay with _ | r
  · cases us <;> cases b <;> cases hst : f.st <;> simp [ccOf]
  · cases hh : hdrOk (rangeBytes p r) <;> cases us <;> cases b <;> cases hst : f.st <;>
      simp [headerFromBytes_eq, hh, ccOf] <;> split <;> rfl

theorem consume_inv {f f' : F} {p : Bytes} {evs : List Ev} (h : p.length = 188)
    (hc : consume f p = .ok (f', evs)) : f' = (stepOf f p).1 ∧ evs = (stepOf f p).2 := by
  rw [consume_eq f p h] at hc
  injection hc with hc
  rw [hc]; exact ⟨rfl, rfl⟩

/-! ### the abstraction to protocol states -/

def abs : St → PState
  | .begin => .notStarted
  | .started => .open_
  | .ignoreRest => .idle

theorem abs_open_iff (s : St) : abs s = .open_ ↔ s = .started := by cases s <;> simp [abs]

/-- the state after the continuity check -/
def afterCheck (b : Bool) (st : St) : St := if b then st else if st = .begin then .begin else .ignoreRest

/-- the callbacks that follow the continuity check, from the state it leaves -/
def afterEvs (s : St) (us : Bool) (pay : Option (Nat × Nat)) (hdr : Bool) : List Ev :=
  if us then
    (match s with | .started => [.endPkt] | .begin => [.start] | .ignoreRest => []) ++
      (match pay with | some r => if hdr then [.beginPkt r.1 r.2] else [] | none => [])
  else match s, pay with
    | .started, some r => if r.2 != 0 then [.cont r.1 r.2] else []
    | _, _ => []

/-! ### the pure step in closed form, and what follows from it -/

section pure
variable (f : F) (us hp : Bool) (n : Nat) (pay : Option (Nat × Nat)) (hdr : Bool)

theorem stepPure_eq :
    stepPure f us hp n pay hdr =
      (⟨some n, if us then (if pay.isSome && hdr then .started else .ignoreRest)
          else afterCheck (continuous f.cc hp n) f.st⟩,
        (if continuous f.cc hp n then [] else [.ccErr]) ++
          afterEvs (afterCheck (continuous f.cc hp n) f.st) us pay hdr) := by
  unfold stepPure
  generalize continuous f.cc hp n = b
  rcases f with ⟨fc, st⟩
  cases b <;> cases st <;> cases us <;> rcases pay with _ | r <;> cases hdr <;> try rfl
  all_goals (cases h : r.2 != 0 <;> simp [afterCheck, afterEvs, h])

theorem stepPure_cc : (stepPure f us hp n pay hdr).1.cc = some n := by rw [stepPure_eq]

theorem ccErr_not_afterEvs (s : St) : Ev.ccErr ∉ afterEvs s us pay hdr := by
  cases s <;> cases us <;> rcases pay with _ | r <;> cases hdr <;> simp [afterEvs] <;> split <;> simp

theorem stepPure_ccErr_mem :
    Ev.ccErr ∈ (stepPure f us hp n pay hdr).2 ↔ continuous f.cc hp n = false := by
  rw [stepPure_eq]
  cases continuous f.cc hp n <;> simp [ccErr_not_afterEvs]

theorem stepPure_ccErr_not_tail : Ev.ccErr ∉ (stepPure f us hp n pay hdr).2.tail := by
  rw [stepPure_eq]
  cases continuous f.cc hp n
  · exact ccErr_not_afterEvs _ _ _ _
  · exact fun h => ccErr_not_afterEvs _ _ _ _ (List.mem_of_mem_tail h)

theorem stepPure_accepts :
    accepts (abs f.st) (stepPure f us hp n pay hdr).2 = some (abs (stepPure f us hp n pay hdr).1.st) := by
  rw [stepPure_eq]
  generalize continuous f.cc hp n = b
  rcases f with ⟨fc, st⟩
  cases b <;> cases st <;> cases us <;> rcases pay with _ | r <;> cases hdr <;>
    simp [afterCheck, afterEvs, accepts, protoStep, abs] <;> split <;> simp [accepts, protoStep]

theorem stepPure_begin_mem (o l : Nat) :
    Ev.beginPkt o l ∈ (stepPure f us hp n pay hdr).2 ↔ (us = true ∧ pay = some (o, l) ∧ hdr = true) := by
  rw [stepPure_eq]
  generalize continuous f.cc hp n = b
  rcases f with ⟨fc, st⟩
  cases b <;> cases st <;> cases us <;> rcases pay with _ | ⟨r1, r2⟩ <;> cases hdr <;>
    simp [afterCheck, afterEvs] <;> (try split) <;> (try simp) <;> omega

theorem stepPure_cont_mem (o l : Nat) :
    Ev.cont o l ∈ (stepPure f us hp n pay hdr).2 ↔
      (us = false ∧ pay = some (o, l) ∧ l ≠ 0 ∧ f.st = .started ∧ continuous f.cc hp n = true) := by
  rw [stepPure_eq]
  generalize continuous f.cc hp n = b
  rcases f with ⟨fc, st⟩
  cases b <;> cases st <;> cases us <;> rcases pay with _ | ⟨r1, r2⟩ <;> cases hdr <;>
    simp [afterCheck, afterEvs] <;> (try split) <;> (try simp) <;> omega

theorem stepPure_started_iff :
    (stepPure f us hp n pay hdr).1.st = .started ↔
      ((us = true ∧ pay.isSome = true ∧ hdr = true) ∨
       (us = false ∧ f.st = .started ∧ continuous f.cc hp n = true)) := by
  rw [stepPure_eq]
  rcases f with ⟨fc, st⟩
  cases continuous fc hp n <;> cases st <;> cases us <;> simp [afterCheck]

theorem stepPure_begin_iff :
    (stepPure f us hp n pay hdr).1.st = .begin ↔ (us = false ∧ f.st = .begin) := by
  rw [stepPure_eq]
  rcases f with ⟨fc, st⟩
  cases continuous fc hp n <;> cases st <;> cases us <;> simp [afterCheck] <;> split <;> simp
end pure

/-! ### continuity -/

theorem follows_iff (n c : Nat) : follows n c = true ↔ n = (c + 1) % 16 := by
  unfold follows
  have : (c + 1) &&& 0b1111 = (c + 1) % 16 := Nat.and_two_pow_sub_one_eq_mod (c + 1) 4
  rw [this, beq_iff_eq]
  exact eq_comm

theorem continuous_false_iff (fc : Option Nat) (hp : Bool) (n : Nat) :
    continuous fc hp n = false ↔ ∃ c, fc = some c ∧ n ≠ (if hp = true then (c + 1) % 16 else c) := by
  cases fc with
  | none => simp [continuous]
  | some c =>
    cases hp
    · simp [continuous]
    · have := follows_iff n c
      cases hf : follows n c <;> simp [continuous, hf] <;> simp [hf] at this <;> exact this

theorem hpOf_eq (p : Bytes) : hpOf p = (readBits p 27 1 == 1) := (afc_exact p).2

/-! ### `run` is total on 188-byte packets and equals a pure fold -/

def runPure (f : F) : List Bytes → F × List (List Ev)
  | [] => (f, [])
  | p :: ps => ((runPure (stepOf f p).1 ps).1, (stepOf f p).2 :: (runPure (stepOf f p).1 ps).2)

theorem run_eq (f : F) (ps : List Bytes) (h : ∀ p ∈ ps, p.length = 188) :
    run f ps = .ok (runPure f ps) := by
  induction ps generalizing f with
  | nil => rfl
  | cons p ps ih =>
    have hp : p.length = 188 := h p (by simp)
    have ih' := ih (stepOf f p).1 (fun q hq => h q (List.mem_cons_of_mem _ hq))
    simp only [run, consume_eq f p hp, R.ok_bind, ih', R.pure_eq, runPure]

theorem run_inv {f f' : F} {ps : List Bytes} {evss : List (List Ev)} (h : ∀ p ∈ ps, p.length = 188)
    (hr : run f ps = .ok (f', evss)) : f' = (runPure f ps).1 ∧ evss = (runPure f ps).2 := by
  rw [run_eq f ps h] at hr
  injection hr with hr
  rw [hr]; exact ⟨rfl, rfl⟩

theorem runPure_append (f : F) (a b : List Bytes) :
    runPure f (a ++ b) = ((runPure (runPure f a).1 b).1, (runPure f a).2 ++ (runPure (runPure f a).1 b).2) := by
  induction a generalizing f with
  | nil => rfl
  | cons p ps ih => simp only [List.cons_append, runPure, ih]

theorem runPure_length (f : F) (ps : List Bytes) : (runPure f ps).2.length = ps.length := by
  induction ps generalizing f with
  | nil => rfl
  | cons p ps ih => simp [runPure, ih]

theorem stepOf_accepts (f : F) (p : Bytes) :
    accepts (abs f.st) (stepOf f p).2 = some (abs (stepOf f p).1.st) := stepPure_accepts ..

/-- a step ends with a packet open either because it is a unit start that delivered `begin_packet`
or because the packet was open before and the counter fits -/
theorem stepOf_started {f : F} {p : Bytes} (h : (stepOf f p).1.st = .started) :
    (usOf p = true ∧ ∃ o l, Ev.beginPkt o l ∈ (stepOf f p).2) ∨
    (usOf p = false ∧ f.st = .started ∧ continuous f.cc (hpOf p) (ccOf p) = true) := by
  rcases (stepPure_started_iff ..).mp h with ⟨hu, hp, hh⟩ | h
  · cases hpay : payOf p with
    | none => rw [hpay] at hp; cases hp
    | some r => exact .inl ⟨hu, r.1, r.2, (stepPure_begin_mem ..).mpr ⟨hu, hpay, hh⟩⟩
  · exact .inr h

theorem runPure_accepts (f : F) (ps : List Bytes) :
    accepts (abs f.st) (runPure f ps).2.flatten = some (abs (runPure f ps).1.st) := by
  induction ps generalizing f with
  | nil => rfl
  | cons p ps ih =>
    simp only [runPure, List.flatten_cons, accepts_append, stepOf_accepts, Option.bind_some, ih]

/-- with no packet open, a run delivers neither continuation data nor `end_packet` before its next
`begin_packet` -/
theorem runPure_closed_until_begin (f : F) (ps : List Bytes) (hst : f.st ≠ .started)
    (mid rest : List Ev) (hsplit : (runPure f ps).2.flatten = mid ++ rest)
    (hmid : ∀ o l, Ev.beginPkt o l ∉ mid) : (∀ o l, Ev.cont o l ∉ mid) ∧ Ev.endPkt ∉ mid := by
  have hacc := runPure_accepts f ps
  rw [hsplit] at hacc
  obtain ⟨m, hm, _⟩ := accepts_append_some hacc
  have ⟨h1, h2, _⟩ := closed_without_begin hm (fun x => hst ((abs_open_iff _).mp x)) hmid
  exact ⟨h1, h2⟩

theorem runPure_getElem? (f : F) (ps : List Bytes) (k : Nat) (p : Bytes) (hk : ps[k]? = some p) :
    (runPure f ps).2[k]? = some (stepOf (runPure f (ps.take k)).1 p).2 := by
  induction ps generalizing f k with
  | nil => simp at hk
  | cons q qs ih =>
    cases k with
    | zero => simp at hk; subst hk; simp [runPure]
    | succ k =>
      simp at hk
      simp only [runPure, List.getElem?_cons_succ, List.take_succ_cons]
      exact ih _ k hk

theorem runPure_quarantine (f : F) (ps : List Bytes) (hst : f.st ≠ .started)
    (hus : ∀ p ∈ ps, usOf p = false) :
    (∀ o l, Ev.cont o l ∉ (runPure f ps).2.flatten) ∧ (runPure f ps).1.st ≠ .started := by
  induction ps generalizing f with
  | nil => simp [runPure, hst]
  | cons p ps ih =>
    have hp : usOf p = false := hus p (by simp)
    have h1 : (stepOf f p).1.st ≠ .started := by
      intro h
      rcases (stepPure_started_iff ..).mp h with ⟨hu, _⟩ | ⟨_, hs, _⟩
      · rw [hp] at hu; cases hu
      · exact hst hs
    have ⟨h2, h3⟩ := ih (stepOf f p).1 h1 (fun q hq => hus q (List.mem_cons_of_mem _ hq))
    refine ⟨?_, h3⟩
    intro o l hm
    simp only [runPure, List.flatten_cons, List.mem_append] at hm
    rcases hm with hm | hm
    · exact hst ((stepPure_cont_mem ..).mp hm).2.2.2.1
    · exact h2 o l hm

/-! ### the recognised header, in terms of the packet's own bytes -/

theorem payOf_sound {p : Bytes} {o l : Nat} (h : payOf p = some (o, l)) : 1 ≤ l ∧ o + l = 188 ∧ 4 ≤ o :=
  (split_sound (hasAf (byteD p 3)) (hasPayload (byteD p 3)) (byteD p 4)).2.1 (o, l) h

theorem payloadRange_eq (p : Bytes) (h : p.length = 188) : payloadRange p = .ok (payOf p) :=
  payload_exact p h

theorem hdrOk_range (p : Bytes) (o l : Nat) (h : o + l ≤ p.length) :
    hdrOk (rangeBytes p (o, l)) = true ↔
      (6 ≤ l ∧ byteD p o = 0 ∧ byteD p (o + 1) = 0 ∧ byteD p (o + 2) = 1) := by
  rw [hdrOk_iff]
  have hlen : (rangeBytes p (o, l)).length = l := by
    simp only [rangeBytes, List.length_take, List.length_drop]; omega
  rw [hlen]
  by_cases h6 : 6 ≤ l
  · simp only [rangeBytes, byteD_take _ l 0 (by omega), byteD_take _ l 1 (by omega),
      byteD_take _ l 2 (by omega), byteD_drop, Nat.add_zero]
  · simp [h6]

theorem headerFromBytes_some_iff (b : Bytes) :
    Pes.headerFromBytes b = .ok (some b) ↔ hdrOk b = true := by
  rw [headerFromBytes_eq]
  cases hdrOk b <;> simp

theorem usOf_true_iff (p : Bytes) : usOf p = true ↔ readBits p 9 1 = 1 := by simp [usOf]
theorem usOf_false_iff (p : Bytes) : usOf p = false ↔ readBits p 9 1 ≠ 1 := by simp [usOf]

/-- decidable equality on results, for the concrete `decide` examples only -/
scoped instance instDecEqR {α : Type} [DecidableEq α] : DecidableEq (R α)
  | .ok a, .ok b => if h : a = b then isTrue (h ▸ rfl) else isFalse (fun e => h (R.ok.inj e))
  | .panic s, .panic t => if h : s = t then isTrue (h ▸ rfl) else isFalse (fun e => h (R.panic.inj e))
  | .ok _, .panic _ => isFalse (fun e => nomatch e)
  | .panic _, .ok _ => isFalse (fun e => nomatch e)

/-! ### concrete packets for the `decide` examples -/

/-- a concrete transport packet: sync byte, flags byte `b1` (0x40 = unit start), PID low byte 0,
byte 3 `b3` (0x10 = payload flag, 0x20 = adaptation-field flag, low nibble = continuity counter),
the bytes `pay` following the 4-byte header, then `ff` stuffing up to 188 bytes -/
def mkPkt (b1 b3 : UInt8) (pay : List UInt8) : Bytes :=
  [0x47, b1, 0x00, b3] ++ pay ++ List.replicate (184 - pay.length) 0xff

/-- a PES header start: `00 00 01`, stream id `e0`, length 0 -/
def pesStart : List UInt8 := [0, 0, 1, 0xe0, 0, 0]

end Ts.Lemmas.C08
