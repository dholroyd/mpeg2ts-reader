import Ts.Gen.TablesGen
import Ts.Props.C16
import Ts.Lemmas.C01
import Ts.Props.Ties.StmtIters
/-!
# Statement-level tie — the PAT table processor (audited with C05 and C10)

`Ts.Gen.TablesGen.PatProcessor` is `PatProcessor::{default, section, new_table, remove_outdated}` of
`/repo/src/demultiplex.rs` as they read NOW, translated statement by statement by
`tools/gen_tables.py`; its `for desc in sect.programs()` loop runs the TRANSLATED iterator
(`ItersGen.ProgramIter.next`) interleaved with the loop body.  `tie_stmt_pat_section` proves that,
with the application's `construct` plugged in, for EVERY context, registered set, queue, header and
section data (the header's `table_id` being the data's first byte — `StmtCapstone.gatedH_hok`), the
translated processor computes exactly the model's `App.patSection`: the same context (handler
requests in the same order with the same contents), the same registered set, and the model's changes
appended to the queue in the same order.  Together with `Ts/Props/Ties/StmtPsiGate.lean` the model's
PAT handler is, end to end, code translated from the source — up to the application's `construct`.
-/
-- as in `StmtPsi.lean`: the simp lists cover equivalent spellings of the source
set_option linter.unusedSimpArgs false
namespace Ts.Props.Ties.StmtTables
open Ts Ts.Stmt Ts.StmtVec Ts.Demux Ts.App Ts.Gen Ts.Gen.TablesGen Ts.Props.Ties.StmtPsi Ts.Props.Ties.StmtIters

/-- the iterator never panicking, the interleaved loop is the loop over what it yields -/
theorem forIter_of_iterate {ι α σ : Type} (next : ι → R (ι × Option α)) (f : α → σ → R σ) :
    ∀ (fuel : Nat) (it : ι) (s : σ) (l : List α), iterate next fuel it = .ok l →
      forIter next fuel it s f = forEach l s f := by
  intro fuel
  induction fuel with
  | zero => intro it s l h; cases h; rfl
  | succ n ih =>
    intro it s l h
    unfold iterate at h
    unfold forIter
    obtain ⟨⟨it', o⟩, hn, h⟩ := R.bind_eq_ok h
    rw [hn]
    cases o with
    | none => cases h; rfl
    | some x =>
      obtain ⟨rest, hi, h⟩ := R.bind_eq_ok h
      cases h
      simp only [R.ok_bind]
      unfold forEach
      cases hf : f x s with
      | panic m => rfl
      | ok s' => exact ih it' s' rest hi

def appConstruct (c : Ctx) (r : Req) : R (Handler × Ctx) := .ok (App.construct c r)

/-- the body of the `for desc in sect.programs()` loop, as translated, with `appConstruct` plugged in -/
def patBody (desc : Tables.PatEntry) (st : PatProcessor × Ctx × List (Change Handler) × List Nat) :
    R (PatProcessor × Ctx × List (Change Handler) × List Nat) := do
  let (self, ctx, q, pids_seen) := st
  let (filter, ctx) ← (match desc with
    | .program program_number pid => appConstruct ctx (App.Req.pmt pid program_number)
    | .network pid => appConstruct ctx (App.Req.nit pid))
  let q := q ++ [Change.insert desc.pid filter]
  let pids_seen := pids_seen ++ [desc.pid]
  let self := { self with filters_registered := self.filters_registered ++ [desc.pid] }
  pure (self, ctx, q, pids_seen)

def patStep (acc : Ctx × List (Change Handler)) (e : Tables.PatEntry) : Ctx × List (Change Handler) :=
  let req := match e with
    | .program pn pid => Req.pmt pid pn
    | .network pid => Req.nit pid
  let (h, c') := construct acc.1 req
  (c', acc.2 ++ [Change.insert e.pid h])

theorem patBody_eq (e : Tables.PatEntry) (reg : List Nat) (c : Ctx) (q : List (Change Handler)) (seen : List Nat) :
    patBody e (⟨reg⟩, c, q, seen)
      = .ok (⟨reg ++ [e.pid]⟩, (patStep (c, q) e).1, (patStep (c, q) e).2, seen ++ [e.pid]) := by
  cases e <;> rfl

theorem pat_loop (entries : List Tables.PatEntry) : ∀ (reg : List Nat) (c : Ctx) (q : List (Change Handler)) (seen : List Nat),
    forEach entries ((⟨reg⟩ : PatProcessor), c, q, seen) patBody
      = .ok (⟨reg ++ entries.map Tables.PatEntry.pid⟩, (entries.foldl patStep (c, q)).1,
          (entries.foldl patStep (c, q)).2, seen ++ entries.map Tables.PatEntry.pid) := by
  induction entries with
  | nil => intro reg c q seen; simp [forEach]
  | cons e es ih =>
    intro reg c q seen
    unfold forEach
    rw [patBody_eq]
    simp only []
    rw [ih]
    simp [List.append_assoc]

/-- a fold whose step only appends to the queue: started with a queue `q` it is the fold started with
`[]`, `q` prepended -/
theorem foldl_queue {α β γ : Type} (f : β × List γ → α → β × List γ)
    (hf : ∀ c q e, f (c, q) e = ((f (c, []) e).1, q ++ (f (c, []) e).2)) (l : List α) :
    ∀ (c : β) (q : List γ), l.foldl f (c, q) = ((l.foldl f (c, [])).1, q ++ (l.foldl f (c, [])).2) := by
  induction l with
  | nil => intro c q; simp
  | cons e es ih =>
    intro c q
    rw [List.foldl_cons, List.foldl_cons, hf c q e, ih _ (q ++ _), ih (f (c, []) e).1 (f (c, []) e).2]
    simp [List.append_assoc]

theorem pat_fold_queue (entries : List Tables.PatEntry) : ∀ (c : Ctx) (q : List (Change Handler)),
    entries.foldl patStep (c, q)
      = ((entries.foldl patStep (c, [])).1, q ++ (entries.foldl patStep (c, [])).2) :=
  foldl_queue patStep (fun c q e => by cases e <;> rfl) entries

/-- the body of the `for pid in registered.difference(&seen)` loop, as translated -/
def remBody (pid : Nat) (q : List (Change Handler)) : R (List (Change Handler)) := do
  let t ← Tables.pidNew pid
  pure (q ++ [Change.remove t])

def remItem (p : Nat) : R (Change Handler) := do
  let q ← Tables.pidNew p
  pure (Change.remove (H := Handler) q)

theorem remBody_eq (p : Nat) (q : List (Change Handler)) :
    remBody p q = (Tables.pidNew p >>= fun t => R.ok (q ++ [Change.remove t])) := rfl
theorem remItem_eq (p : Nat) : remItem p = (Tables.pidNew p >>= fun t => R.ok (Change.remove (H := Handler) t)) := rfl

theorem remove_loop (l : List Nat) : ∀ (q : List (Change Handler)),
    forEach l q remBody = (l.mapM remItem >>= fun rem => R.ok (q ++ rem)) := by
  induction l with
  | nil => intro q; simp [forEach, List.mapM_nil]
  | cons p ps ih =>
    intro q
    unfold forEach
    rw [List.mapM_cons, remBody_eq p q, remItem_eq p]
    cases Tables.pidNew p with
    | panic m => rfl
    | ok t =>
      simp only [R.ok_bind, bind_pure_comp, pure_bind]
      rw [ih (q ++ [Change.remove t])]
      cases List.mapM remItem ps with
      | panic m => rfl
      | ok rem => simp [List.append_assoc]

attribute [local irreducible] App.outdated

theorem tie_stmt_remove_outdated (reg seen : List Nat) (q : List (Change Handler)) :
    PatProcessor.remove_outdated (H := Handler) ⟨reg⟩ q seen
      = ((outdated reg seen).mapM remItem >>= fun rem => R.ok ((⟨seen⟩ : PatProcessor), q ++ rem)) := by
  unfold PatProcessor.remove_outdated
  show (forEach (outdated reg seen) q remBody >>= fun q' => R.ok ((⟨seen⟩ : PatProcessor), q')) = _
  rw [remove_loop]
  cases List.mapM remItem (outdated reg seen) <;> rfl

/-- `PatProcessor::new_table`, closed form: the translated loop over the translated iterator is the
model's fold over the parsed entries, the removals are the model's -/
theorem tie_stmt_pat_new_table (reg : List Nat) (c : Ctx) (q : List (Change Handler)) (h : Psi.Header) (sect : Slice) :
    PatProcessor.new_table appConstruct ⟨reg⟩ c q h sect
      = (if (0 != h.tableId) = true then R.ok ((⟨reg⟩ : PatProcessor), c, q)
         else
           Tables.patProgramsAll sect.bytes >>= fun entries =>
             (outdated (reg ++ entries.map Tables.PatEntry.pid) (entries.map Tables.PatEntry.pid)).mapM remItem >>= fun rem =>
               R.ok ((⟨entries.map Tables.PatEntry.pid⟩ : PatProcessor), (entries.foldl patStep (c, [])).1,
                 q ++ (entries.foldl patStep (c, [])).2 ++ rem)) := by
  unfold PatProcessor.new_table
  by_cases ht : (0 != h.tableId) = true
  · simp only [ht, if_true, R.pure_eq]
  · simp only [ht, Bool.false_eq_true, if_false]
    have htot := (Ts.Props.C16.pat_entries sect.bytes).1
    have hit : iterate ItersGen.ProgramIter.next (sect.len + 1) ⟨sect⟩ = .ok (Spec.TableSpec.specPat sect.bytes) := by
      rcases sect with ⟨b, src⟩
      exact (code_pat_programs_all b src).trans htot
    show (forIter ItersGen.ProgramIter.next (sect.len + 1) ⟨sect⟩ ((⟨reg⟩ : PatProcessor), c, q, ([] : List Nat)) patBody
        >>= fun st => PatProcessor.remove_outdated st.1 st.2.2.1 st.2.2.2 >>= fun r => R.ok (r.1, st.2.1, r.2)) = _
    rw [forIter_of_iterate _ _ _ _ _ _ hit, pat_loop, htot]
    simp only [R.ok_bind, List.nil_append]
    rw [tie_stmt_remove_outdated, pat_fold_queue]
    simp only [R.bind_assoc, R.ok_bind]

/-- TIE: `PatProcessor::section` with the application's `construct` IS the model's `App.patSection`,
the model's changes appended to whatever was already queued -/
theorem tie_stmt_pat_section (c : Ctx) (reg : List Nat) (q : List (Change Handler)) (h : Psi.Header) (d : Slice)
    (hh : h.tableId = byteD d.bytes 0) :
    PatProcessor.«section» appConstruct ⟨reg⟩ c q h d
      = rmap (fun r => ((⟨r.2.1⟩ : PatProcessor), r.1, q ++ r.2.2)) (App.patSection c reg d.bytes) := by
  unfold PatProcessor.«section» App.patSection
  simp only [Slice.len]
  by_cases h4 : 4 ≤ d.bytes.length
  · simp only [subR_ok _ _ h4, R.ok_bind, Slice.sub, R.bind_assoc, R.pure_eq]
    show (sliceR d.bytes 8 (d.bytes.length - 4) >>= fun x => PatProcessor.new_table appConstruct ⟨reg⟩ c q h ⟨x, d.src.map (· + 8)⟩) = _
    cases sliceR d.bytes 8 (d.bytes.length - 4) with
    | panic m => rfl
    | ok body =>
      simp only [R.ok_bind, byteAt_ok d.bytes 0 (by omega), tie_stmt_pat_new_table, hh, bne_comm (a := 0)]
      by_cases ht : (byteD d.bytes 0 != 0) = true
      · simp only [ht, if_true, R.pure_eq, rmap_ok, List.append_nil]
      · simp only [ht, Bool.false_eq_true, if_false, rmap_bind]
        cases Tables.patProgramsAll body with
        | panic m => rfl
        | ok entries =>
          simp only [R.ok_bind]
          show (List.mapM remItem _ >>= _) = (List.mapM remItem _ >>= _)
          cases List.mapM remItem (outdated (reg ++ List.map Tables.PatEntry.pid entries) (List.map Tables.PatEntry.pid entries)) with
          | panic m => rfl
          | ok rem =>
            simp only [R.ok_bind, R.pure_eq, rmap_ok, List.append_assoc]
            rfl
  · have : subR d.bytes.length 4 = .panic "attempt to subtract with overflow" := by
      unfold subR; simp [h4]
    simp only [this, R.panic_bind, rmap_panic]

/-- `PatProcessor::default`: nothing registered -/
theorem tie_stmt_pat_default : (PatProcessor.default).filters_registered = [] := rfl

end Ts.Props.Ties.StmtTables
