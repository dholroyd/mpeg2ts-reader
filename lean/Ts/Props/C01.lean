import Ts.Lemmas.C01c
import Ts.Lemmas.AppEval
/-!
# C01 — demultiplexing never panics

For any byte sequence, cut in any way across successive `push` calls, demultiplexing with the
library's PAT, PMT and PES handling (`App.runApp`) returns `R.ok`, and so does every accessor /
`Debug` rendering of what application callbacks are handed along the way (`touch := true`).  The
model transcribes every Rust operation that can unwind (index, slice, `unwrap`, `assert!`,
asserting constructors, `usize` underflow, checked arithmetic, `match … => panic!`) as a checked
operation of the panic monad `R`, so `= R.ok _` is panic freedom.  It holds for EVERY
configuration: `bypassCrc` (the `cfg(fuzzing)` build, section bodies not CRC-protected), `touch`,
any recorder script.

Handler invariant `HInv` → `consume_total` → table invariant `TabInv` → `push_total` → `no_panic`.
The dispatcher's `debug_assert!(changeset.is_empty())` is modelled structurally: `consume` RETURNS
the queued changes and `applyChanges` consumes the whole list.

Partial (as fixed in DESIGN.md): the `Debug` half covers the accessor calls the `Debug` impls make;
`std::fmt` machinery and the allocator are not modelled.
-/
namespace Ts.Props.C01
open Ts Ts.Demux Ts.App Ts.Psi Ts.Spec.SectionMux Ts.Lemmas.C03 Ts.Lemmas.C01

/-! ### 1. the handler invariant -/

/-- `HInv`, spelled out: PAT / PMT handlers hold a section-reassembly state that satisfies the
buffer invariant of C03 (`PsiInvFull .syntax`) and whose buffered header (if any) has the
`section_syntax_indicator` set; PES filters (C08: total in every state, any `cc`) and recorders
need nothing -/
theorem hinv_iff :
    (∀ s reg, HInv (.pat s reg) ↔ (PsiInvFull .syntax s ∧ ∀ n, s.remaining = some n → hdrSyn s.buf = true)) ∧
    (∀ pid prog s reg, HInv (.pmt pid prog s reg) ↔
      (PsiInvFull .syntax s ∧ ∀ n, s.remaining = some n → hdrSyn s.buf = true)) ∧
    (∀ tag f, HInv (.pes tag f)) ∧ (∀ tag, HInv (.recorder tag)) :=
  ⟨fun _ _ => Iff.rfl, fun _ _ _ _ => Iff.rfl, fun _ _ => trivial, fun _ => trivial⟩

theorem hinv_psi :
    (∀ s reg, HInv (.pat s reg) → PsiInvFull .syntax s) ∧
    (∀ pid prog s reg, HInv (.pmt pid prog s reg) → PsiInvFull .syntax s) :=
  ⟨fun _ _ h => h.1, fun _ _ _ _ h => h.1⟩

/-- PAT / PMT section reassembly is total on ARBITRARY 188-byte packets under the invariant, keeps
it, and every section handed to the CRC layer has the syntax bit set and 3..1024 bytes — which
discharges `assert!(header.section_syntax_indicator)` inside `crcPass` (and the hypotheses of C04's
gate theorems) -/
theorem deliveries_syntax (s : St) (hs : PsiInvFull .syntax s)
    (hy : ∀ n, s.remaining = some n → hdrSyn s.buf = true) (p : Bytes) (hp : p.length = 188) :
    ∃ s' ds, Psi.consume Psi.table s p = .ok (s', ds) ∧ PsiInvFull .syntax s'
      ∧ (∀ n, s'.remaining = some n → hdrSyn s'.buf = true)
      ∧ ds.length ≤ 2
      ∧ ∀ d ∈ ds, byteD d.bytes 1 &&& 0x80 ≠ 0 ∧ 3 ≤ d.bytes.length ∧ d.bytes.length ≤ 1024 :=
  consume_table_total s hs hy p hp

/-- the CRC layer never panics on such a section, in EITHER build, and passes only sections of at
least 12 bytes -/
theorem crc_layer_total (bypassCrc : Bool) (data : Bytes) (hs : byteD data 1 &&& 0x80 ≠ 0)
    (hl : 3 ≤ data.length) :
    ∃ b, Psi.crcPass bypassCrc data = .ok b ∧ (b = true → 12 ≤ data.length) :=
  crcPass_total bypassCrc data hs hl

/-! ### 2. every accessor and `Debug` rendering -/

/-- "touch everything" returns `.ok ()` on every value the library can hand out: any 188-byte
packet, any non-empty adaptation field, any PES header `PesHeader::from_bytes` accepts (≥ 6 bytes),
any PMT body `PmtSection::from_bytes` accepts, EVERY byte string as a descriptor loop.  For accepted
parsed PES contents in particular `u64::from(ClockRef)` (`base * 300 + ext < 2^64`) and the `u32`
multiplication of `EsRate::bytes_per_second` (`v * 50 < 2^32` as `v < 2^22`) never overflow. -/
theorem touch_total :
    (∀ p : Bytes, p.length = 188 → touchPacket p = .ok ()) ∧
    (∀ af : Bytes, af ≠ [] → touchAf af = .ok ()) ∧
    (∀ h : Bytes, 6 ≤ h.length → touchPesHeader h = .ok ()) ∧
    (∀ buf h : Bytes, Pes.headerFromBytes buf = .ok (some h) → touchPesHeader h = .ok ()) ∧
    (∀ c : Bytes, Pes.parsedFromBytes c = .ok (some c) → touchParsed c = .ok ()) ∧
    (∀ body sect : Bytes, Tables.pmtFromBytes body = .ok (some sect) → touchPmt sect = .ok ()) ∧
    (∀ b : Bytes, touchDescs b = .ok ()) := by
  refine ⟨touchPacket_ok, touchAf_ok, touchPesHeader_ok, ?_, ?_, touchPmt_ok', Lemmas.C05.touchDescs_ok⟩
  · intro buf h hh
    rw [Props.C14.header_accept_iff] at hh
    by_cases hc : 6 ≤ buf.length ∧ Spec.readBits buf 0 24 = 1
    · rw [if_pos hc] at hh; cases hh; exact touchPesHeader_ok _ hc.1
    · rw [if_neg hc] at hh; cases hh
  · intro c hc
    exact touchParsed_ok c (Props.C14.pes_fields_exact_accepted c hc).1

/-- the two arithmetic facts behind `touchParsed`, extracted: whatever `escr()` / `es_rate()`
return satisfies the bound that makes the conversion / multiplication safe -/
theorem parsed_arith (c : Bytes) (h3 : 3 ≤ c.length) :
    (∀ cr, Pes.escr c = .ok (.ok cr) → ∃ v, Time.crefTo27MHz cr = .ok v ∧ v < 2 ^ 64) ∧
    (∀ v, Pes.esRate c = .ok (.ok v) → v * 50 < 2 ^ 32) := by
  obtain ⟨_, _, _, _, a5, a6, _⟩ := Props.C14.pes_fields_exact_partial c h3
  constructor
  · intro cr h
    rw [a5] at h; injection h with h
    obtain ⟨hb, he⟩ := escr_bounds c cr h
    exact ⟨_, crefTo27MHz_ok cr hb he, by omega⟩
  · intro v h
    rw [a6] at h; injection h with h
    have := esRate_bound c v h
    omega

/-! ### 3. PAT / PMT section handlers on arbitrary section bytes -/

/-- For every context (so: `touch` true or false, either build), registered set and EVERY section
of at least 12 bytes (what passes the CRC layer — with `bypassCrc` the body is ARBITRARY):
`PatProcessor::section` and `PmtProcessor::section` return without panicking (`data.len() - 4`
does not underflow, `&data[8..len-4]` is in range, all `Pid::new` assertions hold, `Pid::new` on
the `outdated` PIDs holds), and every handler they queue satisfies `HInv`. -/
theorem section_handlers_total (c : Ctx) (reg : List Nat) (data : Bytes) (h12 : 12 ≤ data.length) :
    (∃ c' reg' chg, patSection c reg data = .ok (c', reg', chg)
        ∧ ∀ p g, Change.insert p g ∈ chg → HInv g) ∧
    (∀ pid, ∃ c' reg' chg, pmtSection c pid reg data = .ok (c', reg', chg)
        ∧ ∀ p g, Change.insert p g ∈ chg → HInv g) := by
  constructor
  · obtain ⟨c', reg', chg, h1, h2⟩ := patSection_total c reg data h12
    exact ⟨c', reg', chg, h1, fun p g hm => h2 _ hm⟩
  · intro pid
    obtain ⟨c', reg', chg, h1, h2⟩ := pmtSection_total c pid reg data h12
    exact ⟨c', reg', chg, h1, fun p g hm => h2 _ hm⟩

/-- the form with the upper bound of reassembled sections (`≤ 1024`, C03), as a corollary -/
theorem section_handlers_total_bounded (c : Ctx) (reg : List Nat) (data : Bytes)
    (h12 : 12 ≤ data.length) (_h1024 : data.length ≤ 1024) :
    (∃ r, patSection c reg data = .ok r) ∧ (∀ pid, ∃ r, pmtSection c pid reg data = .ok r) := by
  obtain ⟨⟨c', reg', chg, h1, _⟩, h2⟩ := section_handlers_total c reg data h12
  refine ⟨⟨_, h1⟩, fun pid => ?_⟩
  obtain ⟨c', reg', chg, h3, _⟩ := h2 pid
  exact ⟨_, h3⟩

/-! ### 4. one handler, one packet -/

/-- every handler satisfying the invariant consumes EVERY 188-byte packet without panicking; its
new state, and every handler queued for insertion (by PAT / PMT processing or by the recorder
script), satisfy the invariant -/
theorem consume_total : ∀ (h : Handler) (c : Ctx) (pk : Pk), HInv h → pk.bytes.length = 188 →
    ∃ h' c' chg, App.consume h c pk = .ok (h', c', chg) ∧ HInv h'
      ∧ ∀ p g, Change.insert p g ∈ chg → HInv g := by
  intro h c pk hi hp
  obtain ⟨h', c', chg, h1, h2, h3⟩ := Lemmas.C01.consume_total h c pk hi hp
  exact ⟨h', c', chg, h1, h2, fun p g hm => h3 _ hm⟩

/-- `do_construct` is total (it is a pure function) and yields handlers satisfying the invariant:
fresh PAT / PMT handlers have the empty reassembly state -/
theorem construct_total (c : Ctx) (req : Req) : HInv (construct c req).1 := construct_hinv c req

theorem sem_construct_total (c : Ctx) (pid : Nat) :
    ∃ h c', App.sem.construct c pid = .ok (h, c') ∧ HInv h :=
  Lemmas.C01.sem_construct_total c pid

/-! ### 5. the table invariant -/

theorem tabInv_def (t : Tab Handler) : TabInv t ↔ ∀ p h, t.get p = some h → HInv h := Iff.rfl

/-- `TabInv` is preserved by every operation the dispatcher performs on the filter table -/
theorem table_inv :
    TabInv [] ∧
    (∀ t p h, TabInv t → HInv h → TabInv (Tab.insert t p h)) ∧
    (∀ t p, TabInv t → TabInv (Tab.remove t p)) ∧
    (∀ t (cs : List (Change Handler)), TabInv t → (∀ p g, Change.insert p g ∈ cs → HInv g) →
      TabInv (applyChanges t cs)) ∧
    (∀ t c pid, TabInv t → ∃ t' c', ensure App.sem t c pid = .ok (t', c') ∧ TabInv t') := by
  refine ⟨tabInvG_nil HInv, fun t p h => tabInvG_insert HInv t p h, fun t p => tabInvG_remove HInv t p,
    ?_, fun t c pid ht => ensure_totalG App.sem HInv Lemmas.C01.sem_construct_total t c pid ht⟩
  intro t cs ht hc
  apply tabInvG_applyChanges HInv cs t ht
  intro ch hm
  cases ch with
  | insert p g => exact hc p g hm
  | remove p => trivial

/-! ### 6. `push` and the whole run -/

/-- `Demultiplex::push` on EVERY byte string `buf` — any length, packet-aligned or not
(`chunks_exact` drops the remainder), chunks with a bad sync byte skipped — returns without
panicking and keeps the table invariant -/
theorem push_total : ∀ (t : Tab Handler) (c : Ctx) (buf : Bytes) (base : Nat), TabInv t →
    ∃ t' c', Demux.push App.sem (t, c) buf base = .ok (t', c') ∧ TabInv t' :=
  fun t c buf base ht => push_totalG App.sem HInv Lemmas.C01.sem_construct_total app_hS t c buf base ht

theorem pushAll_total : ∀ (pushes : List Bytes) (t : Tab Handler) (c : Ctx) (base : Nat), TabInv t →
    ∃ t' c', Demux.pushAll App.sem (t, c) pushes base = .ok (t', c') ∧ TabInv t' :=
  fun pushes t c base ht =>
    pushAll_totalG App.sem HInv Lemmas.C01.sem_construct_total app_hS pushes t c base ht

theorem init_tabInv (cfg : App.Cfg) : TabInv (App.init cfg).1 := init_inv cfg

/-- **C01.** For every configuration (either build, callbacks touching everything or not, any
recorder script) and EVERY list of byte strings pushed in succession, the whole application run
returns without panicking. -/
theorem no_panic : ∀ (cfg : App.Cfg) (pushes : List Bytes), ∃ t c, App.runApp cfg pushes = .ok (t, c) := by
  intro cfg pushes
  obtain ⟨t, c, h, _⟩ := pushAll_total pushes (App.init cfg).1 (App.init cfg).2 0 (init_tabInv cfg)
  exact ⟨t, c, h⟩

/-- the final table still satisfies the invariant (so the run can be continued) -/
theorem no_panic_inv (cfg : App.Cfg) (pushes : List Bytes) :
    ∃ t c, App.runApp cfg pushes = .ok (t, c) ∧ TabInv t :=
  pushAll_total pushes (App.init cfg).1 (App.init cfg).2 0 (init_tabInv cfg)

theorem no_panic_isOk (cfg : App.Cfg) (pushes : List Bytes) : (App.runApp cfg pushes).isOk = true := by
  obtain ⟨t, c, h⟩ := no_panic cfg pushes
  rw [h]; rfl

/-! ### 7. non-vacuity -/

example : TabInv (App.init {}).1 := init_tabInv {}
example : ∃ s reg, Tab.get (App.init {}).1 0 = some (Handler.pat s reg) := ⟨_, _, rfl⟩
example : HInv (.pat {} []) := construct_total { cfg := {} } (.byPid 0)
/-- a mid-section PAT state satisfying the invariant: 8 header bytes buffered (syntax bit set,
`section_length = 13`), 8 bytes owed -/
example : HInv (.pat { buf := [0x00, 0xB0, 0x0D, 0x00, 0x01, 0xC1, 0x00, 0x00], remaining := some 8 } []) := by
  refine ⟨⟨?_, ?_⟩, ?_⟩
  · intro n hn; simp only [Option.some.injEq] at hn; subst hn; decide
  · intro n hn; simp only [Option.some.injEq] at hn; subst hn; decide
  · intro n _; decide

def pad (b : Bytes) : Bytes := b ++ List.replicate (188 - b.length) 0xff

/-- PAT on PID 0: program 1 → PMT PID 0x20; the CRC bytes are garbage -/
def exPat : Bytes := pad [0x47, 0x40, 0x00, 0x10, 0x00,
  0x00, 0xB0, 0x0D, 0x00, 0x01, 0xC1, 0x00, 0x00, 0x00, 0x01, 0xE0, 0x20, 0xDE, 0xAD, 0xBE, 0xEF]
/-- PMT on PID 0x20: one H.264 stream on PID 0x21 with a truncated registration descriptor -/
def exPmt : Bytes := pad [0x47, 0x40, 0x20, 0x10, 0x00,
  0x02, 0xB0, 0x15, 0x00, 0x01, 0xC1, 0x00, 0x00, 0xE0, 0x21, 0xF0, 0x00,
  0x1B, 0xE0, 0x21, 0xF0, 0x03, 0x05, 0x01, 0xAA, 0xDE, 0xAD, 0xBE, 0xEF]
/-- PES packet start on PID 0x21 whose optional header has every flag set (C14's `exC`) -/
def exPes : Bytes := pad ([0x47, 0x40, 0x21, 0x10, 0x00, 0x00, 0x01, 0xE0, 0x00, 0x00] ++ Props.C14.exC)
/-- sync byte followed by `0xff`s: PID 0x1fff, transport_error_indicator set -/
def exJunk : Bytes := pad [0x47]
/-- five packets and an unaligned 50-byte tail -/
def exStream : Bytes := exPat ++ exPmt ++ exPes ++ exJunk ++ exJunk ++ List.replicate 50 0xff

example : exStream.length = 5 * 188 + 50 := by decide +kernel

/-- the `cfg(fuzzing)` build with callbacks touching everything: the garbage-CRC PAT and PMT are
acted on (handlers for PIDs 0x20, 0x21 and 0x1fff get registered: the table grows to 8192 slots),
the PES header is walked.  That the runs below do not panic is `no_panic_isOk`; only the table size
needs the run evaluated. -/
example : (App.runApp { bypassCrc := true, touch := true } [exStream]).isOk = true := no_panic_isOk _ _
example : (match App.runApp { bypassCrc := true, touch := true } [exStream] with
    | .ok r => r.1.length
    | .panic _ => 0) = 8192 := by eval_app
/-- the normal build, hostile cutting: first 100 bytes, then the rest (so the second `push` starts
mid-packet and every chunk of it has a bad sync byte or is the dropped remainder) -/
example : (App.runApp { bypassCrc := false, touch := true }
    [exStream.take 100, exStream.drop 100]).isOk = true := no_panic_isOk _ _
/-- three junk packets and an unaligned tail of `0xff`s -/
example : (App.runApp {} [exJunk ++ exJunk ++ exJunk ++ List.replicate 77 0xff]).isOk = true :=
  no_panic_isOk _ _
/-- with a recorder script: the recorder seeing packet 3 inserts a filter on PID 5 and removes the
PAT filter -/
example : (App.runApp { bypassCrc := true, touch := true, script := [(3, [.ins 5, .rem 0])] }
    [exStream, exStream]).isOk = true := no_panic_isOk _ _
example : (App.runApp { bypassCrc := true, touch := true, script := [(3, [.ins 5, .rem 0])] }
    [exStream, exStream]).isOk = true := no_panic_isOk _ _

end Ts.Props.C01
