import Ts.Lemmas.Demux
import Ts.Lemmas.DemuxB
import Ts.Lemmas.C06b
import Ts.Model.App
/-!
# C06 — every clean packet goes exactly once, unmodified and in order, to the handler of its PID

All theorems hold for EVERY handler semantics `sem : Sem H C`: the double loop of
`Demultiplex::push` equals the one-packet-at-a-time fold `pushSpec`; one step of that fold read as
the property; the same at the level of the trace of `consume` calls (through the logging wrapper
`logSem`); interleaving independence in three strengths.  A theorem stated as `:= lemma` is the
property-level name of that lemma of `Ts/Lemmas/Demux.lean`.
-/
namespace Ts.Props.C06
open Ts Ts.Demux

variable {H C : Type}

/-- the double loop of `Demultiplex::push` = the per-packet fold, for every `Sem` -/
theorem push_refines_spec (sem : Sem H C) (tc : Tab H × C) (pks : List Pk) :
    pushModel sem tc pks = pushSpec sem tc pks :=
  pushModel_eq_pushSpec sem tc pks

/-!
### MODEL RESTRICTION (not a hypothesis of any theorem — it is built into the model's types)

A handler's `consume` RETURNS the changes it queued, `Sem.construct : C → Nat → R (H × C)` returns a
handler and a context only, and `push` takes and returns `(Tab H × C)`.  So a `FilterChangeset`
filled inside `construct(FilterRequest::ByPid(..))`, or left pending by the application between two
calls of `push`, is NOT representable; in the Rust code (`demultiplex.rs:621-674`) such a change stays
pending until a later non-flagged packet has been consumed and can survive the end of `push`.  C06,
C07 and C18 say NOTHING about such runs: "every `sem : Sem H C`" means every semantics expressible in
this interface.  That is exact for the harness application (its `construct` never touches the
changeset and it holds none across pushes).  Such runs are what `Ts/Model/DemuxQ.lean` models:
refinement and chunking irrelevance for them are in `Ts/Props/C07Q.lean`, and it is that model which
`Ts/Props/Ties/StmtPush.lean` proves equal to the translated loops of `demultiplex.rs`.
-/

/-- after lookup-or-construct the slot is occupied, so `get(this_pid).unwrap()` cannot panic -/
theorem unwrap_never_panics (sem : Sem H C) (t : Tab H) (c : C) (pid : Nat) (t' : Tab H) (c' : C)
    (h : ensure sem t c pid = .ok (t', c')) : (t'.get pid).isSome = true := by
  rw [← Tab.contains_iff_get]; exact ensure_contains sem t c pid t' c' h

/-- a step of the spec (and so of the model) panics only if `construct` or `consume` do:
the `unwrap` arm of `specStep` is never the source of a panic -/
theorem spec_step_panic_sources (sem : Sem H C) (t : Tab H) (c : C) (pk : Pk) (s : String)
    (hp : specStep sem (t, c) pk = .panic s) :
    (∃ c0, sem.construct c0 pk.pid = .panic s) ∨ (∃ h c0, sem.consume h c0 pk = .panic s) := by
  rw [specStep_eq] at hp
  rcases R.bind_eq_panic hp with hE | ⟨⟨t1, c1⟩, hE, hp⟩
  · left
    cases hc : t.contains pk.pid with
    | true => rw [ensure_of_contains sem t c pk.pid hc] at hE; cases hE
    | false =>
      rw [ensure_of_absent sem t c pk.pid hc] at hE
      rcases R.bind_eq_panic hE with hk | ⟨_, _, h⟩
      · exact ⟨c, hk⟩
      · cases h
  · right
    cases hf : pk.flagged with
    | true => simp only [hf, if_true] at hp; cases hp
    | false =>
      simp only [hf, Bool.false_eq_true, if_false] at hp
      obtain ⟨h, hh⟩ := Option.isSome_iff_exists.1 (unwrap_never_panics sem t c pk.pid t1 c1 hE)
      rw [hh] at hp
      rcases R.bind_eq_panic hp with hk | ⟨_, _, h⟩
      · exact ⟨h, c1, hk⟩
      · cases h

/-- a packet flagged with a transport error or scrambling is passed to NO handler: the step is just
the lookup-or-construct for its PID -/
theorem spec_step_flagged (sem : Sem H C) (t : Tab H) (c : C) (pk : Pk) (hf : pk.flagged = true) :
    specStep sem (t, c) pk = ensure sem t c pk.pid := by
  rw [specStep_eq]
  cases ensure sem t c pk.pid with
  | panic s => rfl
  | ok r => simp only [R.ok_bind, hf, if_true]

theorem spec_step_flagged_known (sem : Sem H C) (t : Tab H) (c : C) (pk : Pk)
    (hf : pk.flagged = true) (hc : t.contains pk.pid = true) : specStep sem (t, c) pk = .ok (t, c) :=
  specStep_flagged_of_contains sem t c pk hc hf

/-- an unflagged packet is consumed exactly once, unmodified, by the handler `h` registered for its
PID in the table `t1` obtained by lookup-or-construct, and by no other handler: before the queued
changes are applied every slot `q ≠ pk.pid` still holds what it held before the step. -/
theorem spec_step_consume (sem : Sem H C) (t : Tab H) (c : C) (pk : Pk) (t1 : Tab H) (c1 : C)
    (hf : pk.flagged = false) (hE : ensure sem t c pk.pid = .ok (t1, c1)) :
    ∃ h, t1.get pk.pid = some h ∧
      specStep sem (t, c) pk =
        (sem.consume h c1 pk >>= fun x =>
          R.ok (applyChanges (t1.insert pk.pid x.1) x.2.2, x.2.1)) ∧
      ∀ (h' : H) (q : Nat), q ≠ pk.pid → (t1.insert pk.pid h').get q = t.get q := by
  have hs := unwrap_never_panics sem t c pk.pid t1 c1 hE
  obtain ⟨h, hh⟩ := Option.isSome_iff_exists.1 hs
  refine ⟨h, hh, ?_, ?_⟩
  · rw [specStep_eq, hE]
    simp only [R.ok_bind, hf, Bool.false_eq_true, if_false, hh]
  · intro h' q hq
    rw [Tab.get_insert_ne _ _ _ _ hq, ensure_get_ne sem t c pk.pid t1 c1 hE q hq]

/-- `construct(ByPid pid)` is requested iff the PID has no handler, and then exactly once; the
constructed handler is installed in slot `pid` and every other slot is untouched -/
theorem construct_only_when_absent (sem : Sem H C) (t : Tab H) (c : C) (pid : Nat) :
    (t.contains pid = true → ensure sem t c pid = .ok (t, c)) ∧
    (t.contains pid = false →
      ensure sem t c pid = (sem.construct c pid >>= fun r => R.ok (t.insert pid r.1, r.2))) ∧
    (∀ t' c', ensure sem t c pid = .ok (t', c') → ∀ q, q ≠ pid → t'.get q = t.get q) :=
  ⟨ensure_of_contains sem t c pid, ensure_of_absent sem t c pid,
   fun t' c' h q hq => ensure_get_ne sem t c pid t' c' h q hq⟩

/-- in stream order: the fold processes packet `k` completely before packet `k+1` -/
theorem spec_in_stream_order (sem : Sem H C) (tc : Tab H × C) (pk : Pk) (rest : List Pk) :
    pushSpec sem tc (pk :: rest) = (specStep sem tc pk >>= fun tc' => pushSpec sem tc' rest) := rfl

/-- Interleaving independence.  `hS`, `hK`: the handlers are independent state machines — the new
handler state and the queued changes are a function `step` of (handler state, packet), the
constructed handler a function `mk` of the PID; the context may otherwise be read and modified freely
(e.g. to log callbacks).  `hN`: no packet of another PID queues a change for `p`.  Then both runs
succeed and the handler finally registered for `p` is the same whether or not the packets of other
PIDs are pushed (`p` need not have a handler initially). -/
theorem interleaving_independent (sem : Sem H C)
    (step : H → Pk → H × List (Change H)) (mk : Nat → H)
    (hS : ∀ h c pk, ∃ c', sem.consume h c pk = .ok ((step h pk).1, c', (step h pk).2))
    (hK : ∀ c pid, ∃ c', sem.construct c pid = .ok (mk pid, c'))
    (p : Nat)
    (hN : ∀ h pk, pk.pid ≠ p → ∀ ch ∈ (step h pk).2, ch.pid ≠ p)
    (t : Tab H) (c : C) (pks : List Pk) :
    ∃ t1 c1 t2 c2,
      pushSpec sem (t, c) pks = .ok (t1, c1) ∧
      pushSpec sem (t, c) (pks.filter (fun pk => pk.pid == p)) = .ok (t2, c2) ∧
      t1.get p = t2.get p := by
  obtain ⟨⟨t1, c1⟩, ⟨t2, c2⟩, h1, h2, h3⟩ :=
    pushSpec_filter_of_indep sem step mk hS hK p hN pks t t c c rfl
  exact ⟨t1, c1, t2, c2, h1, h2, h3⟩

theorem interleaving_independent_model (sem : Sem H C)
    (step : H → Pk → H × List (Change H)) (mk : Nat → H)
    (hS : ∀ h c pk, ∃ c', sem.consume h c pk = .ok ((step h pk).1, c', (step h pk).2))
    (hK : ∀ c pid, ∃ c', sem.construct c pid = .ok (mk pid, c'))
    (p : Nat)
    (hN : ∀ h pk, pk.pid ≠ p → ∀ ch ∈ (step h pk).2, ch.pid ≠ p)
    (t : Tab H) (c : C) (pks : List Pk) :
    ∃ t1 c1 t2 c2,
      pushModel sem (t, c) pks = .ok (t1, c1) ∧
      pushModel sem (t, c) (pks.filter (fun pk => pk.pid == p)) = .ok (t2, c2) ∧
      t1.get p = t2.get p := by
  rw [push_refines_spec, push_refines_spec]
  exact interleaving_independent sem step mk hS hK p hN t c pks

/-- Interleaving independence including the SEQUENCE of packets consumed: take `H × List Pk` as handler type, the second
component recording the packets the handler has been given so far. -/
theorem interleaving_independent_trace (sem : Sem (H × List Pk) C)
    (step : H → Pk → H × List (Change (H × List Pk))) (mk : Nat → H)
    (hS : ∀ h tr c pk, ∃ c', sem.consume (h, tr) c pk = .ok (((step h pk).1, tr ++ [pk]), c', (step h pk).2))
    (hK : ∀ c pid, ∃ c', sem.construct c pid = .ok ((mk pid, []), c'))
    (p : Nat)
    (hN : ∀ h pk, pk.pid ≠ p → ∀ ch ∈ (step h pk).2, ch.pid ≠ p)
    (t : Tab (H × List Pk)) (c : C) (pks : List Pk) :
    ∃ t1 c1 t2 c2,
      pushSpec sem (t, c) pks = .ok (t1, c1) ∧
      pushSpec sem (t, c) (pks.filter (fun pk => pk.pid == p)) = .ok (t2, c2) ∧
      t1.get p = t2.get p :=
  interleaving_independent sem
    (fun h pk => (((step h.1 pk).1, h.2 ++ [pk]), (step h.1 pk).2)) (fun pid => (mk pid, []))
    (fun h c pk => hS h.1 h.2 c pk) hK p (fun h pk hp => hN h.1 pk hp) t c pks

/-! ### non-vacuity: a concrete run (`exSem`: `H := Nat` counts consumed packets, `C` logs callbacks) -/

/-- PID 5 unannounced → constructed once (9005), consumes two packets in order (500, 501); the
flagged packet on PID 5 reaches no handler; the flagged packet on unannounced PID 6 only
constructs (9006). -/
example : pushModel exSem ([], []) [exPk 5 false false, exPk 5 true false, exPk 6 false true, exPk 5 false false]
    = .ok ([none, none, none, none, none, some 2, some 0], [9005, 500, 9006, 501]) := rfl

example : pushSpec exSem ([], []) [exPk 5 false false, exPk 5 true false, exPk 6 false true, exPk 5 false false]
    = .ok ([none, none, none, none, none, some 2, some 0], [9005, 500, 9006, 501]) := rfl

example : (pushSpec exSem ([], []) [exPk 5 false false, exPk 6 false false, exPk 5 false false]).isOk = true
    ∧ pushSpec exSem ([], []) [exPk 5 false false, exPk 5 false false] = .ok ([none, none, none, none, none, some 2], [9005, 500, 501]) :=
  ⟨rfl, rfl⟩

/-- the hypotheses of `interleaving_independent` are satisfiable (by `exSem`, for PID 5) -/
example : ∃ (step : Nat → Pk → Nat × List (Change Nat)) (mk : Nat → Nat),
    (∀ h c pk, ∃ c', exSem.consume h c pk = .ok ((step h pk).1, c', (step h pk).2)) ∧
    (∀ c pid, ∃ c', exSem.construct c pid = .ok (mk pid, c')) ∧
    (∀ h pk, pk.pid ≠ 5 → ∀ ch ∈ (step h pk).2, ch.pid ≠ 5) := by
  refine ⟨fun h pk => (h + 1,
      if pk.pid == 1 then [.insert 2 50, .remove 1]
      else if pk.pid == 3 then [.remove 3, .insert 3 70]
      else if pk.pid == 4 then [.remove 7]
      else []), fun _ => 0, ?_, ?_, ?_⟩
  · intro h c pk; exact ⟨_, rfl⟩
  · intro c pid; exact ⟨_, rfl⟩
  · -- `exSem` only queues changes that name the PIDs 1, 2, 3 and 7
    intro h pk hp ch hch
    simp only at hch
    split at hch
    · simp at hch; rcases hch with e | e <;> subst e <;> simp [Change.pid]
    · split at hch
      · simp at hch; rcases hch with e | e <;> subst e <;> simp [Change.pid]
      · split at hch
        · simp at hch; subst hch; simp [Change.pid]
        · simp at hch

/-! ## Trace-level delivery

`logSem sem` (`Ts/Lemmas/C06b.lean`) records every `consume` call the dispatcher makes, in the order
they are made, as `(handler state the call was made on, packet)`. -/

theorem logSem_consume (sem : Sem H C) (h : H) (c : C) (l : List (H × Pk)) (pk : Pk) :
    (logSem sem).consume h (c, l) pk =
      (sem.consume h c pk >>= fun x => R.ok (x.1, (x.2.1, l ++ [(h, pk)]), x.2.2)) := by
  rw [logSem_consume_eq]
  cases sem.consume h c pk <;> rfl

theorem logSem_construct (sem : Sem H C) (c : C) (l : List (H × Pk)) (pid : Nat) :
    (logSem sem).construct (c, l) pid = (sem.construct c pid >>= fun x => R.ok (x.1, (x.2, l))) := by
  rw [logSem_construct_eq]
  cases sem.construct c pid <;> rfl

/-- logging is unobservable: forgetting the log, the wrapped run IS the original run -/
theorem logSem_unobservable (sem : Sem H C) (t : Tab H) (c : C) (l : List (H × Pk)) (pks : List Pk) :
    (pushSpec (logSem sem) (t, (c, l)) pks >>= fun r => R.ok (r.1, r.2.1)) = pushSpec sem (t, c) pks := by
  rw [pushSpec_logSem]
  cases pushSpec sem (t, c) pks <;> rfl

/-- every successful run has a logged counterpart (so the theorems below are about ALL successful
runs of `sem`); its log is `deliveries sem (t, c) pks` -/
theorem logged_run_of_run (sem : Sem H C) (t : Tab H) (c : C) (pks : List Pk) (t' : Tab H) (c' : C)
    (h : pushSpec sem (t, c) pks = .ok (t', c')) :
    pushSpec (logSem sem) (t, (c, [])) pks = .ok (t', (c', deliveries sem (t, c) pks)) := by
  rw [pushSpec_logSem, h]; rfl

theorem logged_run_inv (sem : Sem H C) (t : Tab H) (c : C) (l : List (H × Pk)) (pks : List Pk)
    (t' : Tab H) (c' : C) (log : List (H × Pk))
    (h : pushSpec (logSem sem) (t, (c, l)) pks = .ok (t', (c', log))) :
    pushSpec sem (t, c) pks = .ok (t', c') ∧ log = l ++ deliveries sem (t, c) pks := by
  rw [pushSpec_logSem] at h
  obtain ⟨⟨t1, c1⟩, hr, h⟩ := R.bind_eq_ok h
  cases h
  exact ⟨hr, rfl⟩

/-- **C06, trace level.**  If the logged run succeeds, the packets handed to `consume` — all
handlers together, in call order — are EXACTLY the non-flagged packets of the input, each once,
unmodified, in stream order; and the run without logging gives the same table and context.  (By
`logged_run_of_run` every successful run of `sem` is covered.) -/
theorem delivered_exactly_once_in_order (sem : Sem H C) (t : Tab H) (c : C) (pks : List Pk)
    (t' : Tab H) (c' : C) (log : List (H × Pk))
    (h : pushSpec (logSem sem) (t, (c, [])) pks = .ok (t', (c', log))) :
    log.map (·.2) = pks.filter (fun pk => !pk.flagged) ∧ pushSpec sem (t, c) pks = .ok (t', c') := by
  obtain ⟨hr, hl⟩ := logged_run_inv sem t c [] pks t' c' log h
  rw [hl, List.nil_append]
  exact ⟨deliveries_packets sem pks (t, c) (t', c') hr, hr⟩

/-- packets flagged with a transport error or scrambling reach NO handler -/
theorem flagged_reach_none (sem : Sem H C) (t : Tab H) (c : C) (pks : List Pk)
    (t' : Tab H) (c' : C) (log : List (H × Pk))
    (h : pushSpec (logSem sem) (t, (c, [])) pks = .ok (t', (c', log))) :
    ∀ e ∈ log, e.2.flagged = false := by
  intro e he
  have hm : e.2 ∈ log.map (·.2) := List.mem_map_of_mem he
  rw [(delivered_exactly_once_in_order sem t c pks t' c' log h).1, List.mem_filter] at hm
  simpa using hm.2

/-- **"… to the handler registered for that PID at that moment and to no other".**  For any
non-flagged packet `pk` of the input (`pre ++ pk :: post`), THE log entry for `pk` — its position is
the number of non-flagged packets of `pre` — is `(hd, pk)`, with `hd` the handler that
lookup-or-construct finds in slot `pk.pid` in the state reached after `pre`.  As the log has exactly
one entry per non-flagged packet, no other handler was given `pk`. -/
theorem delivered_to_registered_handler (sem : Sem H C) (t : Tab H) (c : C) (pre : List Pk) (pk : Pk)
    (post : List Pk) (t' : Tab H) (c' : C) (log : List (H × Pk)) (hf : pk.flagged = false)
    (h : pushSpec (logSem sem) (t, (c, [])) (pre ++ pk :: post) = .ok (t', (c', log))) :
    ∃ tk ck t1 c1 hd,
      pushSpec sem (t, c) pre = .ok (tk, ck) ∧
      ensure sem tk ck pk.pid = .ok (t1, c1) ∧ t1.get pk.pid = some hd ∧
      log[(pre.filter (fun q => !q.flagged)).length]? = some (hd, pk) := by
  obtain ⟨hr, hl⟩ := logged_run_inv sem t c [] _ t' c' log h
  obtain ⟨⟨tk, ck⟩, tck', hd, h1, h2, _, h4⟩ := deliveries_split sem pre pk post (t, c) (t', c') hf hr
  have hlen : (deliveries sem (t, c) pre).length = (pre.filter (fun q => !q.flagged)).length := by
    rw [← deliveries_packets sem pre (t, c) (tk, ck) h1, List.length_map]
  unfold registeredFor at h2
  cases hE : ensure sem tk ck pk.pid with
  | panic s => rw [hE] at h2; cases h2
  | ok r =>
    obtain ⟨t1, c1⟩ := r
    rw [hE] at h2
    refine ⟨tk, ck, t1, c1, hd, h1, hE, h2, ?_⟩
    rw [hl, List.nil_append, h4, ← hlen, List.getElem?_append_right (Nat.le_refl _), Nat.sub_self]
    rfl

theorem delivered_exactly_once_in_order_model (sem : Sem H C) (t : Tab H) (c : C) (pks : List Pk)
    (t' : Tab H) (c' : C) (log : List (H × Pk))
    (h : pushModel (logSem sem) (t, (c, [])) pks = .ok (t', (c', log))) :
    log.map (·.2) = pks.filter (fun pk => !pk.flagged) ∧ pushModel sem (t, c) pks = .ok (t', c') := by
  rw [push_refines_spec] at h ⊢
  exact delivered_exactly_once_in_order sem t c pks t' c' log h

theorem flagged_reach_none_model (sem : Sem H C) (t : Tab H) (c : C) (pks : List Pk)
    (t' : Tab H) (c' : C) (log : List (H × Pk))
    (h : pushModel (logSem sem) (t, (c, [])) pks = .ok (t', (c', log))) :
    ∀ e ∈ log, e.2.flagged = false := by
  rw [push_refines_spec] at h
  exact flagged_reach_none sem t c pks t' c' log h

theorem delivered_to_registered_handler_model (sem : Sem H C) (t : Tab H) (c : C) (pre : List Pk)
    (pk : Pk) (post : List Pk) (t' : Tab H) (c' : C) (log : List (H × Pk)) (hf : pk.flagged = false)
    (h : pushModel (logSem sem) (t, (c, [])) (pre ++ pk :: post) = .ok (t', (c', log))) :
    ∃ tk ck t1 c1 hd,
      pushModel sem (t, c) pre = .ok (tk, ck) ∧
      ensure sem tk ck pk.pid = .ok (t1, c1) ∧ t1.get pk.pid = some hd ∧
      log[(pre.filter (fun q => !q.flagged)).length]? = some (hd, pk) := by
  rw [push_refines_spec] at h
  obtain ⟨tk, ck, t1, c1, hd, h1, h2, h3, h4⟩ :=
    delivered_to_registered_handler sem t c pre pk post t' c' log hf h
  exact ⟨tk, ck, t1, c1, hd, by rw [push_refines_spec]; exact h1, h2, h3, h4⟩

/-- on raw bytes: the `consume` calls of one `push` are given exactly the non-flagged packets framed
out of `buf` (`C07.frame_spec`), once each, in buffer order -/
theorem delivered_exactly_once_in_order_push (sem : Sem H C) (t : Tab H) (c : C) (buf : Bytes)
    (base : Nat) (t' : Tab H) (c' : C) (log : List (H × Pk))
    (h : push (logSem sem) (t, (c, [])) buf base = .ok (t', (c', log))) :
    ∃ pks, frame buf base = .ok pks ∧
      log.map (·.2) = pks.filter (fun pk => !pk.flagged) ∧
      (∀ e ∈ log, e.2.flagged = false) ∧
      push sem (t, c) buf base = .ok (t', c') := by
  have hf := frame_eq_pure buf base
  rw [push_of_frame _ _ hf] at h ⊢
  obtain ⟨h1, h2⟩ := delivered_exactly_once_in_order sem t c _ t' c' log h
  exact ⟨_, hf, h1, flagged_reach_none sem t c _ t' c' log h, h2⟩

/-! ### non-vacuity (trace level) -/

/-- the run of the first example above, logged: PID 5's handler is given the 1st packet in state 0
and the 4th in state 1; the flagged 2nd and 3rd packets appear nowhere -/
example : pushSpec (logSem exSem) ([], ([], []))
      [exPk 5 false false, exPk 5 true false, exPk 6 false true, exPk 5 false false]
    = .ok ([none, none, none, none, none, some 2, some 0], ([9005, 500, 9006, 501],
        [(0, exPk 5 false false), (1, exPk 5 false false)])) := rfl

/-- a handler that removes itself and inserts another (PID 1 → PID 2 in state 50), then a packet for
the inserted handler: the log shows PID 2's packet went to the handler registered by that change -/
example : pushModel (logSem exSem) ([], ([], [])) [exPk 1 false false, exPk 2 false false]
    = .ok ([none, none, some 51], ([9001, 100, 250], [(0, exPk 1 false false), (50, exPk 2 false false)])) := rfl

/-- `delivered_exactly_once_in_order` applied to that run -/
example : ∀ t' c' log, pushSpec (logSem exSem) ([], ([], []))
      [exPk 5 false false, exPk 5 true false, exPk 6 false true, exPk 5 false false] = .ok (t', (c', log))
    → log.map (·.2) = [exPk 5 false false, exPk 5 false false] :=
  fun t' c' log h => (delivered_exactly_once_in_order exSem [] [] _ t' c' log h).1

/-! ## Interleaving independence under run-relative hypotheses

`interleaving_independent` asks that `consume` be TOTAL and context-independent for every handler
state, context and packet, and that NO handler state whatsoever queue a change for `p` on a packet
of another PID.  Both are false for `App.sem` (a PAT handler in a non-invariant state panics; what a
PAT/PMT handler queues depends on the context's `bypassCrc` and `nextTag`; a recorder with a
suitable script queues an insert for any PID).  The versions below speak about the two runs that
actually happen. -/

/-- **Interleaving independence, run-relative.**  Two runs of the per-packet fold, from possibly
different states over possibly different lists.  `hg`: slot `p` agrees initially; `hown`: the same
packets of PID `p` (as `Pk` values, offsets included — see `…_mod_off`); `hK1`, `hK2`
(`OthersKeep`): in each ACTUAL run no step on another PID changes slot `p`; `hM` (`OwnMeets`):
whenever a packet of PID `p` arrives in the first run, slot `p` is occupied, by a handler satisfying
`P` if the packet is not flagged; `hP`: for handlers satisfying `P`, the new state and the queued
changes do not depend on the context.  Then slot `p` agrees after both runs.

For the application a PES slot satisfies `hP` with `P := isPesHandler` (`pes_ctxIrrelevant`);
recorder, PAT and PMT slots do not (script / `bypassCrc` / `nextTag` are read from the context), so
nothing is claimed for them.  The conclusion is about the handler STATE in the slot, not about the
callbacks (for those: `C02Trace.projection_independent_of_interleaving`). -/
theorem interleaving_independent_along (sem : Sem H C) (p : Nat) (P : H → Prop)
    (hP : ∀ h pk, P h → pk.pid = p → pk.flagged = false → CtxIrrelevant sem h pk)
    (xs ys : List Pk) (t1 t2 t1' t2' : Tab H) (c1 c2 c1' c2' : C)
    (hg : t1.get p = t2.get p)
    (hown : xs.filter (fun pk => pk.pid == p) = ys.filter (fun pk => pk.pid == p))
    (hK1 : OthersKeep sem p (t1, c1) xs) (hK2 : OthersKeep sem p (t2, c2) ys)
    (hM : OwnMeets sem p P (t1, c1) xs)
    (hr1 : pushSpec sem (t1, c1) xs = .ok (t1', c1'))
    (hr2 : pushSpec sem (t2, c2) ys = .ok (t2', c2')) :
    t1'.get p = t2'.get p :=
  get_eq_along sem p P id (fun a b e => by cases e; rfl)
    (fun h pk pk' hh hp hf e => by cases e; exact hP h pk hh hp hf)
    xs ys (t1, c1) (t2, c2) (t1', c1') (t2', c2') hg (by simpa using hown) hK1 hK2 hM hr1 hr2

theorem interleaving_independent_along_model (sem : Sem H C) (p : Nat) (P : H → Prop)
    (hP : ∀ h pk, P h → pk.pid = p → pk.flagged = false → CtxIrrelevant sem h pk)
    (xs ys : List Pk) (t1 t2 t1' t2' : Tab H) (c1 c2 c1' c2' : C)
    (hg : t1.get p = t2.get p)
    (hown : xs.filter (fun pk => pk.pid == p) = ys.filter (fun pk => pk.pid == p))
    (hK1 : OthersKeep sem p (t1, c1) xs) (hK2 : OthersKeep sem p (t2, c2) ys)
    (hM : OwnMeets sem p P (t1, c1) xs)
    (hr1 : pushModel sem (t1, c1) xs = .ok (t1', c1'))
    (hr2 : pushModel sem (t2, c2) ys = .ok (t2', c2')) :
    t1'.get p = t2'.get p := by
  rw [push_refines_spec] at hr1 hr2
  exact interleaving_independent_along sem p P hP xs ys t1 t2 t1' t2' c1 c2 c1' c2' hg hown hK1 hK2 hM hr1 hr2

/-- **… modulo stream offsets.**  Two interleavings of one stream put the packets of PID `p` at
different offsets, so `hown` above cannot hold.  Here the own packets are compared with the offset
erased (`Pk.noOff`), and `hP` asks in addition that `consume` not look at the offset
(`ConsumeAgrees`); the application's PES slots satisfy this (`pes_consumeAgrees`). -/
theorem interleaving_independent_along_mod_off (sem : Sem H C) (p : Nat) (P : H → Prop)
    (hP : ∀ h pk pk', P h → pk.pid = p → pk.flagged = false → pk.noOff = pk'.noOff →
      ConsumeAgrees sem h pk pk')
    (xs ys : List Pk) (t1 t2 t1' t2' : Tab H) (c1 c2 c1' c2' : C)
    (hg : t1.get p = t2.get p)
    (hown : (xs.filter (fun pk => pk.pid == p)).map Pk.noOff
          = (ys.filter (fun pk => pk.pid == p)).map Pk.noOff)
    (hK1 : OthersKeep sem p (t1, c1) xs) (hK2 : OthersKeep sem p (t2, c2) ys)
    (hM : OwnMeets sem p P (t1, c1) xs)
    (hr1 : pushSpec sem (t1, c1) xs = .ok (t1', c1'))
    (hr2 : pushSpec sem (t2, c2) ys = .ok (t2', c2')) :
    t1'.get p = t2'.get p :=
  get_eq_along sem p P Pk.noOff Pk.noOff_flagged hP
    xs ys (t1, c1) (t2, c2) (t1', c1') (t2', c2') hg hown hK1 hK2 hM hr1 hr2

/-- what the run-relative predicates say, one step at a time -/
theorem othersKeep_spec (sem : Sem H C) (p : Nat) (tc : Tab H × C) (pk : Pk) (pks : List Pk) :
    OthersKeep sem p tc [] ∧
    (OthersKeep sem p tc (pk :: pks) ↔
      ∀ tc', specStep sem tc pk = .ok tc' →
        (pk.pid ≠ p → tc'.1.get p = tc.1.get p) ∧ OthersKeep sem p tc' pks) := by
  refine ⟨othersKeep_nil sem p tc, ?_⟩
  constructor
  · intro h tc' e; exact othersKeep_cons sem p tc tc' pk pks e h
  · intro h
    rw [othersKeep_cons_iff]
    cases hs : specStep sem tc pk with
    | panic s => trivial
    | ok r => exact h r hs

theorem ownMeets_spec (sem : Sem H C) (p : Nat) (P : H → Prop) (tc : Tab H × C) (pk : Pk)
    (pks : List Pk) :
    OwnMeets sem p P tc [] ∧
    (OwnMeets sem p P tc (pk :: pks) ↔
      (pk.pid = p → ∃ h, tc.1.get p = some h ∧ (pk.flagged = false → P h)) ∧
      ∀ tc', specStep sem tc pk = .ok tc' → OwnMeets sem p P tc' pks) := by
  refine ⟨ownMeets_nil sem p P tc, ?_⟩
  constructor
  · intro h
    exact ⟨((ownMeets_cons_iff sem p P tc pk pks).1 h).1,
      fun tc' e => (ownMeets_cons sem p P tc tc' pk pks e h).2⟩
  · intro h
    rw [ownMeets_cons_iff]
    refine ⟨h.1, ?_⟩
    cases hs : specStep sem tc pk with
    | panic s => trivial
    | ok r => exact h.2 r hs

/-! ### non-vacuity with the CONCRETE application `App.sem`: two PES streams interleaved -/

section app_example
open Ts.App

/-- a transport packet: payload only, `pusi`, PID, continuity counter, 184 payload bytes -/
private def tp (pusi : Bool) (pid cc : Nat) (payload : Bytes) : Bytes :=
  [0x47, UInt8.ofNat ((if pusi then 0x40 else 0) + pid / 256), UInt8.ofNat (pid % 256),
   UInt8.ofNat (0x10 + cc)] ++ payload

/-- PES header `00 00 01 e0 00 00` + optional header `80 00 00` (no PTS) -/
private def pesHead : Bytes := [0, 0, 1, 0xe0, 0, 0, 0x80, 0, 0]

private def a0 : Bytes := tp true 0x21 0 (pesHead ++ List.replicate 175 0x11)
private def a1 : Bytes := tp false 0x21 1 (List.replicate 184 0x12)
private def a2 : Bytes := tp true 0x21 2 (pesHead ++ List.replicate 175 0x13)
private def b0 : Bytes := tp true 0x22 7 (pesHead ++ List.replicate 175 0x21)
private def b1 : Bytes := tp false 0x22 8 (List.replicate 184 0x22)
private def r0 : Bytes := tp false 0x30 0 (List.replicate 184 0x33)

/-- run 1: PES filters tagged 2 and 3 on PIDs 0x21 and 0x22 -/
private def tab1 : Tab Handler := List.replicate 0x21 none ++ [some (.pes 2 {}), some (.pes 3 {})]
private def ctx1 : Ctx := { cfg := {}, nextTag := 4 }
/-- run 2: only the PES filter tagged 2 on PID 0x21; another configuration, tag counter and trace -/
private def tab2 : Tab Handler := List.replicate 0x21 none ++ [some (.pes 2 {})]
private def ctx2 : Ctx := { cfg := { bypassCrc := true }, nextTag := 9, trace := [.scriptRem 5] }

/-- `A B A B A` -/
private def xs1 : List Pk :=
  [⟨a0, 0, 0x21, false, false⟩, ⟨b0, 188, 0x22, false, false⟩, ⟨a1, 376, 0x21, false, false⟩,
   ⟨b1, 564, 0x22, false, false⟩, ⟨a2, 752, 0x21, false, false⟩]
/-- same positions for PID 0x21, the other slots taken by the unannounced PID 0x30 (for which a
recorder is constructed on the fly), the second of them flagged -/
private def ys1 : List Pk :=
  [⟨a0, 0, 0x21, false, false⟩, ⟨r0, 188, 0x30, false, false⟩, ⟨a1, 376, 0x21, false, false⟩,
   ⟨r0, 564, 0x30, true, false⟩, ⟨a2, 752, 0x21, false, false⟩]
/-- another interleaving of the stream of `xs1`: `B B A A A` (PID 0x21 at other offsets) -/
private def ys2 : List Pk :=
  [⟨b0, 0, 0x22, false, false⟩, ⟨b1, 188, 0x22, false, false⟩, ⟨a0, 376, 0x21, false, false⟩,
   ⟨a1, 564, 0x21, false, false⟩, ⟨a2, 752, 0x21, false, false⟩]

private theorem pesP (h : Handler) (hh : isPesHandler h = true) : ∃ tag f, h = .pes tag f := by
  cases h with
  | pes tag f => exact ⟨tag, f, rfl⟩
  | pat s r => cases hh
  | pmt a b s r => cases hh
  | recorder t => cases hh

/-- the run of `xs1` from `(tab1, ctx1)`, evaluated once -/
private theorem run_xs1 :
    othersKeepB App.sem slotEqb 0x21 (tab1, ctx1) xs1 = true ∧
    ownMeetsB App.sem isPesHandler 0x21 (tab1, ctx1) xs1 = true ∧
    (match pushSpec App.sem (tab1, ctx1) xs1 with
      | .ok (t, _) => slotEqb (t.get 0x21) (some (.pes 2 ⟨some 2, .started⟩))
      | .panic _ => false) = true := by decide +kernel

private theorem pes_of_isPesHandler (h : Handler) (pk pk' : Pk) (hh : isPesHandler h = true)
    (hb : pk.bytes = pk'.bytes) : ConsumeAgrees App.sem h pk pk' := by
  obtain ⟨tag, f, rfl⟩ := pesP h hh
  exact pes_consumeAgrees tag f pk pk' hb

/-- the hypotheses of `interleaving_independent_along` are satisfiable by `App.sem` (PID 0x21,
`P := PES handler`), the run-relative ones by evaluation; the conclusion is also shown evaluated: the
filter has seen counter 2 and is inside a PES packet -/
example : ∃ t1' c1' t2' c2',
    pushSpec App.sem (tab1, ctx1) xs1 = .ok (t1', c1') ∧
    pushSpec App.sem (tab2, ctx2) ys1 = .ok (t2', c2') ∧
    OthersKeep App.sem 0x21 (tab1, ctx1) xs1 ∧ OthersKeep App.sem 0x21 (tab2, ctx2) ys1 ∧
    OwnMeets App.sem 0x21 (fun h => isPesHandler h = true) (tab1, ctx1) xs1 ∧
    t1'.get 0x21 = t2'.get 0x21 ∧ t1'.get 0x21 = some (.pes 2 ⟨some 2, .started⟩) := by
  obtain ⟨k1, m, hv⟩ := run_xs1
  have k2 : othersKeepB App.sem slotEqb 0x21 (tab2, ctx2) ys1 = true := by decide +kernel
  have hown : xs1.filter (fun pk => pk.pid == 0x21) = ys1.filter (fun pk => pk.pid == 0x21) := by
    decide +kernel
  have hg : slotEqb (tab1.get 0x21) (tab2.get 0x21) = true := by decide +kernel
  have hK1 := othersKeep_of_check App.sem slotEqb slotEqb_sound 0x21 xs1 (tab1, ctx1) k1
  have hK2 := othersKeep_of_check App.sem slotEqb slotEqb_sound 0x21 ys1 (tab2, ctx2) k2
  have hM := ownMeets_of_check App.sem isPesHandler (fun h => isPesHandler h = true) (fun _ h => h)
    0x21 xs1 (tab1, ctx1) m
  obtain ⟨⟨t1', c1'⟩, hr1⟩ := pushSpec_ok_of_check App.sem slotEqb 0x21 xs1 (tab1, ctx1) k1
  obtain ⟨⟨t2', c2'⟩, hr2⟩ := pushSpec_ok_of_check App.sem slotEqb 0x21 ys1 (tab2, ctx2) k2
  rw [hr1] at hv
  refine ⟨t1', c1', t2', c2', hr1, hr2, hK1, hK2, hM, ?_, slotEqb_sound _ _ hv⟩
  exact interleaving_independent_along App.sem 0x21 (fun h => isPesHandler h = true)
    (fun h pk hh _ _ => pes_of_isPesHandler h pk pk hh rfl)
    xs1 ys1 tab1 tab2 t1' t2' ctx1 ctx2 c1' c2' (slotEqb_sound _ _ hg) hown hK1 hK2 hM hr1 hr2

/-- the hypotheses of `interleaving_independent_along_mod_off` are satisfiable: `xs1` against
`ys2`, the PID-0x21 packets at different offsets -/
example : ∃ t1' c1' t2' c2',
    pushSpec App.sem (tab1, ctx1) xs1 = .ok (t1', c1') ∧
    pushSpec App.sem (tab1, ctx1) ys2 = .ok (t2', c2') ∧
    xs1.filter (fun pk => pk.pid == 0x21) ≠ ys2.filter (fun pk => pk.pid == 0x21) ∧
    t1'.get 0x21 = t2'.get 0x21 := by
  obtain ⟨k1, m, _⟩ := run_xs1
  have k2 : othersKeepB App.sem slotEqb 0x21 (tab1, ctx1) ys2 = true := by decide +kernel
  have hown : (xs1.filter (fun pk => pk.pid == 0x21)).map Pk.noOff
      = (ys2.filter (fun pk => pk.pid == 0x21)).map Pk.noOff := by decide +kernel
  have hne : xs1.filter (fun pk => pk.pid == 0x21) ≠ ys2.filter (fun pk => pk.pid == 0x21) := by
    decide +kernel
  have hK1 := othersKeep_of_check App.sem slotEqb slotEqb_sound 0x21 xs1 (tab1, ctx1) k1
  have hK2 := othersKeep_of_check App.sem slotEqb slotEqb_sound 0x21 ys2 (tab1, ctx1) k2
  have hM := ownMeets_of_check App.sem isPesHandler (fun h => isPesHandler h = true) (fun _ h => h)
    0x21 xs1 (tab1, ctx1) m
  obtain ⟨⟨t1', c1'⟩, hr1⟩ := pushSpec_ok_of_check App.sem slotEqb 0x21 xs1 (tab1, ctx1) k1
  obtain ⟨⟨t2', c2'⟩, hr2⟩ := pushSpec_ok_of_check App.sem slotEqb 0x21 ys2 (tab1, ctx1) k2
  refine ⟨t1', c1', t2', c2', hr1, hr2, hne, ?_⟩
  refine interleaving_independent_along_mod_off App.sem 0x21 (fun h => isPesHandler h = true) ?_
    xs1 ys2 tab1 tab1 t1' t2' ctx1 ctx1 c1' c2' rfl hown hK1 hK2 hM hr1 hr2
  intro h pk pk' hh _ _ e
  refine pes_of_isPesHandler h pk pk' hh ?_
  unfold Pk.noOff at e
  injection e

end app_example

end Ts.Props.C06
