import Ts.Lemmas.C19c
import Ts.Spec.RoutingHistory
import Ts.Lemmas.AppEval
/-!
# C19, part 4: the steady state at input level, and the probe F14

The vocabulary of `Ts.Props.C19.C19_steady_full` (`LegalMux`, `TransmitsWith`, `CopyOf`,
`StableInputWith`; `LegalMux`, `appliedOn`, `tablePid` are copies of the C10 definitions, which live
downstream of `Ts.Props.C19` in the import order), the probe F14 and its control as byte lists with
their runs evaluated once by the kernel (`f14Check`, read back as `f14_runs`), and the bridge from
transmissions in `WellFormedMux` packetisations to `Steady`.
-/
namespace Ts.Lemmas.C19d
open Ts Ts.Demux Ts.Lemmas.C19
open Ts.Lemmas.C03 (Pl plOf)
open Ts.Spec.SectionMux (Kind WellFormedSection WellFormedMux Mux PayloadSize Carries minHeader)
open Ts.Spec.RoutingHistory (Event Route initRoute run WF Realises RealisesEv Transmits patRouted pmtRouted)
open Ts.Spec.TableSpec (specPat specPmtAccept)
open Ts.Spec.Routing (sectionBody)
open Ts.Tables (PatEntry)

/-! ### packetisations that may cut the section anywhere -/

/-- `WellFormedMux` WITHOUT its second clause (`minHeader kind ≤ …`): the section may be cut at any
byte, in particular inside its first 3 (common header) or first 8 (table-syntax header) bytes.
(Same definition as `Ts.Lemmas.C10.LegalMux`.) -/
def LegalMux (S : Bytes) (m : Mux) : Prop :=
  m.k ≤ S.length ∧ PayloadSize (m.first S)
  ∧ (m.k = S.length ∨ (m.k < S.length ∧ m.tailBytes = [] ∧ Carries (S.drop m.k) m.conts))
  ∧ (∀ c ∈ m.rest, PayloadSize c)

instance (S : Bytes) (m : Mux) : Decidable (LegalMux S m) := by unfold LegalMux; infer_instance

theorem wellFormedMux_iff_legal (kind : Kind) (S : Bytes) (m : Mux) :
    WellFormedMux kind S m ↔ (LegalMux S m ∧ minHeader kind ≤ (S.take m.k ++ m.tailBytes).length) := by
  unfold WellFormedMux LegalMux
  constructor
  · rintro ⟨a, b, c, d, e⟩; exact ⟨⟨a, c, d, e⟩, b⟩
  · rintro ⟨⟨a, c, d, e⟩, b⟩; exact ⟨a, b, c, d, e⟩

/-- `pks` are the packets of ONE complete transmission of the section `S` on PID `pid`, in a
packetisation satisfying `P`: every packet is an unflagged 188-byte packet of that PID; their payload
views (`plOf`; packets without payload contribute nothing) are the unit-start payload
`pointer_field :: pre ++ S.take k ++ tail` followed by the continuation payloads of the packetisation.
Compare `Spec.RoutingHistory.Transmits` (= `P := WellFormedMux .syntax` plus conditions on `S`). -/
structure TransmitsWith (P : Bytes → Mux → Prop) (pid : Nat) (S : Bytes) (pks : List Pk) : Prop where
  pkts : ∀ pk ∈ pks, pk.pid = pid ∧ pk.flagged = false ∧ pk.bytes.length = 188
  mux : ∃ m off rest, P S m ∧
    (pks.map (·.bytes)).filterMap plOf = ⟨true, m.first S, off⟩ :: rest ∧
    (∀ q ∈ rest, q.us = false) ∧ rest.map (·.bytes) = m.rest

/-- one complete transmission in ANY packetisation (`LegalMux`: the continuation payloads carry
`S.drop k`; no minimum first share) -/
abbrev TransmitsAnyCut (pid : Nat) (S : Bytes) (pks : List Pk) : Prop := TransmitsWith LegalMux pid S pks

theorem TransmitsWith.mono {P Q : Bytes → Mux → Prop} (h : ∀ S m, P S m → Q S m) {pid : Nat} {S : Bytes}
    {pks : List Pk} (t : TransmitsWith P pid S pks) : TransmitsWith Q pid S pks := by
  obtain ⟨a, m, off, rest, b, c⟩ := t
  exact ⟨a, m, off, rest, h S m b, c⟩

/-- Boolean form of `TransmitsAnyCut` for a GIVEN packetisation `m` (for kernel evaluation) -/
def txCheck (pid : Nat) (S : Bytes) (m : Mux) (pks : List Pk) : Bool :=
  pks.all (fun pk => pk.pid == pid && !pk.flagged && pk.bytes.length == 188)
  && decide (LegalMux S m)
  && match (pks.map (·.bytes)).filterMap plOf with
     | [] => false
     | q :: rest => q.us && q.bytes == m.first S && rest.all (fun q => !q.us)
         && rest.map (·.bytes) == m.rest

theorem txCheck_sound_with {P : Bytes → Mux → Prop} (pid : Nat) (S : Bytes) (m : Mux) (pks : List Pk)
    (hP : P S m) (h : txCheck pid S m pks = true) : TransmitsWith P pid S pks := by
  unfold txCheck at h
  simp only [Bool.and_eq_true, List.all_eq_true, beq_iff_eq, Bool.not_eq_true', decide_eq_true_eq] at h
  obtain ⟨⟨h1, _⟩, h3⟩ := h
  refine ⟨fun pk hm => ⟨(h1 pk hm).1.1, (h1 pk hm).1.2, (h1 pk hm).2⟩, ?_⟩
  cases hl : (pks.map (·.bytes)).filterMap plOf with
  | nil => rw [hl] at h3; cases h3
  | cons q rest =>
    rw [hl] at h3
    simp only [Bool.and_eq_true, List.all_eq_true, beq_iff_eq, Bool.not_eq_true'] at h3
    obtain ⟨⟨⟨a, b⟩, c⟩, d⟩ := h3
    refine ⟨m, q.off, rest, hP, ?_, c, d⟩
    congr 1
    cases q with
    | mk us bytes off =>
      simp only at a b
      rw [a, b]

theorem txCheck_legal (pid : Nat) (S : Bytes) (m : Mux) (pks : List Pk)
    (h : txCheck pid S m pks = true) : LegalMux S m := by
  unfold txCheck at h
  simp only [Bool.and_eq_true, decide_eq_true_eq] at h
  exact h.1.2

theorem txCheck_sound (pid : Nat) (S : Bytes) (m : Mux) (pks : List Pk)
    (h : txCheck pid S m pks = true) : TransmitsAnyCut pid S pks :=
  txCheck_sound_with pid S m pks (txCheck_legal pid S m pks h) h

/-! ### "the table last applied on PID `p`" as a function of the history -/

/-- the version an event APPLIES on PID `p`: a PAT version on PID 0, a PMT version on `p ≠ 0`
(same definition as `Ts.Lemmas.C10.appliedOn`) -/
def appliedOn (p : Nat) : Event → Option Nat
  | .patApplied v _ => if p = 0 then some v else none
  | .pmtApplied q v _ => if p ≠ 0 ∧ q = p then some v else none
  | _ => none

/-- `ev` is the LAST event of the history `evs` that applies a table on PID `p` -/
def LastTableOn (p : Nat) (evs : List Event) (ev : Event) : Prop :=
  ∃ pre post, evs = pre ++ ev :: post ∧ (appliedOn p ev).isSome = true ∧ ∀ e ∈ post, appliedOn p e = none

/-- after the history, `p` carries tables: PID 0 is routed to the PAT filter / `p ≠ 0` is routed to a
PMT filter requested for program-map PID `p` (same definition as `Ts.Lemmas.C10.tablePid`) -/
def tablePid (r : Route) (p : Nat) : Bool := if p = 0 then patRouted r else pmtRouted r p

/-- the section `S` is a copy of the table the event applied: an intact section-syntax section
(well-formed, at least 12 bytes, CRC-32 verifies) with the event's `table_id`, `version_number` and
contents (PAT: the program loop; PMT: the whole body) — exactly what `RealisesEv` asks of the
section whose transmission realises the event -/
def CopyOf (S : Bytes) : Event → Prop
  | .patApplied v es =>
      WellFormedSection .syntax S ∧ 12 ≤ S.length ∧ Ts.CrcSpec.crc S = 0
      ∧ byteD S 0 = 0 ∧ Ts.Lemmas.C10.versionOf S = v ∧ specPat (sectionBody S) = es
  | .pmtApplied _ v body =>
      WellFormedSection .syntax S ∧ 12 ≤ S.length ∧ Ts.CrcSpec.crc S = 0
      ∧ byteD S 0 = 2 ∧ Ts.Lemmas.C10.versionOf S = v ∧ sectionBody S = body ∧ specPmtAccept body
  | _ => False

theorem copyOf_version (S : Bytes) (ev : Event) (p v : Nat) (h : CopyOf S ev) (ha : appliedOn p ev = some v) :
    WellFormedSection .syntax S ∧ 12 ≤ S.length ∧ Ts.Lemmas.C10.versionOf S = v := by
  cases ev with
  | patApplied v' es =>
    obtain ⟨a, b, _, _, e, _⟩ := h
    simp only [appliedOn] at ha
    split at ha
    · injection ha with ha; exact ⟨a, b, by rw [e, ha]⟩
    · cases ha
  | pmtApplied q v' body =>
    obtain ⟨a, b, _, _, e, _⟩ := h
    simp only [appliedOn] at ha
    split at ha
    · injection ha with ha; exact ⟨a, b, by rw [e, ha]⟩
    · cases ha
  | esPacket _ => exact h.elim
  | repetition _ => exact h.elim


/-- the packets of successive `push` calls, in order (`base` = bytes pushed before the first) -/
def frameAll : List Bytes → Nat → R (List Pk)
  | [], _ => .ok []
  | b :: bs, base =>
    frame b base >>= fun a => frameAll bs (base + b.length) >>= fun r => .ok (a ++ r)

/-- **The input-level steady-state hypothesis**, for packetisations satisfying `P`.  `evs`: the
history the warm-up realises; `tbl p`: the section current on table PID `p`; `t`: the filter table
after the warm-up; `pks`: ALL packets of the steady pushes, in order.
* `handled`: every PID occurring in the steady pushes has a handler after the warm-up;
* `tables`: for every PID `p` occurring in the steady pushes that carries tables after the history
  (`tablePid`): `tbl p` is a copy (`CopyOf`) of the table LAST applied on `p` in the history, and the
  packets of PID `p` — whatever is interleaved between them on other PIDs — are, in order, the
  packets of complete transmissions of `tbl p`, any number of them, each in a packetisation
  satisfying `P`. -/
structure StableInputWith (P : Bytes → Mux → Prop) (evs : List Event) (tbl : Nat → Bytes)
    (t : Tab App.Handler) (pks : List Pk) : Prop where
  handled : ∀ pk ∈ pks, t.contains pk.pid = true
  tables : ∀ pk ∈ pks, tablePid (run initRoute evs) pk.pid = true →
    (∃ ev, LastTableOn pk.pid evs ev ∧ CopyOf (tbl pk.pid) ev)
    ∧ ∃ txs : List (List Pk), pks.filter (fun x => x.pid == pk.pid) = txs.flatten
        ∧ ∀ tx ∈ txs, TransmitsWith P pk.pid (tbl pk.pid) tx

/-- `StableInputWith` in ANY packetisation (`LegalMux`: no minimum first share): the hypothesis of
`Ts.Props.C19.C19_steady_full` -/
abbrev StableInput (evs : List Event) (tbl : Nat → Bytes) (t : Tab App.Handler) (pks : List Pk) : Prop :=
  StableInputWith LegalMux evs tbl t pks

theorem StableInputWith.mono {P Q : Bytes → Mux → Prop} (h : ∀ S m, P S m → Q S m) {evs : List Event}
    {tbl : Nat → Bytes} {t : Tab App.Handler} {pks : List Pk} (s : StableInputWith P evs tbl t pks) :
    StableInputWith Q evs tbl t pks := by
  refine ⟨s.handled, fun pk hpk ht => ?_⟩
  obtain ⟨a, txs, b, c⟩ := s.tables pk hpk ht
  exact ⟨a, txs, b, fun tx hm => (c tx hm).mono h⟩

/-! ### the probe F14 (`F14 steady b0t0 <warm> <st1> <st2> <st3>`), packet by packet

Every packet is written as its distinguishing bytes followed by `List.replicate` stuffing; the pushes
`f14Warm`, `f14St1`, `f14St2`, `f14St3` are byte for byte the four hex strings of the case `F14 steady`
in `/verif/known_findings.json`; the control replaces `f14St2` by `f14cSt2`. -/

/-- PAT section, version 0: program 1 → PMT PID 0x100 -/
def patSecV0 : Bytes :=
  [0x00, 0xb0, 0x0d, 0x00, 0x01, 0xc1, 0x00, 0x00, 0x00, 0x01, 0xe1, 0x00, 0xe8, 0xf9, 0x5e, 0x7d]

/-- PMT section of program 1, version 0: PCR PID 0x101, one stream: H.264 (0x1b) on 0x101 -/
def pmtSecV0 : Bytes :=
  [0x02, 0xb0, 0x12, 0x00, 0x01, 0xc1, 0x00, 0x00, 0xe1, 0x01, 0xf0, 0x00, 0x1b, 0xe1, 0x01, 0xf0, 0x00,
   0x4f, 0xc4, 0x3d, 0x1b]

def pmtBodyV0 : Bytes := [0xe1, 0x01, 0xf0, 0x00, 0x1b, 0xe1, 0x01, 0xf0, 0x00]

/-- one packet on PID 0, unit start, `pointer_field = 0`, continuity counter `cc`, carrying `sec` -/
def patPktCc (cc : Nat) (sec : Bytes) : Bytes :=
  [0x47, 0x40, 0x00, UInt8.ofNat (0x10 + cc), 0x00] ++ sec ++ List.replicate (183 - sec.length) 0xff

/-- as `patPktCc`, on PID 0x100 -/
def pmtPktCc (cc : Nat) (sec : Bytes) : Bytes :=
  [0x47, 0x41, 0x00, UInt8.ofNat (0x10 + cc), 0x00] ++ sec ++ List.replicate (183 - sec.length) 0xff

/-- PID 0x101, unit start: a PES header (stream id 0xe0, unbounded length, no optional fields)
followed by payload bytes -/
def esStartPkt : Bytes :=
  [0x47, 0x41, 0x01, 0x10, 0x00, 0x00, 0x01, 0xe0, 0x00, 0x00, 0x80, 0x00, 0x00] ++ List.replicate 175 0x55

/-- PID 0x101, continuation of that PES packet, continuity counter `cc` -/
def esContCc (cc : Nat) : Bytes := [0x47, 0x01, 0x01, UInt8.ofNat (0x10 + cc)] ++ List.replicate 184 0x66

/-- **the straddling start** (PID 0, unit start, cc 2): `pointer_field = 181`, 181 stuffing bytes,
then only the first TWO bytes `00 b0` of PAT version 0 — its 3-byte header straddles two packets -/
def straddlePkt : Bytes :=
  [0x47, 0x40, 0x00, 0x12, 0xb5] ++ List.replicate 181 0xff ++ [0x00, 0xb0]

/-- the continuation packet carrying the remaining 14 bytes of that PAT (PID 0, cc 3) -/
def straddleTailPkt : Bytes :=
  [0x47, 0x00, 0x00, 0x13] ++ patSecV0.drop 2 ++ List.replicate 170 0xff

/-- warm-up push: PAT v0, PMT v0, start of a PES packet on 0x101 -/
def f14Warm : Bytes := patPktCc 0 patSecV0 ++ pmtPktCc 0 pmtSecV0 ++ esStartPkt

/-- steady push 1: ES continuation, PAT v0, PMT v0 -/
def f14St1 : Bytes := esContCc 1 ++ patPktCc 1 patSecV0 ++ pmtPktCc 1 pmtSecV0

/-- steady push 2: ES continuation, PAT v0 with its header straddling two packets, PAT v0, PMT v0,
ES continuation -/
def f14St2 : Bytes :=
  esContCc 2 ++ straddlePkt ++ straddleTailPkt ++ patPktCc 4 patSecV0 ++ pmtPktCc 2 pmtSecV0 ++ esContCc 3

/-- steady push 3: ES continuation, PAT v0, PMT v0 -/
def f14St3 : Bytes := esContCc 4 ++ patPktCc 5 patSecV0 ++ pmtPktCc 3 pmtSecV0

/-- control F14c, steady push 2: the straddling transmission replaced by two ordinary PAT v0 packets -/
def f14cSt2 : Bytes :=
  esContCc 2 ++ patPktCc 2 patSecV0 ++ patPktCc 3 patSecV0 ++ patPktCc 4 patSecV0 ++ pmtPktCc 2 pmtSecV0
    ++ esContCc 3

/-- the `i`-th 188-byte packet of the run, on PID `pid`, not flagged -/
def pkAt (b : Bytes) (i pid : Nat) : Pk := ⟨b, 188 * i, pid, false, false⟩

def f14WarmPks : List Pk :=
  [pkAt (patPktCc 0 patSecV0) 0 0, pkAt (pmtPktCc 0 pmtSecV0) 1 0x100, pkAt esStartPkt 2 0x101]

def f14SteadyPks : List Pk :=
  [pkAt (esContCc 1) 3 0x101, pkAt (patPktCc 1 patSecV0) 4 0, pkAt (pmtPktCc 1 pmtSecV0) 5 0x100,
   pkAt (esContCc 2) 6 0x101, pkAt straddlePkt 7 0, pkAt straddleTailPkt 8 0,
   pkAt (patPktCc 4 patSecV0) 9 0, pkAt (pmtPktCc 2 pmtSecV0) 10 0x100, pkAt (esContCc 3) 11 0x101,
   pkAt (esContCc 4) 12 0x101, pkAt (patPktCc 5 patSecV0) 13 0, pkAt (pmtPktCc 3 pmtSecV0) 14 0x100]

/-- the history the warm-up realises: PAT v0 {1 → 0x100}, PMT v0 on 0x100, a packet on 0x101 -/
def f14Hist : List Event :=
  [.patApplied 0 [.program 1 0x100], .pmtApplied 0x100 0 pmtBodyV0, .esPacket 0x101]

def f14Tbl (p : Nat) : Bytes := if p = 0 then patSecV0 else pmtSecV0

/-- the straddling packetisation of PAT v0: 181 pointer bytes, 2 section bytes in the first payload,
the other 14 in one continuation payload -/
def straddleMux : Mux :=
  ⟨List.replicate 181 0xff, 2, [], [patSecV0.drop 2 ++ List.replicate 170 0xff], []⟩

/-! #### the warm-up realises its history -/

theorem f14_wf : WF initRoute f14Hist := by decide +kernel

/-- a section carried whole by one unit-start packet with `pointer_field = 0` -/
theorem transmits_one (pid : Nat) (S : Bytes) (pk : Pk)
    (h1 : WellFormedSection .syntax S) (h2 : 12 ≤ S.length) (h3 : Ts.CrcSpec.crc S = 0)
    (h4 : pk.pid = pid ∧ pk.flagged = false ∧ pk.bytes.length = 188)
    (h5 : WellFormedMux .syntax S (Ts.Lemmas.C10.muxOf S))
    (h6 : plOf pk.bytes = some ⟨true, (Ts.Lemmas.C10.muxOf S).first S, 4⟩) : Transmits pid S [pk] :=
  { wf := h1, len := h2, crc := h3
    pkts := fun pk' hm => by rw [List.mem_singleton.1 hm]; exact h4
    mux := ⟨Ts.Lemmas.C10.muxOf S, 4, [], h5, by simp [h6], by simp, rfl⟩ }

theorem f14_realises : Realises initRoute f14Hist f14WarmPks := by
  have tx0 : Transmits 0 patSecV0 [pkAt (patPktCc 0 patSecV0) 0 0] :=
    transmits_one 0 patSecV0 _ (by decide +kernel) (by decide +kernel) (by decide +kernel)
      ⟨rfl, rfl, by show (patPktCc 0 patSecV0).length = 188; decide +kernel⟩ (by decide +kernel)
      (by show plOf (patPktCc 0 patSecV0) = _; decide +kernel)
  have tx1 : Transmits 0x100 pmtSecV0 [pkAt (pmtPktCc 0 pmtSecV0) 1 0x100] :=
    transmits_one 0x100 pmtSecV0 _ (by decide +kernel) (by decide +kernel) (by decide +kernel)
      ⟨rfl, rfl, by show (pmtPktCc 0 pmtSecV0).length = 188; decide +kernel⟩ (by decide +kernel)
      (by show plOf (pmtPktCc 0 pmtSecV0) = _; decide +kernel)
  have e0 : ∀ r, RealisesEv r (.patApplied 0 [.program 1 0x100]) [pkAt (patPktCc 0 patSecV0) 0 0] :=
    fun _ => ⟨patSecV0, tx0, by decide +kernel, by decide +kernel, by decide +kernel⟩
  have e1 : ∀ r, RealisesEv r (.pmtApplied 0x100 0 pmtBodyV0) [pkAt (pmtPktCc 0 pmtSecV0) 1 0x100] :=
    fun _ => ⟨pmtSecV0, tx1, by decide +kernel, by decide +kernel, by decide +kernel, by decide +kernel⟩
  have e2 : ∀ r, RealisesEv r (.esPacket 0x101) [pkAt esStartPkt 2 0x101] :=
    fun _ => ⟨_, rfl, rfl, by show esStartPkt.length = 188; decide +kernel⟩
  exact Realises.cons (e0 _) (Realises.cons (e1 _) (Realises.cons (e2 _) (Realises.nil _)))

/-! #### the steady pushes satisfy the input-level hypothesis -/

theorem f14_copies :
    CopyOf patSecV0 (.patApplied 0 [.program 1 0x100])
    ∧ CopyOf pmtSecV0 (.pmtApplied 0x100 0 pmtBodyV0) := by
  refine ⟨⟨?_, ?_, ?_, ?_, ?_, ?_⟩, ⟨?_, ?_, ?_, ?_, ?_, ?_, ?_⟩⟩ <;> decide +kernel

/-- the packets of PID 0 in the steady pushes are FOUR complete transmissions of PAT v0 (the second
one in the straddling packetisation), those of PID 0x100 three complete transmissions of PMT v0 -/
theorem f14_transmissions :
    f14SteadyPks.filter (fun x => x.pid == 0)
      = [[pkAt (patPktCc 1 patSecV0) 4 0], [pkAt straddlePkt 7 0, pkAt straddleTailPkt 8 0],
         [pkAt (patPktCc 4 patSecV0) 9 0], [pkAt (patPktCc 5 patSecV0) 13 0]].flatten
    ∧ txCheck 0 patSecV0 (Ts.Lemmas.C10.muxOf patSecV0) [pkAt (patPktCc 1 patSecV0) 4 0] = true
    ∧ txCheck 0 patSecV0 straddleMux [pkAt straddlePkt 7 0, pkAt straddleTailPkt 8 0] = true
    ∧ txCheck 0 patSecV0 (Ts.Lemmas.C10.muxOf patSecV0) [pkAt (patPktCc 4 patSecV0) 9 0] = true
    ∧ txCheck 0 patSecV0 (Ts.Lemmas.C10.muxOf patSecV0) [pkAt (patPktCc 5 patSecV0) 13 0] = true
    ∧ f14SteadyPks.filter (fun x => x.pid == 0x100)
      = [[pkAt (pmtPktCc 1 pmtSecV0) 5 0x100], [pkAt (pmtPktCc 2 pmtSecV0) 10 0x100],
         [pkAt (pmtPktCc 3 pmtSecV0) 14 0x100]].flatten
    ∧ txCheck 0x100 pmtSecV0 (Ts.Lemmas.C10.muxOf pmtSecV0) [pkAt (pmtPktCc 1 pmtSecV0) 5 0x100] = true
    ∧ txCheck 0x100 pmtSecV0 (Ts.Lemmas.C10.muxOf pmtSecV0) [pkAt (pmtPktCc 2 pmtSecV0) 10 0x100] = true
    ∧ txCheck 0x100 pmtSecV0 (Ts.Lemmas.C10.muxOf pmtSecV0) [pkAt (pmtPktCc 3 pmtSecV0) 14 0x100] = true := by
  decide +kernel

theorem f14_tablePids :
    tablePid (run initRoute f14Hist) 0 = true ∧ tablePid (run initRoute f14Hist) 0x100 = true
    ∧ tablePid (run initRoute f14Hist) 0x101 = false := by decide +kernel

theorem f14_pids : ∀ pk ∈ f14SteadyPks, pk.pid = 0 ∨ pk.pid = 0x100 ∨ pk.pid = 0x101 := by decide +kernel

/-- the only packetisation used that is not a `WellFormedMux` is the straddling one -/
theorem straddleMux_legal :
    LegalMux patSecV0 straddleMux ∧ ¬ WellFormedMux .syntax patSecV0 straddleMux
    ∧ WellFormedMux .syntax patSecV0 (Ts.Lemmas.C10.muxOf patSecV0)
    ∧ WellFormedMux .syntax pmtSecV0 (Ts.Lemmas.C10.muxOf pmtSecV0) := by decide +kernel

/-- packets on the probe's three PIDs, those of PID 0 being complete transmissions of PAT v0 and
those of PID 0x100 complete transmissions of PMT v0, satisfy the input-level hypothesis for every
table in which their PIDs have handlers -/
theorem f14_stableWith (P : Bytes → Mux → Prop) (pks : List Pk) (t : Tab App.Handler)
    (ht : ∀ pk ∈ pks, t.contains pk.pid = true)
    (hp : ∀ pk ∈ pks, pk.pid = 0 ∨ pk.pid = 0x100 ∨ pk.pid = 0x101) (tx0 tx1 : List (List Pk))
    (e0 : pks.filter (fun x => x.pid == 0) = tx0.flatten)
    (e1 : pks.filter (fun x => x.pid == 0x100) = tx1.flatten)
    (h0 : ∀ tx ∈ tx0, TransmitsWith P 0 patSecV0 tx)
    (h1 : ∀ tx ∈ tx1, TransmitsWith P 0x100 pmtSecV0 tx) :
    StableInputWith P f14Hist f14Tbl t pks := by
  obtain ⟨c0, c1⟩ := f14_copies
  refine ⟨ht, fun pk hpk htab => ?_⟩
  rcases hp pk hpk with e | e | e
  · rw [e]
    refine ⟨⟨_, ⟨[], _, rfl, rfl, ?_⟩, c0⟩, tx0, e0, h0⟩
    intro ev he
    simp only [List.mem_cons, List.not_mem_nil, or_false] at he
    rcases he with rfl | rfl <;> rfl
  · rw [e]
    refine ⟨⟨_, ⟨[_], _, rfl, rfl, ?_⟩, c1⟩, tx1, e1, h1⟩
    intro ev he
    simp only [List.mem_cons, List.not_mem_nil, or_false] at he
    subst he
    rfl
  · rw [e, f14_tablePids.2.2] at htab
    cases htab

/-- **the steady pushes of F14 satisfy `StableInput`** for every table in which their PIDs have
handlers -/
theorem f14_stable (t : Tab App.Handler) (ht : ∀ pk ∈ f14SteadyPks, t.contains pk.pid = true) :
    StableInput f14Hist f14Tbl t f14SteadyPks := by
  obtain ⟨a0, a1, a2, a3, a4, b0, b1, b2, b3⟩ := f14_transmissions
  refine f14_stableWith LegalMux _ t ht f14_pids _ _ a0 b0 (fun tx hm => ?_) (fun tx hm => ?_)
  · simp only [List.mem_cons, List.not_mem_nil, or_false] at hm
    rcases hm with rfl | rfl | rfl | rfl
    · exact txCheck_sound _ _ _ _ a1
    · exact txCheck_sound _ _ _ _ a2
    · exact txCheck_sound _ _ _ _ a3
    · exact txCheck_sound _ _ _ _ a4
  · simp only [List.mem_cons, List.not_mem_nil, or_false] at hm
    rcases hm with rfl | rfl | rfl
    · exact txCheck_sound _ _ _ _ b1
    · exact txCheck_sound _ _ _ _ b2
    · exact txCheck_sound _ _ _ _ b3

/-! #### the control F14c satisfies the hypothesis WITH the minimum-first-share clause -/

def f14cSteadyPks : List Pk :=
  [pkAt (esContCc 1) 3 0x101, pkAt (patPktCc 1 patSecV0) 4 0, pkAt (pmtPktCc 1 pmtSecV0) 5 0x100,
   pkAt (esContCc 2) 6 0x101, pkAt (patPktCc 2 patSecV0) 7 0, pkAt (patPktCc 3 patSecV0) 8 0,
   pkAt (patPktCc 4 patSecV0) 9 0, pkAt (pmtPktCc 2 pmtSecV0) 10 0x100, pkAt (esContCc 3) 11 0x101,
   pkAt (esContCc 4) 12 0x101, pkAt (patPktCc 5 patSecV0) 13 0, pkAt (pmtPktCc 3 pmtSecV0) 14 0x100]

theorem f14c_transmissions :
    f14cSteadyPks.filter (fun x => x.pid == 0)
      = [[pkAt (patPktCc 1 patSecV0) 4 0], [pkAt (patPktCc 2 patSecV0) 7 0], [pkAt (patPktCc 3 patSecV0) 8 0],
         [pkAt (patPktCc 4 patSecV0) 9 0], [pkAt (patPktCc 5 patSecV0) 13 0]].flatten
    ∧ txCheck 0 patSecV0 (Ts.Lemmas.C10.muxOf patSecV0) [pkAt (patPktCc 1 patSecV0) 4 0] = true
    ∧ txCheck 0 patSecV0 (Ts.Lemmas.C10.muxOf patSecV0) [pkAt (patPktCc 2 patSecV0) 7 0] = true
    ∧ txCheck 0 patSecV0 (Ts.Lemmas.C10.muxOf patSecV0) [pkAt (patPktCc 3 patSecV0) 8 0] = true
    ∧ txCheck 0 patSecV0 (Ts.Lemmas.C10.muxOf patSecV0) [pkAt (patPktCc 4 patSecV0) 9 0] = true
    ∧ txCheck 0 patSecV0 (Ts.Lemmas.C10.muxOf patSecV0) [pkAt (patPktCc 5 patSecV0) 13 0] = true
    ∧ f14cSteadyPks.filter (fun x => x.pid == 0x100)
      = [[pkAt (pmtPktCc 1 pmtSecV0) 5 0x100], [pkAt (pmtPktCc 2 pmtSecV0) 10 0x100],
         [pkAt (pmtPktCc 3 pmtSecV0) 14 0x100]].flatten
    ∧ (∀ pk ∈ f14cSteadyPks, pk.pid = 0 ∨ pk.pid = 0x100 ∨ pk.pid = 0x101) := by
  decide +kernel

theorem f14c_stable (t : Tab App.Handler) (ht : ∀ pk ∈ f14cSteadyPks, t.contains pk.pid = true) :
    StableInputWith (WellFormedMux .syntax) f14Hist f14Tbl t f14cSteadyPks := by
  obtain ⟨_, _, _, _, _, _, b1, b2, b3⟩ := f14_transmissions
  obtain ⟨a0, a1, a2, a3, a4, a5, b0, hp⟩ := f14c_transmissions
  obtain ⟨_, _, w0, w1⟩ := straddleMux_legal
  refine f14_stableWith _ _ t ht hp _ _ a0 b0 (fun tx hm => ?_) (fun tx hm => ?_)
  · simp only [List.mem_cons, List.not_mem_nil, or_false] at hm
    rcases hm with rfl | rfl | rfl | rfl | rfl
    · exact txCheck_sound_with _ _ _ _ w0 a1
    · exact txCheck_sound_with _ _ _ _ w0 a2
    · exact txCheck_sound_with _ _ _ _ w0 a3
    · exact txCheck_sound_with _ _ _ _ w0 a4
    · exact txCheck_sound_with _ _ _ _ w0 a5
  · simp only [List.mem_cons, List.not_mem_nil, or_false] at hm
    rcases hm with rfl | rfl | rfl
    · exact txCheck_sound_with _ _ _ _ w1 b1
    · exact txCheck_sound_with _ _ _ _ w1 b2
    · exact txCheck_sound_with _ _ _ _ w1 b3

/-- slot `p` holds a PAT/PMT handler whose section filter is quiescent at version 0 -/
def quiescent0B (t : Tab App.Handler) (p : Nat) : Bool :=
  match (t.get p).bind psiOf with
  | some s => s.lastVersion == some 0 && s.remaining == none
  | none => false

theorem quiescent0B_sound (t : Tab App.Handler) (p : Nat) (h : quiescent0B t p = true) :
    ∃ hd, t.get p = some hd ∧ Ts.Lemmas.C10.QuiescentH 0 hd := by
  unfold quiescent0B at h
  cases hg : t.get p with
  | none => rw [hg] at h; cases h
  | some hd =>
    rw [hg] at h
    refine ⟨hd, rfl, ?_⟩
    cases hd with
    | pat s reg => simpa [psiOf, C10.QuiescentH, C10.Quiescent] using h
    | pmt a b s reg => simpa [psiOf, C10.QuiescentH, C10.Quiescent] using h
    | pes _ _ => cases h
    | recorder _ => cases h

/-- Boolean form of "the table agrees with the history `f14Hist`": table filters on PID 0 and PID
0x100, both quiescent at version 0; a handler without section filter on PID 0x101 -/
def f14AgreeB (t : Tab App.Handler) : Bool :=
  quiescent0B t 0 && quiescent0B t 0x100 &&
    match t.get 0x101 with
    | some hd => (psiOf hd).isNone
    | none => false

theorem f14AgreeB_sound (t : Tab App.Handler) (h : f14AgreeB t = true) :
    (∃ hd, t.get 0 = some hd ∧ Ts.Lemmas.C10.QuiescentH 0 hd)
    ∧ (∃ hd, t.get 0x100 = some hd ∧ Ts.Lemmas.C10.QuiescentH 0 hd)
    ∧ (∃ hd, t.get 0x101 = some hd ∧ psiOf hd = none) := by
  unfold f14AgreeB at h
  simp only [Bool.and_eq_true] at h
  obtain ⟨⟨h0, h1⟩, h2⟩ := h
  refine ⟨quiescent0B_sound t 0 h0, quiescent0B_sound t 0x100 h1, ?_⟩
  cases hg : t.get 0x101 with
  | none => rw [hg] at h2; cases h2
  | some hd => rw [hg] at h2; exact ⟨hd, rfl, Option.isNone_iff_eq_none.1 h2⟩

theorem f14_versions : Ts.Lemmas.C10.versionOf patSecV0 = 0 ∧ Ts.Lemmas.C10.versionOf pmtSecV0 = 0 := by
  decide +kernel

/-! #### evaluation of the whole model on the probe and its control -/

def chk {α : Type} (r : R α) (f : α → Bool) : Bool :=
  match r with
  | .ok a => f a
  | .panic _ => false

theorem chk_ok {α : Type} (r : R α) (f : α → Bool) (h : chk r f = true) :
    ∃ a, r = .ok a ∧ f a = true := by
  cases r with
  | ok a => exact ⟨a, rfl, h⟩
  | panic s => cases h

/-- handlers constructed so far (`nextTag` is bumped by every `construct`) and table slots -/
def tagLen (tc : Tab App.Handler × App.Ctx) : Nat × Nat := (tc.2.nextTag, tc.1.length)

/-- does any step of `push(buf)` from `tc` reach an allocating operation of the model? -/
def pushMayAlloc (tc : Tab App.Handler × App.Ctx) (buf : Bytes) (base : Nat) : Bool :=
  chk (frame buf base) fun pks => runMayAlloc tc pks

/-- `push(buf)` from `tc` with every packet framed and stepped once: the packets, the state after
the push, and `pushMayAlloc tc buf base` -/
def pushMay (sem : Sem App.Handler App.Ctx) (tc : Tab App.Handler × App.Ctx) (buf : Bytes) (base : Nat) :
    R (List Pk × (Tab App.Handler × App.Ctx) × Bool) :=
  frame buf base >>= fun pks => pushSpecMay sem tc pks >>= fun r => .ok (pks, r.1, r.2)

theorem pushMay_ok (tc : Tab App.Handler × App.Ctx) (buf : Bytes) (base : Nat)
    (r : List Pk × (Tab App.Handler × App.Ctx) × Bool) (h : pushMay App.sem tc buf base = .ok r) :
    frame buf base = .ok r.1 ∧ push App.sem tc buf base = .ok r.2.1
      ∧ runMayAlloc tc r.1 = r.2.2 ∧ pushMayAlloc tc buf base = r.2.2 := by
  unfold pushMay at h
  obtain ⟨pks, h1, h⟩ := R.bind_eq_ok h
  obtain ⟨x, h2, h⟩ := R.bind_eq_ok h
  cases h
  obtain ⟨a, b⟩ := pushSpecMay_ok pks tc x h2
  refine ⟨h1, ?_, b, ?_⟩
  · unfold push
    rw [h1, R.ok_bind, pushModel_eq_pushSpec, a]
  · unfold pushMayAlloc
    rw [h1]
    exact b

/-- the run of F14 and of its control as one Boolean, every push evaluated once from the state the
previous one left (the control shares the warm-up and the first steady push): the packets framed;
handlers constructed and table slots after each push; every steady PID has a handler after the
warm-up; which pushes have a `mayAlloc` step; the table after the warm-up agrees with `f14Hist` -/
def f14Check : Bool :=
  chk (pushMay App.sem (App.init {}) f14Warm 0) fun r0 =>
  chk (pushMay App.sem r0.2.1 f14St1 564) fun r1 =>
  chk (pushMay App.sem r1.2.1 f14St2 1128) fun r2 =>
  chk (pushMay App.sem r2.2.1 f14St3 2256) fun r3 =>
  chk (pushMay App.sem r1.2.1 f14cSt2 1128) fun r2c =>
  chk (pushMay App.sem r2c.2.1 f14St3 2256) fun r3c =>
    r0.1 == f14WarmPks && r0.1 ++ r1.1 ++ r2.1 ++ r3.1 == f14WarmPks ++ f14SteadyPks
    && r0.1 ++ r1.1 ++ r2c.1 ++ r3c.1 == f14WarmPks ++ f14cSteadyPks
    && tagLen r0.2.1 == (3, 258) && tagLen r1.2.1 == (3, 258) && tagLen r2.2.1 == (5, 258)
    && tagLen r3.2.1 == (5, 258) && tagLen r2c.2.1 == (3, 258) && tagLen r3c.2.1 == (3, 258)
    && !r1.2.2 && r2.2.2 && !r3.2.2 && !r2c.2.2 && !r3c.2.2
    && f14SteadyPks.all (fun pk => r0.2.1.1.contains pk.pid)
    && f14AgreeB r0.2.1.1 && r0.2.1.2.cfg.script.isEmpty

theorem f14Check_true : f14Check = true := by eval_app [f14Check]


/-- every packet of a complete transmission of a well-formed section-syntax section `S` (≥ 8 bytes)
in a `WellFormedMux` packetisation is a C10 repetition packet of `S`'s version -/
theorem repPacket_of_transmits (pid : Nat) (S : Bytes) (tx : List Pk)
    (hS : WellFormedSection .syntax S) (h8 : 8 ≤ S.length)
    (h : TransmitsWith (WellFormedMux .syntax) pid S tx) :
    ∀ pk ∈ tx, Ts.Lemmas.C10.RepPacket (Ts.Lemmas.C10.versionOf S) pk.bytes := by
  obtain ⟨hp, m, off, rest, hm, hl, hus, _⟩ := h
  intro pk hpk
  refine ⟨(hp pk hpk).2.2, ?_⟩
  intro q hq
  have hmem : q ∈ (tx.map (·.bytes)).filterMap plOf :=
    List.mem_filterMap.2 ⟨pk.bytes, List.mem_map_of_mem hpk, hq⟩
  rw [hl] at hmem
  rcases List.mem_cons.1 hmem with e | e
  · subst e
    exact Or.inr ⟨S, m, hS, h8, rfl, hm, rfl, rfl⟩
  · exact Or.inl (hus q e)

/-- **input level ⇒ `Steady`.**  The input-level hypothesis WITH the minimum-first-share clause
(`WellFormedMux .syntax`), 188-byte packets, and agreement of the table after the warm-up with the
history on the steady PIDs — a PID that carries tables holds a PAT/PMT handler quiescent at the
version of the current table (the handler INSTANCE in the slot is the one that applied it), any other
PID holds a handler without section filter (PES filter or recorder) — give `Steady t pks`. -/
theorem steady_of_stable (evs : List Event) (tbl : Nat → Bytes) (t : Tab App.Handler) (pks : List Pk)
    (hin : StableInputWith (WellFormedMux .syntax) evs tbl t pks)
    (hlen : ∀ pk ∈ pks, pk.bytes.length = 188)
    (hagree : ∀ pk ∈ pks,
      (tablePid (run initRoute evs) pk.pid = true
        ∧ ∃ h, t.get pk.pid = some h ∧ Ts.Lemmas.C10.QuiescentH (Ts.Lemmas.C10.versionOf (tbl pk.pid)) h)
      ∨ (tablePid (run initRoute evs) pk.pid = false ∧ ∃ h, t.get pk.pid = some h ∧ psiOf h = none)) :
    Steady t pks := by
  intro pk hpk
  rcases hagree pk hpk with ⟨htab, h, hg, hq⟩ | ⟨_, h, hg, hn⟩
  · obtain ⟨⟨ev, ⟨pre, post, _, hsome, _⟩, hcopy⟩, txs, hfl, htx⟩ := hin.tables pk hpk htab
    obtain ⟨v, hv⟩ := Option.isSome_iff_exists.1 hsome
    obtain ⟨hS, h12, _⟩ := copyOf_version _ ev pk.pid v hcopy hv
    have hmem : pk ∈ pks.filter (fun x => x.pid == pk.pid) :=
      List.mem_filter.2 ⟨hpk, by simp⟩
    rw [hfl] at hmem
    obtain ⟨tx, htxm, hpktx⟩ := List.mem_flatten.1 hmem
    have hrep := repPacket_of_transmits pk.pid _ tx hS (by omega) (htx tx htxm) pk hpktx
    exact steadyPk_of_c10 t pk _ h hg hq hrep
  · exact steadyPk_of_noPsi t pk h (hlen pk hpk) hg hn

/-! ### successive pushes -/

theorem frame_total (b : Bytes) (base : Nat) : ∃ a, frame b base = .ok a := ⟨_, frame_eq_pure b base⟩

theorem frameAll_cons_ok (b : Bytes) (bs : List Bytes) (base : Nat) (pks : List Pk)
    (h : frameAll (b :: bs) base = .ok pks) :
    ∃ a r, frame b base = .ok a ∧ frameAll bs (base + b.length) = .ok r ∧ pks = a ++ r := by
  unfold frameAll at h
  obtain ⟨a, h1, h⟩ := R.bind_eq_ok h
  obtain ⟨r, h2, h⟩ := R.bind_eq_ok h
  exact ⟨a, r, h1, h2, (R.ok_inj h).symm⟩

theorem frameAll_total : ∀ (bs : List Bytes) (base : Nat), ∃ pks, frameAll bs base = .ok pks := by
  intro bs
  induction bs with
  | nil => intro base; exact ⟨[], rfl⟩
  | cons b bs ih =>
    intro base
    obtain ⟨a, ha⟩ := frame_total b base
    obtain ⟨r, hr⟩ := ih (base + b.length)
    exact ⟨a ++ r, by unfold frameAll; rw [ha, R.ok_bind, hr, R.ok_bind]⟩

theorem frameAll_append : ∀ (a b : List Bytes) (base : Nat) (pa pb : List Pk),
    frameAll a base = .ok pa → frameAll b (base + (a.map List.length).sum) = .ok pb →
    frameAll (a ++ b) base = .ok (pa ++ pb) := by
  intro a
  induction a with
  | nil =>
    intro b base pa pb ha hb
    have := R.ok_inj ha
    subst this
    simpa using hb
  | cons x a ih =>
    intro b base pa pb ha hb
    obtain ⟨p1, r1, h1, h2, e⟩ := frameAll_cons_ok x a base pa ha
    subst e
    have hb' : frameAll b (base + x.length + (a.map List.length).sum) = .ok pb := by
      simpa [List.map_cons, List.sum_cons, Nat.add_assoc] using hb
    have := ih b (base + x.length) r1 pb h2 hb'
    show frameAll (x :: (a ++ b)) base = _
    unfold frameAll
    rw [h1, R.ok_bind, this, R.ok_bind, List.append_assoc]

theorem frameAll_mem : ∀ (bs : List Bytes) (base : Nat) (pks : List Pk), frameAll bs base = .ok pks →
    ∀ b ∈ bs, ∃ base' a, frame b base' = .ok a ∧ ∀ pk ∈ a, pk ∈ pks := by
  intro bs
  induction bs with
  | nil => intro base pks _ b hb; cases hb
  | cons x bs ih =>
    intro base pks h b hb
    obtain ⟨a, r, h1, h2, e⟩ := frameAll_cons_ok x bs base pks h
    subst e
    rcases List.mem_cons.1 hb with rfl | hb
    · exact ⟨base, a, h1, fun pk hm => List.mem_append_left _ hm⟩
    · obtain ⟨base', a', h3, h4⟩ := ih _ r h2 b hb
      exact ⟨base', a', h3, fun pk hm => List.mem_append_right _ (h4 pk hm)⟩

theorem frameAll_len : ∀ (bs : List Bytes) (base : Nat) (pks : List Pk), frameAll bs base = .ok pks →
    ∀ pk ∈ pks, pk.bytes.length = 188 := by
  intro bs
  induction bs with
  | nil =>
    intro base pks h pk hm
    have := R.ok_inj h
    subst this
    cases hm
  | cons x bs ih =>
    intro base pks h pk hm
    obtain ⟨a, r, h1, h2, e⟩ := frameAll_cons_ok x bs base pks h
    subst e
    rcases List.mem_append.1 hm with hm | hm
    · exact (frame_pk_props x base a h1 pk hm).2.2.2.2.1
    · exact ih _ r h2 pk hm

theorem frameAll_snoc (bs : List Bytes) (b : Bytes) (base : Nat) (ps p : List Pk) {l : List Bytes}
    (h1 : frameAll bs 0 = .ok ps) (hb : (bs.map List.length).sum = base) (h2 : frame b base = .ok p)
    (hl : l = bs ++ [b]) : frameAll l 0 = .ok (ps ++ p) := by
  subst hl
  refine frameAll_append bs [b] 0 ps p h1 ?_
  rw [Nat.zero_add, hb, frameAll, h2, R.ok_bind, frameAll, R.ok_bind, List.append_nil]

theorem runApp_snoc (cfg : App.Cfg) (bs : List Bytes) (b : Bytes) (base : Nat)
    (tc tc' : Tab App.Handler × App.Ctx) {l : List Bytes} (h1 : App.runApp cfg bs = .ok tc)
    (hb : (bs.map List.length).sum = base) (h2 : push App.sem tc b base = .ok tc')
    (hl : l = bs ++ [b]) : App.runApp cfg l = .ok tc' := by
  subst hl
  unfold App.runApp at h1 ⊢
  rw [pushAll_append_bufs, h1, R.ok_bind, Nat.zero_add, hb, pushAll, h2, R.ok_bind, pushAll]

/-! ### the runs of F14 and its control, read back from `f14Check_true` -/

theorem f14_bases : ([f14Warm].map List.length).sum = 564
    ∧ ([f14Warm, f14St1].map List.length).sum = 1128
    ∧ ([f14Warm, f14St1, f14St2].map List.length).sum = 2256
    ∧ ([f14Warm, f14St1, f14cSt2].map List.length).sum = 2256 := by decide +kernel

/-- the states `tc0 … tc3` after the warm-up and the three steady pushes of the probe, `tc2c`, `tc3c`
after the second and third steady push of the control -/
theorem f14_runs : ∃ tc0 tc1 tc2 tc3 tc2c tc3c,
    frameAll [f14Warm] 0 = .ok f14WarmPks
    ∧ frameAll [f14Warm, f14St1, f14St2, f14St3] 0 = .ok (f14WarmPks ++ f14SteadyPks)
    ∧ frameAll [f14Warm, f14St1, f14cSt2, f14St3] 0 = .ok (f14WarmPks ++ f14cSteadyPks)
    ∧ App.runApp {} [f14Warm] = .ok tc0 ∧ App.runApp {} [f14Warm, f14St1] = .ok tc1
    ∧ App.runApp {} [f14Warm, f14St1, f14St2] = .ok tc2
    ∧ App.runApp {} [f14Warm, f14St1, f14St2, f14St3] = .ok tc3
    ∧ App.runApp {} [f14Warm, f14St1, f14cSt2] = .ok tc2c
    ∧ App.runApp {} [f14Warm, f14St1, f14cSt2, f14St3] = .ok tc3c
    ∧ tagLen tc0 = (3, 258) ∧ tagLen tc1 = (3, 258) ∧ tagLen tc2 = (5, 258) ∧ tagLen tc3 = (5, 258)
    ∧ tagLen tc2c = (3, 258) ∧ tagLen tc3c = (3, 258)
    ∧ pushMayAlloc tc0 f14St1 564 = false ∧ pushMayAlloc tc1 f14St2 1128 = true
    ∧ pushMayAlloc tc2 f14St3 2256 = false ∧ pushMayAlloc tc1 f14cSt2 1128 = false
    ∧ pushMayAlloc tc2c f14St3 2256 = false
    ∧ (∀ pk ∈ f14SteadyPks, tc0.1.contains pk.pid = true)
    ∧ f14AgreeB tc0.1 = true ∧ tc0.2.cfg.script = [] := by
  obtain ⟨r0, k0, hk⟩ := chk_ok _ _ f14Check_true
  obtain ⟨r1, k1, hk⟩ := chk_ok _ _ hk
  obtain ⟨r2, k2, hk⟩ := chk_ok _ _ hk
  obtain ⟨r3, k3, hk⟩ := chk_ok _ _ hk
  obtain ⟨r2c, k2c, hk⟩ := chk_ok _ _ hk
  obtain ⟨r3c, k3c, hk⟩ := chk_ok _ _ hk
  simp only [Bool.and_eq_true, beq_iff_eq, List.all_eq_true, Bool.not_eq_true', List.isEmpty_iff] at hk
  obtain ⟨⟨⟨⟨⟨⟨⟨⟨⟨⟨⟨⟨⟨⟨⟨⟨e0, e1⟩, e1c⟩, b0⟩, b1⟩, b2⟩, b3⟩, b2c⟩, b3c⟩, m1⟩, m2⟩, m3⟩, m2c⟩, m3c⟩, hc⟩,
    hag⟩, hsc⟩ := hk
  obtain ⟨f0, p0, -, -⟩ := pushMay_ok _ _ _ _ k0
  obtain ⟨f1, p1, -, a1⟩ := pushMay_ok _ _ _ _ k1
  obtain ⟨f2, p2, -, a2⟩ := pushMay_ok _ _ _ _ k2
  obtain ⟨f3, p3, -, a3⟩ := pushMay_ok _ _ _ _ k3
  obtain ⟨f2c, p2c, -, a2c⟩ := pushMay_ok _ _ _ _ k2c
  obtain ⟨f3c, p3c, -, a3c⟩ := pushMay_ok _ _ _ _ k3c
  obtain ⟨l1, l2, l3, l3c⟩ := f14_bases
  have F0 : frameAll [f14Warm] 0 = .ok ([] ++ r0.1) := frameAll_snoc [] f14Warm 0 [] r0.1 rfl rfl f0 rfl
  rw [List.nil_append] at F0
  have F1 : frameAll [f14Warm, f14St1] 0 = _ := frameAll_snoc _ f14St1 564 _ r1.1 F0 l1 f1 rfl
  have F2 : frameAll [f14Warm, f14St1, f14St2] 0 = _ := frameAll_snoc _ f14St2 1128 _ r2.1 F1 l2 f2 rfl
  have F3 : frameAll [f14Warm, f14St1, f14St2, f14St3] 0 = _ := frameAll_snoc _ f14St3 2256 _ r3.1 F2 l3 f3 rfl
  have F2c : frameAll [f14Warm, f14St1, f14cSt2] 0 = _ := frameAll_snoc _ f14cSt2 1128 _ r2c.1 F1 l2 f2c rfl
  have F3c : frameAll [f14Warm, f14St1, f14cSt2, f14St3] 0 = _ :=
    frameAll_snoc _ f14St3 2256 _ r3c.1 F2c l3c f3c rfl
  rw [e0] at F0
  rw [e1] at F3
  rw [e1c] at F3c
  have R0 : App.runApp {} [f14Warm] = _ := runApp_snoc {} [] f14Warm 0 (App.init {}) r0.2.1 rfl rfl p0 rfl
  have R1 : App.runApp {} [f14Warm, f14St1] = _ := runApp_snoc {} _ f14St1 564 _ r1.2.1 R0 l1 p1 rfl
  have R2 : App.runApp {} [f14Warm, f14St1, f14St2] = _ := runApp_snoc {} _ f14St2 1128 _ r2.2.1 R1 l2 p2 rfl
  have R3 : App.runApp {} [f14Warm, f14St1, f14St2, f14St3] = _ :=
    runApp_snoc {} _ f14St3 2256 _ r3.2.1 R2 l3 p3 rfl
  have R2c : App.runApp {} [f14Warm, f14St1, f14cSt2] = _ := runApp_snoc {} _ f14cSt2 1128 _ r2c.2.1 R1 l2 p2c rfl
  have R3c : App.runApp {} [f14Warm, f14St1, f14cSt2, f14St3] = _ :=
    runApp_snoc {} _ f14St3 2256 _ r3c.2.1 R2c l3c p3c rfl
  exact ⟨r0.2.1, r1.2.1, r2.2.1, r3.2.1, r2c.2.1, r3c.2.1, F0, F3, F3c, R0, R1, R2, R3, R2c, R3c,
    b0, b1, b2, b3, b2c, b3c, a1.trans m1, a2.trans m2, a3.trans m3, a2c.trans m2c, a3c.trans m3c,
    hc, hag, hsc⟩

/-! ### a section that fits one transport packet but is SPLIT over two -/

/-- PID 0, unit start, `pointer_field = 170`, 170 stuffing bytes, then the first 13 bytes of the
16-byte PAT v0 -/
def splitPkt1 : Bytes :=
  [0x47, 0x40, 0x00, 0x10, 0xaa] ++ List.replicate 170 0xff ++ patSecV0.take 13

/-- PID 0, continuation: the last 3 bytes of PAT v0, then stuffing -/
def splitPkt2 : Bytes :=
  [0x47, 0x00, 0x00, 0x11] ++ patSecV0.drop 13 ++ List.replicate 181 0xff

/-- the packetisation: 170 pointer bytes, 13 section bytes in the first payload, 3 in a continuation -/
def splitMux : Mux := ⟨List.replicate 170 0xff, 13, [], [patSecV0.drop 13 ++ List.replicate 181 0xff], []⟩

/-- the filter state between the two packets: 13 bytes buffered, 3 owed -/
def splitMid : Psi.St := { buf := patSecV0.take 13, remaining := some 3, lastVersion := some 0 }

theorem split_facts :
    splitPkt1.length = 188 ∧ splitPkt2.length = 188
    ∧ plOf splitPkt1 = some ⟨true, splitMux.first patSecV0, 4⟩
    ∧ plOf splitPkt2 = some ⟨false, patSecV0.drop 13 ++ List.replicate 181 0xff, 4⟩
    ∧ WellFormedSection .syntax patSecV0 ∧ patSecV0.length = 16
    ∧ WellFormedMux .syntax patSecV0 splitMux
    ∧ WellFormedMux .syntax patSecV0 (Ts.Lemmas.C10.muxOf patSecV0) := by decide +kernel

/-- the `Psi.table` chain (PAT/PMT filters) and the raw section-syntax chain on the two packets, from
a fresh state: nothing after the first packet, the whole section — flagged NOT in place — after the
second -/
theorem split_consume :
    Psi.consume Psi.table {} splitPkt1 = .ok (splitMid, [])
    ∧ Psi.consume Psi.table splitMid splitPkt2
        = .ok ({ buf := patSecV0, remaining := none, lastVersion := some 0 }, [⟨patSecV0, none⟩])
    ∧ Psi.consume Psi.rawSection {} splitPkt1 = .ok ({ splitMid with lastVersion := none }, [])
    ∧ Psi.consume Psi.rawSection { splitMid with lastVersion := none } splitPkt2
        = .ok ({ buf := patSecV0, remaining := none }, [⟨patSecV0, none⟩]) := by decide +kernel

end Ts.Lemmas.C19d
