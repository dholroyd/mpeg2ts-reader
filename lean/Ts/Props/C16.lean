import Ts.Model.Tables
import Ts.Spec.Bits
import Ts.Spec.TableSpec
import Ts.Lemmas.C16
import Ts.Gen.Consts
/-!
# C16 — PAT and PMT bodies

For every byte string taken as a PAT body, iteration (`ProgramIter`, `pat.rs`) yields one entry per
complete 4-byte group, classifying `program_number` 0 as the network PID and extracting 13-bit PIDs.
For every byte string taken as a PMT body, `PmtSection::from_bytes` succeeds exactly when the fixed
header and `program_info_length` fit, and the accessors / `StreamInfoIter` yield the PCR PID, the
program descriptor bytes and each stream's type, PID and descriptor bytes exactly as laid out,
stopping without panic at the first entry that does not fit.

All model results are `R.ok`: no index, slice or `Pid::new` assertion is reachable.
The specification (`Ts/Spec/TableSpec.lean`) is written with encoders and `readBits` fields.

Fuel: the model's iterators `patPrograms` / `streamIter` take a fuel argument and return
`.ok []` when it runs out, so "the result is `R.ok`" alone says nothing about termination.  What
carries termination is (a) the equality with the fuel-free specification (`pat_entries`,
`pmt_streams_tile`) and (b) `pat_fuel_irrelevant` / `stream_iter_fuel_irrelevant`: every fuel above
the buffer length gives the same result, i.e. the fuel the model supplies (`length + 1`) is never
exhausted.

Readings:
* `program_info_length` and `ES_info_length` are read as full 12-bit fields (`readBits … 12`), as
  the code does; the standard says their first two bits "shall be '00'" — a larger value is accepted
  here (lenient) and simply fails the fit test unless that many bytes are present.
* `current_next_indicator`, like the Boolean-encoded PES enums, is tied to its Rust variant only by
  the harness (`Ts/Props/C16Headers.lean`).
* Error details are not modelled: `pmtFromBytes` returns `none` for `Err(DemuxError::NotEnoughData
  { field, expected, actual })`.
* Ties to regenerated constants: the PAT entry size 4 is `Ts.Props.Ties.tie_pat_entry_size`
  (`Gen.patEntrySize` in the defining equation of `patPrograms`); the PMT header size 4 and the
  stream-info header size 5 are `Ts.Props.Ties.tie_pmt_header_size` / `tie_stream_info_header_size`
  (`pmtFromBytes`, `pmtDescriptorBytes`, `pmtStreams`, `streamInfoFromBytes` restated).  The two
  `tie_*` below are pins on the number only; `tie_*_enc` relate the SPEC's encoders to them.
  The 13-bit PID bound `0x1fff` of `Pid::new` is `Ts.Props.Ties.tie_pid_new`.  Masks and shifts
  (`& 0b0001_1111`, `& 0b0000_1111`, `<< 8`) have no regenerated counterpart.
-/
namespace Ts.Props.C16
open Ts Ts.Spec Ts.Tables Ts.Spec.TableSpec Ts.Lemmas.C16

/-! ### ties to the constants regenerated from `/repo/src/psi/pmt.rs` -/
/-- the number only; its use in the model is `Ts.Props.Ties.tie_pmt_header_size` -/
theorem tie_pmt_header : Ts.Gen.pmtHeaderSize = 4 := by decide
/-- the number only; see `Ts.Props.Ties.tie_stream_info_header_size` -/
theorem tie_stream_header : Ts.Gen.streamInfoHeaderSize = 5 := by decide
/-- the spec's encoders produce headers of exactly these sizes -/
theorem tie_pmt_header_enc (rA pcr rB : Nat) :
    (encodePmt rA pcr rB [] []).length = Ts.Gen.pmtHeaderSize := by
  simp [encodePmt, Ts.Gen.pmtHeaderSize]
theorem tie_stream_header_enc (e : StreamEnc) :
    (encodeStream e).length = Ts.Gen.streamInfoHeaderSize + e.descBytes.length := by
  rw [encodeStream_length]; rfl

/-! ### PAT -/

/-- `PatSection::programs()` run to exhaustion never panics and yields exactly the spec's list:
one entry per complete 4-byte group, every PID a legal 13-bit PID -/
theorem pat_entries (body : Bytes) :
    patProgramsAll body = .ok (specPat body) ∧
    (specPat body).length = body.length / 4 ∧
    (∀ e ∈ specPat body, e.pid ≤ 0x1fff) := by
  refine ⟨patPrograms_eq _ body (by omega), ?_, ?_⟩
  · unfold specPat
    rw [List.length_map]
    exact chunks4_length _ body (Nat.lt_succ_self _)
  · intro e he
    unfold specPat at he
    obtain ⟨g, -, rfl⟩ := List.mem_map.1 he
    have := readBits_lt g 19 13
    unfold patEntryOf
    split <;> simp only [PatEntry.pid] <;> omega

/-- the `i`-th entry is read from bytes `[4i, 4i+4)`: `program_number` = bits 0..16, PID = bits
19..32 of that group; `program_number` 0 is the network PID -/
theorem pat_entry_fields (body : Bytes) (i : Nat) (h : i < body.length / 4) :
    (specPat body)[i]? = some (
      let g := (body.drop (4 * i)).take 4
      if readBits g 0 16 = 0 then PatEntry.network (readBits g 19 13)
      else PatEntry.program (readBits g 0 16) (readBits g 19 13)) := by
  unfold specPat
  rw [List.getElem?_map, chunks4_get i body h]
  rfl

theorem pat_entry_none (body : Bytes) (i : Nat) (h : body.length / 4 ≤ i) : (specPat body)[i]? = none := by
  rw [List.getElem?_eq_none_iff, (pat_entries body).2.1]; exact h

theorem pat_roundtrip (es : List (Nat × PatEntry)) (h : ∀ x ∈ es, PatWf x.2) :
    patProgramsAll (encodePat es) = .ok (es.map (·.2)) := by
  rw [(pat_entries _).1, specPat_encode es h]

/-- the encoder really writes the reserved bits it is given (so `pat_roundtrip` covers every bit
pattern of a PAT body whose length is a multiple of 4) -/
theorem pat_encode_reserved (r : Nat) (e : PatEntry) (h : PatWf e) :
    readBits (encodePatEntry r e) 16 3 = r % 8 ∧ (encodePatEntry r e).length = 4 :=
  ⟨(encodePatEntry_fields r e h).2.2, rfl⟩

/-! ### PMT -/

theorem pmt_accept_iff (data : Bytes) :
    pmtFromBytes data = .ok (if specPmtAccept data then some data else none) :=
  pmtFromBytes_eq data

theorem pmt_fields (data : Bytes) (h : specPmtAccept data) :
    pmtPcrPid data = .ok (readBits data 3 13) ∧ readBits data 3 13 ≤ 0x1fff ∧
    pmtProgramInfoLength data = .ok (readBits data 20 12) ∧
    pmtDescriptorBytes data = .ok ((data.drop 4).take (readBits data 20 12)) := by
  have := readBits_lt data 3 13
  exact ⟨pmtPcrPid_eq data (by have := h.1; omega), by omega, pmtPil_eq data h.1,
    pmtDescriptorBytes_eq data h⟩

/-- `PmtSection::streams()` run to exhaustion never panics; the yielded entries (with the reserved
bits as found) re-encode to a prefix of the bytes after the program descriptors, and the leftover is
empty or an incomplete entry: fewer than 5 bytes, or its `ES_info_length` overruns -/
theorem pmt_streams_tile (data : Bytes) (h : specPmtAccept data) :
    ∃ (es : List StreamEnc) (leftover : Bytes),
      specStreams (data.drop (4 + readBits data 20 12)) = (es, leftover) ∧
      pmtStreams data = .ok (es.map StreamEnc.info) ∧
      (es.map encodeStream).flatten ++ leftover = data.drop (4 + readBits data 20 12) ∧
      (leftover.length < 5 ∨ leftover.length < 5 + readBits leftover 28 12) ∧
      ∀ e ∈ es,
        e.streamType = readBits (encodeStream e) 0 8 ∧
        e.reserved1 = readBits (encodeStream e) 8 3 ∧
        e.pid = readBits (encodeStream e) 11 13 ∧ e.pid ≤ 0x1fff ∧
        e.reserved2 = readBits (encodeStream e) 24 4 ∧
        e.descBytes = ((encodeStream e).drop 5).take (readBits (encodeStream e) 28 12) ∧
        (encodeStream e).length = 5 + readBits (encodeStream e) 28 12 := by
  refine ⟨(specStreams (specStreamBytes data)).1, (specStreams (specStreamBytes data)).2, rfl,
    pmtStreams_eq data h, ?_⟩
  obtain ⟨p1, p2, p3⟩ := specStreams_props _ (specStreamBytes data) (Nat.lt_succ_self _)
  refine ⟨p1, ?_, ?_⟩
  · unfold streamFits esInfoLength at p2
    omega
  · intro e he
    have wf := p3 e he
    obtain ⟨f1, f2, f3, f4, f5⟩ := encodeStream_fields e wf []
    rw [List.append_nil] at f1 f2 f3 f4 f5
    rw [f1, f2, f3, f4, f5, encodeStream_length]
    refine ⟨rfl, rfl, rfl, wf.2.2.1, rfl, ?_, rfl⟩
    simp [encodeStream]

theorem pmt_roundtrip (rA pcr rB : Nat) (pd : Bytes) (ss : List StreamEnc)
    (hp : pcr ≤ 0x1fff) (hd : pd.length < 4096) (hs : ∀ e ∈ ss, StreamWf e) :
    pmtFromBytes (encodePmt rA pcr rB pd ss) = .ok (some (encodePmt rA pcr rB pd ss)) ∧
    pmtPcrPid (encodePmt rA pcr rB pd ss) = .ok pcr ∧
    pmtDescriptorBytes (encodePmt rA pcr rB pd ss) = .ok pd ∧
    pmtStreams (encodePmt rA pcr rB pd ss) = .ok (ss.map StreamEnc.info) ∧
    specStreams (specStreamBytes (encodePmt rA pcr rB pd ss)) = (ss, []) := by
  have acc := encodePmt_accept rA pcr rB pd ss hp hd
  have f := encodePmt_fields rA pcr rB pd ss hp hd
  have e3 := encodePmt_streams rA pcr rB pd ss hp hd
  have e4 := specStreams_encode ss hs
  refine ⟨?_, ?_, ?_, ?_, ?_⟩
  · rw [pmt_accept_iff, if_pos acc]
  · rw [pmtPcrPid_eq _ (by have := acc.1; omega), f.1]
  · rw [pmtDescriptorBytes_eq _ acc, encodePmt_desc rA pcr rB pd ss hp hd]
  · rw [pmtStreams_eq _ acc, e3, e4]
  · rw [e3, e4]

/-! ### fuel is never exhausted -/

/-- `ProgramIter`: every fuel greater than the body length gives the result of `patProgramsAll`
(which supplies `length + 1`), and one more unit of fuel changes nothing.  Hypothesis:
`body.length < fuel` (each step consumes 4 bytes, so this is generous). -/
theorem pat_fuel_irrelevant (body : Bytes) (fuel : Nat) (h : body.length < fuel) :
    patPrograms fuel body = patProgramsAll body ∧ patPrograms fuel body = patPrograms (fuel + 1) body := by
  unfold patProgramsAll
  rw [patPrograms_eq fuel body h, patPrograms_eq _ body (Nat.lt_succ_self _),
    patPrograms_eq (fuel + 1) body (by omega)]
  exact ⟨rfl, rfl⟩

/-- `StreamInfoIter`: the same.  `pmtStreams` calls `streamIter` with `length + 1`. -/
theorem stream_iter_fuel_irrelevant (buf : Bytes) (fuel : Nat) (h : buf.length < fuel) :
    streamIter fuel buf = streamIter (buf.length + 1) buf ∧ streamIter fuel buf = streamIter (fuel + 1) buf := by
  rw [streamIter_eq fuel buf h, streamIter_eq _ buf (Nat.lt_succ_self _),
    streamIter_eq (fuel + 1) buf (by omega)]
  exact ⟨rfl, rfl⟩

/-- the hypothesis is needed, and exhaustion is silent: with too little fuel the model returns a
proper prefix, still as `R.ok` -/
example : patPrograms 1 [0, 1, 0xe1, 0x00, 0, 2, 0xe1, 0x01] = .ok [.program 1 0x100]
    ∧ patProgramsAll [0, 1, 0xe1, 0x00, 0, 2, 0xe1, 0x01] = .ok [.program 1 0x100, .program 2 0x101] :=
  ⟨rfl, rfl⟩
example : streamIter 1 (pmtExample.drop 4) = .ok [⟨0x1b, 0x100, []⟩] := rfl
example : patPrograms 1000 [0, 1, 0xe1, 0x00, 0, 2, 0xe1, 0x01] = patProgramsAll [0, 1, 0xe1, 0x00, 0, 2, 0xe1, 0x01] :=
  (pat_fuel_irrelevant _ 1000 (by decide)).1

/-! ### non-vacuity -/

/-- a PAT body with a network entry, a program entry and one stray byte -/
example : patProgramsAll [0, 0, 0xe0, 0x10, 0, 1, 0xe1, 0x00, 0xff]
    = .ok [.network 0x10, .program 1 0x100] := by rfl
example : specPat [0, 0, 0xe0, 0x10, 0, 1, 0xe1, 0x00, 0xff] = [.network 0x10, .program 1 0x100] := by
  decide
example : encodePat [(7, .network 0x10), (7, .program 1 0x100)] = [0, 0, 0xe0, 0x10, 0, 1, 0xe1, 0x00] := by
  decide
example : PatWf (.network 0x10) ∧ PatWf (.program 1 0x100) := by decide

/-! `pmtExample` (`Ts/Spec/TableSpec.lean`): PCR PID 0x100, no program descriptors, an H.264 stream
without descriptors and an AAC stream with an ISO-639 descriptor -/

example : specPmtAccept pmtExample := by decide
example : pmtExample = encodePmt 7 0x100 15 []
    [⟨0x1b, 7, 0x100, 15, []⟩, ⟨0x0f, 7, 0x101, 15, [0x0a, 0x04, 0x65, 0x6e, 0x67, 0x00]⟩] := by decide
example : pmtStreams pmtExample
    = .ok [⟨0x1b, 0x100, []⟩, ⟨0x0f, 0x101, [0x0a, 0x04, 0x65, 0x6e, 0x67, 0x00]⟩] := by rfl
example : pmtPcrPid pmtExample = .ok 0x100 := by rfl
/-- a truncated body is rejected; a body whose last entry is cut short yields only the first -/
example : pmtFromBytes [0xe1, 0x00, 0xf0, 0x02, 0x00] = .ok none := by rfl
example : pmtStreams (pmtExample.take 18) = .ok [⟨0x1b, 0x100, []⟩] := by rfl
example : StreamWf ⟨0x1b, 7, 0x100, 15, []⟩ := by decide

end Ts.Props.C16
