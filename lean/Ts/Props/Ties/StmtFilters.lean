import Ts.Gen.FiltersGen
import Ts.Lemmas.Demux
/-!
# Statement-level tie — the PID table and the changeset (audited with C06, C07, C18)

`Ts.Gen.FiltersGen` is `Filters::{default, contains, get, insert, remove}`, `FilterChange::apply`
and `FilterChangeset::{default, insert, remove, apply, is_empty}` of `/repo/src/demultiplex.rs` as
they read NOW, translated statement by statement by `tools/gen_filters.py` (checked indexing, the
`isize` difference and the `for _ in 0..=diff` growth loop of `insert`, the `drain(..)` loop of
`apply`).  The theorems below prove, for EVERY table, EVERY PID (no 13-bit bound is needed) and EVERY
queue of changes, that the translated functions never panic and compute exactly the model's
`Tab.contains / get / insert / remove`, `applyChange`, `applyChanges` (`Ts/Model/Demux.lean`) — the
functions every C06 / C07 / C18 theorem is stated over.
-/
-- the simp sets cover the spellings the generator may emit; the text it emits today leaves some unused
set_option linter.unusedSimpArgs false
namespace Ts.Props.Ties.StmtFilters
open Ts Ts.Demux Ts.StmtVec Ts.Gen.FiltersGen

variable {H : Type}

theorem vecGet_ok {α : Type} (v : List α) (i : Nat) (h : i < v.length) : vecGet v i = .ok v[i] := by
  unfold vecGet; simp [List.getElem?_eq_getElem h]

theorem vecSet_ok {α : Type} (v : List α) (i : Nat) (x : α) (h : i < v.length) : vecSet v i x = .ok (v.set i x) := by
  unfold vecSet; simp [h]

/-- the growth loop of `insert`: `n` iterations push `n` empty slots -/
theorem forN_push (n : Nat) (t : List (Option H)) :
    forN n (⟨t⟩ : Filters H) (fun self => R.ok { filters_by_pid := self.filters_by_pid ++ [none] })
      = .ok ⟨t ++ List.replicate n none⟩ := by
  induction n generalizing t with
  | zero => simp [forN]
  | succ n ih =>
    unfold forN
    simp only []
    rw [ih (t ++ [none])]
    simp [List.replicate_succ, List.append_assoc]

/-- `Filters::contains` -/
theorem tie_stmt_contains (t : Tab H) (pid : Nat) : Filters.contains ⟨t⟩ pid = .ok (Tab.contains t pid) := by
  unfold Filters.contains Tab.contains
  by_cases h : pid < t.length
  · simp only [h, decide_true, if_true, vecGet_ok t pid h, R.ok_bind, R.pure_eq, Bool.true_and]
    rw [List.getElem?_eq_getElem h]
    cases t[pid] <;> rfl
  · simp only [h, decide_false, Bool.false_eq_true, if_false, R.ok_bind, R.pure_eq, Bool.false_and]

/-- `Filters::get` (the table itself is unchanged) -/
theorem tie_stmt_get (t : Tab H) (pid : Nat) : Filters.get ⟨t⟩ pid = .ok (⟨t⟩, Tab.get t pid) := by
  unfold Filters.get Tab.get
  -- whichever way round the source writes the bounds test
  by_cases h : pid ≥ t.length
  · have h' : ¬ pid < t.length := by omega
    simp only [h, h', decide_true, decide_false, Bool.false_eq_true, if_true, if_false, R.ok_bind, R.pure_eq]
  · have h' : pid < t.length := by omega
    simp only [h, h', decide_true, decide_false, Bool.false_eq_true, if_true, if_false, vecGet_ok t pid h', R.ok_bind, R.pure_eq]
    rw [List.getElem?_eq_getElem h']

/-- `Filters::insert`: grows the table up to and including `pid`, then stores; never panics -/
theorem tie_stmt_insert (t : Tab H) (pid : Nat) (h : H) : Filters.insert ⟨t⟩ pid h = .ok ⟨Tab.insert t pid h⟩ := by
  unfold Filters.insert Tab.insert
  simp only [Int.ofNat_eq_natCast]
  by_cases hg : pid ≥ t.length
  · have hd : ((pid : Int) - (t.length : Int) ≥ (0 : Int)) := by omega
    have hn : ((pid : Int) - (t.length : Int) - 0 + 1).toNat = pid - t.length + 1 := by omega
    simp only [hd, decide_true, if_true, hn, forN_push, R.ok_bind, R.pure_eq, hg]
    have hl : pid < (t ++ List.replicate (pid - t.length + 1) (none : Option H)).length := by
      simp; omega
    simp only [vecSet_ok _ pid _ hl, R.ok_bind]
  · have hd : ¬ ((pid : Int) - (t.length : Int) ≥ (0 : Int)) := by omega
    have hl : pid < t.length := by omega
    simp only [hd, decide_false, Bool.false_eq_true, if_false, R.ok_bind, R.pure_eq, hg, vecSet_ok t pid _ hl]

/-- `Filters::remove`: a PID beyond the table is left alone; never panics -/
theorem tie_stmt_remove (t : Tab H) (pid : Nat) : Filters.remove ⟨t⟩ pid = .ok ⟨Tab.remove t pid⟩ := by
  unfold Filters.remove Tab.remove
  by_cases hl : pid < t.length
  · have hl' : ¬ pid ≥ t.length := by omega
    simp only [hl, hl', decide_true, decide_false, Bool.false_eq_true, if_true, if_false, vecSet_ok t pid _ hl, R.ok_bind, R.pure_eq]
  · have hl' : pid ≥ t.length := by omega
    simp only [hl, hl', decide_true, decide_false, Bool.false_eq_true, if_true, if_false, R.ok_bind, R.pure_eq]

/-- a queued change in the model's vocabulary -/
def chOf : FilterChange H → Change H
  | .Insert pid f => .insert pid f
  | .Remove pid => .remove pid

/-- `FilterChange::apply` -/
theorem tie_stmt_change_apply (c : FilterChange H) (t : Tab H) :
    FilterChange.apply c ⟨t⟩ = .ok ⟨applyChange t (chOf c)⟩ := by
  unfold FilterChange.apply
  cases c with
  | Insert pid f => simp only [tie_stmt_insert, R.ok_bind, R.pure_eq]; rfl
  | Remove pid => simp only [tie_stmt_remove, R.ok_bind, R.pure_eq]; rfl

theorem forEach_apply (cs : List (FilterChange H)) (t : Tab H) :
    forEach cs (⟨t⟩ : Filters H) (fun update filters => (do
        let filters ← FilterChange.apply update filters
        pure filters : R (Filters H)))
      = .ok ⟨applyChanges t (cs.map chOf)⟩ := by
  induction cs generalizing t with
  | nil => rfl
  | cons c cs ih =>
    unfold forEach
    simp only [tie_stmt_change_apply, R.ok_bind, R.pure_eq]
    rw [ih]
    rfl

/-- `FilterChangeset::apply`: every queued change is applied, oldest first, and the queue is left empty -/
theorem tie_stmt_changeset_apply (cs : List (FilterChange H)) (t : Tab H) :
    FilterChangeset.apply ⟨cs⟩ ⟨t⟩ = .ok (⟨[]⟩, ⟨applyChanges t (cs.map chOf)⟩) := by
  unfold FilterChangeset.apply
  simp only [forEach_apply, R.ok_bind, R.pure_eq]

/-- `FilterChangeset::insert` / `remove`: appended at the end of the queue -/
theorem tie_stmt_changeset_insert (cs : List (FilterChange H)) (pid : Nat) (f : H) :
    FilterChangeset.insert ⟨cs⟩ pid f = .ok ⟨cs ++ [.Insert pid f]⟩ := rfl
theorem tie_stmt_changeset_remove (cs : List (FilterChange H)) (pid : Nat) :
    (FilterChangeset.remove ⟨cs⟩ pid : R (FilterChangeset H)) = .ok ⟨cs ++ [.Remove pid]⟩ := rfl
theorem tie_stmt_changeset_is_empty (cs : List (FilterChange H)) :
    FilterChangeset.is_empty (⟨cs⟩ : FilterChangeset H) = .ok cs.isEmpty := rfl

/-- `Filters::default` / `FilterChangeset::default` -/
theorem tie_stmt_defaults :
    (Filters.default : Filters H) = ⟨[]⟩ ∧ (FilterChangeset.default : FilterChangeset H) = ⟨[]⟩ := ⟨rfl, rfl⟩

/-- CODE-level reading of C18's "applied in the order queued, the last request for a PID wins":
whatever the table, applying a queue that ends with an insert for `pid` leaves that handler on `pid` -/
theorem code_last_insert_wins (cs : List (FilterChange H)) (t : Tab H) (pid : Nat) (f : H) :
    ∃ t', FilterChangeset.apply ⟨cs ++ [.Insert pid f]⟩ ⟨t⟩ = .ok (⟨[]⟩, ⟨t'⟩) ∧ Tab.get t' pid = some f := by
  refine ⟨_, tie_stmt_changeset_apply _ _, ?_⟩
  simp only [List.map_append, List.map_cons, List.map_nil, chOf, applyChanges_append]
  show Tab.get (applyChange _ (.insert pid f)) pid = some f
  exact Tab.get_insert_self _ pid f

/-- non-vacuity: removing an unregistered PID beyond the table, then inserting two handlers -/
example : FilterChangeset.apply ⟨[.Remove 5, .Insert 2 7, .Insert 2 9, .Insert 0 1]⟩ (⟨[]⟩ : Filters Nat)
    = .ok (⟨[]⟩, ⟨[some 1, none, some 9]⟩) := by
  rw [tie_stmt_changeset_apply]; rfl

end Ts.Props.Ties.StmtFilters
