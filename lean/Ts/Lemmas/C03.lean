import Ts.Model.Psi
import Ts.Spec.SectionMux
import Ts.Lemmas.BitOps
/-!
# The layers of `Psi.consume` as pure (panic-free) functions

`consumePayload` restates the body of `Psi.consume` over (pusi, payload bytes, payload offset).
Each layer (`headerNew`, `bufContinue`, `bufStart`, `procStart`, `procContinue`) is shown equal to
`R.ok` of a closed-form pure function under the buffer invariant `PsiInv`.
-/
namespace Ts.Lemmas.C03
open Ts Ts.Psi Ts.Spec Ts.Spec.SectionMux

/-! ### header fields as arithmetic

What `SectionCommonHeader::new` decodes from the first three bytes (`headerNew_eq`). The two fields
the proofs compute with are given by `/` and `%`, which `omega` handles and `readBits` unfolds to:
`section_length` (`hdrLen`) and `section_syntax_indicator` (`hdrSyn`). Nothing is proved about
`private_indicator`, so `hdrOf` keeps the source's mask for it. -/

def hdrLen (b : Bytes) : Nat := (byteD b 1 % 16) * 256 + byteD b 2
def hdrSyn (b : Bytes) : Bool := byteD b 1 / 128 % 2 == 1
def hdrOf (b : Bytes) : Header := ⟨byteD b 0, hdrSyn b, byteD b 1 &&& 0b0100_0000 != 0, hdrLen b⟩

theorem sectionLength_eq (S : Bytes) : sectionLength S = hdrLen S := by
  unfold sectionLength hdrLen
  have e : readBits S 12 12 = readBits S 12 4 * 2^8 + readBits S (12 + 4) 8 := readBits_add S 12 4 8
  have r1 := readBits_sub S 1 4 4 (by omega)
  have r2 := readBits_byte S 2
  simp only [Nat.mul_one] at r1
  rw [e, r1, r2]
  simp

theorem syntaxBit_eq (S : Bytes) : syntaxBit S = byteD S 1 / 128 % 2 := by
  unfold syntaxBit
  have r := readBits_sub S 1 0 1 (by omega)
  simp only [Nat.mul_one, Nat.add_zero] at r
  rw [r]

theorem syntaxBit_iff (S : Bytes) : syntaxBit S = 1 ↔ hdrSyn S = true := by
  rw [syntaxBit_eq]; unfold hdrSyn; simp

theorem hdrLen_lt (b : Bytes) : hdrLen b < 4096 := by
  unfold hdrLen
  have := byteD_lt b 2
  omega

theorem byteD_append_left (a b : Bytes) (i : Nat) (h : i < a.length) : byteD (a ++ b) i = byteD a i := by
  unfold byteD; simp [List.getD_eq_getElem?_getD, List.getElem?_append_left h]

theorem byteD_ofNat_cons (n : Nat) (h : n < 256) (l : Bytes) : byteD (UInt8.ofNat n :: l) 0 = n := by
  rw [byteD_cons_zero, UInt8.toNat_ofNat']; exact Nat.mod_eq_of_lt h

theorem hdrLen_append (a b : Bytes) (h : 3 ≤ a.length) : hdrLen (a ++ b) = hdrLen a := by
  unfold hdrLen
  rw [byteD_append_left a b 1 (by omega), byteD_append_left a b 2 (by omega)]

theorem hdrSyn_append (a b : Bytes) (h : 3 ≤ a.length) : hdrSyn (a ++ b) = hdrSyn a := by
  unfold hdrSyn
  rw [byteD_append_left a b 1 (by omega)]

theorem hdrLen_take (a : Bytes) (n : Nat) (h : 3 ≤ n) : hdrLen (a.take n) = hdrLen a := by
  unfold hdrLen
  rw [byteD_take a n 1 (by omega), byteD_take a n 2 (by omega)]

theorem hdrSyn_take (a : Bytes) (n : Nat) (h : 3 ≤ n) : hdrSyn (a.take n) = hdrSyn a := by
  unfold hdrSyn
  rw [byteD_take a n 1 (by omega)]

theorem headerNew_eq (d : Bytes) (h : 3 ≤ d.length) : headerNew (d.take 3) = .ok (hdrOf d) := by
  have hl : (d.take 3).length = 3 := by simp; omega
  unfold headerNew
  rw [byteAt_ok _ 0 (by omega), byteAt_ok _ 1 (by omega), byteAt_ok _ 2 (by omega)]
  rw [byteD_take d 3 0 (by omega), byteD_take d 3 1 (by omega), byteD_take d 3 2 (by omega)]
  have b1 := byteD_lt d 1
  have b2 := byteD_lt d 2
  have hm : byteD d 1 % 16 * 2 ^ 8 ||| byteD d 2 = byteD d 1 % 16 * 2 ^ 8 + byteD d 2 :=
    or_eq_add 8 (Nat.dvd_mul_left _ _) b2
  -- the source's masks and shifts against `/` and `%`: `& 0x80 != 0` is bit 7 (`and_80`), `& 0x0f`
  -- is `% 16` (`and_0f`), and `<< 8 |` is `* 256 +` since the low byte is below 256 (`hm`)
  simp only [assertR, hl, COMMON, beq_self_eq_true, if_true, R.ok_bind, R.pure_eq, hdrOf, hdrSyn,
    hdrLen, and_80 _ b1, and_0f _ b1, Nat.shiftLeft_eq, hm]

/-! ### configuration ↔ kind, invariants -/

def cfgOf : Kind → Cfg
  | .syntax => rawSection
  | .compact => rawCompact

def kindOf (cfg : Cfg) : Kind := if cfg.sectionSyntax then .syntax else .compact

/-- the Dedup layer only exists in front of a section-syntax parser -/
def CfgOk (cfg : Cfg) : Prop := cfg.dedup = true → cfg.sectionSyntax = true

theorem kindOf_cfgOf (k : Kind) : kindOf (cfgOf k) = k := by cases k <;> rfl
theorem cfgOk_cfgOf (k : Kind) : CfgOk (cfgOf k) := by cases k <;> simp [CfgOk, cfgOf, rawSection, rawCompact]
theorem cfgOk_table : CfgOk Psi.table := by simp [CfgOk, Psi.table]
theorem kindOf_table : kindOf Psi.table = .syntax := rfl

/-- buffer-layer invariant: while `Buffering n`, something is still owed, the fixed header is
already in the buffer, and the announced section fits 1024 bytes -/
def PsiInv (kind : Kind) (s : St) : Prop :=
  ∀ n, s.remaining = some n → 0 < n ∧ minHeader kind ≤ s.buf.length ∧ s.buf.length + n ≤ 1024

instance (kind : Kind) (s : St) : Decidable (PsiInv kind s) :=
  decidable_of_iff (∀ n ∈ s.remaining, 0 < n ∧ minHeader kind ≤ s.buf.length ∧ s.buf.length + n ≤ 1024)
    Iff.rfl

/-- `PsiInv` plus: the number of bytes owed is the one announced by the buffered header -/
def PsiInvFull (kind : Kind) (s : St) : Prop :=
  PsiInv kind s ∧ ∀ n, s.remaining = some n → s.buf.length + n = 3 + hdrLen s.buf

theorem minHeader_ge (k : Kind) : 3 ≤ minHeader k := by cases k <;> simp [minHeader]

theorem psiInv_of_none (kind : Kind) (s : St) (h : s.remaining = none) : PsiInv kind s := by
  intro n hn; rw [h] at hn; cases hn

theorem psiInvFull_of_none (kind : Kind) (s : St) (h : s.remaining = none) : PsiInvFull kind s :=
  ⟨psiInv_of_none kind s h, by intro n hn; rw [h] at hn; cases hn⟩

def consumePayload (cfg : Cfg) (s : St) (us : Bool) (pkBuf : Bytes) (off : Nat) : R (St × List Delivery) := do
  if us then do
    let pointer ← byteAt pkBuf 0
    let sectionData ← sliceFrom pkBuf 1
    if pointer > 0 && pointer ≥ sectionData.length then
      pure (procReset cfg s, [])
    else do
      let (s1, d1) ← (if pointer > 0 then do
                        let remainder ← sliceTo sectionData pointer
                        procContinue cfg s remainder
                      else pure (s, []))
      let nextSect ← sliceFrom sectionData pointer
      if nextSect.length < COMMON then pure (procReset cfg s1, d1)
      else do
        let hb ← sliceTo nextSect COMMON
        let h ← headerNew hb
        let (s2, d2) ← procStart cfg s1 h nextSect (off + 1 + pointer)
        pure (s2, d1 ++ d2)
  else procContinue cfg s pkBuf

/-! ### buffer layer -/

def bufContSpec (s : St) (data : Bytes) : St × List Delivery :=
  match s.remaining with
  | none => (s, [])
  | some n =>
    if n ≤ data.length then
      ({ s with buf := s.buf ++ data.take n, remaining := none }, [⟨s.buf ++ data.take n, none⟩])
    else ({ s with buf := s.buf ++ data, remaining := some (n - data.length) }, [])

theorem newRemaining_eq (n len : Nat) :
    (if len > n then pure 0 else subR n len : R Nat) = .ok (n - len) := by
  by_cases h : len > n
  · simp [h]; omega
  · have : len ≤ n := by omega
    simp [h, subR, this]

theorem bufContinue_eq (cfg : Cfg) (s : St) (data : Bytes)
    (h : ∀ n, s.remaining = some n → minHeader (kindOf cfg) ≤ s.buf.length) :
    bufContinue cfg s data = .ok (bufContSpec s data) := by
  unfold bufContinue bufContSpec
  cases hr : s.remaining with
  | none => rfl
  | some n =>
    have hb := h n hr
    have h3 := minHeader_ge (kindOf cfg)
    simp only [newRemaining_eq, R.ok_bind]
    by_cases hle : n ≤ data.length
    · have e0 : (n - data.length == 0) = true := by simp; omega
      -- the section is complete: the source parses the buffer's headers once more, and the invariant
      -- has kept the fixed header (3 bytes, 8 with section syntax) in `s.buf`, so its assertions hold
      have hbl : 3 ≤ (s.buf ++ List.take n data).length := by simp; omega
      simp only [e0, if_true, hle, sliceTo_ok data n hle, R.ok_bind, COMMON,
        sliceTo_ok _ 3 hbl, headerNew_eq _ hbl]
      cases hss : cfg.sectionSyntax
      · rfl
      · have hk : minHeader (kindOf cfg) = 8 := by simp [kindOf, hss, minHeader]
        have h5 : 5 ≤ (List.drop 3 (s.buf ++ List.take n data)).length := by
          rw [List.length_drop, List.length_append]; omega
        simp only [if_true, sliceFrom_ok _ 3 hbl, R.ok_bind, assertR, TSH, ge_iff_le, h5, decide_true]
        rfl
    · have e0 : (n - data.length == 0) = false := by simp; omega
      simp [e0, hle]

/-! ### processor layer: continue -/

def contSpec (cfg : Cfg) (s : St) (data : Bytes) : St × List Delivery :=
  if s.ignoreRest then (s, [])
  else if cfg.dedup && s.dedupIgnore then (s, [])
  else bufContSpec s data

theorem procContinue_eq (cfg : Cfg) (s : St) (data : Bytes) (h : PsiInv (kindOf cfg) s) :
    procContinue cfg s data = .ok (contSpec cfg s data) := by
  unfold procContinue contSpec dedupContinue
  by_cases h1 : s.ignoreRest = true
  · simp [h1]
  · by_cases h2 : (cfg.dedup && s.dedupIgnore) = true
    · simp only [h1, h2, if_true]; simp
    · simp only [h1, h2]
      exact bufContinue_eq cfg s data (fun n hn => (h n hn).2.1)

/-! ### processor layer: start -/

def startOk (cfg : Cfg) (data : Bytes) : Bool :=
  (hdrSyn data == cfg.sectionSyntax) && decide (minHeader (kindOf cfg) ≤ data.length)
    && decide (hdrLen data ≤ 1021)

def bufStartSpec (s : St) (data : Bytes) (off : Nat) : St × List Delivery :=
  if hdrLen data + 3 ≤ data.length then
    ({ s with remaining := none }, [⟨data.take (hdrLen data + 3), some off⟩])
  else ({ s with buf := data, remaining := some (hdrLen data + 3 - data.length) }, [])

def dedupStartSpec (cfg : Cfg) (s : St) (data : Bytes) (off : Nat) : St × List Delivery :=
  if cfg.dedup then
    if s.lastVersion == some ((byteD data 5 >>> 1) &&& 0b0001_1111) then ({ s with dedupIgnore := true }, [])
    else bufStartSpec { s with dedupIgnore := false,
                               lastVersion := some ((byteD data 5 >>> 1) &&& 0b0001_1111) } data off
  else bufStartSpec s data off

def startSpec (cfg : Cfg) (s : St) (data : Bytes) (off : Nat) : St × List Delivery :=
  if startOk cfg data then dedupStartSpec cfg { s with ignoreRest := false } data off
  else ({ s with ignoreRest := true }, [])

theorem bufStart_eq (s : St) (data : Bytes) (off : Nat) :
    bufStart s (hdrOf data) data off = .ok (bufStartSpec s data off) := by
  unfold bufStart bufStartSpec
  simp only [hdrOf, COMMON]
  by_cases hle : hdrLen data + 3 ≤ data.length
  · simp [hle, sliceTo_ok data _ hle]
  · have : data.length ≤ hdrLen data + 3 := by omega
    simp [hle, subR, this]

theorem dedupStart_eq (cfg : Cfg) (s : St) (data : Bytes) (off : Nat)
    (hlen : cfg.dedup = true → 8 ≤ data.length) :
    dedupStart cfg s (hdrOf data) data off = .ok (dedupStartSpec cfg s data off) := by
  unfold dedupStart dedupStartSpec
  cases hd : cfg.dedup
  · simp [bufStart_eq]
  · have h8 := hlen hd
    have h5 : TSH ≤ (List.drop 3 data).length := by rw [List.length_drop]; simp only [TSH]; omega
    have hv : tshVersion (List.drop 3 data) = .ok ((byteD data 5 >>> 1) &&& 0b0001_1111) := by
      unfold tshVersion
      rw [byteAt_ok _ 2 (by rw [List.length_drop]; omega), byteD_drop]
      simp only [TSH, List.length_drop] at h5
      simp [assertR, h5, TSH]
    simp only [if_true, COMMON, sliceFrom_ok data 3 (by omega), R.ok_bind, hv]
    split
    · rfl
    · exact bufStart_eq _ data off

theorem startOk_iff (cfg : Cfg) (data : Bytes) :
    startOk cfg data = true ↔
      hdrSyn data = cfg.sectionSyntax ∧ minHeader (kindOf cfg) ≤ data.length ∧ hdrLen data ≤ 1021 := by
  unfold startOk; simp [and_assoc]

theorem ite_ladder {α : Type} (a b c : Prop) [Decidable a] [Decidable b] [Decidable c] (x y : α) :
    (if a then x else if b then x else if c then x else y) = if ¬a ∧ ¬b ∧ ¬c then y else x := by
  by_cases a <;> by_cases b <;> by_cases c <;> simp [*]

/-- either processor makes its three checks (syntax bit, fixed header present, `section_length`),
each of which sets `ignore_rest`; together they are `startOk` -/
theorem procStart_eq (cfg : Cfg) (hc : CfgOk cfg) (s : St) (data : Bytes) (off : Nat) :
    procStart cfg s (hdrOf data) data off = .ok (startSpec cfg s data off) := by
  unfold procStart startSpec
  cases hss : cfg.sectionSyntax
  · have e : (¬ (hdrOf data).syntaxInd = true ∧ ¬ data.length < COMMON
        ∧ ¬ (hdrOf data).sectionLength > SECTION_LIMIT) ↔ startOk cfg data = true := by
      simp [startOk_iff, hss, kindOf, minHeader, hdrOf, COMMON, SECTION_LIMIT]
    simp only [Bool.false_eq_true, if_false, ite_ladder, e]
    split
    · exact dedupStart_eq cfg _ data off fun h => by rw [hc h] at hss; cases hss
    · rfl
  · have e : (¬ (!(hdrOf data).syntaxInd) = true ∧ ¬ data.length < COMMON + TSH
        ∧ ¬ (hdrOf data).sectionLength > SECTION_LIMIT) ↔ startOk cfg data = true := by
      simp [startOk_iff, hss, kindOf, minHeader, hdrOf, COMMON, TSH, SECTION_LIMIT]
    simp only [if_true, ite_ladder, e]
    split
    · rename_i hok
      have h8 : 8 ≤ data.length := Nat.le_of_not_lt (e.2 hok).2.1
      have h5 : TSH ≤ (List.drop COMMON data).length := by
        rw [List.length_drop]; simp only [TSH, COMMON]; omega
      simp only [sliceFrom_ok data COMMON (by simp only [COMMON]; omega), R.ok_bind, assertR, ge_iff_le, h5]
      exact dedupStart_eq cfg _ data off fun _ => h8
    · rfl

end Ts.Lemmas.C03
