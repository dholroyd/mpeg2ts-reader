import Ts.Lemmas.C03b
/-!
# Runs of payloads: the reassembly induction, the starting payload, and one well-formed section in
one well-formed packetisation on any chain
-/
namespace Ts.Lemmas.C03
open Ts Ts.Psi Ts.Spec Ts.Spec.SectionMux

/-- one transport-packet payload as seen by `SectionPacketConsumer::consume` -/
structure Pl where
  us : Bool        -- payload_unit_start_indicator
  bytes : Bytes    -- the payload
  off : Nat        -- its offset inside the 188-byte packet
  deriving DecidableEq, Repr

def Pl.cont (b : Bytes) (off : Nat) : Pl := ⟨false, b, off⟩

def runPl (cfg : Cfg) (s : St) : List Pl → R (St × List Delivery)
  | [] => .ok (s, [])
  | q :: qs => do
    let (s1, d1) ← consumePayload cfg s q.us q.bytes q.off
    let (s2, d2) ← runPl cfg s1 qs
    pure (s2, d1 ++ d2)

theorem runPl_cons (cfg : Cfg) (s : St) (q : Pl) (qs : List Pl) :
    runPl cfg s (q :: qs) = (consumePayload cfg s q.us q.bytes q.off >>= fun r1 =>
      runPl cfg r1.1 qs >>= fun r2 => R.ok (r2.1, r1.2 ++ r2.2)) := rfl

def runSpec (cfg : Cfg) (s : St) : List Pl → St × List Delivery
  | [] => (s, [])
  | q :: qs =>
    let r1 := consumeSpec cfg s q.us q.bytes q.off
    let r2 := runSpec cfg r1.1 qs
    (r2.1, r1.2 ++ r2.2)

theorem runPl_eq (cfg : Cfg) (hc : CfgOk cfg) (qs : List Pl) :
    ∀ (s : St), PsiInv (kindOf cfg) s → (∀ q ∈ qs, 1 ≤ q.bytes.length) →
      runPl cfg s qs = .ok (runSpec cfg s qs) := by
  induction qs with
  | nil => intro s _ _; rfl
  | cons q qs ih =>
    intro s hs hq
    have h1 := consumePayload_eq cfg hc s q.us q.bytes q.off (hq q (List.mem_cons_self ..)) hs
    have h2 := ih (consumeSpec cfg s q.us q.bytes q.off).1 (consumeSpec_inv cfg s _ _ _ hs)
      (fun q' hq' => hq q' (List.mem_cons_of_mem _ hq'))
    simp only [runPl, runSpec, h1, R.ok_bind, h2]
    rfl

theorem runSpec_rule {cfg : Cfg} {I : St → Prop} {D : Delivery → Prop} (hr : BufRule cfg I D)
    (qs : List Pl) : ∀ s, I s → Ends I D (runSpec cfg s qs) := by
  induction qs with
  | nil => intro s h; exact .nil h
  | cons q qs ih =>
    intro s h
    have h1 := consumeSpec_rule hr s q.us q.bytes q.off h
    exact h1.seq (ih _ h1.1)

def runCont (cfg : Cfg) (s : St) : List Bytes → St × List Delivery
  | [] => (s, [])
  | p :: ps =>
    let r1 := contSpec cfg s p
    let r2 := runCont cfg r1.1 ps
    (r2.1, r1.2 ++ r2.2)

theorem runSpec_cont (cfg : Cfg) (qs : List Pl) : ∀ (s : St), (∀ q ∈ qs, q.us = false) →
    runSpec cfg s qs = runCont cfg s (qs.map (·.bytes)) := by
  induction qs with
  | nil => intro s _; rfl
  | cons q qs ih =>
    intro s hq
    have hu : q.us = false := hq q (List.mem_cons_self ..)
    simp only [runSpec, List.map_cons, runCont, consumeSpec, hu, Bool.false_eq_true, if_false]
    rw [ih _ (fun q' hq' => hq q' (List.mem_cons_of_mem _ hq'))]

theorem contSpec_idle (cfg : Cfg) (s : St) (p : Bytes) (h : s.remaining = none ∨ s.ignoreRest = true) :
    contSpec cfg s p = (s, []) := by
  unfold contSpec bufContSpec
  rcases h with h | h
  · simp [h]
  · simp [h]

theorem runCont_idle (cfg : Cfg) (s : St) (ps : List Bytes) (h : s.remaining = none ∨ s.ignoreRest = true) :
    runCont cfg s ps = (s, []) := by
  induction ps with
  | nil => rfl
  | cons p ps ih => simp only [runCont, contSpec_idle cfg s p h, ih, List.append_nil]

theorem runPl_conts_idle (cfg : Cfg) (hc : CfgOk cfg) (s : St) (hs : PsiInv (kindOf cfg) s)
    (h : s.remaining = none ∨ s.ignoreRest = true) (rest : List Pl) (hus : ∀ q ∈ rest, q.us = false)
    (hne : ∀ q ∈ rest, 1 ≤ q.bytes.length) : runPl cfg s rest = .ok (s, []) := by
  rw [runPl_eq cfg hc rest s hs hne, runSpec_cont cfg rest s hus, runCont_idle cfg s _ h]

/-- the core induction: a buffering state that holds `S.take j` and is owed `S.length - j` bytes
delivers exactly `S`, once, from the buffer, whatever the split of the continuation payloads -/
theorem reassemble (cfg : Cfg) (lv : Option Nat) (di : Bool) (hdi : (cfg.dedup && di) = false)
    (S : Bytes) (extra : List Bytes) :
    ∀ (ps : List Bytes) (j : Nat), j < S.length → Carries (S.drop j) ps →
      runCont cfg ⟨false, lv, di, S.take j, some (S.length - j)⟩ (ps ++ extra)
        = (⟨false, lv, di, S, none⟩, [⟨S, none⟩]) := by
  intro ps
  induction ps with
  | nil => intro j _ h; exact absurd h (by simp [Carries])
  | cons p ps ih =>
    intro j hj hc
    have hlen : (S.drop j).length = S.length - j := by simp
    simp only [Carries, hlen] at hc
    rcases hc with ⟨hle, htake⟩ | ⟨hlt, hp, hrest⟩
    · have hS : S.take j ++ p.take (S.length - j) = S := by rw [htake]; exact List.take_append_drop j S
      have h1 : contSpec cfg ⟨false, lv, di, S.take j, some (S.length - j)⟩ p
          = (⟨false, lv, di, S, none⟩, [⟨S, none⟩]) := by
        simp [contSpec, bufContSpec, hdi, hle, hS]
      simp only [List.cons_append, runCont, h1]
      rw [runCont_idle cfg _ _ (Or.inl rfl)]
      rfl
    · have hnot : ¬ (S.length - j ≤ p.length) := by omega
      have hbuf : S.take j ++ p = S.take (j + p.length) := by
        rw [List.take_add, ← hp]
      have hrem : S.length - j - p.length = S.length - (j + p.length) := by omega
      have hdrop : List.drop p.length (List.drop j S) = S.drop (j + p.length) := by
        rw [List.drop_drop]
      rw [hdrop] at hrest
      have h1 : contSpec cfg ⟨false, lv, di, S.take j, some (S.length - j)⟩ p
          = (⟨false, lv, di, S.take (j + p.length), some (S.length - (j + p.length))⟩, []) := by
        simp [contSpec, bufContSpec, hdi, hnot, hbuf, hrem]
      simp only [List.cons_append, runCont, h1]
      rw [ih (j + p.length) (by omega) hrest]
      rfl

/-! ### the starting payload -/

/-- effect of the `pointer_field` remainder `pre` on the previous section -/
def preSpec (cfg : Cfg) (s : St) (pre : Bytes) : St × List Delivery :=
  if pre = [] then (s, []) else contSpec cfg s pre

theorem preSpec_inv (cfg : Cfg) (kind : Kind) (s : St) (pre : Bytes) (h : PsiInv kind s) :
    PsiInv kind (preSpec cfg s pre).1 := by
  unfold preSpec; split
  · exact h
  · exact contSpec_inv cfg kind s pre h

theorem consumeSpec_true (cfg : Cfg) (s : St) (pk : Bytes) (off : Nat) :
    consumeSpec cfg s true pk off =
      let r1 := preSpec cfg s ((pk.drop 1).take (byteD pk 0))
      let ns := (pk.drop 1).drop (byteD pk 0)
      if 0 < byteD pk 0 ∧ (pk.drop 1).length ≤ byteD pk 0 then (procReset cfg s, [])
      else if ns.length < 3 then (procReset cfg r1.1, r1.2)
      else
        let r2 := startSpec cfg r1.1 ns (off + 1 + byteD pk 0)
        (r2.1, r1.2 ++ r2.2) := by
  unfold consumeSpec
  simp only [if_true]
  split
  · rfl
  · rename_i hres
    -- without a reset, the `pointer_field` bytes are empty exactly when `pointer_field = 0`
    have hpre : (if 0 < byteD pk 0 then contSpec cfg s ((pk.drop 1).take (byteD pk 0)) else (s, []))
        = preSpec cfg s ((pk.drop 1).take (byteD pk 0)) := by
      unfold preSpec
      by_cases h0 : 0 < byteD pk 0
      · have : (pk.drop 1).take (byteD pk 0) ≠ [] := by
          rw [Ne, List.take_eq_nil_iff]; rintro (h | h)
          · omega
          · rw [h] at hres; simp at hres; omega
        rw [if_pos h0, if_neg this]
      · rw [if_neg h0, Nat.eq_zero_of_not_pos h0]; rfl
    rw [hpre]

theorem consumeSpec_unitStart (cfg : Cfg) (s : St) (pk : Bytes) (off : Nat)
    (h : byteD pk 0 + 4 ≤ pk.length) :
    consumeSpec cfg s true pk off =
        ((startSpec cfg (preSpec cfg s ((pk.drop 1).take (byteD pk 0))).1
            ((pk.drop 1).drop (byteD pk 0)) (off + 1 + byteD pk 0)).1,
          (preSpec cfg s ((pk.drop 1).take (byteD pk 0))).2 ++
            (startSpec cfg (preSpec cfg s ((pk.drop 1).take (byteD pk 0))).1
              ((pk.drop 1).drop (byteD pk 0)) (off + 1 + byteD pk 0)).2) := by
  have h1 : ¬ (0 < byteD pk 0 ∧ (pk.drop 1).length ≤ byteD pk 0) := by rw [List.length_drop]; omega
  have h2 : ¬ ((pk.drop 1).drop (byteD pk 0)).length < 3 := by simp only [List.length_drop]; omega
  simp only [consumeSpec_true, h1, h2, if_false]

theorem consumeSpec_start (cfg : Cfg) (s : St) (pre ns : Bytes) (off : Nat)
    (hp : pre.length < 256) (hne : pre = [] ∨ ns ≠ []) :
    consumeSpec cfg s true (UInt8.ofNat pre.length :: (pre ++ ns)) off
      = if ns.length < 3 then (procReset cfg (preSpec cfg s pre).1, (preSpec cfg s pre).2)
        else ((startSpec cfg (preSpec cfg s pre).1 ns (off + 1 + pre.length)).1,
              (preSpec cfg s pre).2 ++ (startSpec cfg (preSpec cfg s pre).1 ns (off + 1 + pre.length)).2) := by
  have hno : ¬ (0 < pre.length ∧ pre.length + ns.length ≤ pre.length) := by
    rcases hne with h | h
    · subst h; simp
    · have := List.length_pos_iff.2 h; omega
  simp only [consumeSpec_true, byteD_ofNat_cons _ hp, List.drop_succ_cons, List.drop_zero,
    List.length_append, List.take_left', List.drop_left', hno, if_false]
theorem consumeSpec_first (cfg : Cfg) (s : St) (pre ns : Bytes) (off : Nat)
    (hp : pre.length < 256) (hns : 3 ≤ ns.length) :
    consumeSpec cfg s true (UInt8.ofNat pre.length :: (pre ++ ns)) off
      = ((startSpec cfg (preSpec cfg s pre).1 ns (off + 1 + pre.length)).1,
         (preSpec cfg s pre).2 ++ (startSpec cfg (preSpec cfg s pre).1 ns (off + 1 + pre.length)).2) := by
  rw [consumeSpec_start cfg s pre ns off hp (Or.inr (by intro h; subst h; simp at hns)), if_neg (by omega)]

theorem hdr_of_share (S tail : Bytes) (k : Nat) (hk : 3 ≤ k) (hkS : k ≤ S.length) :
    hdrLen (S.take k ++ tail) = hdrLen S ∧ hdrSyn (S.take k ++ tail) = hdrSyn S := by
  have hl : 3 ≤ (S.take k).length := by simp; omega
  rw [hdrLen_append _ _ hl, hdrSyn_append _ _ hl, hdrLen_take _ _ hk, hdrSyn_take _ _ hk]
  exact ⟨rfl, rfl⟩

theorem wf_syn (kind : Kind) (S : Bytes) (h : WellFormedSection kind S) :
    hdrSyn S = (cfgOf kind).sectionSyntax := by
  have := h.2.2.2
  rw [syntaxBit_iff] at this
  cases kind
  · simp only [cfgOf, rawSection]; exact this.2 rfl
  · simp only [cfgOf, rawCompact]
    cases hs : hdrSyn S
    · rfl
    · have := this.1 hs; cases this

theorem startOk_share (cfg : Cfg) (S : Bytes) (hS : WellFormedSection (kindOf cfg) S) (k : Nat)
    (tail : Bytes) (hk : k ≤ S.length) (hmin : minHeader (kindOf cfg) ≤ (S.take k ++ tail).length)
    (hcase : k = S.length ∨ (k < S.length ∧ tail = [])) :
    startOk cfg (S.take k ++ tail) = true ∧ hdrLen (S.take k ++ tail) = hdrLen S := by
  have hmh := minHeader_ge (kindOf cfg)
  have hk3 : 3 ≤ k := by
    rcases hcase with h | ⟨_, ht⟩
    · have := hS.1; omega
    · subst ht; simp at hmin; omega
  obtain ⟨e1, e2⟩ := hdr_of_share S tail k hk3 hk
  have hmax := hS.2.2.1
  rw [sectionLength_eq] at hmax
  have hsyn : (cfgOf (kindOf cfg)).sectionSyntax = cfg.sectionSyntax := by
    unfold kindOf; cases cfg.sectionSyntax <;> rfl
  rw [startOk_iff, e1, e2, ← hsyn]
  exact ⟨⟨wf_syn _ S hS, hmin, hmax⟩, rfl⟩

theorem bufStartSpec_share (S : Bytes) (hlen : S.length = hdrLen S + 3) (s : St) (k : Nat) (tail : Bytes)
    (off : Nat) (hk : k ≤ S.length) (hcase : k = S.length ∨ (k < S.length ∧ tail = []))
    (e1 : hdrLen (S.take k ++ tail) = hdrLen S) :
    bufStartSpec s (S.take k ++ tail) off =
      if k = S.length then ({ s with remaining := none }, [⟨S, some off⟩])
      else ({ s with buf := S.take k, remaining := some (S.length - k) }, []) := by
  unfold bufStartSpec
  rw [e1]
  rcases hcase with hkS | ⟨hlt, ht⟩
  · subst hkS
    have hle : hdrLen S + 3 ≤ (S.take S.length ++ tail).length := by simp; omega
    rw [if_pos hle, if_pos rfl, List.take_length, List.take_left' hlen]
  · subst ht
    have hnle : ¬ (hdrLen S + 3 ≤ (S.take k ++ []).length) := by simp; omega
    rw [if_neg hnle, if_neg (by omega), List.append_nil, List.length_take, Nat.min_eq_left hk, ← hlen]

theorem startSpec_share (cfg : Cfg) (S : Bytes) (hS : WellFormedSection (kindOf cfg) S) (s : St)
    (k : Nat) (tail : Bytes) (off : Nat) (hk : k ≤ S.length)
    (hmin : minHeader (kindOf cfg) ≤ (S.take k ++ tail).length)
    (hcase : k = S.length ∨ (k < S.length ∧ tail = []))
    (v : Nat) (hver : (byteD (S.take k ++ tail) 5 >>> 1) &&& 0b0001_1111 = v)
    (hv : cfg.dedup = true → s.lastVersion ≠ some v) :
    startSpec cfg s (S.take k ++ tail) off =
      if k = S.length then
        (⟨false, if cfg.dedup then some v else s.lastVersion, !cfg.dedup && s.dedupIgnore, s.buf, none⟩,
          [⟨S, some off⟩])
      else
        (⟨false, if cfg.dedup then some v else s.lastVersion, !cfg.dedup && s.dedupIgnore, S.take k,
          some (S.length - k)⟩, []) := by
  obtain ⟨hok, e1⟩ := startOk_share cfg S hS k tail hk hmin hcase
  have hlen : S.length = hdrLen S + 3 := by rw [hS.2.1, sectionLength_eq, Nat.add_comm]
  unfold startSpec dedupStartSpec
  rw [if_pos hok, hver]
  cases hd : cfg.dedup
  · rw [if_neg Bool.false_ne_true, bufStartSpec_share S hlen _ k tail off hk hcase e1]
    rfl
  · have hne : (s.lastVersion == some v) = false := by simpa using hv hd
    rw [if_pos rfl, show ({ s with ignoreRest := false } : St).lastVersion = s.lastVersion from rfl, hne,
      if_neg Bool.false_ne_true, bufStartSpec_share S hlen _ k tail off hk hcase e1]
    rfl

/-- the raw chains have no dedup layer -/
theorem startSpec_wf (kind : Kind) (S : Bytes) (hS : WellFormedSection kind S) (s : St)
    (k : Nat) (tail : Bytes) (off : Nat) (hk : k ≤ S.length)
    (hmin : minHeader kind ≤ (S.take k ++ tail).length)
    (hcase : k = S.length ∨ (k < S.length ∧ tail = [])) :
    startSpec (cfgOf kind) s (S.take k ++ tail) off =
      if k = S.length then ({ s with ignoreRest := false, remaining := none }, [⟨S, some off⟩])
      else ({ s with ignoreRest := false, buf := S.take k, remaining := some (S.length - k) }, []) := by
  have hd : (cfgOf kind).dedup = false := by cases kind <;> rfl
  rw [← kindOf_cfgOf kind] at hS hmin
  rw [startSpec_share (cfgOf kind) S hS s k tail off hk hmin hcase _ rfl (by rw [hd]; exact nofun), hd]
  rfl

/-! ### one section in one well-formed packetisation -/

theorem preSpec_frame (cfg : Cfg) (s : St) (pre : Bytes) :
    (preSpec cfg s pre).1.lastVersion = s.lastVersion ∧ (preSpec cfg s pre).1.ignoreRest = s.ignoreRest
      ∧ (preSpec cfg s pre).1.dedupIgnore = s.dedupIgnore := by
  unfold preSpec; split
  · exact ⟨rfl, rfl, rfl⟩
  · exact contSpec_frame cfg s pre

/-- `section_reassembled` for any chain, `table` included. `v` is the version field as the dedup
layer reads it off the first share; where that layer is configured it must not be the version
remembered, and is the one remembered afterwards. -/
theorem section_delivered (cfg : Cfg) (hc : CfgOk cfg) (S : Bytes) (hS : WellFormedSection (kindOf cfg) S)
    (m : Mux) (hm : WellFormedMux (kindOf cfg) S m) (st : St) (hst : PsiInv (kindOf cfg) st)
    (v : Nat) (hver : (byteD (S.take m.k ++ m.tailBytes) 5 >>> 1) &&& 0b0001_1111 = v)
    (hv : cfg.dedup = true → st.lastVersion ≠ some v)
    (off : Nat) (rest : List Pl) (hus : ∀ q ∈ rest, q.us = false) (hrest : rest.map (·.bytes) = m.rest) :
    ∃ sfin,
      runPl cfg st (⟨true, m.first S, off⟩ :: rest)
        = .ok (sfin, (preSpec cfg st m.pre).2
                      ++ [⟨S, if m.k = S.length then some (off + 1 + m.pre.length) else none⟩])
      ∧ sfin.remaining = none ∧ sfin.ignoreRest = false
      ∧ (cfg.dedup = true → sfin.lastVersion = some v ∧ sfin.dedupIgnore = false) := by
  obtain ⟨hk, hmin, hsz, hcase, hrsz⟩ := hm
  have hfl : (m.first S).length = 1 + m.pre.length + (S.take m.k ++ m.tailBytes).length := by
    simp only [Mux.first, List.length_cons, List.length_append]; omega
  have hmh := minHeader_ge (kindOf cfg)
  -- no panic: the run is the pure run
  have hsizes : ∀ q ∈ (⟨true, m.first S, off⟩ :: rest : List Pl), 1 ≤ q.bytes.length := by
    intro q hq
    rcases List.mem_cons.1 hq with e | e
    · subst e; exact hsz.1
    · exact (hrsz _ (hrest ▸ List.mem_map_of_mem e)).1
  rw [runPl_eq cfg hc _ st hst hsizes]
  simp only [runSpec]
  -- the first payload: the pointer bytes, then the start of `S`
  rw [runSpec_cont _ _ _ hus, hrest,
    show m.first S = UInt8.ofNat m.pre.length :: (m.pre ++ (S.take m.k ++ m.tailBytes)) from rfl,
    consumeSpec_first cfg st m.pre _ off (by have := hsz.2; omega) (by omega),
    startSpec_share cfg S hS _ m.k m.tailBytes _ hk hmin (hcase.imp_right fun h => ⟨h.1, h.2.1⟩) v hver
      (by rw [(preSpec_frame cfg st m.pre).1]; exact hv)]
  by_cases hkS : m.k = S.length
  · simp only [hkS, if_true]
    rw [runCont_idle _ _ _ (Or.inl rfl)]
    exact ⟨_, by rw [List.append_nil], rfl, rfl, fun hd => by rw [hd]; exact ⟨rfl, rfl⟩⟩
  · simp only [hkS, if_false]
    obtain ⟨h1, _, h3⟩ := hcase.resolve_left hkS
    rw [Mux.rest, reassemble cfg _ _ (by cases cfg.dedup <;> rfl) S m.extra m.conts m.k h1 h3]
    exact ⟨_, by rw [List.append_nil], rfl, rfl, fun hd => by rw [hd]; exact ⟨rfl, rfl⟩⟩

end Ts.Lemmas.C03
