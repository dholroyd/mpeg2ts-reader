import Ts.Lemmas.R
import Ts.Basic
import Ts.Spec.Bits
/-! Byte masks and shifts as arithmetic, and `uimsbf` fields (`readBits`) as arithmetic on the
big-endian value of the bytes they lie in: the two sides on which code and specification meet. -/
namespace Ts
open Ts.Spec

theorem or_eq_add {x y : Nat} (k : Nat) (hx : 2^k ∣ x) (hy : y < 2^k) : x ||| y = x + y := by
  obtain ⟨c, rfl⟩ := hx
  rw [Nat.mul_comm, ← Nat.shiftLeft_eq, Nat.shiftLeft_add_eq_or_of_lt hy]

theorem byte_forall {P : Nat → Prop} (h : ∀ b : Fin 256, P b.val) (b : Nat) (hb : b < 256) : P b :=
  h ⟨b, hb⟩

/-! ### bytes of a list and of a window -/

theorem byteD_cons_zero (x : UInt8) (l : Bytes) : byteD (x :: l) 0 = x.toNat := by simp [byteD]
theorem byteD_cons_succ (x : UInt8) (l : Bytes) (i : Nat) : byteD (x :: l) (i+1) = byteD l i := by
  simp [byteD]

theorem length_window (c : Bytes) (a n : Nat) (h : a + n ≤ c.length) :
    ((c.drop a).take n).length = n := by
  simp; omega

theorem byteD_window (c : Bytes) (a n i : Nat) (hi : i < n) :
    byteD ((c.drop a).take n) i = byteD c (a + i) := by
  rw [byteD_take _ _ _ hi, byteD_drop]

theorem byteAt_window (c : Bytes) (a n i : Nat) (h : a + n ≤ c.length) (hi : i < n) :
    byteAt ((c.drop a).take n) i = .ok (byteD c (a + i)) := by
  rw [byteAt_ok _ i (by rw [length_window c a n h]; exact hi), byteD_window _ _ _ _ hi]

/-! ### masks -/

/-- masking with `n` ones at bit `k` keeps bits `k .. k+n` in place -/
theorem and_mask (b k n : Nat) : b &&& ((2^n - 1) * 2^k) = (b / 2^k % 2^n) * 2^k := by
  apply Nat.eq_of_testBit_eq; intro i
  rw [Nat.testBit_and, Nat.testBit_mul_two_pow, Nat.testBit_mul_two_pow, Nat.testBit_two_pow_sub_one,
    Nat.testBit_mod_two_pow, Nat.testBit_div_two_pow]
  by_cases h : k ≤ i
  · simp [h, show i - k + k = i by omega, Bool.and_comm]
  · simp [h]

theorem and_bit (b k : Nat) : (b &&& 2^k != 0) = (b / 2^k % 2 == 1) := by
  have e : b &&& 2^k = (b / 2^k % 2) * 2^k := by simpa using and_mask b k 1
  have h2 := Nat.two_pow_pos k
  rw [e]
  rcases Nat.mod_two_eq_zero_or_one (b / 2^k) with h | h <;> simp [h]

/-! The masks of the code, as instances.  Only `and_c0`, `and_fe`, `and_f8` need `b < 256` (the mask
does not bound the result); the others that take it are stated for bytes, as their callers
(`and_XX _ (byteD_lt …)`) read them. -/

theorem and_80 (b : Nat) (_h : b < 256) : (b &&& 0b1000_0000 != 0) = (b / 128 % 2 == 1) := and_bit b 7
theorem and_04 (b : Nat) : (b &&& 0b0000_0100 != 0) = (b / 4 % 2 == 1) := and_bit b 2
theorem and_02 (b : Nat) : (b &&& 0b0000_0010 != 0) = (b / 2 % 2 == 1) := and_bit b 1
theorem and_01 (b : Nat) : (b &&& 0b0000_0001 != 0) = (b % 2 == 1) := by
  have := and_bit b 0
  rwa [Nat.pow_zero, Nat.div_one] at this
theorem and_c0 (b : Nat) (h : b < 256) : (b &&& 0b1100_0000 != 0) = (b / 64 != 0) := by
  rw [show b &&& 0b1100_0000 = b / 64 % 4 * 64 from and_mask b 6 2, Nat.mod_eq_of_lt (by omega)]
  cases b / 64 with
  | zero => rfl
  | succ x => simp
theorem and_1f (b : Nat) (_h : b < 256) : b &&& 0b0001_1111 = b % 32 := Nat.and_two_pow_sub_one_eq_mod b 5
theorem and_0f (b : Nat) (_h : b < 256) : b &&& 0b0000_1111 = b % 16 := Nat.and_two_pow_sub_one_eq_mod b 4
theorem and_3f (b : Nat) (_h : b < 256) : b &&& 0b0011_1111 = b % 64 := Nat.and_two_pow_sub_one_eq_mod b 6
theorem and_7f (b : Nat) (_h : b < 256) : b &&& 0b0111_1111 = b % 128 := Nat.and_two_pow_sub_one_eq_mod b 7
theorem and_03 (b : Nat) (_h : b < 256) : b &&& 0b0000_0011 = b % 4 := Nat.and_two_pow_sub_one_eq_mod b 2
theorem and_07 (b : Nat) (h : b < 256) : b &&& 0b0000_0111 = b % 8 := Nat.and_two_pow_sub_one_eq_mod b 3
theorem and_0e (b : Nat) (h : b < 256) : b &&& 0b0000_1110 = (b / 2 % 8) * 2 := and_mask b 1 3
theorem and_fe (b : Nat) (h : b < 256) : b &&& 0b1111_1110 = (b / 2) * 2 := by
  rw [show b &&& 0b1111_1110 = b / 2 % 128 * 2 from and_mask b 1 7, Nat.mod_eq_of_lt (by omega)]
theorem and_f8 (b : Nat) (h : b < 256) : b &&& 0b1111_1000 = (b / 8) * 8 := by
  rw [show b &&& 0b1111_1000 = b / 8 % 32 * 8 from and_mask b 3 5, Nat.mod_eq_of_lt (by omega)]
theorem and_38 (b : Nat) : b &&& 0b0011_1000 = (b / 8 % 8) * 8 := and_mask b 3 3

/-! ### fields -/

/-- big-endian value of the `k` bytes from byte `i` on -/
def be (bs : Bytes) (i : Nat) : Nat → Nat
  | 0 => 0
  | k+1 => be bs i k * 256 + byteD bs (i + k)

theorem readBits_bytes (bs : Bytes) (i k : Nat) : readBits bs (8*i) (8*k) = be bs i k := by
  induction k with
  | zero => rfl
  | succ k ih =>
    rw [show 8*(k+1) = 8*k + 8 by omega, readBits_add, ih, show 8*i + 8*k = 8*(i+k) by omega,
      readBits_byte]
    rfl

/-- every field: bits `o .. o+n` counted from byte `i`, lying inside the `k` bytes from there
(`readBits_sub` is `k = 1`).  With `k` a literal, `simp only [be]` spells the right side out. -/
theorem readBits_be (bs : Bytes) (i o n k : Nat) (h : o + n ≤ 8*k) :
    readBits bs (8*i + o) n = be bs i k / 2^(8*k - o - n) % 2^n := by
  -- the k bytes are  A (o bits) ++ X (the n bits wanted) ++ C (the rest)
  have e1 := readBits_add bs (8*i) o (8*k - o)
  have e2 := readBits_add bs (8*i + o) n (8*k - o - n)
  rw [show o + (8*k - o) = 8*k by omega, readBits_bytes] at e1
  rw [show n + (8*k - o - n) = 8*k - o by omega] at e2
  have hC := readBits_lt bs (8*i + o + n) (8*k - o - n)
  have hX := readBits_lt bs (8*i + o) n
  rw [e1, e2]
  generalize readBits bs (8*i) o = A
  generalize readBits bs (8*i + o) n = X at *
  generalize readBits bs (8*i + o + n) (8*k - o - n) = C at *
  have hp : 2^(8*k - o) = 2^n * 2^(8*k - o - n) := by rw [← Nat.pow_add]; congr 1; omega
  rw [hp, ← Nat.mul_assoc, ← Nat.add_assoc, ← Nat.add_mul, Nat.add_comm,
    Nat.add_mul_div_right _ _ (Nat.two_pow_pos _), Nat.div_eq_of_lt hC, Nat.zero_add, Nat.add_comm,
    Nat.add_mul_mod_self_right]
  exact (Nat.mod_eq_of_lt hX).symm

/-- a flag: bit `o` of byte `i` as the specification reads it and as the code masks it -/
theorem bit_eq_mask (bs : Bytes) (i o : Nat) (h : o < 8) :
    (readBits bs (8*i + o) 1 == 1) = (byteD bs i &&& 2^(7-o) != 0) := by
  rw [readBits_sub bs i o 1 (by omega), and_bit, show 8 - o - 1 = 7 - o by omega, Nat.pow_one]

theorem readBits_drop (bs : Bytes) (a off n : Nat) :
    readBits (bs.drop a) off n = readBits bs (8*a + off) n := by
  induction n with
  | zero => rfl
  | succ n ih =>
    simp only [readBits, ih, Nat.add_assoc]
    unfold bitAt
    rw [byteD_drop, show (8*a + (off + n)) / 8 = a + (off + n) / 8 by omega,
      show (8*a + (off + n)) % 8 = (off + n) % 8 by omega]

theorem readBits_take (bs : Bytes) (k off n : Nat) (h : off + n ≤ 8*k) :
    readBits (bs.take k) off n = readBits bs off n := by
  induction n with
  | zero => rfl
  | succ n ih =>
    simp only [readBits, ih (by omega)]
    unfold bitAt
    rw [byteD_take _ _ _ (by omega)]

theorem readBits_window (bs : Bytes) (a k off n : Nat) (h : off + n ≤ 8*k) :
    readBits ((bs.drop a).take k) off n = readBits bs (8*a + off) n := by
  rw [readBits_take _ _ _ _ h, readBits_drop]

end Ts
