import Ts.Gen.PmtGen
import Ts.Lemmas.C16
import Ts.Props.Ties.StmtIters
/-!
# Statement-level tie — the PMT stream loop (audited with C16)

`Ts.Gen.PmtGen` is `PmtSection::from_bytes`, `PmtSection::streams`, `StreamInfo::from_bytes` and
`StreamInfoIter::next` of `/repo/src/psi/pmt.rs` as they read NOW, translated statement by statement
by `tools/gen_pmt.py`.  The code keeps a stream entry as a *view* of the remaining bytes and reads
its fields on demand; the model (`Tables.streamInfoFromBytes`) reads them at once.  The theorems
below prove: acceptance and length of an entry are the specification's (`streamFits`,
`5 + esInfoLength`), the view is the input, and the model's run-to-exhaustion `streamIter` /
`pmtStreams` ARE the translated `next` iterated, with each yielded view read through the
specification's `streamAt` — so C16's `pmt_streams_tile` / `pmt_roundtrip` speak about the loop
the source contains today.
-/
-- as in `StmtPsi.lean`: the simp lists cover equivalent spellings of the source
set_option linter.unusedSimpArgs false
namespace Ts.Props.Ties.StmtPmt
open Ts Ts.Stmt Ts.Gen Ts.Gen.PmtGen Ts.Props.Ties.StmtPsi Ts.Props.Ties.StmtIters Ts.Lemmas.C16
open Ts.Spec Ts.Spec.TableSpec Ts.Tables

/-- `PmtSection::from_bytes` -/
theorem tie_stmt_pmt_from_bytes (b : Bytes) (src : Option Nat) :
    PmtSection.from_bytes ⟨b, src⟩ = rmap (Option.map fun x => (⟨x, src⟩ : Slice)) (Tables.pmtFromBytes b) := by
  unfold PmtSection.from_bytes Tables.pmtFromBytes Tables.pmtProgramInfoLength
  simp only [Slice.len]
  by_cases h : b.length < 4
  · simp only [h, decide_true, if_true, R.pure_eq, rmap_ok, Option.map]
  · simp only [h, decide_false, Bool.false_eq_true, if_false, byteAt_ok b 2 (by omega), byteAt_ok b 3 (by omega),
      R.ok_bind, R.pure_eq]
    by_cases h2 : b.length < ((byteD b 2 &&& 15) <<< 8 ||| byteD b 3) + 4
    · simp only [h2, decide_true, if_true, rmap_ok, Option.map]
    · simp only [h2, decide_false, Bool.false_eq_true, if_false, rmap_ok, Option.map]

/-- `StreamInfo::from_bytes`, closed form: an entry is accepted exactly when it fits, its view is the
input and its encoded length is `5 + ES_info_length` -/
theorem stream_info_from_bytes (b : Bytes) (src : Option Nat) :
    StreamInfo.from_bytes ⟨b, src⟩ = .ok (if streamFits b then some (⟨b, src⟩, 5 + esInfoLength b) else none) := by
  unfold StreamInfo.from_bytes Stmt.esInfoLen
  simp only [Slice.len]
  by_cases h5 : b.length < 5
  · have : ¬ streamFits b := by unfold streamFits; omega
    simp only [h5, decide_true, if_true, R.pure_eq, this, if_false]
  · simp only [h5, decide_false, Bool.false_eq_true, if_false, byteAt_ok b 3 (by omega), byteAt_ok b 4 (by omega),
      R.ok_bind, R.pure_eq]
    rw [mask12 _ _ (byteD_lt b 3) (byteD_lt b 4), ← st_esil]
    by_cases h2 : 5 + readBits b 28 12 > b.length
    · have : ¬ streamFits b := by unfold streamFits esInfoLength; omega
      simp only [h2, decide_true, if_true, this, if_false]
    · have hf : streamFits b := by unfold streamFits esInfoLength; omega
      simp only [h2, decide_false, Bool.false_eq_true, if_false, hf, if_true, esInfoLength]

/-- the translated `StreamInfo::from_bytes` and the model's `streamInfoFromBytes` agree on acceptance and
length, the model's record being the specification's reading of the same bytes -/
theorem tie_stmt_stream_info_from_bytes (b : Bytes) (src : Option Nat) :
    rmap (Option.map fun r => ((streamAt r.1.bytes).info, r.2)) (StreamInfo.from_bytes ⟨b, src⟩)
      = Tables.streamInfoFromBytes b := by
  rw [stream_info_from_bytes, streamInfo_eq]
  by_cases hf : streamFits b <;> simp [hf]

theorem stream_next (b : Bytes) (src : Option Nat) :
    StreamInfoIter.next ⟨⟨b, src⟩⟩ =
      (if b.isEmpty then .ok (⟨⟨b, src⟩⟩, none)
       else if streamFits b then
         .ok (⟨⟨b.drop (5 + esInfoLength b), src.map (· + (5 + esInfoLength b))⟩⟩, some ⟨b, src⟩)
       else .ok (⟨⟨b, src⟩⟩, none)) := by
  unfold StreamInfoIter.next
  by_cases he : b.isEmpty = true
  · simp only [he, if_true, R.pure_eq]
  · simp only [he, Bool.false_eq_true, if_false, stream_info_from_bytes, R.ok_bind]
    by_cases hf : streamFits b
    · simp only [hf, if_true, from_ok ⟨b, src⟩ _ hf.2, R.ok_bind, R.pure_eq]
    · simp only [hf, if_false, R.pure_eq]

/-- `StreamInfoIter`: the model's `streamIter` is the translated `next` iterated, each view read
through the specification's `streamAt` -/
theorem tie_stmt_stream_iter (fuel : Nat) : ∀ (b : Bytes) (src : Option Nat),
    rmap (List.map fun v => (streamAt v.bytes).info) (iterate StreamInfoIter.next fuel ⟨⟨b, src⟩⟩)
      = Tables.streamIter fuel b := by
  induction fuel with
  | zero => intro b src; rfl
  | succ n ih =>
    intro b src
    unfold iterate Tables.streamIter
    rw [stream_next, streamInfo_eq]
    by_cases he : b.isEmpty = true
    · simp only [he, if_true, R.ok_bind, rmap_ok, List.map_nil]
    · simp only [he, Bool.false_eq_true, if_false]
      by_cases hf : streamFits b
      · simp only [hf, if_true, R.ok_bind, sliceFrom_ok b _ hf.2, R.pure_eq, rmap_bind]
        rw [← ih (List.drop (5 + esInfoLength b) b) (Option.map (· + (5 + esInfoLength b)) src)]
        cases iterate StreamInfoIter.next n ⟨⟨List.drop (5 + esInfoLength b) b, Option.map (· + (5 + esInfoLength b)) src⟩⟩ with
        | panic m => rfl
        | ok l => rfl
      · simp only [hf, if_false, R.ok_bind, rmap_ok, List.map_nil, R.pure_eq]

/-- `PmtSection::streams()` run to exhaustion is the model's `pmtStreams` -/
theorem tie_stmt_pmt_streams (b : Bytes) (src : Option Nat) :
    rmap (List.map fun v => (streamAt v.bytes).info)
        (PmtSection.streams ⟨b, src⟩ >>= fun it => iterate StreamInfoIter.next (it.buf.bytes.length + 1) it)
      = Tables.pmtStreams b := by
  unfold PmtSection.streams Tables.pmtStreams
  simp only [Slice.len, R.bind_assoc]
  cases Tables.pmtProgramInfoLength b with
  | panic m => rfl
  | ok pil =>
    simp only [R.ok_bind]
    -- whichever way round the source writes the bounds test
    by_cases hg : 4 + pil > b.length
    · have hm : sliceR b 0 0 = .ok [] := by unfold sliceR; simp
      have hg' : ¬ 4 + pil ≤ b.length := by omega
      simp only [hg, hg', decide_true, decide_false, Bool.false_eq_true, if_true, if_false, sub_zero_ok, hm, R.ok_bind, R.pure_eq]
      exact tie_stmt_stream_iter _ [] _
    · have hle : 4 + pil ≤ b.length := by omega
      simp only [hg, hle, decide_true, decide_false, Bool.false_eq_true, if_true, if_false, from_ok ⟨b, src⟩ _ hle,
        sliceFrom_ok b _ hle, R.ok_bind, R.pure_eq]
      exact tie_stmt_stream_iter _ _ _

end Ts.Props.Ties.StmtPmt
