import Ts.Lemmas.C10
import Ts.Props.C04
import Ts.Lemmas.C10b
import Ts.Props.C06
import Ts.Lemmas.C11c
import Ts.Lemmas.C11d
import Ts.Lemmas.AppEval
/-!
# C11 — after a damaged PAT / PMT transmission the next intact one is applied … PARTIALLY

**Known finding F2** (`/verif/DESIGN.md` §8): `DedupSectionSyntaxPayloadParser` records
`last_version` when a section STARTS — before it is known whether the section will be complete and
whether its CRC verifies.  A damaged transmission of version `v` therefore blocks every later
intact transmission of the same version `v`.  The model mirrors the pinned behaviour, so C11 as
stated is FALSE of the code (`C11_full_false`).

What holds: an intact transmission whose version differs from the last STARTED version is applied
(`damage_then_new_version_applied_partial`); within `WellFormedMux` packetisations that is an "iff"
(`C11_characterisation`), so relative to that hypothesis F2 is the only gap.

**Known finding F13** (`short_first_share_never_applied`): a second gap, OUTSIDE `WellFormedMux` — an
intact transmission whose starting packet carries fewer than 8 bytes of the section (a legal
packetisation) is never applied, at any version (the library's `TODO: implement buffering`); its
`< 3`-byte variant resets the filter and thereby un-blocks F2 (`straddle_rescues_F2`).

F2 needs no damage: a legal duplicate of the first packet of a multi-packet table blocks the table
(`duplicate_start_blocks_table`, case N5; scope observation DESIGN 8.1b).  The `…_requests_…` theorems
restate the partial theorem and F2 through the dispatcher, in terms of `Ev.construct` events and
`Tab.get`; `lastApplied_is_crc_gate` says what "last applied" in `C11_full` means.
-/
namespace Ts.Props.C11
open Ts Ts.Psi Ts.Spec Ts.Spec.SectionMux Ts.Lemmas.C03 Ts.Lemmas.C10 Ts.App Ts.Demux
open Ts.Tables Ts.Spec.TableSpec Ts.Spec.Routing Ts.Lemmas.C11c

/-! ### the mechanism: the version is recorded at section start -/

/-- what "accepted start" means: syntax indicator set, at least the 8 fixed header bytes present
in the starting packet, `section_length ≤ 1021` — nothing about completeness or CRC -/
theorem accepted_start_iff (D : Bytes) :
    startOk Psi.table D = true ↔
      syntaxBit D = 1 ∧ 8 ≤ D.length ∧ sectionLength D ≤ 1021 := by
  rw [startOk_iff, syntaxBit_iff, sectionLength_eq]
  exact Iff.rfl

/-- **F2, mechanism.**  Every accepted section start, on ANY state `s` whatsoever, leaves
`lastVersion = some (version_number of the starting section)` — whether or not the section is
complete in this packet (`ds` may be empty and `s'.remaining` pending), whatever its CRC. -/
theorem start_records_version (s : St) (D : Bytes) (off : Nat) (hok : startOk Psi.table D = true) :
    ∃ s' ds, Psi.headerNew (D.take 3) = .ok (hdrOf D)
      ∧ Psi.procStart Psi.table s (hdrOf D) D off = .ok (s', ds)
      ∧ s'.lastVersion = some (versionOf D) := by
  have h8 : 8 ≤ D.length := ((startOk_iff Psi.table D).1 hok).2.1
  refine ⟨(startSpec Psi.table s D off).1, (startSpec Psi.table s D off).2,
    headerNew_eq D (by omega), procStart_eq Psi.table cfgOk_table s D off, ?_⟩
  rw [startSpec_records s D off hok, versionOf_eq]

theorem start_records_version_payload (s : St) (hs : PsiInv .syntax s) (pre D : Bytes) (off : Nat)
    (hp : pre.length < 256) (hok : startOk Psi.table D = true) :
    ∃ s' ds, consumePayload Psi.table s true (UInt8.ofNat pre.length :: (pre ++ D)) off = .ok (s', ds)
      ∧ s'.lastVersion = some (versionOf D) ∧ PsiInv .syntax s' :=
  start_payload_records s hs pre D off hp hok

/-- continuation payloads (complete, short, missing, surplus — any) never change the recorded
version: it stays until the next accepted start or a `reset` -/
theorem continuation_keeps_version (conts : List Pl) (s : St) (hs : PsiInv .syntax s)
    (hus : ∀ q ∈ conts, q.us = false) (hne : ∀ q ∈ conts, 1 ≤ q.bytes.length) :
    ∃ s' ds, runPl Psi.table s conts = .ok (s', ds) ∧ s'.lastVersion = s.lastVersion
      ∧ PsiInv .syntax s' :=
  runPl_conts_lastVersion conts s hs hus hne

/-! ### the part of C11 that holds -/

/-- **C11 (partial).**  For ANY state `s` satisfying the buffer invariant (i.e. after any damaged
history: a stale `Buffering`, `ignoreRest` / `dedupIgnore` set or not) and any intact well-formed
transmission of a section `S` of at least 12 bytes with a valid CRC whose version differs from the
last STARTED version `s.lastVersion`: the model does not panic, `S` is delivered exactly once —
after at most one delivery completed by the pointer bytes —, passes the CRC layer (normal and
`cfg(fuzzing)` build), and the filter ends quiescent at `versionOf S`. -/
theorem damage_then_new_version_applied_partial (S : Bytes) (hS : WellFormedSection .syntax S)
    (h12 : 12 ≤ S.length) (hcrc : Ts.CrcSpec.crc S = 0)
    (m : Mux) (hm : WellFormedMux .syntax S m)
    (s : St) (hs : PsiInv .syntax s) (hv : s.lastVersion ≠ some (versionOf S))
    (off : Nat) (rest : List Pl) (hus : ∀ q ∈ rest, q.us = false)
    (hrest : rest.map (·.bytes) = m.rest) :
    ∃ sfin,
      runPl Psi.table s (⟨true, m.first S, off⟩ :: rest)
        = .ok (sfin, (preSpec Psi.table s m.pre).2
                      ++ [⟨S, if m.k = S.length then some (off + 1 + m.pre.length) else none⟩])
      ∧ (preSpec Psi.table s m.pre).2.length ≤ 1
      ∧ (∀ b, Psi.crcPass b S = .ok true)
      ∧ Quiescent (versionOf S) sfin := by
  obtain ⟨sfin, h1, h2, _, _⟩ := table_applied S hS (by omega) m hm s hs hv off rest hus hrest
  exact ⟨sfin, h1, preSpec_length_le_one _ _ m.pre,
    fun b => crcPass_valid b S hS h12 hcrc, h2⟩

/-- `damage_then_new_version_applied_partial` lifted to the PAT handler: over the packets `pks` of the
transmission the successive `App.consume` calls amount to the table processor run over what the
pointer bytes completed, then `patSection` invoked on exactly `S` -/
theorem damage_then_new_version_applied_partial_pat (S : Bytes) (hS : WellFormedSection .syntax S)
    (h12 : 12 ≤ S.length) (hcrc : Ts.CrcSpec.crc S = 0)
    (m : Mux) (hm : WellFormedMux .syntax S m)
    (s : St) (hs : PsiInv .syntax s) (hv : s.lastVersion ≠ some (versionOf S))
    (reg : List Nat) (c : Ctx) (pks : List Pk) (hlen : ∀ pk ∈ pks, pk.bytes.length = 188)
    (off : Nat) (rest : List Pl)
    (hview : (pks.map (·.bytes)).filterMap plOf = ⟨true, m.first S, off⟩ :: rest)
    (hus : ∀ q ∈ rest, q.us = false) (hrest : rest.map (·.bytes) = m.rest) :
    ∃ sfin, Quiescent (versionOf S) sfin ∧
      consumeAll (.pat s reg) c pks =
        (runDeliveries patSection c reg (preSpec Psi.table s m.pre).2 >>= fun r1 =>
          patSection r1.1 r1.2.1 S >>= fun r2 => R.ok (.pat sfin r2.2.1, r2.1, r1.2.2 ++ r2.2.2)) :=
  table_applied_consumeAll patSection (fun s reg => .pat s reg)
    (fun s s' reg c pk ds h => consume_pat_eq s s' reg c pk ds h)
    S hS h12 hcrc m hm s hs hv reg c pks hlen off rest hview hus hrest

theorem damage_then_new_version_applied_partial_pmt (pid prog : Nat)
    (S : Bytes) (hS : WellFormedSection .syntax S)
    (h12 : 12 ≤ S.length) (hcrc : Ts.CrcSpec.crc S = 0)
    (m : Mux) (hm : WellFormedMux .syntax S m)
    (s : St) (hs : PsiInv .syntax s) (hv : s.lastVersion ≠ some (versionOf S))
    (reg : List Nat) (c : Ctx) (pks : List Pk) (hlen : ∀ pk ∈ pks, pk.bytes.length = 188)
    (off : Nat) (rest : List Pl)
    (hview : (pks.map (·.bytes)).filterMap plOf = ⟨true, m.first S, off⟩ :: rest)
    (hus : ∀ q ∈ rest, q.us = false) (hrest : rest.map (·.bytes) = m.rest) :
    ∃ sfin, Quiescent (versionOf S) sfin ∧
      consumeAll (.pmt pid prog s reg) c pks =
        (runDeliveries (fun c r d => pmtSection c pid r d) c reg (preSpec Psi.table s m.pre).2 >>= fun r1 =>
          pmtSection r1.1 pid r1.2.1 S >>= fun r2 =>
            R.ok (.pmt pid prog sfin r2.2.1, r2.1, r1.2.2 ++ r2.2.2)) :=
  table_applied_consumeAll (fun c r d => pmtSection c pid r d) (fun s reg => .pmt pid prog s reg)
    (fun s s' reg c pk ds h => consume_pmt_eq pid prog s s' reg c pk ds h)
    S hS h12 hcrc m hm s hs hv reg c pks hlen off rest hview hus hrest

theorem consumeAll_iff (h : Handler) (c : Ctx) (pk : Pk) (pks : List Pk) :
    consumeAll h c [] = .ok (h, c, []) ∧
    consumeAll h c (pk :: pks) =
      (App.consume h c pk >>= fun r1 => consumeAll r1.1 r1.2.1 pks >>= fun r2 =>
        R.ok (r2.1, r2.2.1, r1.2.2 ++ r2.2.2)) := by
  refine ⟨rfl, ?_⟩
  simp only [consumeAll]
  cases App.consume h c pk with
  | panic m => rfl
  | ok r1 =>
    simp only [R.ok_bind]
    cases consumeAll r1.1 r1.2.1 pks with
    | panic m => rfl
    | ok r2 => rfl

/-- single-packet case with `pointer_field = 0`: `App.consume` on the one packet IS the table
processor on `S` -/
theorem damage_then_new_version_applied_partial_pat_1 (S : Bytes) (hS : WellFormedSection .syntax S)
    (h12 : 12 ≤ S.length) (hcrc : Ts.CrcSpec.crc S = 0)
    (m : Mux) (hm : WellFormedMux .syntax S m) (hpre : m.pre = []) (hrest0 : m.rest = [])
    (s : St) (hs : PsiInv .syntax s) (hv : s.lastVersion ≠ some (versionOf S))
    (reg : List Nat) (c : Ctx) (pk : Pk) (hlen : pk.bytes.length = 188) (off : Nat)
    (hview : plOf pk.bytes = some ⟨true, m.first S, off⟩) :
    ∃ sfin, Quiescent (versionOf S) sfin ∧
      App.consume (.pat s reg) c pk =
        (patSection c reg S >>= fun r2 => R.ok (.pat sfin r2.2.1, r2.1, r2.2.2)) := by
  obtain ⟨sfin, hq, h⟩ := damage_then_new_version_applied_partial_pat S hS h12 hcrc m hm s hs hv reg c
    [pk] (by simpa using hlen) off [] (by simp [hview]) (by simp) (by simp [hrest0])
  refine ⟨sfin, hq, ?_⟩
  rw [hpre] at h
  simp only [consumeAll, preSpec, if_true, runDeliveries, R.ok_bind, List.nil_append] at h
  cases hc : App.consume (.pat s reg) c pk with
  | panic msg =>
    rw [hc] at h
    cases hp : patSection c reg S with
    | panic m2 => rw [hp] at h; exact h
    | ok r2 => rw [hp] at h; cases h
  | ok r =>
    obtain ⟨h1, c1, chg1⟩ := r
    rw [hc] at h
    simp only [R.ok_bind, R.pure_eq, List.append_nil] at h
    exact h

/-! ### the part of C11 that fails (F2) -/

/-- **F2, general.**  From EVERY state that remembers version `v` — in particular after a damaged
start of a version-`v` section, with its buffer abandoned half-way, completed with a bad CRC, or
cut short — an intact well-formed transmission of ANY section with the same `version_number`
never delivers that section: the only deliveries are what its pointer bytes complete of the OLD
buffer, and with `pointer_field = 0` there is NO delivery at all.  The version stays recorded, so
this repeats for every later copy. -/
theorem damage_same_version_blocked (S : Bytes) (hS : WellFormedSection .syntax S) (h8 : 8 ≤ S.length)
    (m : Mux) (hm : WellFormedMux .syntax S m)
    (s : St) (hs : PsiInv .syntax s) (hv : s.lastVersion = some (versionOf S))
    (off : Nat) (rest : List Pl) (hus : ∀ q ∈ rest, q.us = false)
    (hrest : rest.map (·.bytes) = m.rest) :
    ∃ sfin,
      runPl Psi.table s (⟨true, m.first S, off⟩ :: rest) = .ok (sfin, (preSpec Psi.table s m.pre).2)
      ∧ (m.pre = [] → runPl Psi.table s (⟨true, m.first S, off⟩ :: rest) = .ok (sfin, []))
      ∧ sfin.lastVersion = some (versionOf S) ∧ PsiInv .syntax sfin := by
  obtain ⟨sfin, h1, h2, _⟩ := table_blocked S hS h8 m hm s hs hv off rest hus hrest
  have hsizes := fun q hq => (mux_payloads_rep S hS h8 m hm off rest hus hrest q hq).2
  obtain ⟨s', ds', h', hi⟩ := runPl_total_inv _ s hs hsizes
  rw [h1] at h'
  cases h'
  refine ⟨sfin, h1, ?_, h2, hi⟩
  intro hpre
  rw [h1, hpre]; rfl

/-- **F2, the whole scenario.**  Any state `s0`; a unit-start payload whose section start `D` is
accepted (this is all a "damaged transmission of version v" needs: its continuation may be lost,
truncated or corrupt); ANY continuation payloads `conts` (none, some, wrong ones); then an intact
transmission of a section `S` with the same `version_number`, `pointer_field = 0`, valid or not.
Then the run over everything delivers exactly what the damaged part alone delivers: the intact
copy contributes NOTHING. -/
theorem damaged_start_then_same_version_blocked (s0 : St) (hs0 : PsiInv .syntax s0)
    (pre D : Bytes) (off0 : Nat) (hp : pre.length < 256) (hok : startOk Psi.table D = true)
    (conts : List Pl) (husc : ∀ q ∈ conts, q.us = false) (hnec : ∀ q ∈ conts, 1 ≤ q.bytes.length)
    (S : Bytes) (hS : WellFormedSection .syntax S) (h8 : 8 ≤ S.length)
    (hver : versionOf S = versionOf D)
    (m : Mux) (hm : WellFormedMux .syntax S m) (hpre : m.pre = [])
    (off : Nat) (rest : List Pl) (hus : ∀ q ∈ rest, q.us = false)
    (hrest : rest.map (·.bytes) = m.rest) :
    ∃ s1 dsDamaged sfin,
      runPl Psi.table s0 (⟨true, UInt8.ofNat pre.length :: (pre ++ D), off0⟩ :: conts) = .ok (s1, dsDamaged)
      ∧ s1.lastVersion = some (versionOf D)
      ∧ runPl Psi.table s1 (⟨true, m.first S, off⟩ :: rest) = .ok (sfin, [])
      ∧ runPl Psi.table s0 ((⟨true, UInt8.ofNat pre.length :: (pre ++ D), off0⟩ :: conts)
            ++ (⟨true, m.first S, off⟩ :: rest)) = .ok (sfin, dsDamaged)
      ∧ sfin.lastVersion = some (versionOf D) := by
  obtain ⟨sa, da, ha, hva, hia⟩ := start_payload_records s0 hs0 pre D off0 hp hok
  obtain ⟨s1, dc, hc, hvc, hic⟩ := runPl_conts_lastVersion conts sa hia husc hnec
  have hv1 : s1.lastVersion = some (versionOf S) := by rw [hvc, hva, hver]
  obtain ⟨sfin, _, hb, hvf, _⟩ := damage_same_version_blocked S hS h8 m hm s1 hic hv1 off rest hus hrest
  have hb' := hb hpre
  have hrun1 : runPl Psi.table s0 (⟨true, UInt8.ofNat pre.length :: (pre ++ D), off0⟩ :: conts)
      = .ok (s1, da ++ dc) := by
    simp only [runPl, ha, R.ok_bind, hc]; rfl
  refine ⟨s1, da ++ dc, sfin, hrun1, by rw [hvc, hva], hb', ?_, by rw [hvf, hver]⟩
  rw [runPl_append, hrun1]
  simp only [R.ok_bind, hb', List.append_nil]

/-- **C11 counter-example on real bytes** (model level, 188-byte packets on PID 0).
`patGood`: the 16-byte PAT of C04 (version 0, valid CRC); `patBad`: the same with the last CRC bit
inverted.  First packet: the damaged copy — it IS delivered by the reassembly chain and FAILS the
CRC layer, so nothing is applied.  Second packet: the intact copy — NOTHING is delivered.  (On a
fresh filter the intact copy is delivered and passes.) -/
theorem C11_counterexample :
    patBad = Ts.CrcSpec.flipBit patGood 127
    ∧ WellFormedSection .syntax patGood ∧ Ts.CrcSpec.crc patGood = 0
    ∧ Psi.consume Psi.table {} (pktOf patBad) = .ok ({ lastVersion := some 0 }, [⟨patBad, some 5⟩])
    ∧ Psi.crcPass false patBad = .ok false
    ∧ Psi.consume Psi.table { lastVersion := some 0 } (pktOf patGood)
        = .ok ({ lastVersion := some 0, dedupIgnore := true }, [])
    ∧ Psi.consume Psi.table { lastVersion := some 0, dedupIgnore := true } (pktOf patGood)
        = .ok ({ lastVersion := some 0, dedupIgnore := true }, [])
    ∧ Psi.consume Psi.table {} (pktOf patGood) = .ok ({ lastVersion := some 0 }, [⟨patGood, some 5⟩])
    ∧ Psi.crcPass false patGood = .ok true := by
  decide +kernel

/-- the same through the whole application (`Demultiplex::new` + `push`): corrupt first copy, then
two intact copies — the only handler request ever made is the initial `ByPid(0)`; with the intact
copy alone, or with a corrupt copy followed by an intact copy of a DIFFERENT version, the PMT
handler for program 1 is requested -/
theorem C11_counterexample_app :
    requests (runApp {} [pktOf patBad ++ pktOf patGood ++ pktOf patGood]) = [.byPid 0]
    ∧ summary (runApp {} [pktOf patBad ++ pktOf patGood ++ pktOf patGood]) = some (1, 1, 1)
    ∧ requests (runApp {} [pktOf patGood]) = [.byPid 0, .pmt 0x1e0 1]
    ∧ requests (runApp {} [pktOf patBad ++ pktOf patV1]) = [.byPid 0, .pmt 0x1e0 1] := by
  eval_app

/-- **a stream whose first PAT copy is corrupt is NEVER demultiplexed**, however many intact
copies of that version follow (any repetition packets of version 0 on PID 0, any packetisation):
the context stays the initial one (no PMT handler is ever requested) and no slot other than the
PAT's exists. -/
theorem first_copy_corrupt_never_demuxed (pks : List Pk)
    (h : ∀ pk ∈ pks, pk.pid = 0 ∧ pk.flagged = false ∧ RepPacket 0 pk.bytes) :
    ∃ t' s', Demux.pushModel App.sem (App.init {}) (pk0 (pktOf patBad) 0 :: pks)
        = .ok (t', (App.init {}).2)
      ∧ t'.get 0 = some (.pat s' []) ∧ Quiescent 0 s' ∧ ∀ q, q ≠ 0 → t'.get q = none := by
  rw [Ts.Props.C06.push_refines_spec]
  obtain ⟨t0, c0, hinit, hg0, hb0⟩ : ∃ t0 c0, App.init {} = (t0, c0)
      ∧ t0.get 0 = some (.pat {} []) ∧ (c0.cfg.bypassCrc = false ∧ ∀ q, q ≠ 0 → t0.get q = none) :=
    ⟨_, _, rfl, Tab.get_insert_self _ _ _, rfl, fun q hq => by
      rw [Tab.get_insert_ne _ _ _ _ hq]; exact Tab.get_of_ge _ _ (by simp)⟩
  obtain ⟨pkb, hpkb, hpid, hfl, hpsi⟩ : ∃ pkb, pkb = pk0 (pktOf patBad) 0 ∧ pkb.pid = 0
      ∧ pkb.flagged = false
      ∧ Psi.consume Psi.table {} pkb.bytes = .ok ({ lastVersion := some 0 }, [⟨patBad, some 5⟩]) :=
    ⟨_, rfl, rfl, rfl, by decide +kernel⟩
  rw [← hpkb, hinit]
  have hgate : runDeliveries patSection c0 [] [⟨patBad, some 5⟩] = .ok (c0, [], []) :=
    Ts.Props.C04.gate_blocks patSection c0 [] hb0.1 _ (by
      intro d hd
      rw [List.mem_singleton] at hd
      subst hd
      decide +kernel)
  have hstep := step_pat_gated t0 c0 pkb {} _ [] _ (by rw [hpid]; exact hg0) hfl hpsi hgate
  rw [hpid] at hstep
  have hall : ∀ pk ∈ pks, pk.flagged = false ∧ RepPacket ((fun _ => 0) pk.pid) pk.bytes
      ∧ ∃ h, (t0.insert 0 (.pat { lastVersion := some 0 } [])).get pk.pid = some h
          ∧ QuiescentH ((fun _ => 0) pk.pid) h := by
    intro pk hm
    obtain ⟨a, b, d⟩ := h pk hm
    refine ⟨b, d, .pat { lastVersion := some 0 } [], by rw [a]; exact Tab.get_insert_self _ _ _, ?_⟩
    exact (⟨rfl, rfl⟩ : Quiescent 0 { lastVersion := some 0 })
  obtain ⟨t', hrun, ha, hb⟩ := run_rep_noop (fun _ => 0) c0 pks _ hall
  obtain ⟨h', hg', hr'⟩ := hb 0 (.pat { lastVersion := some 0 } []) (Tab.get_insert_self _ _ _)
    (⟨rfl, rfl⟩ : Quiescent 0 { lastVersion := some 0 })
  obtain ⟨s', e, hq', _⟩ := repRel_pat_inv hr'
  refine ⟨t', s', ?_, by rw [hg', e], hq', ?_⟩
  · rw [pushSpec_cons, hstep]; exact hrun
  · intro q hq
    rw [ha q (fun pk hm e => hq (by rw [← e]; exact (h pk hm).1)),
      Tab.get_insert_ne _ _ _ _ hq]
    exact hb0.2 q hq

/-! ### the full-strength statement and its refutation -/

/-- **C11 at full strength.**  A section filter starts fresh (`{}`) and is fed an arbitrary
history `hist` of non-empty payloads (damaged transmissions included), ending in state `s` with
deliveries `dsH`.  "Last applied" is the `version_number` of the last delivery that passed the CRC
layer (`lastApplied dsH`; `none` if nothing was ever applied — e.g. the first copy was corrupt;
precisely "passed the CRC gate", which a `table_id` mismatch or a rejected PMT body can still follow:
`lastApplied_is_crc_gate`, `crc_gate_not_application`).
Then any intact well-formed transmission of a section `S` (≥ 12 bytes, valid CRC) whose version
differs from the last APPLIED one is delivered. -/
def C11_full : Prop :=
  ∀ (hist : List Pl) (s : St) (dsH : List Delivery),
    (∀ q ∈ hist, 1 ≤ q.bytes.length) →
    runPl Psi.table {} hist = .ok (s, dsH) →
    ∀ (S : Bytes) (m : Mux) (off : Nat) (rest : List Pl),
      WellFormedSection .syntax S → 12 ≤ S.length → Ts.CrcSpec.crc S = 0 →
      WellFormedMux .syntax S m →
      (∀ q ∈ rest, q.us = false) → rest.map (·.bytes) = m.rest →
      lastApplied dsH ≠ some (versionOf S) →
      ∃ sfin ds, runPl Psi.table s (⟨true, m.first S, off⟩ :: rest) = .ok (sfin, ds)
        ∧ S ∈ ds.map (·.bytes)

theorem lastApplied_iff (ds : List Delivery) :
    lastApplied ds =
      ((ds.filter (fun d => match Psi.crcPass false d.bytes with | .ok true => true | _ => false)).getLast?).map
        (fun d => versionOf d.bytes) := rfl

/-- **C11 as stated is false** (known finding F2).  Witness: a first-copy-corrupt stream — history
= the one payload carrying `patBad` (nothing was ever applied: `lastApplied = none`), then the
intact `patGood`. -/
theorem C11_full_false : ¬ C11_full := by
  intro hfull
  have hhist : runPl Psi.table {} [⟨true, plBytesOf patBad, 4⟩]
      = .ok ({ lastVersion := some 0 }, [⟨patBad, some 5⟩]) := by decide +kernel
  obtain ⟨sfin, ds, hrun, hmem⟩ := hfull [⟨true, plBytesOf patBad, 4⟩] _ _ (by decide +kernel) hhist
    patGood (muxOf patGood) 4 [] patGood_wf (by decide +kernel) patGood_crc patGood_mux (by simp) rfl (by decide +kernel)
  obtain ⟨sfin', _, hb, _⟩ := damage_same_version_blocked patGood patGood_wf (by decide +kernel)
    (muxOf patGood) patGood_mux { lastVersion := some 0 } (psiInv_of_none _ _ rfl)
    (by eval_app) 4 [] (by simp) rfl
  rw [hb rfl] at hrun
  cases hrun
  simp at hmem

/-- CONTRAPOSITIVE of `damage_then_new_version_applied_partial` (nothing more; `lastApplied` is not
used): under the hypotheses of `C11_full` — in particular `hm : WellFormedMux`, which excludes the
short-first-share gap of `short_first_share_never_applied` — the conclusion can only fail when the
last STARTED version (`s.lastVersion`) equals the version of `S`.  The two-sided statement is
`C11_characterisation`. -/
theorem C11_gap_is_F2 (hist : List Pl) (s : St) (dsH : List Delivery)
    (hne : ∀ q ∈ hist, 1 ≤ q.bytes.length) (hrun : runPl Psi.table {} hist = .ok (s, dsH))
    (S : Bytes) (m : Mux) (off : Nat) (rest : List Pl)
    (hS : WellFormedSection .syntax S) (h12 : 12 ≤ S.length) (hcrc : Ts.CrcSpec.crc S = 0)
    (hm : WellFormedMux .syntax S m)
    (hus : ∀ q ∈ rest, q.us = false) (hrest : rest.map (·.bytes) = m.rest)
    (hfail : ¬ ∃ sfin ds, runPl Psi.table s (⟨true, m.first S, off⟩ :: rest) = .ok (sfin, ds)
        ∧ S ∈ ds.map (·.bytes)) :
    s.lastVersion = some (versionOf S) := by
  apply Classical.byContradiction
  intro hv
  obtain ⟨s', ds', h', hi⟩ := runPl_total_inv hist {} (psiInv_of_none _ _ rfl) hne
  rw [hrun] at h'
  cases h'
  obtain ⟨sfin, h1, _⟩ := damage_then_new_version_applied_partial S hS h12 hcrc m hm s hi hv off rest hus hrest
  exact hfail ⟨sfin, _, h1, by simp⟩

/-! ### the characterisation within `WellFormedMux`: delivered IFF version ≠ last STARTED version -/

/-- **Exact deliveries of an intact well-formed transmission, in every state.**  Hypotheses: `S` a
well-formed section-syntax section of at least 12 bytes with a valid CRC; `hm : WellFormedMux` (in
particular the starting packet carries at least the 8 fixed header bytes — see
`short_first_share_never_applied` for what happens otherwise); `s` ANY state satisfying the buffer
invariant.  Then the run never panics, its deliveries are what the pointer bytes complete of the
old buffer followed by `S` itself EXACTLY when `s.lastVersion ≠ some (versionOf S)`, and afterwards
`versionOf S` is the recorded version either way.  (`S` passes the CRC layer whenever delivered.) -/
theorem C11_deliveries_exact (S : Bytes) (hS : WellFormedSection .syntax S)
    (h12 : 12 ≤ S.length) (hcrc : Ts.CrcSpec.crc S = 0)
    (m : Mux) (hm : WellFormedMux .syntax S m)
    (s : St) (hs : PsiInv .syntax s)
    (off : Nat) (rest : List Pl) (hus : ∀ q ∈ rest, q.us = false)
    (hrest : rest.map (·.bytes) = m.rest) :
    ∃ sfin,
      runPl Psi.table s (⟨true, m.first S, off⟩ :: rest)
        = .ok (sfin, (preSpec Psi.table s m.pre).2 ++
            (if s.lastVersion = some (versionOf S) then []
             else [⟨S, if m.k = S.length then some (off + 1 + m.pre.length) else none⟩]))
      ∧ sfin.lastVersion = some (versionOf S)
      ∧ (∀ b, Psi.crcPass b S = .ok true) := by
  by_cases hv : s.lastVersion = some (versionOf S)
  · obtain ⟨sfin, h1, _, h2, _⟩ :=
      damage_same_version_blocked S hS (by omega) m hm s hs hv off rest hus hrest
    exact ⟨sfin, by rw [h1, if_pos hv, List.append_nil], h2, fun b => crcPass_valid b S hS h12 hcrc⟩
  · obtain ⟨sfin, h1, _, h3, h4⟩ :=
      damage_then_new_version_applied_partial S hS h12 hcrc m hm s hs hv off rest hus hrest
    exact ⟨sfin, by rw [h1, if_neg hv], h4.1, h3⟩

/-- **C11, characterisation (relative to `WellFormedMux`).**  Same hypotheses as
`C11_deliveries_exact` (`S` intact: well-formed, ≥ 12 bytes, valid CRC; `hm : WellFormedMux`; `s` any
state with the buffer invariant).  `S` passes the CRC layer in both builds, so "delivered" means
"handed to the table processor", and:

* the transmission delivers `S` (after what its pointer bytes completed) **iff**
  `s.lastVersion ≠ some (versionOf S)`;
* with `pointer_field = 0`: `S` occurs among the deliveries at all **iff** the same.

`damage_then_new_version_applied_partial` is "⇐", `damage_same_version_blocked` is "⇒".  So WITHIN
`WellFormedMux` the gap between `C11_full` and the code is exactly F2 ("version recorded at
start"): `s.lastVersion` is the last STARTED version where C11 wants the last applied one.  This
says nothing about packetisations outside `WellFormedMux` — `short_first_share_never_applied`. -/
theorem C11_characterisation (S : Bytes) (hS : WellFormedSection .syntax S)
    (h12 : 12 ≤ S.length) (hcrc : Ts.CrcSpec.crc S = 0)
    (m : Mux) (hm : WellFormedMux .syntax S m)
    (s : St) (hs : PsiInv .syntax s)
    (off : Nat) (rest : List Pl) (hus : ∀ q ∈ rest, q.us = false)
    (hrest : rest.map (·.bytes) = m.rest) :
    (∀ b, Psi.crcPass b S = .ok true)
    ∧ ((∃ sfin, runPl Psi.table s (⟨true, m.first S, off⟩ :: rest)
          = .ok (sfin, (preSpec Psi.table s m.pre).2
              ++ [⟨S, if m.k = S.length then some (off + 1 + m.pre.length) else none⟩]))
        ↔ s.lastVersion ≠ some (versionOf S))
    ∧ (m.pre = [] →
        ((∃ sfin ds, runPl Psi.table s (⟨true, m.first S, off⟩ :: rest) = .ok (sfin, ds)
            ∧ S ∈ ds.map (·.bytes))
          ↔ s.lastVersion ≠ some (versionOf S))) := by
  refine ⟨fun b => crcPass_valid b S hS h12 hcrc, ⟨?_, ?_⟩, ?_⟩
  · rintro ⟨sfin, h⟩ hv
    obtain ⟨sfin', h1, _⟩ :=
      damage_same_version_blocked S hS (by omega) m hm s hs hv off rest hus hrest
    rw [h1] at h
    have := congrArg (fun r => match r with | .ok x => x.2.length | .panic _ => 0) h
    simp at this
  · intro hv
    obtain ⟨sfin, h1, _⟩ :=
      damage_then_new_version_applied_partial S hS h12 hcrc m hm s hs hv off rest hus hrest
    exact ⟨sfin, h1⟩
  · intro hpre
    constructor
    · rintro ⟨sfin, ds, h, hmem⟩ hv
      obtain ⟨sfin', _, hb, _⟩ :=
        damage_same_version_blocked S hS (by omega) m hm s hs hv off rest hus hrest
      rw [hb hpre] at h
      cases h
      simp at hmem
    · intro hv
      obtain ⟨sfin, h1, _⟩ :=
        damage_then_new_version_applied_partial S hS h12 hcrc m hm s hs hv off rest hus hrest
      exact ⟨sfin, _, h1, by simp⟩

/-! ### the SECOND gap — known finding F13: a first share shorter than the fixed header (outside `WellFormedMux`) -/

/-- **First share of 1..2 bytes ⇒ `reset`.**  Any state `s` (buffer invariant); a unit-start payload
`pointer_field :: pre ++ D` where `D` — the bytes of the new section present in this payload, at its
very end — has 1 or 2 bytes (`SectionPacketConsumer::consume`: "TODO: not enough bytes to read section
header - implement buffering"); ANY continuation payloads `rest` (e.g. the intact remainder of the
section).  Then nothing is delivered but what `pre` completes of the OLD buffer, the state after
the first payload and after all of `rest` is exactly `reset()` applied after the pointer bytes —
buffer dropped, `lastVersion = none` —, whatever `s.lastVersion` was. -/
theorem short_first_share_reset (s : St) (hs : PsiInv .syntax s) (pre D : Bytes) (off : Nat)
    (hD1 : 1 ≤ D.length) (hD3 : D.length < 3) (hsz : 1 + pre.length + D.length ≤ 184)
    (rest : List Pl) (hus : ∀ q ∈ rest, q.us = false) (hne : ∀ q ∈ rest, 1 ≤ q.bytes.length) :
    ∃ sfin, sfin = procReset Psi.table (preSpec Psi.table s pre).1
      ∧ sfin.lastVersion = none ∧ sfin.remaining = none
      ∧ consumePayload Psi.table s true (UInt8.ofNat pre.length :: (pre ++ D)) off
          = .ok (sfin, (preSpec Psi.table s pre).2)
      ∧ runPl Psi.table sfin rest = .ok (sfin, [])
      ∧ runPl Psi.table s (⟨true, UInt8.ofNat pre.length :: (pre ++ D), off⟩ :: rest)
          = .ok (sfin, (preSpec Psi.table s pre).2) := by
  have h1 : consumePayload Psi.table s true (UInt8.ofNat pre.length :: (pre ++ D)) off
      = .ok (procReset Psi.table (preSpec Psi.table s pre).1, (preSpec Psi.table s pre).2) := by
    rw [consumePayload_eq Psi.table cfgOk_table s true _ off (by simp) hs,
      consumeSpec_start Psi.table s pre D off (by omega) (Or.inr (List.ne_nil_of_length_pos hD1)), if_pos hD3]
  have h2 := runPl_conts_idle Psi.table cfgOk_table (procReset Psi.table (preSpec Psi.table s pre).1)
    (psiInv_of_none _ _ rfl) (Or.inl rfl) rest hus hne
  refine ⟨_, rfl, rfl, rfl, h1, h2, ?_⟩
  simp only [runPl, h1, R.ok_bind, h2]
  simp

/-- **First share of 3..7 bytes ⇒ `ignore_rest`.**  As above with `3 ≤ D.length < 8`
(`SectionSyntaxSectionProcessor::start_section`: "data … too short for header … (TODO: implement
buffering)"): nothing is delivered but what `pre` completes of the old buffer; the state is the one
after the pointer bytes with `ignoreRest := true` — in particular `lastVersion` is NOT touched —
and every continuation payload leaves it unchanged. -/
theorem short_first_share_ignored (s : St) (hs : PsiInv .syntax s) (pre D : Bytes) (off : Nat)
    (hD3 : 3 ≤ D.length) (hD8 : D.length < 8) (hsz : 1 + pre.length + D.length ≤ 184)
    (rest : List Pl) (hus : ∀ q ∈ rest, q.us = false) (hne : ∀ q ∈ rest, 1 ≤ q.bytes.length) :
    ∃ sfin, sfin = { (preSpec Psi.table s pre).1 with ignoreRest := true }
      ∧ sfin.lastVersion = s.lastVersion
      ∧ consumePayload Psi.table s true (UInt8.ofNat pre.length :: (pre ++ D)) off
          = .ok (sfin, (preSpec Psi.table s pre).2)
      ∧ runPl Psi.table sfin rest = .ok (sfin, [])
      ∧ runPl Psi.table s (⟨true, UInt8.ofNat pre.length :: (pre ++ D), off⟩ :: rest)
          = .ok (sfin, (preSpec Psi.table s pre).2) := by
  have hnok : startOk Psi.table D = false := by
    apply Bool.eq_false_iff.2
    intro h
    have := ((startOk_iff Psi.table D).1 h).2.1
    have e : minHeader (kindOf Psi.table) = 8 := rfl
    omega
  have hf := consumeSpec_first Psi.table s pre D off (by omega) hD3
  have hstart : ∀ s' o, startSpec Psi.table s' D o = ({ s' with ignoreRest := true }, []) := by
    intro s' o; unfold startSpec; simp [hnok]
  rw [hstart] at hf
  have h1 : consumePayload Psi.table s true (UInt8.ofNat pre.length :: (pre ++ D)) off
      = .ok ({ (preSpec Psi.table s pre).1 with ignoreRest := true }, (preSpec Psi.table s pre).2) := by
    rw [consumePayload_eq Psi.table cfgOk_table s true _ off (by simp) hs, hf]
    simp
  have h2 := runPl_conts_idle Psi.table cfgOk_table { (preSpec Psi.table s pre).1 with ignoreRest := true }
    (psiInv_congr _ _ _ rfl rfl (preSpec_inv Psi.table _ s pre hs)) (Or.inr rfl) rest hus hne
  refine ⟨_, rfl, (preSpec_frame Psi.table s pre).1, h1, h2, ?_⟩
  simp only [runPl, h1, R.ok_bind, h2]
  simp

/-- **The second gap (known finding F13), both cases.**  Any state `s` with the buffer invariant — ANY
remembered version, so this is independent of F2; a unit-start payload `pointer_field :: pre ++ D`
whose new section share `D` has 1..7 bytes; ANY continuation payloads `rest`.  The only deliveries are
those the pointer bytes complete of the OLD buffer: the section that starts here is never delivered,
although nothing of it is damaged.  Resulting state: `reset` for 1..2 bytes, `ignoreRest` (version
memory untouched) for 3..7 bytes.

Such a packetisation is legal and C11's text does not exclude it, so the property as written fails
here (`/verif/known_findings.json`; DESIGN.md §8; witness `short_first_share_counterexample`).  The
root is the library's `TODO: implement buffering` (`psi/mod.rs`, `SectionPacketConsumer::consume` and
`SectionSyntaxSectionProcessor::start_section`), the same as F8's.  Every `…_partial` theorem here
excludes the shape through `hm : WellFormedMux`. -/
theorem short_first_share_never_applied (s : St) (hs : PsiInv .syntax s) (pre D : Bytes) (off : Nat)
    (hD1 : 1 ≤ D.length) (hD8 : D.length < 8) (hsz : 1 + pre.length + D.length ≤ 184)
    (rest : List Pl) (hus : ∀ q ∈ rest, q.us = false) (hne : ∀ q ∈ rest, 1 ≤ q.bytes.length) :
    ∃ sfin,
      runPl Psi.table s (⟨true, UInt8.ofNat pre.length :: (pre ++ D), off⟩ :: rest)
          = .ok (sfin, (preSpec Psi.table s pre).2)
      ∧ (pre = [] → runPl Psi.table s (⟨true, UInt8.ofNat pre.length :: (pre ++ D), off⟩ :: rest)
          = .ok (sfin, []))
      ∧ (D.length < 3 → sfin = procReset Psi.table (preSpec Psi.table s pre).1
            ∧ sfin.lastVersion = none)
      ∧ (3 ≤ D.length → sfin = { (preSpec Psi.table s pre).1 with ignoreRest := true }
            ∧ sfin.lastVersion = s.lastVersion) := by
  by_cases h3 : D.length < 3
  · obtain ⟨sfin, e, hl, _, _, _, hr⟩ := short_first_share_reset s hs pre D off hD1 h3 hsz rest hus hne
    refine ⟨sfin, hr, ?_, fun _ => ⟨e, hl⟩, fun h => absurd h (by omega)⟩
    intro hpre; rw [hr, hpre]; rfl
  · obtain ⟨sfin, e, hl, _, _, hr⟩ :=
      short_first_share_ignored s hs pre D off (by omega) hD8 hsz rest hus hne
    refine ⟨sfin, hr, ?_, fun h => absurd h h3, fun _ => ⟨e, hl⟩⟩
    intro hpre; rw [hr, hpre]; rfl

/-- the same for the first `k` bytes (`1 ≤ k < 8`) of ANY section `S`, at the end of a unit-start
payload with `pointer_field = 0`, followed by any continuation payloads (in particular ones that
carry `S.drop k` intact): NO delivery at all -/
theorem short_first_share_never_applied_section (S : Bytes) (k : Nat) (hk1 : 1 ≤ k) (hk8 : k < 8)
    (hkS : k ≤ S.length) (s : St) (hs : PsiInv .syntax s) (off : Nat)
    (rest : List Pl) (hus : ∀ q ∈ rest, q.us = false) (hne : ∀ q ∈ rest, 1 ≤ q.bytes.length) :
    ∃ sfin, runPl Psi.table s (⟨true, 0 :: S.take k, off⟩ :: rest) = .ok (sfin, []) := by
  have hl : (S.take k).length = k := by simp; omega
  obtain ⟨sfin, _, h, _⟩ := short_first_share_never_applied s hs [] (S.take k) off
    (by omega) (by omega) (by simp; omega) rest hus hne
  exact ⟨sfin, h rfl⟩

/-- `pointer_field` at or beyond the end of the payload ("PSI pointer beyond end of packet
payload"): `reset` at once, nothing delivered, not even from the pointer bytes -/
theorem pointer_beyond_payload_reset (s : St) (hs : PsiInv .syntax s) (pre : Bytes) (off : Nat)
    (hpre : pre ≠ []) (hp : pre.length < 256) :
    consumePayload Psi.table s true (UInt8.ofNat pre.length :: pre) off
      = .ok (procReset Psi.table s, []) := by
  rw [consumePayload_eq Psi.table cfgOk_table s true _ off (by simp) hs,
    consumeSpec_pointer_beyond Psi.table s pre off hp hpre]

/-- **The reset path rescues F2.**  From ANY state `s` (e.g. one that remembers the version of a
damaged copy): a unit-start payload with a 1..2-byte first share, any continuation payloads, and
then an intact well-formed transmission of `S` — of ANY version, also the remembered one — is
delivered, because the `reset` cleared `lastVersion`. -/
theorem short_share_reset_then_applied (s : St) (hs : PsiInv .syntax s) (pre D : Bytes) (off0 : Nat)
    (hD1 : 1 ≤ D.length) (hD3 : D.length < 3) (hsz : 1 + pre.length + D.length ≤ 184)
    (conts : List Pl) (husc : ∀ q ∈ conts, q.us = false) (hnec : ∀ q ∈ conts, 1 ≤ q.bytes.length)
    (S : Bytes) (hS : WellFormedSection .syntax S) (h12 : 12 ≤ S.length)
    (hcrc : Ts.CrcSpec.crc S = 0) (m : Mux) (hm : WellFormedMux .syntax S m)
    (off : Nat) (rest : List Pl) (hus : ∀ q ∈ rest, q.us = false)
    (hrest : rest.map (·.bytes) = m.rest) :
    ∃ s1 sfin,
      runPl Psi.table s (⟨true, UInt8.ofNat pre.length :: (pre ++ D), off0⟩ :: conts)
        = .ok (s1, (preSpec Psi.table s pre).2)
      ∧ s1.lastVersion = none
      ∧ runPl Psi.table s1 (⟨true, m.first S, off⟩ :: rest)
          = .ok (sfin, [⟨S, if m.k = S.length then some (off + 1 + m.pre.length) else none⟩])
      ∧ Quiescent (versionOf S) sfin := by
  obtain ⟨s1, _, hl, hr, _, _, hrun⟩ :=
    short_first_share_reset s hs pre D off0 hD1 hD3 hsz conts husc hnec
  obtain ⟨sfin, h1, _, _, hq⟩ := damage_then_new_version_applied_partial S hS h12 hcrc m hm s1
    (psiInv_of_none _ _ hr) (by rw [hl]; simp) off rest hus hrest
  rw [preSpec_idle _ _ _ hr, List.nil_append] at h1
  exact ⟨s1, sfin, hrun, hl, h1, hq⟩

/-- **Known finding F13 on real bytes, whole application** (`runApp` = `Demultiplex::new` + `push`).
`splitTx patGood k`: the intact 16-byte PAT `patGood` (valid CRC, version 0) sent on PID 0 as a
unit-start packet carrying `pointer_field = 183 - k`, `183 - k` stuffing bytes `0xff`, and the first
`k` section bytes, followed by a continuation packet with the other `16 - k` bytes.

* `k = 5`: NO handler request beyond the initial `ByPid(0)`; the PAT filter ends with
  `ignoreRest = true` and still no version; the same transmission sent twice more, and then a
  version-1 PAT with a 7-byte first share, change nothing — no PMT is ever requested;
* `k = 2`: no request either; the filter ends in the reset state;
* control, `k = 8`, and `pktOf patGood` (everything in one packet): the PMT handler of program 1 on
  PID `0x1e0` IS requested. -/
theorem short_first_share_counterexample :
    (splitTx patGood 5).length = 2 * 188
    ∧ requests (runApp {} [splitTx patGood 5]) = [.byPid 0]
    ∧ patSlot (runApp {} [splitTx patGood 5]) = some ({ ignoreRest := true }, [])
    ∧ requests (runApp {} [splitTx patGood 5 ++ splitTx patGood 5 ++ splitTx patGood 5
        ++ splitTx patV1 7]) = [.byPid 0]
    ∧ requests (runApp {} [splitTx patGood 2]) = [.byPid 0]
    ∧ patSlot (runApp {} [splitTx patGood 2]) = some ({}, [])
    ∧ requests (runApp {} [splitTx patGood 8]) = [.byPid 0, .pmt 0x1e0 1]
    ∧ requests (runApp {} [pktOf patGood]) = [.byPid 0, .pmt 0x1e0 1] := by
  eval_app

/-- **Interplay of the two gaps on real bytes.**  Corrupt copy `patBad`, then …

* the intact copy: blocked (F2);
* a transmission of the intact copy whose first share is 2 bytes: not applied itself, but it resets
  the filter (`lastVersion = none`) …
* … so that the NEXT ordinary intact copy IS applied (PMT requested): the straddling start rescues F2;
* with a 5-byte first share instead (`ignoreRest`, version memory kept) the next intact copy
  stays blocked. -/
theorem straddle_rescues_F2 :
    requests (runApp {} [pktOf patBad ++ pktOf patGood]) = [.byPid 0]
    ∧ requests (runApp {} [pktOf patBad ++ splitTx patGood 2]) = [.byPid 0]
    ∧ patSlot (runApp {} [pktOf patBad ++ splitTx patGood 2]) = some ({}, [])
    ∧ requests (runApp {} [pktOf patBad ++ splitTx patGood 2 ++ pktOf patGood])
        = [.byPid 0, .pmt 0x1e0 1]
    ∧ requests (runApp {} [pktOf patBad ++ splitTx patGood 5 ++ pktOf patGood]) = [.byPid 0] := by
  eval_app

/-! ### through the dispatcher: `construct` requests and handler slots -/

/-- **C11 (partial), observable form, PAT.**  ANY dispatcher state `(t, c)` in which slot `p` holds a
PAT handler `.pat s reg` with the buffer invariant, `s.lastVersion ≠ some (versionOf S)`, `hquiet`: the
pointer bytes complete nothing, `hself`: neither the registered PIDs nor the new PAT's entries name `p`.
`pks`: the packets of a `WellFormedMux` transmission of an intact PAT section `S` (`table_id = 0`), all
on PID `p`, none flagged.  Then the real `push` loops (which apply each packet's changes before the next
packet) do not panic and end with the context `ctxAfter c reqs` — one `Ev.construct` per PAT entry of `S`
in order (`.pmt pid pn`, `.nit pid` for program 0), consecutive tags from `c.nextTag`, nothing else —,
slot `p` the PAT handler quiescent at `versionOf S` remembering the listed PIDs, and every other slot
as the routing spec `applied` says. -/
theorem damage_then_new_version_requests_pat (S : Bytes) (hS : WellFormedSection .syntax S)
    (h12 : 12 ≤ S.length) (hcrc : Ts.CrcSpec.crc S = 0) (htid : byteD S 0 = 0)
    (m : Mux) (hm : WellFormedMux .syntax S m)
    (s : St) (hs : PsiInv .syntax s) (hv : s.lastVersion ≠ some (versionOf S))
    (hquiet : m.pre = [] ∨ s.remaining = none)
    (p : Nat) (t : Tab Handler) (c : Ctx) (reg : List Nat) (hg : t.get p = some (.pat s reg))
    (hself : p ∉ reg ∧ ∀ e ∈ specPat (sectionBody S), e.pid ≠ p)
    (pks : List Pk) (hpk : ∀ pk ∈ pks, pk.pid = p ∧ pk.flagged = false ∧ pk.bytes.length = 188)
    (off : Nat) (rest : List Pl)
    (hview : (pks.map (·.bytes)).filterMap plOf = ⟨true, m.first S, off⟩ :: rest)
    (hus : ∀ q ∈ rest, q.us = false) (hrest : rest.map (·.bytes) = m.rest) :
    ∃ t' sfin,
      pushModel App.sem (t, c) pks = .ok (t', ctxAfter c (patRequests (specPat (sectionBody S))))
      ∧ (ctxAfter c (patRequests (specPat (sectionBody S)))).trace
          = (constructEvents c.nextTag (patRequests (specPat (sectionBody S)))).reverse ++ c.trace
      ∧ requests (.ok (t', ctxAfter c (patRequests (specPat (sectionBody S)))))
          = requests (.ok (t, c)) ++ (specPat (sectionBody S)).map patRequest
      ∧ t'.get p = some (.pat sfin ((specPat (sectionBody S)).map PatEntry.pid))
      ∧ Quiescent (versionOf S) sfin
      ∧ ∀ q, q ≠ p → t'.get q
          = applied t.get (built c.nextTag (patRequests (specPat (sectionBody S)))) reg q := by
  rw [Ts.Props.C06.push_refines_spec]
  have hchg : ∀ ch ∈ patChanges c reg (sectionBody S), ch.pid ≠ p := by
    apply tableChanges_not_self _ _ _ _ _ hself.1
    intro x hx
    obtain ⟨e, he, rfl⟩ := List.mem_map.1 hx
    exact hself.2 e he
  obtain ⟨t', sfin, hr, hgp, hq, hne⟩ := table_applied_pushSpec patSection _ isTableHandler_pat
    S hS h12 hcrc m hm s hs hv hquiet p t c reg hg pks hpk off rest hview hus hrest _ _ _
    (Ts.Lemmas.C05.patSection_tid0 c reg S h12 htid) hchg
  refine ⟨t', sfin, hr, rfl, ?_, hgp, hq, ?_⟩
  · rw [requests_ctxAfter t t' c]
    simp [patRequests]
  · intro q hqp
    rw [hne q hqp]
    exact (Ts.Props.C05.routing_after_pat t c reg (sectionBody S)).1 q

/-- **C11 (partial), observable form, PMT.**  As `damage_then_new_version_requests_pat` for a slot
holding a PMT handler `.pmt pid prog s reg` and an intact PMT section `S` (`table_id = 2`, body
accepted by `PmtSection::from_bytes`: `hacc`): the trace grows by exactly one `Ev.construct` with a
`Req.stream pid stream_type elementary_pid pcr_pid descriptors program_descriptors` per stream entry,
in order; slot `p` keeps the SAME PMT handler instance, quiescent at `versionOf S`; other slots per
`applied`. -/
theorem damage_then_new_version_requests_pmt (pid prog : Nat)
    (S : Bytes) (hS : WellFormedSection .syntax S)
    (h12 : 12 ≤ S.length) (hcrc : Ts.CrcSpec.crc S = 0) (htid : byteD S 0 = 2)
    (hacc : specPmtAccept (sectionBody S))
    (m : Mux) (hm : WellFormedMux .syntax S m)
    (s : St) (hs : PsiInv .syntax s) (hv : s.lastVersion ≠ some (versionOf S))
    (hquiet : m.pre = [] ∨ s.remaining = none)
    (p : Nat) (t : Tab Handler) (c : Ctx) (reg : List Nat)
    (hg : t.get p = some (.pmt pid prog s reg))
    (hself : p ∉ reg ∧ ∀ e ∈ streamsOf (sectionBody S), e.pid ≠ p)
    (pks : List Pk) (hpk : ∀ pk ∈ pks, pk.pid = p ∧ pk.flagged = false ∧ pk.bytes.length = 188)
    (off : Nat) (rest : List Pl)
    (hview : (pks.map (·.bytes)).filterMap plOf = ⟨true, m.first S, off⟩ :: rest)
    (hus : ∀ q ∈ rest, q.us = false) (hrest : rest.map (·.bytes) = m.rest) :
    let reqs := pmtRequests pid (specPcrPid (sectionBody S)) (specProgramDescBytes (sectionBody S))
      (streamsOf (sectionBody S))
    ∃ t' sfin,
      pushModel App.sem (t, c) pks = .ok (t', ctxAfter c reqs)
      ∧ (ctxAfter c reqs).trace = (constructEvents c.nextTag reqs).reverse ++ c.trace
      ∧ requests (.ok (t', ctxAfter c reqs)) = requests (.ok (t, c)) ++ reqs.map (·.2)
      ∧ t'.get p = some (.pmt pid prog sfin ((streamsOf (sectionBody S)).map StreamInfo.pid))
      ∧ Quiescent (versionOf S) sfin
      ∧ ∀ q, q ≠ p → t'.get q = applied t.get (built c.nextTag reqs) reg q := by
  intro reqs
  rw [Ts.Props.C06.push_refines_spec]
  have hchg : ∀ ch ∈ pmtChanges c pid reg (sectionBody S), ch.pid ≠ p := by
    apply tableChanges_not_self _ _ _ _ _ hself.1
    intro x hx
    obtain ⟨e, he, rfl⟩ := List.mem_map.1 hx
    exact hself.2 e he
  obtain ⟨t', sfin, hr, hgp, hq, hne⟩ := table_applied_pushSpec (fun c r d => pmtSection c pid r d) _
    (isTableHandler_pmt pid prog)
    S hS h12 hcrc m hm s hs hv hquiet p t c reg hg pks hpk off rest hview hus hrest _ _ _
    (Ts.Lemmas.C05.pmtSection_tid2 c pid reg S h12 hacc htid) hchg
  refine ⟨t', sfin, hr, rfl, requests_ctxAfter t t' c reqs, hgp, hq, ?_⟩
  intro q hqp
  rw [hne q hqp]
  exact (Ts.Props.C05.routing_after_pmt t c pid reg (sectionBody S)).1 q

/-- **F2, observable form** (PAT or PMT handler).  Same setting, but the version of `S` EQUALS the
last started one (`hv`), and `S` need not even be intact: the `push` loops end with the context
UNCHANGED — not a single event, in particular no `Ev.construct` —, every other slot unchanged, and
slot `p` the same handler (same registered PIDs) still remembering that version. -/
theorem damage_same_version_no_requests (S : Bytes) (hS : WellFormedSection .syntax S)
    (h8 : 8 ≤ S.length) (m : Mux) (hm : WellFormedMux .syntax S m)
    (s : St) (hs : PsiInv .syntax s) (hv : s.lastVersion = some (versionOf S))
    (hquiet : m.pre = [] ∨ s.remaining = none)
    (p : Nat) (t : Tab Handler) (c : Ctx) (reg : List Nat)
    (pks : List Pk) (hpk : ∀ pk ∈ pks, pk.pid = p ∧ pk.flagged = false ∧ pk.bytes.length = 188)
    (off : Nat) (rest : List Pl)
    (hview : (pks.map (·.bytes)).filterMap plOf = ⟨true, m.first S, off⟩ :: rest)
    (hus : ∀ q ∈ rest, q.us = false) (hrest : rest.map (·.bytes) = m.rest) :
    (t.get p = some (.pat s reg) →
      ∃ t' sfin, pushModel App.sem (t, c) pks = .ok (t', c) ∧ t'.get p = some (.pat sfin reg)
        ∧ sfin.lastVersion = some (versionOf S) ∧ ∀ q, q ≠ p → t'.get q = t.get q)
    ∧ (∀ pid prog, t.get p = some (.pmt pid prog s reg) →
      ∃ t' sfin, pushModel App.sem (t, c) pks = .ok (t', c) ∧ t'.get p = some (.pmt pid prog sfin reg)
        ∧ sfin.lastVersion = some (versionOf S) ∧ ∀ q, q ≠ p → t'.get q = t.get q) := by
  rw [Ts.Props.C06.push_refines_spec]
  constructor
  · intro hg
    exact table_blocked_pushSpec patSection _ isTableHandler_pat S hS h8 m hm s hs hv hquiet p t c
      reg hg pks hpk off rest hview hus hrest
  · intro pid prog hg
    exact table_blocked_pushSpec _ _ (isTableHandler_pmt pid prog) S hS h8 m hm s hs hv hquiet p t c
      reg hg pks hpk off rest hview hus hrest

/-- **C11 characterisation, observable form (PAT).**  Hypotheses of
`damage_then_new_version_requests_pat` WITHOUT `hv`: the context after the transmission is
`ctxAfter c (one request per PAT entry)` if `s.lastVersion ≠ some (versionOf S)`, and `c` itself —
nothing requested — if `s.lastVersion = some (versionOf S)`.  Within `WellFormedMux`, whether the
intact PAT takes effect is decided by the last STARTED version alone. -/
theorem C11_characterisation_requests_pat (S : Bytes) (hS : WellFormedSection .syntax S)
    (h12 : 12 ≤ S.length) (hcrc : Ts.CrcSpec.crc S = 0) (htid : byteD S 0 = 0)
    (m : Mux) (hm : WellFormedMux .syntax S m)
    (s : St) (hs : PsiInv .syntax s) (hquiet : m.pre = [] ∨ s.remaining = none)
    (p : Nat) (t : Tab Handler) (c : Ctx) (reg : List Nat) (hg : t.get p = some (.pat s reg))
    (hself : p ∉ reg ∧ ∀ e ∈ specPat (sectionBody S), e.pid ≠ p)
    (pks : List Pk) (hpk : ∀ pk ∈ pks, pk.pid = p ∧ pk.flagged = false ∧ pk.bytes.length = 188)
    (off : Nat) (rest : List Pl)
    (hview : (pks.map (·.bytes)).filterMap plOf = ⟨true, m.first S, off⟩ :: rest)
    (hus : ∀ q ∈ rest, q.us = false) (hrest : rest.map (·.bytes) = m.rest) :
    ∃ t' sfin reg',
      pushModel App.sem (t, c) pks
        = .ok (t', if s.lastVersion = some (versionOf S) then c
                   else ctxAfter c (patRequests (specPat (sectionBody S))))
      ∧ t'.get p = some (.pat sfin reg') ∧ sfin.lastVersion = some (versionOf S) := by
  by_cases hv : s.lastVersion = some (versionOf S)
  · obtain ⟨t', sfin, h1, h2, h3, _⟩ := (damage_same_version_no_requests S hS (by omega) m hm s hs hv
      hquiet p t c reg pks hpk off rest hview hus hrest).1 hg
    exact ⟨t', sfin, reg, by rw [h1, if_pos hv], h2, h3⟩
  · obtain ⟨t', sfin, h1, _, _, h2, h3, _⟩ := damage_then_new_version_requests_pat S hS h12 hcrc htid
      m hm s hs hv hquiet p t c reg hg hself pks hpk off rest hview hus hrest
    exact ⟨t', sfin, _, by rw [h1, if_neg hv], h2, h3.1⟩

/-- **`damage_then_new_version_requests_pat` at `runApp` level.**  After ANY history of pushes that
did not panic and left slot 0 holding `.pat s reg`, no section in progress and
`s.lastVersion ≠ some (versionOf S)`: one more `push(buf)`, where `buf` frames to the packets of a
`WellFormedMux` transmission of the intact PAT `S` on PID 0, makes the request list grow by exactly
one request per PAT entry of `S` and installs the handlers. -/
theorem damage_then_new_version_requests_runApp (cfg : App.Cfg) (pushes : List Bytes)
    (t : Tab Handler) (c : Ctx) (hhist : runApp cfg pushes = .ok (t, c))
    (s : St) (reg : List Nat) (hg : t.get 0 = some (.pat s reg)) (hidle : s.remaining = none)
    (S : Bytes) (hS : WellFormedSection .syntax S)
    (h12 : 12 ≤ S.length) (hcrc : Ts.CrcSpec.crc S = 0) (htid : byteD S 0 = 0)
    (m : Mux) (hm : WellFormedMux .syntax S m) (hv : s.lastVersion ≠ some (versionOf S))
    (hself : 0 ∉ reg ∧ ∀ e ∈ specPat (sectionBody S), e.pid ≠ 0)
    (buf : Bytes) (pks : List Pk) (hframe : frame buf (pushes.map List.length).sum = .ok pks)
    (hpk : ∀ pk ∈ pks, pk.pid = 0 ∧ pk.flagged = false ∧ pk.bytes.length = 188)
    (off : Nat) (rest : List Pl)
    (hview : (pks.map (·.bytes)).filterMap plOf = ⟨true, m.first S, off⟩ :: rest)
    (hus : ∀ q ∈ rest, q.us = false) (hrest : rest.map (·.bytes) = m.rest) :
    ∃ t' sfin,
      runApp cfg (pushes ++ [buf]) = .ok (t', ctxAfter c (patRequests (specPat (sectionBody S))))
      ∧ requests (runApp cfg (pushes ++ [buf]))
          = requests (runApp cfg pushes) ++ (specPat (sectionBody S)).map patRequest
      ∧ t'.get 0 = some (.pat sfin ((specPat (sectionBody S)).map PatEntry.pid))
      ∧ Quiescent (versionOf S) sfin
      ∧ ∀ q, q ≠ 0 → t'.get q
          = applied t.get (built c.nextTag (patRequests (specPat (sectionBody S)))) reg q := by
  obtain ⟨t', sfin, h1, _, h3, h4, h5, h6⟩ := damage_then_new_version_requests_pat S hS h12 hcrc htid
    m hm s (psiInv_of_none _ _ hidle) hv (Or.inr hidle) 0 t c reg hg hself pks hpk off rest hview
    hus hrest
  have hrun : runApp cfg (pushes ++ [buf])
      = .ok (t', ctxAfter c (patRequests (specPat (sectionBody S)))) := by
    unfold runApp at hhist ⊢
    rw [pushAll_append_bufs, hhist]
    simp only [R.ok_bind, Nat.zero_add, Ts.Props.C07.pushAll_single, push, hframe]
    exact h1
  exact ⟨t', sfin, hrun, by rw [hrun, hhist]; exact h3, h4, h5, h6⟩

/-! ### what "last applied" in `C11_full` means precisely -/

/-- `lastApplied ds = some v` says exactly: the LAST delivery of `ds` that passes the CRC gate of the
normal build (i.e. reaches `PatProcessor::section` / `PmtProcessor::section`) has `version_number = v`.
It does NOT say that this section took effect: the table processor may still ignore it (`table_id`
mismatch; a PMT body rejected by `from_bytes`) — `crc_gate_not_application`.  `C11_full_false` is
unaffected (there NOTHING passed the gate). -/
theorem lastApplied_is_crc_gate (ds : List Delivery) (v : Nat) :
    lastApplied ds = some v ↔
      ∃ pre d post, ds = pre ++ d :: post ∧ Psi.crcPass false d.bytes = .ok true
        ∧ (∀ x ∈ post, Psi.crcPass false x.bytes ≠ .ok true) ∧ versionOf d.bytes = v := by
  unfold lastApplied
  rw [Option.map_eq_some_iff]
  constructor
  · rintro ⟨d, hd, hv⟩
    obtain ⟨pre, post, e, hp, hpost⟩ := (getLast?_filter_eq_some passes ds d).1 hd
    refine ⟨pre, d, post, e, (passes_iff d).1 hp, ?_, hv⟩
    intro x hx hpass
    have := hpost x hx
    rw [(passes_iff x).2 hpass] at this
    cases this
  · rintro ⟨pre, d, post, e, hp, hpost, hv⟩
    refine ⟨d, (getLast?_filter_eq_some passes ds d).2 ⟨pre, post, e, (passes_iff d).2 hp, ?_⟩, hv⟩
    intro x hx
    cases hx' : passes x with
    | false => rfl
    | true => exact absurd ((passes_iff x).1 hx') (hpost x hx)

/-- for a PAT filter and `table_id = 0` the CRC gate IS application: a section that passes the gate
makes `PatProcessor::section` request one handler per entry and queue the PAT's changes -/
theorem crc_gate_pat_applied (b : Bool) (d : Bytes) (hp : Psi.crcPass b d = .ok true)
    (ht : byteD d 0 = 0) (c : Ctx) (reg : List Nat) :
    patSection c reg d = .ok (ctxAfter c (patRequests (specPat (sectionBody d))),
      (specPat (sectionBody d)).map PatEntry.pid, patChanges c reg (sectionBody d)) :=
  Ts.Lemmas.C05.patSection_tid0 c reg d (Ts.Lemmas.C05.crcPass_true_len b d hp) ht

/-- for any other `table_id` the section passes the gate and is then ignored: nothing requested,
nothing queued, `filters_registered` unchanged -/
theorem crc_gate_pat_other_table_ignored (b : Bool) (d : Bytes) (hp : Psi.crcPass b d = .ok true)
    (ht : byteD d 0 ≠ 0) (c : Ctx) (reg : List Nat) :
    patSection c reg d = .ok (c, reg, []) := by
  rw [Ts.Lemmas.C05.patSection_eq c reg d (Ts.Lemmas.C05.crcPass_true_len b d hp), if_pos ht]

def otherTable : Bytes :=
  [0x02, 0xb0, 0x0d, 0x00, 0x01, 0xc3, 0x00, 0x00, 0x00, 0x01, 0xe1, 0xe0] ++
    Ts.CrcSpec.be32 (Ts.CrcSpec.crc [0x02, 0xb0, 0x0d, 0x00, 0x01, 0xc3, 0x00, 0x00, 0x00, 0x01, 0xe1, 0xe0])

/-- **`lastApplied` over-approximates "applied"** (witness): `otherTable` delivered on the PAT PID
counts as "last applied, version 1", yet the PAT processor ignores it; through the application:
no request beyond `ByPid(0)` — and, by F2, the intact version-1 PAT that follows is blocked although
no version-1 PAT was ever applied. -/
theorem crc_gate_not_application :
    WellFormedSection .syntax otherTable ∧ Ts.CrcSpec.crc otherTable = 0
    ∧ lastApplied [⟨otherTable, some 5⟩] = some 1
    ∧ (∀ c reg, patSection c reg otherTable = .ok (c, reg, []))
    ∧ requests (runApp {} [pktOf otherTable]) = [.byPid 0]
    ∧ requests (runApp {} [pktOf otherTable ++ pktOf patV1]) = [.byPid 0]
    ∧ requests (runApp {} [pktOf patV1]) = [.byPid 0, .pmt 0x1e0 1] := by
  refine ⟨by decide +kernel, by decide +kernel, by decide +kernel, ?_, by eval_app,
    by eval_app, by eval_app⟩
  intro c reg
  exact crc_gate_pat_other_table_ignored false otherTable (by eval_app) (by decide +kernel) c reg

/-! ### non-vacuity -/

example : WellFormedSection .syntax patGood ∧ 12 ≤ patGood.length ∧ Ts.CrcSpec.crc patGood = 0
    ∧ versionOf patGood = 0 := by decide +kernel
example : WellFormedSection .syntax patBad ∧ Ts.CrcSpec.crc patBad ≠ 0 ∧ versionOf patBad = 0 := by
  decide +kernel
example : WellFormedSection .syntax patV1 ∧ 12 ≤ patV1.length ∧ Ts.CrcSpec.crc patV1 = 0
    ∧ versionOf patV1 = 1 := by decide +kernel
example : WellFormedMux .syntax patGood (muxOf patGood) ∧ (muxOf patGood).pre = [] := by decide +kernel
example : WellFormedMux .syntax patV1 (muxOf patV1) := by decide +kernel

example : startOk Psi.table patGood = true ∧ startOk Psi.table (patGood.take 8) = true := by
  decide +kernel

/-- `start_records_version` on a truncated start (only 8 of 16 bytes arrive: nothing is delivered,
8 bytes are still owed — yet version 0 is already recorded) -/
example : Psi.procStart Psi.table {} (hdrOf (patGood.take 8)) (patGood.take 8) 5
    = .ok ({ lastVersion := some 0, buf := patGood.take 8, remaining := some 8 }, []) := by
  decide +kernel

theorem psiInv_stale : PsiInv .syntax { lastVersion := some 0, buf := patGood.take 8, remaining := some 8 } := by
  decide +kernel

example : PsiInv .syntax { lastVersion := some 0, buf := patGood.take 8, remaining := some 8 } := psiInv_stale

example : ∃ sfin, runPl Psi.table { lastVersion := some 0, buf := patGood.take 8, remaining := some 8 }
      [⟨true, plBytesOf patV1, 4⟩] = .ok (sfin, [⟨patV1, some 5⟩]) ∧ Quiescent 1 sfin := by
  obtain ⟨sfin, h1, _, _, h2⟩ := damage_then_new_version_applied_partial patV1 patV1_wf
    (by decide +kernel) patV1_crc (muxOf patV1) patV1_mux _ psiInv_stale (by decide +kernel)
    4 [] (by simp) rfl
  exact ⟨sfin, h1, h2⟩

example : ∃ sfin, runPl Psi.table { lastVersion := some 0, buf := patGood.take 8, remaining := some 8 }
      [⟨true, plBytesOf patGood, 4⟩] = .ok (sfin, []) := by
  obtain ⟨sfin, _, h1, _⟩ := damage_same_version_blocked patGood patGood_wf (by decide +kernel)
    (muxOf patGood) patGood_mux _ psiInv_stale (by decide +kernel) 4 [] (by simp) rfl
  exact ⟨sfin, h1 rfl⟩

example : (pktOf patV1).length = 188
    ∧ ([pk0 (pktOf patV1) 0].map (·.bytes)).filterMap plOf
        = [⟨true, (muxOf patV1).first patV1, 4⟩] := by decide +kernel

example : ∀ pk ∈ [pk0 (pktOf patGood) 188, pk0 (pktOf patGood) 376],
    pk.pid = 0 ∧ pk.flagged = false ∧ RepPacket 0 pk.bytes := by
  have hrep : RepPacket 0 (pktOf patGood) :=
    repPacket_of_first 0 _ patGood (muxOf patGood) 4 (by decide +kernel) (by decide +kernel) patGood_wf
      (by decide +kernel) (by decide +kernel) patGood_mux
  intro pk hm
  simp only [List.mem_cons, List.not_mem_nil, or_false] at hm
  rcases hm with e | e <;> subst e <;> exact ⟨rfl, rfl, hrep⟩

/-! ### non-vacuity of the second-gap, characterisation and dispatcher-level theorems -/

/-- the packets of `short_first_share_counterexample` are what the docstring says: unit start,
`pointer_field = 178`, 178 stuffing bytes, 5 section bytes; then a continuation carrying the other
11 bytes; the shares concatenate to the intact section -/
example : plOf ((splitTx patGood 5).take 188)
      = some ⟨true, UInt8.ofNat 178 :: (List.replicate 178 0xff ++ patGood.take 5), 4⟩
    ∧ plOf ((splitTx patGood 5).drop 188)
      = some ⟨false, patGood.drop 5 ++ List.replicate 173 0xff, 4⟩
    ∧ patGood.take 5 ++ patGood.drop 5 = patGood ∧ Ts.CrcSpec.crc patGood = 0 := by decide +kernel

example : ∃ sfin, runPl Psi.table { lastVersion := some 1 }
      [⟨true, UInt8.ofNat 178 :: (List.replicate 178 0xff ++ patGood.take 5), 4⟩,
       ⟨false, patGood.drop 5 ++ List.replicate 173 0xff, 4⟩] = .ok (sfin, [])
    ∧ sfin.ignoreRest = true ∧ sfin.lastVersion = some 1 := by
  obtain ⟨sfin, h1, _, _, h3⟩ := short_first_share_never_applied { lastVersion := some 1 }
    (psiInv_of_none _ _ rfl) (List.replicate 178 0xff) (patGood.take 5) 4 (by decide +kernel)
    (by decide +kernel) (by decide +kernel) [⟨false, patGood.drop 5 ++ List.replicate 173 0xff, 4⟩]
    (by decide +kernel) (by decide +kernel)
  obtain ⟨e, hl⟩ := h3 (by decide +kernel)
  refine ⟨sfin, ?_, by rw [e], hl⟩
  rw [preSpec_idle _ _ _ rfl] at h1
  exact h1

example : ∃ s1 sfin, runPl Psi.table { lastVersion := some 0, dedupIgnore := true }
      [⟨true, UInt8.ofNat 181 :: (List.replicate 181 0xff ++ patGood.take 2), 4⟩,
       ⟨false, patGood.drop 2 ++ List.replicate 170 0xff, 4⟩] = .ok (s1, [])
    ∧ s1.lastVersion = none
    ∧ runPl Psi.table s1 [⟨true, plBytesOf patGood, 4⟩] = .ok (sfin, [⟨patGood, some 5⟩]) := by
  obtain ⟨s1, sfin, h1, h2, h3, _⟩ := short_share_reset_then_applied
    { lastVersion := some 0, dedupIgnore := true } (psiInv_of_none _ _ rfl)
    (List.replicate 181 0xff) (patGood.take 2) 4 (by decide +kernel) (by decide +kernel)
    (by decide +kernel) [⟨false, patGood.drop 2 ++ List.replicate 170 0xff, 4⟩] (by decide +kernel)
    (by decide +kernel)
    patGood patGood_wf (by decide +kernel) patGood_crc (muxOf patGood)
    patGood_mux 4 [] (by simp) rfl
  rw [preSpec_idle _ _ _ rfl] at h1
  exact ⟨s1, sfin, h1, h2, h3⟩

example :
    (¬ ∃ sfin ds, runPl Psi.table { lastVersion := some 0 } [⟨true, (muxOf patGood).first patGood, 4⟩]
        = .ok (sfin, ds) ∧ patGood ∈ ds.map (·.bytes))
    ∧ (∃ sfin ds, runPl Psi.table { lastVersion := some 0 } [⟨true, (muxOf patV1).first patV1, 4⟩]
        = .ok (sfin, ds) ∧ patV1 ∈ ds.map (·.bytes)) := by
  have h0 := (C11_characterisation patGood patGood_wf (by decide +kernel) patGood_crc
    (muxOf patGood) patGood_mux { lastVersion := some 0 } (psiInv_of_none _ _ rfl) 4 []
    (by simp) rfl).2.2 rfl
  have h1 := (C11_characterisation patV1 patV1_wf (by decide +kernel) patV1_crc
    (muxOf patV1) patV1_mux { lastVersion := some 0 } (psiInv_of_none _ _ rfl) 4 []
    (by simp) rfl).2.2 rfl
  exact ⟨fun h => (h0.1 h) (by decide +kernel), h1.2 (by decide +kernel)⟩

/-- `damage_then_new_version_requests_runApp` applied: history = the corrupt version-0 PAT (slot 0
then remembers version 0, nothing applied); then the intact version-1 PAT in one packet: the
request list grows by exactly `Pmt(0x1e0, program 1)`, and slot `0x1e0` holds a fresh PMT handler -/
example : ∃ t' sfin,
    requests (runApp {} ([pktOf patBad] ++ [pktOf patV1]))
      = requests (runApp {} [pktOf patBad]) ++ [.pmt 0x1e0 1]
    ∧ (∃ c', runApp {} ([pktOf patBad] ++ [pktOf patV1]) = .ok (t', c'))
    ∧ t'.get 0 = some (.pat sfin [0x1e0]) ∧ Quiescent 1 sfin
    ∧ t'.get 0x1e0 = some (.pmt 0x1e0 1 {} []) := by
  obtain ⟨t, c, hhist, hg⟩ := patSlot_eq_some (runApp {} [pktOf patBad]) { lastVersion := some 0 } []
    (by eval_app)
  have hsum : summary (runApp {} [pktOf patBad]) = some (1, 1, 1) := by eval_app
  rw [hhist] at hsum
  simp only [summary, Option.some.injEq, Prod.mk.injEq] at hsum
  have hc : c.nextTag = 1 := hsum.2.1
  have ht : t.get 0x1e0 = none := Tab.get_of_ge _ _ (by omega)
  obtain ⟨t', sfin, h1, h2, h3, h4, h5⟩ := damage_then_new_version_requests_runApp {} [pktOf patBad]
    t c hhist { lastVersion := some 0 } [] hg rfl patV1 (by decide +kernel) (by decide +kernel)
    (by decide +kernel) (by decide +kernel) (muxOf patV1) (by decide +kernel) (by eval_app)
    (by decide +kernel) (pktOf patV1) [pk0 (pktOf patV1) 188] (by decide +kernel)
    (by decide +kernel) 4 [] (by decide +kernel) (by simp) rfl
  have hsp : specPat (sectionBody patV1) = [.program 1 0x1e0] := by decide +kernel
  rw [hsp] at h1 h2 h3 h5
  refine ⟨t', sfin, h2, ⟨_, h1⟩, h3, h4, ?_⟩
  rw [h5 0x1e0 (by decide), hc]
  simp only [applied, patRequests, List.map_cons, List.map_nil, built, lastFor, List.reverse_cons,
    List.reverse_nil, List.nil_append, List.find?_cons, PatEntry.pid, beq_self_eq_true,
    Option.map_some, patRequest, handlerFor]

/-- `damage_then_new_version_requests_pat` on a TWO-packet transmission through the dispatcher
(`splitTx patV1 8`: 175 stuffing bytes after a non-zero `pointer_field`, 8 + 8 section bytes), from
`Demultiplex::new`'s state: the changes are queued by the second packet -/
example : ∃ t' sfin, pushModel App.sem (App.init {})
      [pk0 (startPkt 0 175 (patV1.take 8)) 0, pk0 (contPktOf 1 (patV1.drop 8)) 188]
      = .ok (t', ctxAfter (App.init {}).2 [(0x1e0, .pmt 0x1e0 1)])
    ∧ t'.get 0 = some (.pat sfin [0x1e0]) ∧ Quiescent 1 sfin := by
  have hsp : specPat (sectionBody patV1) = [.program 1 0x1e0] := by decide +kernel
  obtain ⟨t', sfin, h1, _, _, h3, h4, _⟩ := damage_then_new_version_requests_pat patV1
    (by decide +kernel) (by decide +kernel) (by decide +kernel) (by decide +kernel)
    ⟨List.replicate 175 0xff, 8, [], [patV1.drop 8 ++ List.replicate 176 0xff], []⟩
    (by decide +kernel) {} (psiInv_of_none _ _ rfl) (by eval_app) (Or.inr rfl)
    0 (App.init {}).1 (App.init {}).2 [] (Tab.get_insert_self _ _ _) (by decide +kernel)
    [pk0 (startPkt 0 175 (patV1.take 8)) 0, pk0 (contPktOf 1 (patV1.drop 8)) 188]
    (by decide +kernel) 4 [⟨false, patV1.drop 8 ++ List.replicate 176 0xff, 4⟩]
    (by decide +kernel) (by decide +kernel) rfl
  rw [hsp] at h1 h3
  exact ⟨t', sfin, h1, h3, h4⟩

example (t : Tab Handler) (c : Ctx) (hg : t.get 0 = some (.pat { lastVersion := some 0 } [])) :
    ∃ t' sfin, pushModel App.sem (t, c) [pk0 (pktOf patGood) 188] = .ok (t', c)
      ∧ t'.get 0 = some (.pat sfin []) ∧ ∀ q, q ≠ 0 → t'.get q = t.get q := by
  obtain ⟨t', sfin, h1, h2, _, h3⟩ := (damage_same_version_no_requests patGood patGood_wf
    (by decide +kernel) (muxOf patGood) patGood_mux { lastVersion := some 0 }
    (psiInv_of_none _ _ rfl) (by decide +kernel) (Or.inl rfl) 0 t c []
    [pk0 (pktOf patGood) 188] (by decide +kernel) 4 [] (by decide +kernel) (by simp) rfl).1 hg
  exact ⟨t', sfin, h1, h2, h3⟩

/-- `damage_then_new_version_requests_pmt` applied: a fresh PMT handler on PID 0x20 and the intact
PMT `pmtGood` (one H.264 stream on PID 0x100): exactly one `Req.stream` is appended, slot 0x100
gets the PES filter built for it (tag = `c.nextTag`) -/
example : WellFormedSection .syntax pmtGood ∧ Ts.CrcSpec.crc pmtGood = 0 ∧
    ∀ (c : Ctx), ∃ t' sfin,
      pushModel App.sem (Tab.insert [] 0x20 (.pmt 0x20 1 {} []), c)
          [⟨pktOn32 pmtGood, 0, 0x20, false, false⟩]
        = .ok (t', ctxAfter c [(0x100, .stream 0x20 0x1b 0x100 0x100 [] [])])
      ∧ t'.get 0x20 = some (.pmt 0x20 1 sfin [0x100]) ∧ Quiescent 0 sfin
      ∧ t'.get 0x100 = some (.pes c.nextTag {}) := by
  refine ⟨by decide +kernel, by decide +kernel, fun c => ?_⟩
  have hst : streamsOf (sectionBody pmtGood) = [⟨0x1b, 0x100, []⟩] := by decide +kernel
  have hpcr : specPcrPid (sectionBody pmtGood) = 0x100 := by decide +kernel
  have hpd : specProgramDescBytes (sectionBody pmtGood) = [] := by decide +kernel
  obtain ⟨t', sfin, h1, _, _, h3, h4, h5⟩ := damage_then_new_version_requests_pmt 0x20 1 pmtGood
    (by decide +kernel) (by decide +kernel) (by decide +kernel) (by decide +kernel)
    (by decide +kernel) (muxOf pmtGood) (by decide +kernel) {} (psiInv_of_none _ _ rfl)
    (by eval_app) (Or.inl rfl) 0x20 (Tab.insert [] 0x20 (.pmt 0x20 1 {} [])) c []
    (Tab.get_insert_self _ _ _) (by decide +kernel) [⟨pktOn32 pmtGood, 0, 0x20, false, false⟩]
    (by decide +kernel) 4 [] (by decide +kernel) (by simp) rfl
  have hv0 : versionOf pmtGood = 0 := by decide +kernel
  rw [hv0] at h4
  simp only [hst, hpcr, hpd] at h1 h3 h5
  refine ⟨t', sfin, h1, h3, h4, ?_⟩
  rw [h5 0x100 (by decide)]
  simp only [applied, pmtRequests, List.map_cons, List.map_nil, built, lastFor, List.reverse_cons,
    List.reverse_nil, List.nil_append, List.find?_cons, beq_self_eq_true, Option.map_some,
    streamRequest, handlerFor]
  rfl

example : lastApplied [⟨patBad, some 5⟩] = none ∧ lastApplied [⟨patV1, some 5⟩, ⟨patBad, some 5⟩] = some 1 := by
  decide +kernel

/-! ### F2 without damage: a legal duplicate of a multi-packet table's first packet (case N5) -/

/-- **A duplicated start blocks its own table.**  `S`: a well-formed section in a `WellFormedMux`
packetisation `m` that needs MORE than one packet (`hk : m.k < S.length`) with `pointer_field = 0`
(`hpre`); `s`: ANY state with the buffer invariant (e.g. a fresh filter, or one that applied another
version).  The starting payload `m.first S` arrives TWICE (a duplicate transport packet: same bytes,
same continuity counter — the section layer never looks at the counter), then the continuation
payloads `rest`.  Then the whole run delivers NOTHING: the first copy starts buffering and records
`versionOf S`; the second copy is taken for a repetition of that version (`dedupIgnore`), and the
continuations are dropped.  The version stays recorded, so every later intact transmission of `S` is
blocked as well (`damage_same_version_blocked`).  No byte of the table was damaged or lost. -/
theorem duplicate_start_blocks_section (S : Bytes) (hS : WellFormedSection .syntax S) (h8 : 8 ≤ S.length)
    (m : Mux) (hm : WellFormedMux .syntax S m) (hk : m.k < S.length) (hpre : m.pre = [])
    (s : St) (hs : PsiInv .syntax s) (off off' : Nat) (rest : List Pl)
    (hus : ∀ q ∈ rest, q.us = false) (hrest : rest.map (·.bytes) = m.rest) :
    ∃ s1 sfin,
      consumePayload Psi.table s true (m.first S) off = .ok (s1, [])
      ∧ s1.lastVersion = some (versionOf S)
      ∧ runPl Psi.table s1 (⟨true, m.first S, off'⟩ :: rest) = .ok (sfin, [])
      ∧ runPl Psi.table s (⟨true, m.first S, off⟩ :: ⟨true, m.first S, off'⟩ :: rest) = .ok (sfin, [])
      ∧ sfin.lastVersion = some (versionOf S) ∧ PsiInv .syntax sfin := by
  obtain ⟨s1, h1, hv1, hi1⟩ := first_payload_incomplete S hS h8 m hm hk s hs off
  rw [hpre] at h1
  have h1' : consumePayload Psi.table s true (m.first S) off = .ok (s1, []) := by
    rw [h1]; simp [preSpec]
  obtain ⟨sfin, _, h2, hv2, hi2⟩ := damage_same_version_blocked S hS h8 m hm s1 hi1 hv1 off' rest hus hrest
  refine ⟨s1, sfin, h1', hv1, h2 hpre, ?_, hv2, hi2⟩
  have := h2 hpre
  simp only [runPl, h1', R.ok_bind] at this ⊢
  rw [this]
  rfl

/-- **Case N5 on real bytes, whole application** (`runApp {}` = harness `demux b0t0`).  `pmtN5`: an
intact PMT, version 1, 40 streams, 216 bytes, sent on PID 0x100 as packets `a` (unit start, counter 0,
183 section bytes) and `b` (continuation, counter 1).  `PAT, a, a, b` — the first packet DUPLICATED:
only `ByPid(0)` and `Pmt(0x100, 1)` are ever requested; the PMT filter is left buffering 183 bytes with
`dedupIgnore` set and version 1 recorded; two further intact transmissions `a, b` change nothing.
Control `PAT, a, b`: the 40 stream requests are issued.  Identical to the output of the real code.

SCOPE OBSERVATION (DESIGN.md 8.1b), NOT a known finding.  Duplicate packets are legal (ISO/IEC
13818-1 2.4.3.3), and nothing is damaged or lost, so F2 needs no damage; but duplicates are outside
what C11 quantifies over and outside `WellFormedMux` / `Transmits`.  The mechanism is
`duplicate_start_blocks_section`. -/
theorem duplicate_start_blocks_table :
    (WellFormedSection .syntax pmtN5 ∧ pmtN5.length = 216 ∧ Ts.CrcSpec.crc pmtN5 = 0
      ∧ versionOf pmtN5 = 1 ∧ byteD pmtN5 0 = 2)
    ∧ n5Bytes = pktOf patN5 ++ n5a ++ n5a ++ n5b ∧ n5CtlBytes = pktOf patN5 ++ n5a ++ n5b
    ∧ (plOf n5a = some ⟨true, n5Mux.first pmtN5, 4⟩ ∧ readBits n5a 28 4 = 0 ∧ readBits n5b 28 4 = 1)
    ∧ requests (runApp {} [n5Bytes]) = [.byPid 0, .pmt 0x100 1]
    ∧ pmtSlot100 (runApp {} [n5Bytes])
        = some ({ lastVersion := some 1, dedupIgnore := true, buf := pmtN5.take 183, remaining := some 33 }, [])
    ∧ requests (runApp {} [n5Bytes ++ n5a ++ n5b ++ n5a ++ n5b]) = [.byPid 0, .pmt 0x100 1]
    ∧ requests (runApp {} [n5CtlBytes])
        = .byPid 0 :: .pmt 0x100 1 ::
            (List.range 40).map (fun i => Req.stream 0x100 0x1b (0x101 + i) 0x101 [] []) :=
  ⟨⟨pmtN5_facts.1, pmtN5_facts.2.1, pmtN5_facts.2.2.1, pmtN5_facts.2.2.2.1, pmtN5_facts.2.2.2.2.1⟩,
   rfl, rfl, ⟨n5_plOf.2.2.1, n5_plOf.2.2.2.2.1, n5_plOf.2.2.2.2.2⟩, n5_run, n5_slot, n5_run_more, n5_ctl_run⟩

example : ∃ s1 sfin,
    consumePayload Psi.table {} true (n5Mux.first pmtN5) 4 = .ok (s1, [])
    ∧ s1.lastVersion = some 1
    ∧ runPl Psi.table {} [⟨true, n5Mux.first pmtN5, 4⟩, ⟨true, n5Mux.first pmtN5, 4⟩,
        ⟨false, pmtN5.drop 183 ++ List.replicate 151 0xff, 4⟩] = .ok (sfin, [])
    ∧ sfin.lastVersion = some 1 := by
  obtain ⟨w1, w2, _, w4, _, w6, w7, w8⟩ := pmtN5_facts
  obtain ⟨s1, sfin, a1, a2, _, a4, a5, _⟩ := duplicate_start_blocks_section pmtN5 w1 (by rw [w2]; decide)
    n5Mux w6 w7 w8 {} (psiInv_of_none _ _ rfl) 4 4 [⟨false, pmtN5.drop 183 ++ List.replicate 151 0xff, 4⟩]
    (by simp) rfl
  rw [w4] at a2 a5
  exact ⟨s1, sfin, a1, a2, a4, a5⟩

/-! ### non-vacuity: evaluated instances of the remaining general theorems -/

/-- `C11_gap_is_F2` APPLIED: history = the corrupt copy `patBad`; the intact `patGood` in one packet is
not delivered (`hfail`, from `damage_same_version_blocked`); all other hypotheses evaluated.  The
theorem then returns the cause: the last STARTED version is that of `patGood`. -/
example : ({ lastVersion := some 0 } : St).lastVersion = some (versionOf patGood) := by
  have hhist : runPl Psi.table {} [⟨true, plBytesOf patBad, 4⟩]
      = .ok ({ lastVersion := some 0 }, [⟨patBad, some 5⟩]) := by decide +kernel
  refine C11_gap_is_F2 [⟨true, plBytesOf patBad, 4⟩] _ _ (by decide +kernel) hhist
    patGood (muxOf patGood) 4 [] patGood_wf (by decide +kernel) patGood_crc patGood_mux (by simp) rfl ?_
  rintro ⟨sfin, ds, hrun, hmem⟩
  obtain ⟨sfin', _, hb, _⟩ := damage_same_version_blocked patGood patGood_wf (by decide +kernel)
    (muxOf patGood) patGood_mux { lastVersion := some 0 } (psiInv_of_none _ _ rfl)
    (by decide +kernel) 4 [] (by simp) rfl
  rw [hb rfl] at hrun
  cases hrun
  simp at hmem

example :
    (∃ sfin, runPl Psi.table { lastVersion := some 0 } [⟨true, (muxOf patGood).first patGood, 4⟩]
        = .ok (sfin, []) ∧ sfin.lastVersion = some 0)
    ∧ (∃ sfin, runPl Psi.table { lastVersion := some 0 } [⟨true, (muxOf patV1).first patV1, 4⟩]
        = .ok (sfin, [⟨patV1, some 5⟩]) ∧ sfin.lastVersion = some 1) := by
  obtain ⟨s0, h0, v0, _⟩ := C11_deliveries_exact patGood patGood_wf (by decide +kernel)
    patGood_crc (muxOf patGood) patGood_mux { lastVersion := some 0 }
    (psiInv_of_none _ _ rfl) 4 [] (by simp) rfl
  obtain ⟨s1, h1, v1, _⟩ := C11_deliveries_exact patV1 patV1_wf (by decide +kernel)
    patV1_crc (muxOf patV1) patV1_mux { lastVersion := some 0 }
    (psiInv_of_none _ _ rfl) 4 [] (by simp) rfl
  have e0 : versionOf patGood = 0 := by decide +kernel
  have e1 : versionOf patV1 = 1 := by decide +kernel
  have k1 : (muxOf patV1).k = patV1.length := rfl
  rw [e0] at h0 v0
  rw [e1, k1] at h1
  rw [e1] at v1
  rw [preSpec_idle _ _ _ rfl] at h0 h1
  simp only [if_true, List.append_nil] at h0
  rw [if_neg (by decide)] at h1
  refine ⟨⟨s0, h0, v0⟩, ⟨s1, ?_, v1⟩⟩
  rw [h1]
  rfl

/-- `damaged_start_then_same_version_blocked` APPLIED: a fresh filter; a TRUNCATED start (only the
first 8 bytes of `patGood` arrive, `pointer_field = 0`); a wrong continuation payload (3 bytes);
then the intact `patGood` in one packet: nothing is ever delivered -/
example : ∃ s1 sfin,
    runPl Psi.table {} [⟨true, 0x00 :: patGood.take 8, 4⟩, ⟨false, [0xaa, 0xbb, 0xcc], 4⟩] = .ok (s1, [])
    ∧ s1.lastVersion = some 0
    ∧ runPl Psi.table {} ([⟨true, 0x00 :: patGood.take 8, 4⟩, ⟨false, [0xaa, 0xbb, 0xcc], 4⟩]
        ++ [⟨true, (muxOf patGood).first patGood, 4⟩]) = .ok (sfin, []) := by
  obtain ⟨s1, ds, sfin, a1, a2, _, a4, _⟩ := damaged_start_then_same_version_blocked {}
    (psiInv_of_none _ _ rfl) [] (patGood.take 8) 4 (by decide) (by decide +kernel)
    [⟨false, [0xaa, 0xbb, 0xcc], 4⟩] (by simp) (by simp)
    patGood patGood_wf (by decide +kernel) (by decide +kernel) (muxOf patGood) patGood_mux
    rfl 4 [] (by simp) rfl
  have e : runPl Psi.table {} [⟨true, 0x00 :: patGood.take 8, 4⟩, ⟨false, [0xaa, 0xbb, 0xcc], 4⟩]
      = .ok ({ lastVersion := some 0, buf := patGood.take 8 ++ [0xaa, 0xbb, 0xcc], remaining := some 5 }, []) := by
    decide +kernel
  have a1' : runPl Psi.table {} [⟨true, 0x00 :: patGood.take 8, 4⟩, ⟨false, [0xaa, 0xbb, 0xcc], 4⟩]
      = .ok (s1, ds) := a1
  rw [e] at a1'
  cases a1'
  exact ⟨_, sfin, e, rfl, a4⟩

/-- `pointer_beyond_payload_reset` APPLIED: a filter that has applied version 0; a unit-start payload
`02 ff ff` (`pointer_field = 2`, only two bytes follow): reset at once — the version is forgotten —
and the model's own evaluation agrees -/
example :
    consumePayload Psi.table { lastVersion := some 0 } true [0x02, 0xff, 0xff] 4
      = .ok (procReset Psi.table { lastVersion := some 0 }, [])
    ∧ (procReset Psi.table { lastVersion := some 0 }).lastVersion = none
    ∧ consumePayload Psi.table { lastVersion := some 0 } true [0x02, 0xff, 0xff] 4 = .ok ({}, []) :=
  ⟨pointer_beyond_payload_reset { lastVersion := some 0 } (psiInv_of_none _ _ rfl) [0xff, 0xff] 4
      (by simp) (by decide),
   rfl, by decide +kernel⟩

/-- `short_first_share_never_applied_section` APPLIED: the first 5 bytes of the intact `patV1` at the
end of a unit-start payload (`pointer_field = 0`), the other 11 in a continuation payload, on a filter
that remembers version 0: nothing is delivered (F13's shape) -/
example : ∃ sfin, runPl Psi.table { lastVersion := some 0 }
    [⟨true, 0 :: patV1.take 5, 4⟩, ⟨false, patV1.drop 5 ++ List.replicate 173 0xff, 4⟩] = .ok (sfin, []) :=
  short_first_share_never_applied_section patV1 5 (by decide) (by decide) (by decide +kernel)
    { lastVersion := some 0 } (psiInv_of_none _ _ rfl) 4
    [⟨false, patV1.drop 5 ++ List.replicate 173 0xff, 4⟩] (by simp) (by decide +kernel)

end Ts.Props.C11
