import Ts.Lemmas.C01b
import Ts.Props.C06
import Ts.Props.C07
/-!
# C01 helper lemmas, part 3: the application's `consume` is total; the dispatcher preserves the
table invariant; `push` / `runApp` are total
-/
namespace Ts.Lemmas.C01
open Ts Ts.Demux Ts.App

/-! ### the recorder's scripted changes -/

theorem scriptChanges_ok (ops : List ScriptOp) : ∀ (c : Ctx), ∀ ch ∈ (scriptChanges c ops).2, ChgOk ch := by
  induction ops with
  | nil => intro c ch h; simp [scriptChanges] at h
  | cons op ops ih =>
    intro c ch h
    cases op with
    | ins pid =>
      simp only [scriptChanges] at h
      rcases List.mem_cons.1 h with h | h
      · subst h; trivial
      · exact ih _ ch h
    | rem pid =>
      simp only [scriptChanges] at h
      rcases List.mem_cons.1 h with h | h
      · subst h; trivial
      · exact ih _ ch h

/-! ### `App.consume` -/

theorem consume_total (h : Handler) (c : Ctx) (pk : Pk) (hi : HInv h) (hp : pk.bytes.length = 188) :
    ∃ h' c' chg, App.consume h c pk = .ok (h', c', chg) ∧ HInv h' ∧ ∀ ch ∈ chg, ChgOk ch := by
  cases h with
  | pat s reg =>
    obtain ⟨s', ds, h1, i1, i2, _, hd⟩ := consume_table_total s hi.1 hi.2 pk.bytes hp
    obtain ⟨c', reg', chg, h2, hc⟩ := runDeliveries_total patSection
      (fun c reg data h12 => patSection_total c reg data h12) ds c reg
      (fun d hm => ⟨(hd d hm).1, (hd d hm).2.1⟩)
    refine ⟨.pat s' reg', c', chg, ?_, ⟨i1, i2⟩, hc⟩
    simp only [App.consume, h1, R.ok_bind, h2]
    rfl
  | pmt pid prog s reg =>
    obtain ⟨s', ds, h1, i1, i2, _, hd⟩ := consume_table_total s hi.1 hi.2 pk.bytes hp
    obtain ⟨c', reg', chg, h2, hc⟩ := runDeliveries_total (fun c r d => pmtSection c pid r d)
      (fun c reg data h12 => pmtSection_total c pid reg data h12) ds c reg
      (fun d hm => ⟨(hd d hm).1, (hd d hm).2.1⟩)
    refine ⟨.pmt pid prog s' reg', c', chg, ?_, ⟨i1, i2⟩, hc⟩
    simp only [App.consume, h1, R.ok_bind, h2]
    rfl
  | pes tag f =>
    obtain ⟨f', evs, h1⟩ := Props.C08.consume_total f pk.bytes hp
    obtain ⟨c', h2⟩ := esEvents_total c.cfg.touch tag pk.bytes pk.off evs c
      (fun o l hm => begin_len f f' pk.bytes evs hp h1 o l hm)
    refine ⟨.pes tag f', c', [], ?_, trivial, by simp⟩
    simp only [App.consume, h1, R.ok_bind, h2]
    rfl
  | recorder tag =>
    simp only [App.consume]
    cases htc : c.cfg.touch
    · simp only [Bool.false_eq_true, if_false, R.pure_eq]
      cases hl : c.cfg.script.lookup (pk.off / 188) with
      | none => exact ⟨_, _, _, rfl, trivial, by simp⟩
      | some ops => exact ⟨_, _, _, rfl, trivial, scriptChanges_ok ops (c.emit (.pkt tag pk.off))⟩
    · simp only [if_true, touchPacket_ok _ hp, R.pure_eq, R.ok_bind]
      cases hl : c.cfg.script.lookup (pk.off / 188) with
      | none => exact ⟨_, _, _, rfl, trivial, by simp⟩
      | some ops => exact ⟨_, _, _, rfl, trivial, scriptChanges_ok ops (c.emit (.pkt tag pk.off))⟩

theorem sem_construct_total (c : Ctx) (pid : Nat) :
    ∃ h c', App.sem.construct c pid = .ok (h, c') ∧ HInv h :=
  ⟨_, _, rfl, construct_hinv c (.byPid pid)⟩

/-! ### the dispatcher, for any handler semantics with an invariant -/

section Generic
variable {H C : Type}

def TabInvG (I : H → Prop) (t : Tab H) : Prop := ∀ p h, t.get p = some h → I h

def ChgOkG (I : H → Prop) : Change H → Prop
  | .insert _ h => I h
  | .remove _ => True

theorem tabInvG_nil (I : H → Prop) : TabInvG I ([] : Tab H) := by
  intro p h hg
  rw [Tab.get_of_ge _ _ (Nat.zero_le _)] at hg
  cases hg

theorem tabInvG_insert (I : H → Prop) (t : Tab H) (p : Nat) (h : H) (ht : TabInvG I t) (hh : I h) :
    TabInvG I (t.insert p h) := by
  intro q h' hg
  rw [Tab.get_insert] at hg
  by_cases hq : q = p
  · rw [if_pos hq] at hg; cases hg; exact hh
  · rw [if_neg hq] at hg; exact ht q h' hg

theorem tabInvG_remove (I : H → Prop) (t : Tab H) (p : Nat) (ht : TabInvG I t) :
    TabInvG I (t.remove p) := by
  intro q h' hg
  rw [Tab.get_remove] at hg
  by_cases hq : q = p
  · rw [if_pos hq] at hg; cases hg
  · rw [if_neg hq] at hg; exact ht q h' hg

theorem tabInvG_applyChange (I : H → Prop) (t : Tab H) (ch : Change H) (ht : TabInvG I t)
    (hc : ChgOkG I ch) : TabInvG I (applyChange t ch) := by
  cases ch with
  | insert p h => exact tabInvG_insert I t p h ht hc
  | remove p => exact tabInvG_remove I t p ht

theorem tabInvG_applyChanges (I : H → Prop) (cs : List (Change H)) :
    ∀ (t : Tab H), TabInvG I t → (∀ ch ∈ cs, ChgOkG I ch) → TabInvG I (applyChanges t cs) := by
  induction cs with
  | nil => intro t ht _; exact ht
  | cons a cs ih =>
    intro t ht hc
    rw [applyChanges_cons]
    exact ih _ (tabInvG_applyChange I t a ht (hc a (List.mem_cons_self ..)))
      (fun ch hm => hc ch (List.mem_cons_of_mem _ hm))

theorem ensure_totalG (sem : Sem H C) (I : H → Prop)
    (hK : ∀ c pid, ∃ h c', sem.construct c pid = .ok (h, c') ∧ I h)
    (t : Tab H) (c : C) (pid : Nat) (ht : TabInvG I t) :
    ∃ t' c', ensure sem t c pid = .ok (t', c') ∧ TabInvG I t' := by
  by_cases hc : t.contains pid = true
  · exact ⟨t, c, ensure_of_contains sem t c pid hc, ht⟩
  · have hc' : t.contains pid = false := by simpa using hc
    obtain ⟨h, c', hk, hh⟩ := hK c pid
    refine ⟨t.insert pid h, c', ?_, tabInvG_insert I t pid h ht hh⟩
    rw [ensure_of_absent sem t c pid hc', hk]
    rfl

theorem specStep_totalG (sem : Sem H C) (I : H → Prop)
    (hK : ∀ c pid, ∃ h c', sem.construct c pid = .ok (h, c') ∧ I h)
    (hS : ∀ h c pk, I h → pk.bytes.length = 188 →
      ∃ h' c' chg, sem.consume h c pk = .ok (h', c', chg) ∧ I h' ∧ ∀ ch ∈ chg, ChgOkG I ch)
    (t : Tab H) (c : C) (pk : Pk) (ht : TabInvG I t) (hp : pk.bytes.length = 188) :
    ∃ t' c', specStep sem (t, c) pk = .ok (t', c') ∧ TabInvG I t' := by
  obtain ⟨t1, c1, hE, ht1⟩ := ensure_totalG sem I hK t c pk.pid ht
  rw [specStep_eq, hE]
  simp only [R.ok_bind]
  by_cases hf : pk.flagged = true
  · simp only [hf, if_true]
    exact ⟨t1, c1, rfl, ht1⟩
  · simp only [hf, Bool.false_eq_true, if_false]
    have hs := Props.C06.unwrap_never_panics sem t c pk.pid t1 c1 hE
    obtain ⟨h, hh⟩ := Option.isSome_iff_exists.1 hs
    obtain ⟨h', c', chg, hc, hi', hchg⟩ := hS h c1 pk (ht1 _ _ hh) hp
    simp only [hh, hc, R.ok_bind]
    exact ⟨_, _, rfl, tabInvG_applyChanges I chg _ (tabInvG_insert I t1 pk.pid h' ht1 hi') hchg⟩

theorem pushSpec_totalG (sem : Sem H C) (I : H → Prop)
    (hK : ∀ c pid, ∃ h c', sem.construct c pid = .ok (h, c') ∧ I h)
    (hS : ∀ h c pk, I h → pk.bytes.length = 188 →
      ∃ h' c' chg, sem.consume h c pk = .ok (h', c', chg) ∧ I h' ∧ ∀ ch ∈ chg, ChgOkG I ch)
    (pks : List Pk) : ∀ (t : Tab H) (c : C), TabInvG I t → (∀ pk ∈ pks, pk.bytes.length = 188) →
      ∃ t' c', pushSpec sem (t, c) pks = .ok (t', c') ∧ TabInvG I t' := by
  induction pks with
  | nil => intro t c ht _; exact ⟨t, c, rfl, ht⟩
  | cons pk rest ih =>
    intro t c ht hl
    obtain ⟨t1, c1, h1, ht1⟩ := specStep_totalG sem I hK hS t c pk ht (hl pk (List.mem_cons_self ..))
    obtain ⟨t2, c2, h2, ht2⟩ := ih t1 c1 ht1 (fun q hq => hl q (List.mem_cons_of_mem _ hq))
    refine ⟨t2, c2, ?_, ht2⟩
    rw [pushSpec_cons, h1]
    exact h2

/-- `Demultiplex::push` on EVERY byte string (any length; `chunks_exact` drops the remainder,
chunks with a bad sync byte are skipped) -/
theorem push_totalG (sem : Sem H C) (I : H → Prop)
    (hK : ∀ c pid, ∃ h c', sem.construct c pid = .ok (h, c') ∧ I h)
    (hS : ∀ h c pk, I h → pk.bytes.length = 188 →
      ∃ h' c' chg, sem.consume h c pk = .ok (h', c', chg) ∧ I h' ∧ ∀ ch ∈ chg, ChgOkG I ch)
    (t : Tab H) (c : C) (buf : Bytes) (base : Nat) (ht : TabInvG I t) :
    ∃ t' c', push sem (t, c) buf base = .ok (t', c') ∧ TabInvG I t' := by
  obtain ⟨pks, hf⟩ := Props.C07.frame_total buf base
  have hw := Props.C07.frame_packets_wellformed buf base pks hf
  obtain ⟨t', c', h1, ht'⟩ := pushSpec_totalG sem I hK hS pks t c ht (fun pk hm => (hw pk hm).1)
  refine ⟨t', c', ?_, ht'⟩
  unfold push
  rw [hf]
  simp only [R.ok_bind]
  rw [Props.C06.push_refines_spec]
  exact h1

theorem pushAll_totalG (sem : Sem H C) (I : H → Prop)
    (hK : ∀ c pid, ∃ h c', sem.construct c pid = .ok (h, c') ∧ I h)
    (hS : ∀ h c pk, I h → pk.bytes.length = 188 →
      ∃ h' c' chg, sem.consume h c pk = .ok (h', c', chg) ∧ I h' ∧ ∀ ch ∈ chg, ChgOkG I ch)
    (bufs : List Bytes) : ∀ (t : Tab H) (c : C) (base : Nat), TabInvG I t →
      ∃ t' c', pushAll sem (t, c) bufs base = .ok (t', c') ∧ TabInvG I t' := by
  induction bufs with
  | nil => intro t c base ht; exact ⟨t, c, rfl, ht⟩
  | cons b bs ih =>
    intro t c base ht
    obtain ⟨t1, c1, h1, ht1⟩ := push_totalG sem I hK hS t c b base ht
    obtain ⟨t2, c2, h2, ht2⟩ := ih t1 c1 (base + b.length) ht1
    refine ⟨t2, c2, ?_, ht2⟩
    unfold pushAll
    rw [h1]
    exact h2

end Generic

/-! ### the concrete application -/

theorem chgOk_iff (ch : Change Handler) : ChgOk ch ↔ ChgOkG HInv ch := by
  cases ch <;> exact Iff.rfl

theorem app_hS (h : Handler) (c : Ctx) (pk : Pk) (hi : HInv h) (hp : pk.bytes.length = 188) :
    ∃ h' c' chg, App.sem.consume h c pk = .ok (h', c', chg) ∧ HInv h' ∧ ∀ ch ∈ chg, ChgOkG HInv ch := by
  obtain ⟨h', c', chg, h1, h2, h3⟩ := consume_total h c pk hi hp
  exact ⟨h', c', chg, h1, h2, fun ch hm => (chgOk_iff ch).1 (h3 ch hm)⟩

def TabInv (t : Tab Handler) : Prop := ∀ p h, t.get p = some h → HInv h

theorem tabInv_iff (t : Tab Handler) : TabInv t ↔ TabInvG HInv t := Iff.rfl

theorem init_inv (cfg : Cfg) : TabInvG HInv (App.init cfg).1 := by
  unfold App.init
  exact tabInvG_insert HInv [] 0 _ (tabInvG_nil HInv) (construct_hinv _ _)

end Ts.Lemmas.C01
