import Ts.Basic
import Ts.Model.Psi
/-!
# Vocabulary of the statement-level translations (`Ts/Gen/PsiGen.lean`, written by `tools/gen_psi.py`)

The generated functions are Rust statements transcribed into the panic monad `R`.  What they
manipulate:

* `Slice` — a `&[u8]`: its bytes together with where it points (`src = some o`: the slice starts
  at byte `o` of the transport packet being consumed; `none`: it points into the section buffer
  `self.buf`).  Sub-slicing is checked (`upto`, `from`, `sub`, `at` panic exactly where Rust's
  slice / index operators do) and moves `src` along, so zero-copy is visible in the translation.
* `Pk` — what `SectionPacketConsumer::consume` observes of the packet: `payload()` and
  `payload_unit_start_indicator()`.
* the leaf constructors `SectionCommonHeader::new`, `TableSyntaxHeader::new`,
  `TableSyntaxHeader::version`, `mpegts_crc::sum32` are the model's functions (their bit-level
  expressions are translated and tied separately, `Ts/Props/Ties/ExprPsi.lean`).
-/
namespace Ts.Stmt
open Ts

structure Slice where
  bytes : Bytes
  src : Option Nat
  deriving DecidableEq, Repr

namespace Slice
def len (s : Slice) : Nat := s.bytes.length
/-- `s[i]` -/
def get (s : Slice) (i : Nat) : R Nat := byteAt s.bytes i
/-- `&s[..n]` -/
def upto (s : Slice) (n : Nat) : R Slice := do
  let b ← sliceTo s.bytes n
  pure ⟨b, s.src⟩
/-- `&s[n..]` -/
def «from» (s : Slice) (n : Nat) : R Slice := do
  let b ← sliceFrom s.bytes n
  pure ⟨b, s.src.map (· + n)⟩
/-- `&s[a..b]` -/
def sub (s : Slice) (a b : Nat) : R Slice := do
  let x ← sliceR s.bytes a b
  pure ⟨x, s.src.map (· + a)⟩
/-- `&self.buf[..]`: a view of the section buffer -/
def ofVec (b : Bytes) : Slice := ⟨b, none⟩
end Slice

structure Pk where
  payload : Option Slice
  pusi : Bool
  deriving DecidableEq, Repr

/-- `SectionCommonHeader::new(s)` -/
def headerNew (s : Slice) : R Psi.Header := Psi.headerNew s.bytes

/-- `TableSyntaxHeader::new(s)`: asserts `s.len() >= 5`, keeps the slice -/
def tshNew (s : Slice) : R Slice := do
  assertR (decide (s.bytes.length ≥ Psi.TSH)) "assert!(buf.len() >= Self::SIZE)"
  pure s

/-- `TableSyntaxHeader::version()` -/
def tshVersion (t : Slice) : R Nat := do
  let b2 ← byteAt t.bytes 2
  pure ((b2 >>> 1) &&& 0b0001_1111)

/-- `mpegts_crc::sum32(s)` -/
def sum32 (s : Slice) : R Nat := Crc.sum32 s.bytes

/-- header byte 3 of a transport packet (`adaptation_control()` / `continuity_counter()` derive from it) -/
def byte3 (s : Slice) : R Nat := byteAt s.bytes 3

/-- `AdaptationField::new(s)`: asserts a non-empty slice, keeps it -/
def afNew (s : Slice) : R Slice := do
  assertR (!s.bytes.isEmpty) "assert!(!buf.is_empty())"
  pure s

/-- `StreamInfo::es_info_length()`: the 12-bit length in bytes 3-4 of a stream entry -/
def esInfoLen (s : Slice) : R Nat := do
  let d3 ← byteAt s.bytes 3
  let d4 ← byteAt s.bytes 4
  pure (((d3 &&& 0b0000_1111) <<< 8) ||| d4)

/-- panics compare equal whatever their message: `x.erase = y.erase` is "same value, or both panic" -/
def erase {α : Type} : R α → R α
  | .ok a => .ok a
  | .panic _ => .panic ""

@[simp] theorem erase_ok {α} (a : α) : erase (R.ok a) = R.ok a := rfl
@[simp] theorem erase_panic {α} (s : String) : erase (R.panic s : R α) = R.panic "" := rfl
theorem erase_bind_congr {α β : Type} {x x' : R α} {g g' : α → R β}
    (hx : erase x = erase x') (hg : ∀ a, erase (g a) = erase (g' a)) : erase (x >>= g) = erase (x' >>= g') := by
  cases x with
  | ok a =>
    cases x' with
    | ok a' =>
      have : a = a' := by simpa [erase] using hx
      subst this
      exact hg a
    | panic m => simp [erase] at hx
  | panic m =>
    cases x' with
    | ok a' => simp [erase] at hx
    | panic m' => rfl

theorem erase_bind {α β} (x : R α) (f g : α → R β) (h : ∀ a, erase (f a) = erase (g a)) :
    erase (x >>= f) = erase (x >>= g) :=
  erase_bind_congr rfl h

theorem erase_bind_comm {α β γ : Type} (x : R α) (y : R β) (k : α → β → R γ) :
    erase (x >>= fun a => y >>= fun b => k a b) = erase (y >>= fun b => x >>= fun a => k a b) := by
  cases x <;> cases y <;> rfl

end Ts.Stmt
