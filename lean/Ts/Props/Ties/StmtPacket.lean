import Ts.Gen.PacketGen
import Ts.Props.Ties.StmtPsi
/-!
# Statement-level tie — the adaptation-field / payload split (audited with C12)

`Ts.Gen.PacketGen` is `Packet::{adaptation_field_length, content_offset, mk_payload, payload, mk_af,
adaptation_field}` of `/repo/src/packet.rs` as they read NOW, translated statement by statement by
`tools/gen_packet.py` (early `return`s, the `match offset.cmp(&len)`, checked indexing and slicing,
the module constants read from the source).  The theorems below prove, for EVERY byte string `p` (no
length hypothesis: a short buffer panics on both sides at the same operation), that the translated
functions compute exactly the model's `Packet.afLen / contentOffset / mkPayload / payloadRange /
mkAf / afRange` — the functions the C12 theorems `af_exact`, `payload_exact`, `split_sound` are
stated over — with the slices they return lying where the model's ranges say.
-/
-- as in `StmtPsi.lean`: the simp lists cover equivalent spellings of the source
set_option linter.unusedSimpArgs false
namespace Ts.Props.Ties.StmtPacket
open Ts Ts.Stmt Ts.Packet Ts.Gen Ts.Props.Ties.StmtPsi

def pk (p : Bytes) : PacketGen.Self := ⟨⟨p, some 0⟩⟩

def sliceOfRange (p : Bytes) (r : Nat × Nat) : Slice := ⟨rangeBytes p r, some r.1⟩

theorem tie_stmt_adaptation_field_length (p : Bytes) :
    PacketGen.adaptation_field_length (pk p) = Packet.afLen p := by
  unfold PacketGen.adaptation_field_length Packet.afLen pk Slice.get
  simp only [R.pure_eq, bind_ok_eta]

theorem tie_stmt_content_offset (p : Bytes) : PacketGen.content_offset (pk p) = Packet.contentOffset p := by
  unfold PacketGen.content_offset Packet.contentOffset
  rw [tie_stmt_adaptation_field_length]
  show (byteAt p 3 >>= _) = (byteAt p 3 >>= _)
  cases byteAt p 3 with
  | panic m => rfl
  | ok b3 =>
    show (if _ then _ else _) = (if _ then _ else _)
    cases Packet.hasAf b3 <;>
      simp only [ADAPTATION_FIELD_OFFSET, FIXED_HEADER_SIZE, Bool.not_true, Bool.not_false, Bool.false_eq_true,
        if_true, if_false, R.pure_eq, bind_ok_eta] <;>
      try (first | rfl | (cases Packet.afLen p <;> rfl))

theorem tie_stmt_mk_payload (p : Bytes) :
    PacketGen.mk_payload (pk p) = rmap (Option.map (sliceOfRange p)) (Packet.mkPayload p) := by
  unfold PacketGen.mk_payload Packet.mkPayload
  rw [tie_stmt_content_offset]
  cases Packet.contentOffset p with
  | panic m => rfl
  | ok offset =>
    simp only [R.ok_bind, R.pure_eq, pk, Slice.len]
    rcases Nat.lt_trichotomy offset p.length with hlt | heq | hgt
    · have hc : compare offset p.length = .lt := Nat.compare_eq_lt.mpr hlt
      have h1 : (offset == p.length) = false := by simp; omega
      have h2 : ¬ offset > p.length := by omega
      have hle : offset ≤ p.length := by omega
      simp only [hc, h1, h2, Bool.false_eq_true, if_false, from_ok ⟨p, some 0⟩ offset hle, sliceFrom_ok p offset hle,
        R.ok_bind, rmap_ok, Option.map, sliceOfRange, rangeBytes, Nat.zero_add]
      rw [List.take_of_length_le (by simp)]
    · subst heq
      have hc : compare p.length p.length = .eq := Nat.compare_eq_eq.mpr rfl
      simp only [hc, BEq.rfl, if_true, rmap_ok, Option.map]
    · have hc : compare offset p.length = .gt := Nat.compare_eq_gt.mpr hgt
      have h1 : (offset == p.length) = false := by simp; omega
      simp only [hc, h1, hgt, Bool.false_eq_true, if_false, if_true, rmap_ok, Option.map]

theorem tie_stmt_payload (p : Bytes) :
    PacketGen.payload (pk p) = rmap (Option.map (sliceOfRange p)) (Packet.payloadRange p) := by
  unfold PacketGen.payload Packet.payloadRange
  rw [tie_stmt_mk_payload]
  show (byteAt p 3 >>= _) = rmap _ (byteAt p 3 >>= _)
  cases byteAt p 3 with
  | panic m => rfl
  | ok b3 =>
    simp only [R.ok_bind, R.pure_eq, bind_ok_eta]
    cases Packet.hasPayload b3 <;> simp [rmap_ok, Bool.not_true, Bool.not_false]

theorem tie_stmt_mk_af (p : Bytes) (len : Nat) :
    PacketGen.mk_af (pk p) len = rmap (sliceOfRange p) (Packet.mkAf p len) := by
  unfold PacketGen.mk_af Packet.mkAf pk Slice.sub Stmt.afNew
  simp only [ADAPTATION_FIELD_OFFSET, FIXED_HEADER_SIZE, R.bind_assoc, R.ok_bind, R.pure_eq, rmap_bind, rmap_ok, Option.map]
  cases h : sliceR p (4 + 1) (4 + 1 + len) with
  | panic m => rfl
  | ok s =>
    have h5 : sliceR p 5 (5 + len) = .ok s := h
    simp only [R.ok_bind]
    have hs : s = (p.drop 5).take len := by
      unfold sliceR at h5
      split at h5
      · cases h5
      · split at h5
        · cases h5
        · have := R.ok.inj h5
          rw [← this]; congr 1; omega
    cases hE : assertR (!s.isEmpty) "assert!(!buf.is_empty())" with
    | panic m => rfl
    | ok u =>
      simp only [R.ok_bind, rmap_ok, sliceOfRange, rangeBytes, hs, Nat.zero_add]

theorem tie_stmt_adaptation_field (p : Bytes) :
    PacketGen.adaptation_field (pk p) = rmap (Option.map (sliceOfRange p)) (Packet.afRange p) := by
  unfold PacketGen.adaptation_field Packet.afRange
  simp only [tie_stmt_adaptation_field_length, tie_stmt_mk_af]
  show (byteAt p 3 >>= _) = rmap _ (byteAt p 3 >>= _)
  cases byteAt p 3 with
  | panic m => rfl
  | ok b3 =>
    simp only [R.ok_bind, R.pure_eq]
    cases Packet.hasAf b3
    · simp [rmap_ok]
    · simp only [if_true]
      cases Packet.hasPayload b3
      · simp only [Bool.false_eq_true, if_false, SIZE, ADAPTATION_FIELD_OFFSET, FIXED_HEADER_SIZE]
        cases Packet.afLen p with
        | panic m => rfl
        | ok len =>
          simp only [R.ok_bind, subR_ok 188 5 (by decide)]
          by_cases hl : len = 183
          · subst hl
            simp only [bne_self_eq_false, Bool.false_eq_true, if_false, bind_rmap, rmap_bind, R.pure_eq, rmap_ok, Option.map]
          · have h1 : (len != 183) = true := by simp [hl]
            simp only [h1, if_true, R.pure_eq, rmap_ok, Option.map]
      · simp only [if_true]
        cases Packet.afLen p with
        | panic m => rfl
        | ok len =>
          simp only [R.ok_bind]
          -- all four combinations of the two tests, in whichever order the source makes them
          by_cases hg : len > 182 <;> by_cases h0 : len = 0
          · omega
          · have h1 : (len == 0) = false := by simp [h0]
            simp only [hg, h1, decide_true, if_true, Bool.false_eq_true, if_false, R.pure_eq, rmap_ok, Option.map]
          · subst h0
            simp only [hg, BEq.rfl, decide_false, if_true, Bool.false_eq_true, if_false, R.pure_eq, rmap_ok, Option.map]
          · have h1 : (len == 0) = false := by simp [h0]
            simp only [hg, h1, decide_false, Bool.false_eq_true, if_false, bind_rmap, rmap_bind, R.pure_eq, rmap_ok, Option.map]

/-- the payload the code returns IS the byte range C12 proves (`payload_exact`): composition of the
statement tie with the model theorem is immediate because both speak about `Packet.payloadRange` -/
theorem code_payload_bytes (p : Bytes) :
    rmap (Option.map Slice.bytes) (PacketGen.payload (pk p)) = Packet.payload p := by
  rw [tie_stmt_payload, rmap_rmap]
  unfold Packet.payload
  cases Packet.payloadRange p with
  | panic m => rfl
  | ok o => cases o <;> rfl

theorem code_af_bytes (p : Bytes) :
    rmap (Option.map Slice.bytes) (PacketGen.adaptation_field (pk p)) = Packet.af p := by
  rw [tie_stmt_adaptation_field, rmap_rmap]
  unfold Packet.af
  cases Packet.afRange p with
  | panic m => rfl
  | ok o => cases o <;> rfl

end Ts.Props.Ties.StmtPacket
