import Ts.Lemmas.C10b
import Ts.Props.C05History
import Ts.Lemmas.AppEval
/-!
# C10 helper lemmas: the full-strength statement, its two gaps (F8, F9), the partial theorem

A short start resets the whole `Psi.table` chain (F8).  "The version last applied on PID `p`" is a
function of the HISTORY (`Ts.Spec.RoutingHistory.Event`s), not of a handler's state; it equals the
handler instance's version provided no PAT listing `p` was applied since.  The F8 / F8 control / F9
probes of `/verif/known_findings.json` as byte lists, cut into histories and evaluated by the kernel.
-/
namespace Ts.Lemmas.C10
open Ts Ts.Psi Ts.Spec Ts.Spec.SectionMux Ts.Lemmas.C03 Ts.App Ts.Demux Ts.Tables
open Ts.Spec.TableSpec Ts.Spec.Routing Ts.Spec.RoutingHistory Ts.Lemmas.C05H Ts.Lemmas.C05Run

/-! ### F8 mechanism: a short start resets the dedup layer -/

/-- the payload `b` of a unit-start packet carries fewer than 3 bytes after its `pointer_field`
bytes (`b[0]` = `pointer_field`): the 3-byte common section header straddles two packets, or the
pointer points at / beyond the end of the payload -/
def ShortStart (b : Bytes) : Prop := 1 ≤ b.length ∧ b.length < byteD b 0 + 4

instance (b : Bytes) : Decidable (ShortStart b) := by unfold ShortStart; infer_instance

/-- `reset()` through the whole `table` chain: buffer dropped, `Complete`, version forgotten -/
theorem procReset_table (s : St) :
    procReset Psi.table s
      = { s with buf := [], remaining := none, lastVersion := none, dedupIgnore := false } := rfl

/-- the pure form of `consume` on a short start: the pointer bytes (if any, and if they do not
cover the whole payload) go to the section being reassembled (at most one delivery, none when the
buffer layer is `Complete`); then the chain is reset -/
theorem short_start_spec (s : St) (b : Bytes) (off : Nat) (hshort : ShortStart b) :
    ∃ s0 ds, consumeSpec Psi.table s true b off = (procReset Psi.table s0, ds)
      ∧ s0.ignoreRest = s.ignoreRest ∧ ds.length ≤ 1 ∧ (s.remaining = none → ds = []) := by
  rw [consumeSpec_true]
  simp only
  split
  · exact ⟨s, [], rfl, rfl, by simp, fun _ => rfl⟩
  · have hns : ((b.drop 1).drop (byteD b 0)).length < 3 := by
      have := hshort.2; simp only [List.length_drop]; omega
    rw [if_pos hns]
    exact ⟨_, _, rfl, (preSpec_frame _ _ _).2.1, preSpec_length_le_one _ _ _,
      fun h => by rw [preSpec_idle _ _ _ h]⟩

/-- **F8 mechanism, payload level.**  Any unit-start payload with fewer than 3 bytes after the
pointer bytes, in any state satisfying the buffer invariant: `consume` does not panic, delivers at
most what the pointer bytes completed (nothing when the buffer layer is `Complete`), and leaves the
chain RESET: `lastVersion = none` — the dedup layer has forgotten the version it had applied. -/
theorem short_start_consume (s : St) (hs : PsiInv .syntax s) (b : Bytes) (off : Nat)
    (hshort : ShortStart b) :
    ∃ s' ds, consumePayload Psi.table s true b off = .ok (s', ds)
      ∧ s'.lastVersion = none ∧ s'.remaining = none ∧ s'.buf = [] ∧ s'.dedupIgnore = false
      ∧ s'.ignoreRest = s.ignoreRest ∧ ds.length ≤ 1 ∧ (s.remaining = none → ds = []) := by
  obtain ⟨s0, ds, h, hig, h1, h2⟩ := short_start_spec s b off hshort
  refine ⟨procReset Psi.table s0, ds, ?_, rfl, rfl, rfl, rfl, hig, h1, h2⟩
  rw [consumePayload_eq Psi.table cfgOk_table s true b off hshort.1 hs, h]

/-- the same for a 188-byte packet through `Psi.consume` -/
theorem short_start_packet (s : St) (hs : PsiInv .syntax s) (p : Bytes) (hl : p.length = 188) (q : Pl)
    (hq : plOf p = some q) (hus : q.us = true) (hshort : ShortStart q.bytes) :
    ∃ s' ds, Psi.consume Psi.table s p = .ok (s', ds)
      ∧ s'.lastVersion = none ∧ s'.remaining = none ∧ (s.remaining = none → ds = []) := by
  rw [consume_eq_plOf Psi.table s p hl, hq]
  simp only [hus]
  obtain ⟨s', ds, h, a, b, _, _, _, _, c⟩ := short_start_consume s hs q.bytes q.off hshort
  exact ⟨s', ds, h, a, b, c⟩

/-! ### "last applied on PID `p`" as a function of the history -/

/-- the version an event APPLIES on PID `p`: a PAT version on PID 0, a PMT version on `p ≠ 0` -/
def appliedOn (p : Nat) : Event → Option Nat
  | .patApplied v _ => if p = 0 then some v else none
  | .pmtApplied q v _ => if p ≠ 0 ∧ q = p then some v else none
  | _ => none

/-- `version_number` of the table last applied on PID `p` in the history `evs` (`none`: no table
was ever applied on `p`).  A function of the history alone — NOT of the state of whichever handler
instance currently sits in slot `p`. -/
def lastAppliedOn (p : Nat) (evs : List Event) : Option Nat := (evs.filterMap (appliedOn p)).getLast?

/-- after the history, `p` still carries tables: PID 0 is routed to the PAT filter / `p ≠ 0` is
routed to a PMT filter requested for program-map PID `p` -/
def tablePid (r : Route) (p : Nat) : Bool := if p = 0 then patRouted r else pmtRouted r p

/-- since the last table applied on `p`, a PAT version whose program loop lists `p` was applied
(the application then re-requests the PMT handler of `p`, known findings F7 / F9) -/
def RebuiltSinceLast (p : Nat) (evs : List Event) : Prop :=
  ∃ pre ev post, evs = pre ++ ev :: post ∧ (appliedOn p ev).isSome = true
    ∧ (∀ e ∈ post, appliedOn p e = none)
    ∧ ∃ e ∈ post, ∃ v es, e = .patApplied v es ∧ p ∈ es.map PatEntry.pid

theorem getLast?_filterMap_eq_some {α β : Type} (f : α → Option β) (b : β) (l : List α) :
    (l.filterMap f).getLast? = some b ↔
      ∃ pre x post, l = pre ++ x :: post ∧ f x = some b ∧ ∀ y ∈ post, f y = none := by
  rw [List.getLast?_eq_head?_reverse, ← List.filterMap_reverse, List.head?_filterMap,
    List.findSome?_eq_some_iff]
  constructor
  · rintro ⟨as, x, bs, e, hx, h⟩
    refine ⟨bs.reverse, x, as.reverse, ?_, hx, fun y hy => h y (List.mem_reverse.1 hy)⟩
    have := congrArg List.reverse e
    simpa using this
  · rintro ⟨pre, x, post, e, hx, h⟩
    exact ⟨post.reverse, x, pre.reverse, by subst e; simp, hx, fun y hy => h y (List.mem_reverse.1 hy)⟩

/-- the last application on `p`, exhibited: the history splits at it -/
theorem lastAppliedOn_eq_some (p v : Nat) (evs : List Event) :
    lastAppliedOn p evs = some v ↔
      ∃ pre ev post, evs = pre ++ ev :: post ∧ appliedOn p ev = some v ∧ ∀ e ∈ post, appliedOn p e = none :=
  getLast?_filterMap_eq_some (appliedOn p) v evs

theorem patVersion_kept_run (evs : List Event) (r : Route)
    (h : ∀ ev ∈ evs, ∀ v es, ev ≠ .patApplied v es) : (run r evs).patVersion = r.patVersion :=
  run_ind (P := fun r' => r'.patVersion = r.patVersion) (Q := fun ev => ∀ v es, ev ≠ .patApplied v es)
    (fun r' ev hr hev => by
      rw [← hr]
      cases ev with
      | patApplied v es => exact absurd rfl (hev v es)
      | pmtApplied p v b => rfl
      | esPacket q => cases hq : r'.slots q <;> simp only [stepRoute, hq]
      | repetition q => rfl) evs r rfl h

/-- **history level ⇒ instance level.**  If the last table applied on `p` had version `v` and no
PAT version listing `p` was applied since, the handler instance currently on `p` is the one that
applied it: the route's per-instance version of `p` is `v`. -/
theorem tableVersion_of_last (r0 : Route) (pre post : List Event) (ev : Event) (p v : Nat)
    (hev : appliedOn p ev = some v)
    (hpost : ∀ e ∈ post, appliedOn p e = none ∧ ∀ v' es, e = .patApplied v' es → p ∉ es.map PatEntry.pid)
    (hrt : tablePid (run r0 (pre ++ ev :: post)) p = true) :
    tableVersion (run r0 (pre ++ ev :: post)) p = some v := by
  rw [run_append, run_cons] at hrt ⊢
  unfold tablePid at hrt
  by_cases hp : p = 0
  · subst hp
    rw [if_pos rfl] at hrt
    obtain ⟨tag, hs⟩ := (patRouted_iff _).1 hrt
    have htv : ∀ r : Route, r.slots 0 = some (.byPid 0, tag) → tableVersion r 0 = r.patVersion := by
      intro r h; simp only [tableVersion, h]
    rw [htv _ hs]
    cases ev with
    | patApplied v' es =>
      simp only [appliedOn, if_true, Option.some.injEq] at hev
      subst hev
      rw [patVersion_kept_run post _ ?_]
      · rfl
      · intro e he v'' es' heq
        have := (hpost e he).1
        rw [heq] at this
        simp [appliedOn] at this
    | pmtApplied q v' b => simp [appliedOn] at hev
    | esPacket q => simp [appliedOn] at hev
    | repetition q => simp [appliedOn] at hev
  · rw [if_neg hp] at hrt
    obtain ⟨prog, tag, hs⟩ := (pmtRouted_iff _ p).1 hrt
    have htv : ∀ r : Route, r.slots p = some (.pmt p prog, tag) → tableVersion r p = (r.pmt p).ver := by
      intro r h; simp only [tableVersion, h]
    rw [htv _ hs]
    cases ev with
    | patApplied v' es => simp [appliedOn, hp] at hev
    | pmtApplied q v' b =>
      simp only [appliedOn] at hev
      by_cases hq : p ≠ 0 ∧ q = p
      · rw [if_pos hq] at hev
        obtain ⟨_, rfl⟩ := hq
        simp only [Option.some.injEq] at hev
        subst hev
        rw [pmt_inst_kept_run q post _ ?_, stepRoute_pmt_pmt, if_pos rfl]
        intro e he
        refine ⟨?_, (hpost e he).2⟩
        intro v'' b' heq
        have := (hpost e he).1
        rw [heq] at this
        simp [appliedOn, hp] at this
      · rw [if_neg hq] at hev; cases hev
    | esPacket q => simp [appliedOn] at hev
    | repetition q => simp [appliedOn] at hev

/-! ### repetitions on a (table, context) that agrees with a route -/

/-- on every (table, context) that agrees with route `r`, in which `p` carries tables and the
handler INSTANCE on `p` last applied version `v`: any run of repetition packets of version `v` on `p`
returns the same context; every other slot is untouched; slot `p` holds an equivalent handler -/
theorem rep_noop_of_sim (r : Route) (t : Tab Handler) (c : Ctx) (hsim : Sim r t c) (p v : Nat)
    (hrt : tablePid r p = true) (htv : tableVersion r p = some v) (reps : List Pk)
    (hreps : ∀ pk ∈ reps, pk.pid = p ∧ pk.flagged = false ∧ RepPacket v pk.bytes) :
    ∃ t' h h', pushSpec App.sem (t, c) reps = .ok (t', c) ∧ pushModel App.sem (t, c) reps = .ok (t', c)
      ∧ (∀ q, q ≠ p → t'.get q = t.get q)
      ∧ t.get p = some h ∧ t'.get p = some h' ∧ RepRel v h h' := by
  have hh : ∃ h, t.get p = some h ∧ QuiescentH v h := by
    have hrel := hsim.slots p
    unfold tablePid at hrt
    by_cases hp : p = 0
    · subst hp
      rw [if_pos rfl] at hrt
      obtain ⟨tag, hs⟩ := (patRouted_iff _).1 hrt
      rw [hs] at hrel
      obtain ⟨_, s, hg, hidle⟩ := hrel
      have : tableVersion r 0 = r.patVersion := by simp only [tableVersion, hs]
      rw [this] at htv
      rw [htv] at hidle
      exact ⟨_, hg, hidle⟩
    · rw [if_neg hp] at hrt
      obtain ⟨prog, tag, hs⟩ := (pmtRouted_iff _ p).1 hrt
      rw [hs] at hrel
      obtain ⟨s, hg, hidle⟩ := hrel
      have : tableVersion r p = (r.pmt p).ver := by simp only [tableVersion, hs]
      rw [this] at htv
      rw [htv] at hidle
      exact ⟨_, hg, hidle⟩
  obtain ⟨h, hg, hq⟩ := hh
  obtain ⟨t', h1, h2, h3⟩ := run_rep_noop (fun _ => v) c reps t (by
    intro pk hm
    obtain ⟨a, b, d⟩ := hreps pk hm
    exact ⟨b, d, h, by rw [a]; exact hg, hq⟩)
  obtain ⟨h', hg', hr'⟩ := h3 p h hg hq
  refine ⟨t', h, h', h1, by rw [Ts.Props.C06.push_refines_spec]; exact h1, ?_, hg, hg', hr'⟩
  intro q hq'
  exact h2 q (fun pk hm => by rw [(hreps pk hm).1]; exact Ne.symm hq')

/-! ### the probes F8, F8 control, F9 (`/verif/known_findings.json`), packet by packet

Every packet below is written as its distinguishing bytes followed by `List.replicate` stuffing;
the concatenations `f8Bytes`, `f8cBytes`, `f9Bytes` are byte-for-byte the hex strings of the lines
`F8 demux b0t0 …`, `F8c …`, `F9 …` (checked outside Lean by printing `hexOfBytes`; hex string
literals do not reduce in the 4.33 kernel, so they are not used here). -/

/-- PAT section, version 0: program 1 → PMT PID 0x100 (= `C05HRun.patS0`) -/
def patSecV0 : Bytes := Ts.Lemmas.C05HRun.patS0

/-- PAT section, version 1, SAME program loop: program 1 → PMT PID 0x100 -/
def patSecV1 : Bytes :=
  [0x00, 0xb0, 0x0d, 0x00, 0x01, 0xc3, 0x00, 0x00, 0x00, 0x01, 0xe1, 0x00, 0x76, 0x57, 0x8e, 0x5f]

/-- PMT section of program 1, version 0: PCR PID 0x101, one stream: H.264 (0x1b) on 0x101 -/
def pmtSecV0 : Bytes :=
  [0x02, 0xb0, 0x12, 0x00, 0x01, 0xc1, 0x00, 0x00, 0xe1, 0x01, 0xf0, 0x00, 0x1b, 0xe1, 0x01, 0xf0, 0x00,
   0x4f, 0xc4, 0x3d, 0x1b]

/-- body of `pmtSecV0` (bytes `[8, len-4)`) -/
def pmtBodyV0 : Bytes := [0xe1, 0x01, 0xf0, 0x00, 0x1b, 0xe1, 0x01, 0xf0, 0x00]

/-- one packet on PID 0, unit start, `pointer_field = 0`, continuity counter `cc`, carrying `sec` -/
def patPkt (cc : Nat) (sec : Bytes) : Bytes :=
  [0x47, 0x40, 0x00, UInt8.ofNat (0x10 + cc), 0x00] ++ sec ++ List.replicate (183 - sec.length) 0xff

/-- the same on PID 0x100 -/
def pmtPkt (cc : Nat) (sec : Bytes) : Bytes :=
  [0x47, 0x41, 0x00, UInt8.ofNat (0x10 + cc), 0x00] ++ sec ++ List.replicate (183 - sec.length) 0xff

/-- PID 0x101, unit start: a PES header (stream id 0xe0, unbounded length, no optional fields)
followed by payload bytes — the elementary-stream packet that is OPEN while the tables repeat -/
def esStartPkt : Bytes :=
  [0x47, 0x41, 0x01, 0x10, 0x00, 0x00, 0x01, 0xe0, 0x00, 0x00, 0x80, 0x00, 0x00] ++ List.replicate 175 0x55

/-- PID 0x101, continuation of that PES packet (continuity counter 1) -/
def esContPkt : Bytes := [0x47, 0x01, 0x01, 0x11] ++ List.replicate 184 0x55

/-- **the straddling start** (PID 0, unit start, cc 2): `pointer_field = 181`, 181 stuffing bytes,
then only the first TWO bytes `00 b0` of PAT version 0 — its 3-byte header straddles two packets -/
def straddlePkt : Bytes :=
  [0x47, 0x40, 0x00, 0x12, 0xb5] ++ List.replicate 181 0xff ++ [0x00, 0xb0]

/-- the continuation packet carrying the remaining 14 bytes of that PAT (PID 0, cc 3) -/
def straddleTailPkt : Bytes :=
  [0x47, 0x00, 0x00, 0x13] ++ patSecV0.drop 2 ++ List.replicate 170 0xff

/-- probe F8: PAT v0, PMT v0, ES start, PAT v0, PMT v0, straddling PAT v0 (2 packets), PAT v0, PMT v0 -/
def f8Bytes : Bytes :=
  patPkt 0 patSecV0 ++ pmtPkt 0 pmtSecV0 ++ esStartPkt ++ patPkt 1 patSecV0 ++ pmtPkt 1 pmtSecV0 ++
    straddlePkt ++ straddleTailPkt ++ patPkt 4 patSecV0 ++ pmtPkt 2 pmtSecV0

/-- F8 up to and including the straddling transmission -/
def f8PrefixBytes : Bytes :=
  patPkt 0 patSecV0 ++ pmtPkt 0 pmtSecV0 ++ esStartPkt ++ patPkt 1 patSecV0 ++ pmtPkt 1 pmtSecV0 ++
    straddlePkt ++ straddleTailPkt

/-- control F8c: the same without the straddling transmission -/
def f8cBytes : Bytes :=
  patPkt 0 patSecV0 ++ pmtPkt 0 pmtSecV0 ++ esStartPkt ++ patPkt 1 patSecV0 ++ pmtPkt 1 pmtSecV0 ++
    patPkt 2 patSecV0 ++ pmtPkt 2 pmtSecV0

/-- probe F9: PAT v0, PMT v0, ES start, PAT v1 (same program), PMT v0 again -/
def f9Bytes : Bytes :=
  patPkt 0 patSecV0 ++ pmtPkt 0 pmtSecV0 ++ esStartPkt ++ patPkt 1 patSecV1 ++ pmtPkt 1 pmtSecV0

/-- F9 without the final PMT repetition -/
def f9PrefixBytes : Bytes :=
  patPkt 0 patSecV0 ++ pmtPkt 0 pmtSecV0 ++ esStartPkt ++ patPkt 1 patSecV1

/-! #### evaluation of the whole model (`runApp {}` = harness `demux b0t0`) on the probes -/

/-- the `construct` callbacks up to and including the first PMT (all probes) -/
def constructsA : List (Req × Nat) :=
  [(.byPid 0, 0), (.pmt 0x100 1, 1), (.stream 0x100 0x1b 0x101 0x101 [] [], 2)]

/-- elementary-stream callbacks, oldest first: (tag, 0 = start / 1 = begin / 2 = continue / 3 = end /
4 = continuity error) -/
def esCalls (c : Ctx) : List (Nat × Nat) :=
  c.trace.reverse.filterMap fun e => match e with
    | .esStart t => some (t, 0) | .esBegin t _ => some (t, 1) | .esCont t _ _ => some (t, 2)
    | .esEnd t => some (t, 3) | .esCcErr t => some (t, 4) | _ => none

/-- what the harness prints: requests with tags, ES callbacks, and the handlers in slots 0x100 / 0x101 -/
def observe10 : R (Tab Handler × Ctx) → Option (List (Req × Nat) × List (Nat × Nat) × Slot × Slot)
  | .ok (t, c) => some (constructs c, esCalls c, slotOf (t.get 0x100), slotOf (t.get 0x101))
  | .panic _ => none

/-- the common prefix of all probes: PAT v0, PMT v0, ES start -/
def baseBytes : Bytes := patPkt 0 patSecV0 ++ pmtPkt 0 pmtSecV0 ++ esStartPkt

/-- the tables the probes pass through: the PAT filter in state `pat` (registered {0x100}) on PID 0,
the PMT filter of program 1 in state `pmt`, registered `reg`, on 0x100, the started PES filter with
tag 2 on 0x101 -/
def probeTab (pat pmt : Psi.St) (reg : List Nat) : Tab Handler :=
  ((Tab.insert [] 0 (.pat pat [0x100])).insert 0x100 (.pmt 0x100 1 pmt reg)).insert 0x101
    (.pes 2 { cc := some 0, st := .started })

/-- the callbacks of `baseBytes`, most recent first: three requests, then `start_stream` and
`begin_packet` of consumer 2 -/
def baseTrace : List Ev :=
  [.esBegin 2 { sid := 0xe0, len := 0, kind := 1, ptsDts := some (.error .fieldNotPresent), pl := some (389, 175) },
   .esStart 2, .construct (.stream 0x100 0x1b 0x101 0x101 [] []) 2, .construct (.pmt 0x100 1) 1,
   .construct (.byPid 0) 0]

theorem base_run : runApp {} [baseBytes]
    = .ok (probeTab { lastVersion := some 0 } { lastVersion := some 0 } [0x101],
        { cfg := {}, nextTag := 3, trace := baseTrace }) := by eval_app

theorem f8c_run : observe10 (runApp {} [f8cBytes])
    = some (constructsA, [(2, 0), (2, 1)], .pmt 0x100 1 [0x101], .pes 2) :=
  (congrArg observe10 (C11c.runApp_append {} baseBytes
    (patPkt 1 patSecV0 ++ pmtPkt 1 pmtSecV0 ++ patPkt 2 patSecV0 ++ pmtPkt 2 pmtSecV0) _ _ base_run
    (by decide +kernel) (by simp only [f8cBytes, baseBytes, List.append_assoc]))).trans (by eval_app)

/-- the straddling start has reset the PAT filter: it has forgotten version 0 -/
theorem f8_prefix_state : runApp {} [f8PrefixBytes]
    = .ok (probeTab {} { lastVersion := some 0, dedupIgnore := true } [0x101],
        { cfg := {}, nextTag := 3, trace := baseTrace }) :=
  (C11c.runApp_append {} baseBytes
    (patPkt 1 patSecV0 ++ pmtPkt 1 pmtSecV0 ++ straddlePkt ++ straddleTailPkt) _ _ base_run
    (by decide +kernel) (by simp only [f8PrefixBytes, baseBytes, List.append_assoc])).trans (by eval_app)

theorem f8_prefix_run : observe10 (runApp {} [f8PrefixBytes])
    = some (constructsA, [(2, 0), (2, 1)], .pmt 0x100 1 [0x101], .pes 2) :=
  (congrArg observe10 f8_prefix_state).trans (by decide +kernel)

theorem f8_run : observe10 (runApp {} [f8Bytes])
    = some (constructsA ++ [(.pmt 0x100 1, 3), (.stream 0x100 0x1b 0x101 0x101 [] [], 4)],
        [(2, 0), (2, 1)], .pmt 0x100 1 [0x101], .pes 4) :=
  (congrArg observe10 (C11c.runApp_append {} f8PrefixBytes (patPkt 4 patSecV0 ++ pmtPkt 2 pmtSecV0) _ _
    f8_prefix_state (by decide +kernel) (by simp only [f8Bytes, f8PrefixBytes, List.append_assoc]))).trans (by eval_app)

/-- PAT v1 has replaced the PMT filter on 0x100 by a fresh one (tag 3), nothing registered -/
theorem f9_prefix_state : runApp {} [f9PrefixBytes]
    = .ok (probeTab { lastVersion := some 1 } {} [],
        { cfg := {}, nextTag := 4, trace := .construct (.pmt 0x100 1) 3 :: baseTrace }) :=
  (C11c.runApp_append {} baseBytes (patPkt 1 patSecV1) f9PrefixBytes _ base_run (by decide +kernel) rfl).trans
    (by eval_app)

theorem f9_prefix_run : observe10 (runApp {} [f9PrefixBytes])
    = some (constructsA ++ [(.pmt 0x100 1, 3)], [(2, 0), (2, 1)], .pmt 0x100 1 [], .pes 2) :=
  (congrArg observe10 f9_prefix_state).trans (by decide +kernel)

theorem f9_run : observe10 (runApp {} [f9Bytes])
    = some (constructsA ++ [(.pmt 0x100 1, 3), (.stream 0x100 0x1b 0x101 0x101 [] [], 4)],
        [(2, 0), (2, 1)], .pmt 0x100 1 [0x101], .pes 4) :=
  (congrArg observe10 (C11c.runApp_append {} f9PrefixBytes (pmtPkt 1 pmtSecV0) f9Bytes _ f9_prefix_state
    (by decide +kernel) rfl)).trans (by eval_app)

theorem observe10_some (r : R (Tab Handler × Ctx)) (o) (h : observe10 r = some o) :
    ∃ t c, r = .ok (t, c) ∧ constructs c = o.1 ∧ esCalls c = o.2.1 ∧
      slotOf (t.get 0x100) = o.2.2.1 ∧ slotOf (t.get 0x101) = o.2.2.2 := by
  cases r with
  | panic s => cases h
  | ok tc =>
    obtain ⟨t, c⟩ := tc
    simp only [observe10, Option.some.injEq] at h
    subst h
    exact ⟨t, c, rfl, rfl, rfl, rfl, rfl⟩

/-! #### the probes framed into packets and cut into histories -/

/-- the `i`-th 188-byte packet of a push, on PID `pid`, not flagged -/
def pkAt (b : Bytes) (i pid : Nat) : Pk := ⟨b, 188 * i, pid, false, false⟩

/-- F9 before the final PMT repetition: PAT v0, PMT v0, ES start, PAT v1 -/
def f9Pks : List Pk :=
  [pkAt (patPkt 0 patSecV0) 0 0, pkAt (pmtPkt 0 pmtSecV0) 1 0x100, pkAt esStartPkt 2 0x101,
   pkAt (patPkt 1 patSecV1) 3 0]

/-- the final packet of F9: PMT version 0 again -/
def f9Rep : Pk := pkAt (pmtPkt 1 pmtSecV0) 4 0x100

theorem f9_frame : Demux.frame f9Bytes 0 = .ok (f9Pks ++ [f9Rep]) := by decide +kernel

/-- the history F9's first four packets realise -/
def f9Hist : List Event :=
  [.patApplied 0 [.program 1 0x100], .pmtApplied 0x100 0 pmtBodyV0, .esPacket 0x101,
   .patApplied 1 [.program 1 0x100]]

/-- the common prefix of all probes: PAT v0, PMT v0, ES start -/
def basePks : List Pk :=
  [pkAt (patPkt 0 patSecV0) 0 0, pkAt (pmtPkt 0 pmtSecV0) 1 0x100, pkAt esStartPkt 2 0x101]

def baseHist : List Event :=
  [.patApplied 0 [.program 1 0x100], .pmtApplied 0x100 0 pmtBodyV0, .esPacket 0x101]

theorem f9_wf : WF initRoute f9Hist := by decide +kernel
theorem base_wf : WF initRoute baseHist := by decide +kernel

theorem patSecV0_facts :
    WellFormedSection .syntax patSecV0 ∧ patSecV0.length = 16 ∧ Ts.CrcSpec.crc patSecV0 = 0
      ∧ versionOf patSecV0 = 0 ∧ WellFormedMux .syntax patSecV0 (muxOf patSecV0) := by decide +kernel

theorem pmtSecV0_facts :
    WellFormedSection .syntax pmtSecV0 ∧ pmtSecV0.length = 21 ∧ Ts.CrcSpec.crc pmtSecV0 = 0
      ∧ versionOf pmtSecV0 = 0 ∧ WellFormedMux .syntax pmtSecV0 (muxOf pmtSecV0) := by decide +kernel

/-- whatever the continuity counter, `patPkt` / `pmtPkt` is one 188-byte packet carrying the whole
section behind `pointer_field = 0` -/
theorem patPkt_plOf (cc : Nat) (hcc : cc < 16) :
    plOf (patPkt cc patSecV0) = some ⟨true, (muxOf patSecV0).first patSecV0, 4⟩
      ∧ (patPkt cc patSecV0).length = 188 :=
  (by decide +kernel : ∀ cc : Fin 16, plOf (patPkt cc.val patSecV0)
      = some ⟨true, (muxOf patSecV0).first patSecV0, 4⟩ ∧ (patPkt cc.val patSecV0).length = 188) ⟨cc, hcc⟩

theorem pmtPkt_plOf (cc : Nat) (hcc : cc < 16) :
    plOf (pmtPkt cc pmtSecV0) = some ⟨true, (muxOf pmtSecV0).first pmtSecV0, 4⟩
      ∧ (pmtPkt cc pmtSecV0).length = 188 :=
  (by decide +kernel : ∀ cc : Fin 16, plOf (pmtPkt cc.val pmtSecV0)
      = some ⟨true, (muxOf pmtSecV0).first pmtSecV0, 4⟩ ∧ (pmtPkt cc.val pmtSecV0).length = 188) ⟨cc, hcc⟩

theorem re_patV0 (r : Route) (cc i : Nat) (hcc : cc < 16) :
    RealisesEv r (.patApplied 0 [.program 1 0x100]) [pkAt (patPkt cc patSecV0) i 0] :=
  have ⟨w1, w2, w3, w4, w5⟩ := patSecV0_facts
  Ts.Lemmas.C05HRun.re_pat_one r _ _ patSecV0 0 _ ⟨w1, by rw [w2]; decide, w3, (patPkt_plOf cc hcc).2, w5,
    (patPkt_plOf cc hcc).1, by decide, w4, by decide +kernel⟩

theorem re_patV1 (r : Route) (i : Nat) :
    RealisesEv r (.patApplied 1 [.program 1 0x100]) [pkAt (patPkt 1 patSecV1) i 0] :=
  Ts.Lemmas.C05HRun.re_pat_one r _ _ patSecV1 1 _ (by decide +kernel)

theorem re_pmtV0 (r : Route) (cc i : Nat) (hcc : cc < 16) :
    RealisesEv r (.pmtApplied 0x100 0 pmtBodyV0) [pkAt (pmtPkt cc pmtSecV0) i 0x100] :=
  have ⟨w1, w2, w3, w4, w5⟩ := pmtSecV0_facts
  Ts.Lemmas.C05HRun.re_pmt_one r 0x100 _ _ pmtSecV0 0 _ ⟨w1, by rw [w2]; decide, w3, (pmtPkt_plOf cc hcc).2, w5,
    (pmtPkt_plOf cc hcc).1, by decide, w4, by decide +kernel, by decide +kernel⟩

theorem re_esStart (r : Route) (i : Nat) : RealisesEv r (.esPacket 0x101) [pkAt esStartPkt i 0x101] :=
  Ts.Lemmas.C05HRun.re_es r 0x101 _ _ (by decide +kernel)

theorem base_realises : Realises initRoute baseHist basePks :=
  Realises.cons (re_patV0 _ 0 0 (by decide)) (Realises.cons (re_pmtV0 _ 0 1 (by decide))
    (Realises.cons (re_esStart _ 2) (Realises.nil _)))

theorem f9_realises : Realises initRoute f9Hist f9Pks :=
  Realises.cons (re_patV0 _ 0 0 (by decide)) (Realises.cons (re_pmtV0 _ 0 1 (by decide))
    (Realises.cons (re_esStart _ 2) (Realises.cons (re_patV1 _ 3) (Realises.nil _))))

/-- every ordinary PAT v0 packet of the probes is a repetition packet of version 0 … -/
theorem patPkt_rep (cc : Nat) (hcc : cc < 16) : RepPacket 0 (patPkt cc patSecV0) :=
  have ⟨w1, w2, _, w4, w5⟩ := patSecV0_facts
  repPacket_of_first 0 _ patSecV0 _ 4 (patPkt_plOf cc hcc).2 (patPkt_plOf cc hcc).1 w1 (by rw [w2]; decide) w4 w5

/-- … and every PMT v0 packet -/
theorem pmtPkt_rep (cc : Nat) (hcc : cc < 16) : RepPacket 0 (pmtPkt cc pmtSecV0) :=
  have ⟨w1, w2, _, w4, w5⟩ := pmtSecV0_facts
  repPacket_of_first 0 _ pmtSecV0 _ 4 (pmtPkt_plOf cc hcc).2 (pmtPkt_plOf cc hcc).1 w1 (by rw [w2]; decide) w4 w5

theorem f9_requests : historyRequests initRoute f9Hist =
    [.pmt 0x100 1, .stream 0x100 0x1b 0x101 0x101 [] [], .pmt 0x100 1] := by decide +kernel

/-! #### the straddling transmission as payloads -/

/-- the straddling packetisation of PAT v0: 181 pointer bytes, 2 section bytes in the first payload,
the other 14 in one continuation payload -/
def straddleMux : Mux :=
  ⟨List.replicate 181 0xff, 2, [], [patSecV0.drop 2 ++ List.replicate 170 0xff], []⟩

theorem straddle_plOf :
    plOf straddlePkt = some ⟨true, straddleMux.first patSecV0, 4⟩
    ∧ plOf straddleTailPkt = some ⟨false, patSecV0.drop 2 ++ List.replicate 170 0xff, 4⟩
    ∧ straddlePkt.length = 188 ∧ straddleTailPkt.length = 188 := by decide +kernel

theorem straddle_short : ShortStart (straddleMux.first patSecV0) := by decide +kernel

/-! ### a PMT that does not fit one packet (multi-packet repetition) -/

/-- PCR PID 0x101; one H.264 stream on PID 0x101 whose ES-info loop is one 180-byte user-private
descriptor (tag 0x80, 178 payload bytes) -/
def bigPmtBody : Bytes :=
  [0xe1, 0x01, 0xf0, 0x00, 0x1b, 0xe1, 0x01, 0xf0, 0xb4, 0x80, 0xb2] ++ List.replicate 178 0xaa

def bigPmtHead : Bytes := [0x02, 0xb0, 0xc6, 0x00, 0x01, 0xc1, 0x00, 0x00] ++ bigPmtBody

/-- the 201-byte PMT section, version 0, with its CRC-32 (checked against the bit-serial
specification in `bigPmt_facts`) -/
def bigPmt : Bytes := bigPmtHead ++ [0x33, 0x68, 0x7b, 0x79]

/-- 183 bytes in the unit-start packet, the remaining 18 (+ stuffing) in one continuation packet -/
def bigMux : Mux := ⟨[], 183, [], [bigPmt.drop 183 ++ List.replicate 166 0xff], []⟩

def bigPkt1 (cc : Nat) : Bytes := [0x47, 0x41, 0x00, UInt8.ofNat (0x10 + cc), 0x00] ++ bigPmt.take 183
def bigPkt2 (cc : Nat) : Bytes :=
  [0x47, 0x01, 0x00, UInt8.ofNat (0x10 + cc)] ++ bigPmt.drop 183 ++ List.replicate 166 0xff

theorem bigPmt_facts :
    WellFormedSection .syntax bigPmt ∧ bigPmt.length = 201 ∧ versionOf bigPmt = 0
    ∧ Ts.CrcSpec.crc bigPmt = 0 ∧ WellFormedMux .syntax bigPmt bigMux := by decide +kernel

theorem bigPkt_plOf :
    plOf (bigPkt1 1) = some ⟨true, bigMux.first bigPmt, 4⟩ ∧ (bigPkt1 1).length = 188
    ∧ plOf (bigPkt2 2) = some ⟨false, bigPmt.drop 183 ++ List.replicate 166 0xff, 4⟩
    ∧ (bigPkt2 2).length = 188
    ∧ plOf (bigPkt1 3) = some ⟨true, bigMux.first bigPmt, 4⟩ ∧ (bigPkt1 3).length = 188
    ∧ plOf (bigPkt2 4) = some ⟨false, bigPmt.drop 183 ++ List.replicate 166 0xff, 4⟩
    ∧ (bigPkt2 4).length = 188 := by decide +kernel

theorem bigPkt1_rep (cc : Nat) (h : plOf (bigPkt1 cc) = some ⟨true, bigMux.first bigPmt, 4⟩)
    (hl : (bigPkt1 cc).length = 188) : RepPacket 0 (bigPkt1 cc) := by
  refine ⟨hl, ?_⟩
  intro q hq
  rw [h] at hq
  cases hq
  exact Or.inr ⟨bigPmt, bigMux, bigPmt_facts.1, by rw [bigPmt_facts.2.1]; decide, bigPmt_facts.2.2.1,
    bigPmt_facts.2.2.2.2, rfl, rfl⟩

theorem bigPkt2_rep (cc : Nat) (b : Bytes) (h : plOf (bigPkt2 cc) = some ⟨false, b, 4⟩)
    (hl : (bigPkt2 cc).length = 188) : RepPacket 0 (bigPkt2 cc) := by
  refine ⟨hl, ?_⟩
  intro q hq
  rw [h] at hq
  cases hq
  exact Or.inl rfl

/-- the three requests of PAT v0 + the big PMT; the stream request carries the descriptor bytes -/
def bigConstructs : List (Req × Nat) :=
  [(.byPid 0, 0), (.pmt 0x100 1, 1),
   (.stream 0x100 0x1b 0x101 0x101 ([0x80, 0xb2] ++ List.replicate 178 0xaa) [], 2)]

/-- whole application: PAT v0, the two-packet PMT (3 requests: `ByPid(0)`, the PMT handler, the
stream), the ES start packet, then the two-packet PMT twice more, the second time with an ES
continuation packet BETWEEN its two packets: no further request, the ES handler (tag 2) keeps its
slot and sees start, begin, continue — no second start, no end, no continuity error -/
theorem bigPmt_run :
    observe10 (runApp {} [patPkt 0 patSecV0 ++ bigPkt1 0 ++ bigPkt2 1 ++ esStartPkt])
      = some (bigConstructs, [(2, 0), (2, 1)], .pmt 0x100 1 [0x101], .pes 2) := by
  eval_app

theorem bigPmt_rep_run :
    observe10 (runApp {} [patPkt 0 patSecV0 ++ bigPkt1 0 ++ bigPkt2 1 ++ esStartPkt ++ bigPkt1 2
          ++ bigPkt2 3 ++ bigPkt1 4 ++ esContPkt ++ bigPkt2 5])
      = some (bigConstructs, [(2, 0), (2, 1), (2, 2)], .pmt 0x100 1 [0x101], .pes 2) := by
  eval_app

/-! ### packetisations that may cut the section anywhere -/

/-- `WellFormedMux` WITHOUT its second clause (`minHeader kind ≤ …`): the section may be cut at any
byte, in particular inside its first 3 (common header) or first 8 (table-syntax header) bytes -/
def LegalMux (S : Bytes) (m : Mux) : Prop :=
  m.k ≤ S.length ∧ PayloadSize (m.first S)
  ∧ (m.k = S.length ∨ (m.k < S.length ∧ m.tailBytes = [] ∧ Carries (S.drop m.k) m.conts))
  ∧ (∀ c ∈ m.rest, PayloadSize c)

instance (S : Bytes) (m : Mux) : Decidable (LegalMux S m) := by unfold LegalMux; infer_instance

theorem wellFormedMux_iff_legal (kind : Kind) (S : Bytes) (m : Mux) :
    WellFormedMux kind S m ↔ (LegalMux S m ∧ minHeader kind ≤ (S.take m.k ++ m.tailBytes).length) := by
  unfold WellFormedMux LegalMux
  constructor
  · rintro ⟨a, b, c, d, e⟩; exact ⟨⟨a, c, d, e⟩, b⟩
  · rintro ⟨⟨a, c, d, e⟩, b⟩; exact ⟨a, b, c, d, e⟩

/-- the payloads of a packetisation, all at payload offset 4 (no adaptation field) -/
def muxPayloads (S : Bytes) (m : Mux) : List Pl :=
  (⟨true, m.first S, 4⟩ : Pl) :: m.rest.map (fun b => (⟨false, b, 4⟩ : Pl))

theorem straddleMux_legal :
    LegalMux patSecV0 straddleMux ∧ ¬ WellFormedMux .syntax patSecV0 straddleMux
    ∧ LegalMux patSecV0 (muxOf patSecV0) := by decide +kernel

/-- the section filter, quiescent at version 0, fed the straddling transmission of PAT v0 and
then an ordinary one: the straddling start resets the chain, the ordinary copy is DELIVERED -/
theorem straddle_then_repeat_delivered :
    runPl Psi.table { lastVersion := some 0 } (muxPayloads patSecV0 straddleMux)
      = .ok ({ lastVersion := none }, [])
    ∧ runPl Psi.table { lastVersion := some 0 }
        (muxPayloads patSecV0 straddleMux ++ muxPayloads patSecV0 (muxOf patSecV0))
      = .ok ({ lastVersion := some 0 }, [⟨patSecV0, some 5⟩]) := by decide +kernel

/-! ### a hand-built table for instantiating the dispatcher theorems -/

/-- PAT filter (applied version 0, registered {0x100}) on PID 0, PMT filter of program 1 (applied
version 0, registered {0x101}) on PID 0x100, the PES filter with tag 2 — fresh — on PID 0x101 -/
def exTab : Tab Handler :=
  ((Tab.insert [] 0 (.pat { lastVersion := some 0 } [0x100])).insert 0x100
    (.pmt 0x100 1 { lastVersion := some 0 } [0x101])).insert 0x101 (.pes 2 {})

def exCtx : Ctx := { cfg := {}, nextTag := 3 }

theorem exTab_get :
    exTab.get 0 = some (.pat { lastVersion := some 0 } [0x100])
    ∧ exTab.get 0x100 = some (.pmt 0x100 1 { lastVersion := some 0 } [0x101])
    ∧ exTab.get 0x101 = some (.pes 2 {}) := by
  refine ⟨?_, ?_, ?_⟩
  · unfold exTab
    rw [Tab.get_insert_ne _ _ _ _ (by decide), Tab.get_insert_ne _ _ _ _ (by decide), Tab.get_insert_self]
  · unfold exTab
    rw [Tab.get_insert_ne _ _ _ _ (by decide), Tab.get_insert_self]
  · unfold exTab
    rw [Tab.get_insert_self]

def isOk {α : Type} : R α → Bool
  | .ok _ => true
  | .panic _ => false

theorem exists_of_isOk {α : Type} (r : R α) (h : isOk r = true) : ∃ a, r = .ok a := by
  cases r with
  | ok a => exact ⟨a, rfl⟩
  | panic m => cases h

end Ts.Lemmas.C10
