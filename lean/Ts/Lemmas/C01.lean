import Ts.Model.App
import Ts.Props.C12
import Ts.Props.C13
import Ts.Props.C14
import Ts.Props.C16
import Ts.Props.C17
import Ts.Lemmas.C05
/-!
# C01 helper lemmas, part 1: "touch everything" is total

`App.touchPacket`, `touchAf`, `touchPesHeader`, `touchParsed`, `touchPmt`, `touchDescs` model the
accessor calls and `Debug` renderings made by application callbacks.  Each is `R.ok ()` on every
value the library can hand out (C12, C13, C14, C16, C17 supply the per-accessor facts; `touchDescs`
and `touchPmt` are `Lemmas.C05.touchDescs_ok`, `touchPmt_ok`).
-/
namespace Ts.Lemmas.C01
open Ts Ts.Spec

theorem isOk_exists {α : Type} {x : R α} (h : x.isOk = true) : ∃ v, x = .ok v := by
  cases x with
  | ok v => exact ⟨v, rfl⟩
  | panic s => cases h

/-! ### adaptation field -/

theorem touchAf_ok (af : Bytes) (hne : af ≠ []) : App.touchAf af = .ok () := by
  obtain ⟨h1, h2, h3⟩ := Props.C13.indicators_exact af hne
  unfold App.touchAf
  rw [Props.C13.af_new_ok af hne]
  simp only [R.ok_bind, h1, h2, h3, Props.C13.pcr_exact af hne, Props.C13.opcr_exact af hne,
    Props.C13.splice_exact af hne, Props.C13.private_exact af hne]
  cases he : Af.extension af with
  | panic s => rw [Props.C13.extension_exact af hne] at he; cases he
  | ok r =>
    cases r with
    | error e => rfl
    | ok e =>
      have hne' := Props.C13.extension_nonempty af hne e he
      simp only [R.ok_bind, Props.C13.ltw_exact e hne', Props.C13.piecewise_exact e hne',
        Props.C13.seamless_exact e hne']
      rfl

/-! ### PES header -/

open Ts.Spec.PesSpec Ts.Lemmas.C14 in
/-- an ESCR the model yields satisfies `ClockRef`'s invariant (33-bit base, 9-bit extension) -/
theorem escr_bounds (c : Bytes) (cr : Time.ClockRef)
    (h : resOf escrConv (parse c).escr = .ok cr) : cr.base < 2 ^ 33 ∧ cr.ext < 2 ^ 9 := by
  rw [parse_escr] at h
  unfold fieldAt at h
  split at h
  · cases h
  · split at h
    · simp only [resOf, Except.ok.injEq] at h
      subst h
      generalize curEscr (flagsOf c) = a
      rw [escrAt_eq]
      have h0 := byteD_lt c a; have h1 := byteD_lt c (a + 1); have h2 := byteD_lt c (a + 2)
      have h3 := byteD_lt c (a + 3); have h4 := byteD_lt c (a + 4); have h5 := byteD_lt c (a + 5)
      simp only [escrConv]
      constructor <;> omega
    · cases h

open Ts.Spec.PesSpec Ts.Lemmas.C14 in
/-- an ES_rate the model yields is a 22-bit value -/
theorem esRate_bound (c : Bytes) (v : Nat) (h : resOf id (parse c).esRate = .ok v) : v < 2 ^ 22 := by
  rw [parse_esRate] at h
  unfold fieldAt at h
  split at h
  · cases h
  · split at h
    · simp only [resOf, Except.ok.injEq, id] at h
      subst h
      have := esRateAt_lt c (curEsRate (flagsOf c))
      simp only [Nat.shiftLeft_eq, Nat.one_mul] at this
      exact this
    · cases h

/-- `u64::from(ClockRef)` never overflows: `base * 300 + ext < 2^64` -/
theorem crefTo27MHz_ok (cr : Time.ClockRef) (hb : cr.base < 2 ^ 33) (he : cr.ext < 2 ^ 9) :
    Time.crefTo27MHz cr = .ok (cr.base * 300 + cr.ext) := by
  unfold Time.crefTo27MHz assertR
  have : cr.base * 300 + cr.ext < 2 ^ 64 := by omega
  simp only [decide_eq_true this, if_true, R.ok_bind, R.pure_eq]

open Ts.Spec.PesSpec Ts.Lemmas.C14 in
theorem touchParsed_ok (c : Bytes) (hacc : parsedAccepted c) : App.touchParsed c = .ok () := by
  have h3 : 3 ≤ c.length := hacc.1
  obtain ⟨a1, a2, a3, a4, a5, a6, a7, a8, a9, _, _⟩ := Props.C14.pes_fields_exact_partial c h3
  have hpb : Pes.parsedFromBytes c = .ok (some c) := by
    rw [Props.C14.parsed_accept_iff, if_pos hacc]
  obtain ⟨_, b1, _, b2, _⟩ := Props.C14.pes_fields_exact_accepted c hpb
  unfold App.touchParsed
  simp only [a1, a2, a3, a4, a5, a6, a7, a8, a9, b1, b2, Props.C14.copyright_pinned c h3, R.ok_bind]
  have fin : ∀ v, resOf id (parse c).esRate = .ok v →
      (do assertR (decide (v * 50 < 2 ^ 32)) "attempt to multiply with overflow"; pure () : R Unit)
        = .ok () := by
    intro v hR
    have hv : v * 50 < 2 ^ 32 := by have := esRate_bound c v hR; omega
    simp only [assertR, decide_eq_true hv, if_true, R.ok_bind, R.pure_eq]
  split
  · rename_i cr hE
    obtain ⟨hb, he⟩ := escr_bounds c cr hE
    simp only [crefTo27MHz_ok cr hb he, R.ok_bind]
    split
    · rename_i v hR; exact fin v hR
    · rfl
  · split
    · rename_i v hR; exact fin v hR
    · rfl

theorem touchPesHeader_ok (h : Bytes) (h6 : 6 ≤ h.length) : App.touchPesHeader h = .ok () := by
  unfold App.touchPesHeader
  rw [Props.C14.stream_id_exact h h6, Props.C14.packet_length_exact h h6,
    Props.C14.contents_kind h h6]
  simp only [R.ok_bind]
  split
  · rename_i x c heq
    by_cases hin : readBits h 24 8 ∈ PesSpec.noHeaderIds
    · rw [if_pos hin] at heq; cases heq
    · rw [if_neg hin] at heq
      by_cases hacc : PesSpec.parsedAccepted (h.drop 6)
      · rw [if_pos hacc] at heq
        injection heq with heq; injection heq with heq
        subst heq
        exact touchParsed_ok _ hacc
      · rw [if_neg hacc] at heq
        injection heq with heq; cases heq
  · rfl

/-! ### transport packet -/

open Ts.Packet Ts.Props.C12 in
theorem touchPacket_ok (p : Bytes) (hp : p.length = 188) : App.touchPacket p = .ok () := by
  unfold App.touchPacket Packet.af Packet.payload
  rw [tei_exact p hp, pusi_exact p hp, prio_exact p hp, pid_exact p hp, cc_exact p hp,
    af_exact p hp, payload_exact p hp]
  simp only [R.ok_bind]
  obtain ⟨s1, s2, _⟩ := split_sound (hasAf (byteD p 3)) (hasPayload (byteD p 3)) (byteD p 4)
  generalize splitSpec (hasAf (byteD p 3)) (hasPayload (byteD p 3)) (byteD p 4) = sp at s1 s2
  obtain ⟨sa, sb⟩ := sp
  simp only at s1 s2 ⊢
  have e2 : (match sb with
        | some r => (pure (some (rangeBytes p r)) : R (Option Bytes))
        | none => pure none) >>= (fun x => match x with
        | some pl => (do
            match ← Pes.headerFromBytes pl with
            | some h => App.touchPesHeader h
            | none => pure () : R Unit)
        | none => pure ()) = .ok () := by
    cases sb with
    | none => rfl
    | some r =>
      simp only [R.pure_eq, R.ok_bind]
      rw [Props.C14.header_accept_iff]
      by_cases hh : 6 ≤ (rangeBytes p r).length ∧ readBits (rangeBytes p r) 0 24 = 1
      · simp only [if_pos hh, R.ok_bind]
        exact touchPesHeader_ok _ hh.1
      · simp only [if_neg hh, R.ok_bind]
  cases sa with
  | none => simp only [R.pure_eq, R.ok_bind]; exact e2
  | some r =>
    obtain ⟨_, h2, h3⟩ := s1 r rfl
    have hne : rangeBytes p r ≠ [] := by
      intro e
      have : (rangeBytes p r).length = r.2 := by unfold rangeBytes; simp; omega
      rw [e] at this; simp at this; omega
    simp only [R.pure_eq, R.ok_bind, touchAf_ok _ hne]
    exact e2

/-! ### PMT -/

open Ts.Tables Ts.Spec.TableSpec in
theorem touchPmt_ok' (body sect : Bytes) (h : pmtFromBytes body = .ok (some sect)) :
    App.touchPmt sect = .ok () := by
  rw [Props.C16.pmt_accept_iff] at h
  by_cases ha : specPmtAccept body
  · rw [if_pos ha] at h
    cases h
    exact C05.touchPmt_ok _ ha
  · rw [if_neg ha] at h; cases h

end Ts.Lemmas.C01
