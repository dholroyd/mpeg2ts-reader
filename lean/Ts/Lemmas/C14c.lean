import Ts.Lemmas.C14b
/-!
PES header: every accessor of the model equals the outcome of the sequential parser, for every
receiver of at least three bytes.
-/
namespace Ts.Lemmas.C14
open Ts Ts.Spec Ts.Spec.PesSpec

/-- the five flag-guarded fixed-size fields after PTS/DTS: "if the flag is set, slice `n` header
bytes at offset `a` and decode" is the parser's field at cursor `a`.  `k` is what the accessor does
with the result of the slice. -/
theorem pes_field {α β : Type} (c : Bytes) (h3 : 3 ≤ c.length) (flag : Bool) (a n : Nat)
    (k : Pes.Res Bytes → R (Pes.Res β)) (res : Field α → Pes.Res β) (dec : Nat → α)
    (habs : res .absent = .error .fieldNotPresent) (htr : res .truncated = .error .notEnoughData)
    (hok : a + n ≤ c.length → k (.ok ((c.drop a).take n)) = .ok (res (.present (dec a))))
    (herr : ∀ e, k (.error e) = .ok (.error e)) :
    (if flag = true then Pes.headerSlice c a (a + n) >>= k
      else pure (Except.error Pes.PesErr.fieldNotPresent) : R (Pes.Res β))
      = .ok (res (fieldAt c flag n dec a)) := by
  unfold fieldAt
  have hlen := limit_le c
  cases flag
  · exact congrArg R.ok habs.symm
  · rw [if_pos rfl, headerSlice_eq c h3]
    by_cases hl : a + n ≤ limit c
    · simp only [hl, if_true, R.ok_bind, hok (by omega)]; rfl
    · simp only [hl, if_false, R.ok_bind, herr, ← htr]; rfl

theorem ptsDts_exact (c : Bytes) (h3 : 3 ≤ c.length) :
    Pes.ptsDts c = .ok (resOf ptsDtsConv (parse c).ptsDts) := by
  have hf := byteD_lt c 1
  unfold Pes.ptsDts Pes.flagsByte
  rw [byteAt_ok c 1 (by omega)]
  simp only [R.ok_bind]
  rw [parse_ptsDts, flagsOf_eq, ptsDtsFlags_eq _ hf, ptsDtsEnd_eq _ hf]
  have hlt := ptsDts_lt (byteD c 1)
  unfold curEscr
  generalize (flagsOfByte (byteD c 1)).ptsDts = pd at *
  match pd, hlt with
  | 0, _ => rfl
  | 1, _ => rfl
  | 2, _ =>
    refine pes_field c h3 true 3 5 _ (resOf ptsDtsConv) _ rfl rfl (fun h => ?_) (fun _ => rfl)
    simp only [ts_at c 3 5 h (Nat.le_refl 5), R.ok_bind]
    rfl
  | 3, _ =>
    refine pes_field c h3 true 3 10 _ (resOf ptsDtsConv) _ rfl rfl (fun h => ?_) (fun _ => rfl)
    have hw : ((c.drop 3).take 10).length = 10 := length_window c 3 10 h
    simp only [Pes.TIMESTAMP_SIZE]
    rw [sliceTo_ok _ 5 (by omega), sliceFrom_ok _ 5 (by omega)]
    simp only [R.ok_bind, List.take_take, List.drop_take, List.drop_drop, Nat.reduceSub, Nat.reduceAdd,
      show min 5 10 = 5 by decide, ts_at c 3 5 (by omega) (Nat.le_refl 5),
      ts_at c 8 5 (by omega) (Nat.le_refl 5)]
    rfl

theorem escr_exact (c : Bytes) (h3 : 3 ≤ c.length) :
    Pes.escr c = .ok (resOf escrConv (parse c).escr) := by
  have hf := byteD_lt c 1
  unfold Pes.escr Pes.flagsByte
  rw [byteAt_ok c 1 (by omega), parse_escr, flagsOf_eq]
  simp only [R.ok_bind, escrFlag_eq, ptsDtsEnd_eq _ hf]
  refine pes_field c h3 _ _ 6 _ (resOf escrConv) (escrAt c) rfl rfl (fun h => ?_) (fun _ => rfl)
  simp only [byteAt_window c _ 6 _ h, Nat.lt_add_one, Nat.reduceLT, R.ok_bind, Nat.add_zero, escr_val]
  rfl

theorem esRate_exact (c : Bytes) (h3 : 3 ≤ c.length) :
    Pes.esRate c = .ok (resOf id (parse c).esRate) := by
  have hf := byteD_lt c 1
  unfold Pes.esRate Pes.flagsByte
  rw [byteAt_ok c 1 (by omega), parse_esRate, flagsOf_eq]
  simp only [R.ok_bind, esRateFlag_eq, escrEnd_eq _ hf]
  refine pes_field c h3 _ _ 3 _ (resOf id) (esRateAt c) rfl rfl (fun h => ?_) (fun _ => rfl)
  simp only [byteAt_window c _ 3 _ h, Nat.lt_add_one, Nat.reduceLT, R.ok_bind, Nat.add_zero, esRate_val,
    assertR, decide_eq_true (esRateAt_lt c _), if_true]
  rfl

theorem dsmTrickMode_exact (c : Bytes) (h3 : 3 ≤ c.length) :
    Pes.dsmTrickMode c = .ok (resOf trickConv (parse c).trick) := by
  have hf := byteD_lt c 1
  unfold Pes.dsmTrickMode Pes.flagsByte
  rw [byteAt_ok c 1 (by omega), parse_trick, flagsOf_eq]
  simp only [R.ok_bind, trickFlag_eq, esRateEnd_eq _ hf]
  refine pes_field c h3 _ _ 1 _ (resOf trickConv) (trickAt c) rfl rfl (fun h => ?_) (fun _ => rfl)
  simp only [byteAt_window c _ 1 _ h, Nat.lt_add_one, R.ok_bind, Nat.add_zero, trick_val]
  rfl

theorem additionalCopyInfo_exact (c : Bytes) (h3 : 3 ≤ c.length) :
    Pes.additionalCopyInfo c = .ok (copyInfoRes (parse c).copyInfo) := by
  have hf := byteD_lt c 1
  unfold Pes.additionalCopyInfo Pes.flagsByte
  rw [byteAt_ok c 1 (by omega), parse_copyInfo, flagsOf_eq]
  simp only [R.ok_bind, aciFlag_eq, trickEnd_eq _ hf]
  refine pes_field c h3 _ _ 1 _ copyInfoRes (copyInfoAt c) rfl rfl (fun h => ?_) (fun _ => rfl)
  simp only [byteAt_window c _ 1 _ h, Nat.lt_add_one, R.ok_bind, Nat.add_zero, ← aci_val]
  split <;> rfl

theorem previousCrc_exact (c : Bytes) (h3 : 3 ≤ c.length) :
    Pes.previousCrc c = .ok (resOf id (parse c).prevCrc) := by
  have hf := byteD_lt c 1
  unfold Pes.previousCrc Pes.flagsByte
  rw [byteAt_ok c 1 (by omega), parse_prevCrc, flagsOf_eq]
  simp only [R.ok_bind, crcFlag_eq, aciEnd_eq _ hf]
  refine pes_field c h3 _ _ 2 _ (resOf id) (crcAt c) rfl rfl (fun h => ?_) (fun _ => rfl)
  simp only [byteAt_window c _ 2 _ h, Nat.lt_add_one, Nat.reduceLT, R.ok_bind, Nat.add_zero, crc_val]
  rfl

/-- `pes_extension()` slices `buf[crc_end .. 3 + hdl]`; the slice start may lie after its end
only for receivers `from_bytes` rejects, hence the hypothesis (implied by acceptance). -/
theorem pesExtension_exact (c : Bytes) (h3 : 3 ≤ c.length)
    (hx : fixedFieldsEnd (flagsOf c) ≤ 3 + hdl c ∨ c.length < 3 + hdl c) :
    Pes.pesExtension c = .ok (resOf id (parse c).extension) := by
  have hf := byteD_lt c 1
  unfold Pes.pesExtension Pes.flagsByte Pes.hdl
  rw [byteAt_ok c 1 (by omega), byteAt_ok c 2 (by omega)]
  simp only [R.ok_bind]
  rw [fixedFieldsEnd_eq, hdl_eq] at hx
  rw [parse_extension, hdl_eq]
  rw [flagsOf_eq] at hx ⊢
  rw [extFlag_eq, crcEnd_eq _ hf]
  generalize flagsOfByte (byteD c 1) = F at *
  simp only [R.ok_bind, Pes.FIXED]
  cases he : F.ext
  · simp [resOf]
  · simp only [if_true, Bool.not_true, Bool.false_eq_true, if_false]
    unfold Pes.headerSlice Pes.hdl
    rw [byteAt_ok c 2 (by omega)]
    simp only [R.ok_bind, Pes.FIXED, Nat.lt_irrefl, gt_iff_lt, if_false]
    by_cases h2 : c.length < byteD c 2 + 3
    · have : ¬ (curExt F ≤ 3 + byteD c 2 ∧ 3 + byteD c 2 ≤ c.length) := by omega
      simp [h2, this, resOf]
    · have h4 : curExt F ≤ 3 + byteD c 2 := by omega
      have : (curExt F ≤ 3 + byteD c 2 ∧ 3 + byteD c 2 ≤ c.length) := by omega
      have e : byteD c 2 + 3 = curExt F + (3 + byteD c 2 - curExt F) := by omega
      simp only [h2, if_false, this, and_self, if_true]
      rw [e, sliceR_ok c (curExt F) _ (by omega)]
      simp only [R.ok_bind, R.pure_eq, resOf, id]
      rw [length_window c _ _ (by omega)]

theorem payloadOffset_exact (c : Bytes) (h3 : 3 ≤ c.length) (hh : 3 + hdl c ≤ c.length) :
    Pes.payloadOffset c = .ok (parse c).payloadOffset := by
  unfold Pes.payloadOffset Pes.hdl
  rw [parse_payloadOffset]
  rw [hdl_eq] at hh ⊢
  rw [byteAt_ok c 2 (by omega)]
  simp only [R.ok_bind, Pes.FIXED]
  rw [sliceFrom_ok c _ hh]
  rfl

/-! ### the single-bit accessors of byte 0 -/

theorem pesPriority_exact (c : Bytes) (h3 : 3 ≤ c.length) :
    Pes.pesPriority c = .ok (parse c).priority := by
  unfold Pes.pesPriority
  rw [byteAt_ok c 0 (by omega), (parse_bits c).1, rb c 4 0 4 1 (by omega) (by omega)]
  simp only [R.ok_bind, R.pure_eq, Nat.shiftRight_eq_div_pow, Nat.and_one_is_mod]

theorem dataAlignment_exact (c : Bytes) (h3 : 3 ≤ c.length) :
    Pes.dataAlignment c = .ok (parse c).dataAlignment := by
  unfold Pes.dataAlignment
  rw [byteAt_ok c 0 (by omega), (parse_bits c).2.1, flagBit_eq c 5 0 5 (by omega) (by omega)]
  simp only [R.ok_bind, R.pure_eq, and_04]

theorem copyright_pinned (c : Bytes) (h3 : 3 ≤ c.length) :
    Pes.copyrightUndefined c = .ok (flagBit c 6) := by
  unfold Pes.copyrightUndefined
  rw [byteAt_ok c 0 (by omega), flagBit_eq c 6 0 6 (by omega) (by omega)]
  simp only [R.ok_bind, R.pure_eq, and_02]

theorem original_exact (c : Bytes) (h3 : 3 ≤ c.length) :
    Pes.original c = .ok (parse c).original := by
  unfold Pes.original
  rw [byteAt_ok c 0 (by omega), (parse_bits c).2.2.2, flagBit_eq c 7 0 7 (by omega) (by omega)]
  simp only [R.ok_bind, R.pure_eq, and_01, Nat.reduceSub, Nat.pow_zero, Nat.div_one]

/-! ### acceptance -/

theorem headerFromBytes_eq (buf : Bytes) :
    Pes.headerFromBytes buf = .ok (if 6 ≤ buf.length ∧ readBits buf 0 24 = 1 then some buf else none) := by
  unfold Pes.headerFromBytes Pes.HDR_FIXED
  by_cases hl : buf.length < 6
  · have : ¬ (6 ≤ buf.length ∧ readBits buf 0 24 = 1) := by omega
    simp [hl, this]
  · rw [byteAt_ok buf 0 (by omega), byteAt_ok buf 1 (by omega), byteAt_ok buf 2 (by omega)]
    rw [rb_8_8_8 buf 0 0 rfl]
    have h0 := byteD_lt buf 0; have h1 := byteD_lt buf 1; have h2 := byteD_lt buf 2
    simp only [hl, if_false, R.ok_bind, Nat.shiftLeft_eq, Nat.zero_add]
    have e : byteD buf 0 * 2 ^ 16 ||| byteD buf 1 * 2 ^ 8 ||| byteD buf 2
        = byteD buf 0 * 65536 + byteD buf 1 * 256 + byteD buf 2 := by
      simp (disch := omega) only [or_eq_add 8, or_eq_add 16]
    rw [e]
    by_cases hp : byteD buf 0 * 65536 + byteD buf 1 * 256 + byteD buf 2 = 1
    · have : 6 ≤ buf.length := by omega
      simp [hp, this]
    · simp [hp]

theorem parsedAccepted_iff (c : Bytes) : parsedAccepted c ↔
    (3 ≤ c.length ∧ byteD c 0 / 64 = 2 ∧ 3 + byteD c 2 ≤ c.length
      ∧ curExt (flagsOfByte (byteD c 1)) ≤ 3 + byteD c 2) := by
  unfold parsedAccepted
  rw [rb c 0 0 0 2 (by omega) (by omega), hdl_eq, fixedFieldsEnd_eq, flagsOf_eq]
  have h0 := byteD_lt c 0
  have e0 : byteD c 0 / 2 ^ (8 - 0 - 2) % 2 ^ 2 = byteD c 0 / 64 := by omega
  rw [e0]

theorem parsedFromBytes_eq (c : Bytes) :
    Pes.parsedFromBytes c = .ok (if parsedAccepted c then some c else none) := by
  have hacc := parsedAccepted_iff c
  unfold Pes.parsedFromBytes Pes.FIXED Pes.hdl Pes.flagsByte
  by_cases hl : c.length < 3
  · have : ¬ parsedAccepted c := by rw [hacc]; omega
    simp [hl, this]
  · have h3 : 3 ≤ c.length := by omega
    have hf := byteD_lt c 1
    rw [byteAt_ok c 0 (by omega), byteAt_ok c 1 (by omega), byteAt_ok c 2 (by omega)]
    simp only [hl, if_false, R.ok_bind, Nat.shiftRight_eq_div_pow _ 6, crcEnd_eq _ hf]
    have hce := three_le_curExt (flagsOfByte (byteD c 1))
    generalize curExt (flagsOfByte (byteD c 1)) = ce at *
    by_cases hm : byteD c 0 / 64 = 2
    · by_cases hh : 3 + byteD c 2 > c.length
      · have : ¬ parsedAccepted c := by rw [hacc]; omega
        simp [hm, hh, this, subR, h3]
      · by_cases hc : ce > 3 + byteD c 2
        · have : ¬ parsedAccepted c := by rw [hacc]; omega
          simp [hm, hh, hc, this, subR, hce]
        · have : parsedAccepted c := by rw [hacc]; omega
          simp [hm, hh, hc, this]
    · have : ¬ parsedAccepted c := by rw [hacc]; omega
      simp [hm, this]

theorem isParsed_table : ∀ sid, sid < 256 → Pes.isParsed sid = !(noHeaderIds.contains sid) := by
  decide +kernel

end Ts.Lemmas.C14
