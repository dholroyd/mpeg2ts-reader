import Ts.Model.Tables
import Ts.Spec.Bits
import Ts.Spec.TableSpec
import Ts.Lemmas.C17
import Ts.Gen.Tables
import Ts.Lemmas.RevC
/-!
# C17 — descriptor loops and typed descriptors

For every byte string taken as a descriptor loop, `DescriptorIter<CoreDescriptors>` terminates and
yields, in order, one item per complete descriptor carrying exactly the tag and payload bytes its
`descriptor_length` delimits (or a typed error when the payload is shorter than that type's fixed
part), followed by exactly one error item if and only if trailing bytes remain that do not hold a
complete descriptor.  Registration, ISO-639 language, maximum-bitrate and AVC-video descriptors
expose exactly the bit fields the standard defines, and every tag value 0..=255 maps to the
documented variant.

All model results are `R.ok`: no index, slice, subtraction, `split_at`, `assert_eq!` or `u32`
multiplication panic is reachable.

Fuel: `descIter` / `languages` return `.ok []` when their fuel runs out, so termination is carried
by `desc_iter_tiles` and `desc_iter_fuel_irrelevant` / `languages_fuel_irrelevant`, not by
`desc_iter_total`.

Scope and readings:
* Typed descriptors are verified as raw bytes / bit fields: `LangItem.lang` carries the 3 raw code
  bytes and the raw `audio_type` byte, `regFields` the 4 raw identifier bytes.  The two value
  conversions of the ISO 639 descriptor are modelled SEPARATELY, as functions of those raw values:
  `AudioType::from` is `Tables.audioTypeOf` (`Ts.Props.Ties.audio_type_exact`,
  `audio_type_keeps_value`) and `Language::code` (latin-1 decoding) is `Tables.langCodePoints`
  (`Ts.Props.Ties.lang_code_points`); the theorems of this file do not compose them with
  `languages_exact`.  NOT modelled (nothing is claimed): `FormatIdentifier::from` / `is_format`
  (external crate `smptera-format-identifiers-rust`; the model keeps the 4 raw bytes).
* `DescErr` carries no payload (`DescriptorError::NotEnoughData { tag, actual, expected }` etc. are
  collapsed), so a typed payload that is too short and a trailing incomplete descriptor both appear
  as `.err .notEnoughData`; `desc_iter_tiles` tells them apart by position.
* `tag_variant_table` compares the code with the crate's own documentation; `tag_table_iso13818_1*`
  compare it with ISO/IEC 13818-1 Table 2-45, typed in independently.
* Ties to regenerated constants (`Ts/Props/Ties/ExprDesc.lean`): the fixed-part lengths 4, 3, 4 of
  the typed constructors are `tie_typed_descriptor_min_len` (this file's `typedMinLength` is the
  SPEC's copy, related to `typedNew` by `typed_accept_iff`), the language item size 4 is
  `tie_language_item_size`.
  NOT tied (no regenerated constant exists): the descriptor header size 2 (`tag`, `length`:
  `coreFromBytes`, `descIter`), the typed tags 5 / 10 / 14 / 40 as `Self::TAG` (the tag → payload-type
  table IS regenerated: `tie_payload_types`), the factors `50 * 8` of
  `maximum_bits_per_second` (`tie_max_bitrate_unit` compares the 50 with `EsRate`'s constant only),
  the byte offsets and masks of `avcFields` / `maxBitrateFields`.
-/
namespace Ts.Props.C17
open Ts Ts.Spec Ts.Tables Ts.Spec.TableSpec Ts.Lemmas.C16 Ts.Lemmas.C17 Ts.Lemmas.RevC

/-! ### the descriptor loop -/

/-- panic freedom: `descIterAll` returns `R.ok`.  Weak as a termination statement: the model's
iterator is fuel-bounded and returns `.ok []` on exhaustion (see `desc_iter_fuel_irrelevant`,
`desc_iter_tiles`). -/
theorem desc_iter_total (buf : Bytes) : ∃ items, descIterAll buf = .ok items :=
  ⟨_, descIter_eq _ buf (Nat.lt_succ_self _)⟩

/-- **Fuel is never exhausted.**  For every fuel greater than the buffer length, `descIter` gives
the result of `descIterAll` (which supplies `length + 1`), and one more unit of fuel changes nothing
(each step consumes at least 2 bytes, so the hypothesis is generous). -/
theorem desc_iter_fuel_irrelevant (buf : Bytes) (fuel : Nat) (h : buf.length < fuel) :
    descIter fuel buf = descIterAll buf ∧ descIter fuel buf = descIter (fuel + 1) buf := by
  unfold descIterAll
  rw [descIter_eq fuel buf h, descIter_eq _ buf (Nat.lt_succ_self _), descIter_eq (fuel + 1) buf (by omega)]
  exact ⟨rfl, rfl⟩

/-- the same for `LanguageIterator` -/
theorem languages_fuel_irrelevant (p : Bytes) (fuel : Nat) (h : p.length < fuel) :
    languages fuel p = languagesAll p ∧ languages fuel p = languages (fuel + 1) p := by
  unfold languagesAll
  rw [languages_eq fuel p h, languages_eq _ p (Nat.lt_succ_self _), languages_eq (fuel + 1) p (by omega)]
  exact ⟨rfl, rfl⟩

/-- the hypothesis is needed, and exhaustion is silent: too little fuel yields a proper prefix,
still as `R.ok` -/
example : descIter 1 [0x02, 0x00, 0x03, 0x00] = .ok [.ok 2 []]
    ∧ descIterAll [0x02, 0x00, 0x03, 0x00] = .ok [.ok 2 [], .ok 3 []] := ⟨rfl, rfl⟩
example : descIter 1000 [0x02, 0x00, 0x03, 0x00] = descIterAll [0x02, 0x00, 0x03, 0x00] :=
  (desc_iter_fuel_irrelevant _ 1000 (by decide)).1

/-- the items are the complete descriptors of the loop, classified, followed by one error item iff
trailing bytes remain; descriptors and trailing bytes re-encode to the buffer -/
theorem desc_iter_tiles (buf : Bytes) :
    ∃ (ds : List (Nat × Bytes)) (trailing : Bytes),
      specDescLoop buf = (ds, trailing) ∧
      descIterAll buf = .ok (ds.map classify ++
        (if trailing = [] then []
         else if trailing.length < 2 then [.err .bufferTooShort] else [.err .notEnoughData])) ∧
      (ds.map encodeDesc).flatten ++ trailing = buf ∧
      (∀ d ∈ ds, d.1 < 256 ∧ d.2.length ≤ 255) ∧
      (trailing.length < 2 ∨ trailing.length < 2 + byteD trailing 1) := by
  obtain ⟨p1, p2, p3⟩ := loop_props _ buf (Nat.lt_succ_self _)
  exact ⟨_, _, rfl, descIter_eq _ buf (Nat.lt_succ_self _), p1, p2, p3⟩

/-- exactly one trailing error iff the leftover is non-empty, and nothing after it -/
theorem desc_iter_count (buf : Bytes) :
    ∃ items, descIterAll buf = .ok items ∧
      items.length = (specDescLoop buf).1.length + (if (specDescLoop buf).2 = [] then 0 else 1) ∧
      (∀ i, i < (specDescLoop buf).1.length →
        items[i]? = ((specDescLoop buf).1[i]?).map classify) := by
  refine ⟨_, descIter_eq _ buf (Nat.lt_succ_self _), ?_, ?_⟩
  · unfold specDescItems trailingItems
    rw [List.length_append, List.length_map]
    split
    · rfl
    · split <;> rfl
  · intro i hi
    unfold specDescItems
    rw [List.getElem?_append_left (by rw [List.length_map]; exact hi), List.getElem?_map]

/-- the item for a complete descriptor: typed error iff the payload is shorter than the fixed part of
its type (registration 4, maximum bitrate 3, AVC video 4, everything else — ISO 639 included — 0) -/
theorem classify_exact (tag : Nat) (payload : Bytes) :
    classify (tag, payload) =
      if payload.length < (if tag = 5 then 4 else if tag = 14 then 3 else if tag = 40 then 4 else 0)
      then .err .notEnoughData else .ok tag payload := by
  unfold classify
  by_cases h5 : tag = 5
  · subst h5; rfl
  by_cases h14 : tag = 14
  · subst h14; rfl
  by_cases h40 : tag = 40
  · subst h40; rfl
  have : typedMinLength tag = 0 := by unfold typedMinLength; split <;> simp_all
  simp [h5, h14, h40, this]

theorem desc_roundtrip (ds : List (Nat × Bytes)) (h : ∀ d ∈ ds, d.1 < 256 ∧ d.2.length ≤ 255) :
    descIterAll ((ds.map encodeDesc).flatten) = .ok (ds.map classify) := by
  have e : descIterAll ((ds.map encodeDesc).flatten) = .ok (specDescItems ((ds.map encodeDesc).flatten)) :=
    descIter_eq _ _ (Nat.lt_succ_self _)
  rw [e]
  unfold specDescItems
  rw [loop_encode ds h]
  simp [trailingItems]

/-! ### typed descriptors -/

/-- the typed constructors never panic (`assert_eq!(tag, Self::TAG)` included) and accept a payload
exactly when it holds the fixed part -/
theorem typed_accept_iff (tag : Nat) (p : Bytes) :
    (∃ r, typedNew tag p = .ok r) ∧
    (typedNew tag p = .ok (.ok ()) ↔ typedMinLength tag ≤ p.length) := by
  rw [typedNew_eq]
  refine ⟨⟨_, rfl⟩, ?_⟩
  by_cases h : p.length < typedMinLength tag
  · simp [h]
  · simp [h]; omega

theorem typed_min_lengths :
    typedMinLength 5 = 4 ∧ typedMinLength 14 = 3 ∧ typedMinLength 40 = 4 ∧ typedMinLength 10 = 0 :=
  ⟨rfl, rfl, rfl, rfl⟩

/-- a direct `CoreDescriptors::from_bytes` call on ANY buffer: no panic; `BufferTooShort` below two
bytes, `TagTooLongForBuffer` when `descriptor_length` overruns the buffer, otherwise the classified
descriptor (bytes after the declared length are ignored) -/
theorem core_from_bytes_exact (buf : Bytes) :
    coreFromBytes buf = .ok (
      if buf.length < 2 then .err .bufferTooShort
      else if buf.length < 2 + byteD buf 1 then .err .tagTooLongForBuffer
      else classify (byteD buf 0, (buf.drop 2).take (byteD buf 1))) :=
  coreFromBytes_eq buf

example : coreFromBytes [0x05] = .ok (.err .bufferTooShort)
    ∧ coreFromBytes [0x05, 0x04, 0x43] = .ok (.err .tagTooLongForBuffer)
    ∧ coreFromBytes [0x05, 0x01, 0x43, 0xff] = .ok (.err .notEnoughData)
    ∧ coreFromBytes [0x02, 0x01, 0x43, 0xff] = .ok (.ok 2 [0x43]) := ⟨rfl, rfl, rfl, rfl⟩

/-- `RegistrationDescriptor`: format_identifier = first 4 bytes, additional info = the rest -/
theorem reg_fields_exact (p : Bytes) (h : typedNew 5 p = .ok (.ok ())) :
    regFields p = .ok (p.take 4, p.drop 4) :=
  regFields_eq p ((typed_accept_iff 5 p).2.1 h)

/-- `reg_fields_exact` on "CUEI" + 2 bytes of additional identification info; a 4-byte payload has
empty additional info; a 3-byte payload does not satisfy the hypothesis -/
example : typedNew 5 [0x43, 0x55, 0x45, 0x49, 0xAA, 0xBB] = .ok (.ok ()) ∧
    regFields [0x43, 0x55, 0x45, 0x49, 0xAA, 0xBB] = .ok ([0x43, 0x55, 0x45, 0x49], [0xAA, 0xBB]) ∧
    regFields [0x43, 0x55, 0x45, 0x49] = .ok ([0x43, 0x55, 0x45, 0x49], []) ∧
    typedNew 5 [0x43, 0x55, 0x45] = .ok (.error .notEnoughData) := ⟨rfl, rfl, rfl, rfl⟩
example : regFields [0x43, 0x55, 0x45, 0x49, 0xAA, 0xBB]
    = .ok (([0x43, 0x55, 0x45, 0x49, 0xAA, 0xBB] : Bytes).take 4, ([0x43, 0x55, 0x45, 0x49, 0xAA, 0xBB] : Bytes).drop 4) :=
  reg_fields_exact _ rfl

/-- `MaximumBitrateDescriptor`: maximum_bitrate = bits 2..24; ×400 never overflows `u32` -/
theorem max_bitrate_exact (p : Bytes) (h : typedNew 14 p = .ok (.ok ())) :
    maxBitrateFields p = .ok (readBits p 2 22, readBits p 2 22 * 400) ∧
    readBits p 2 22 * 400 < 2 ^ 32 := by
  refine ⟨maxBitrate_eq p ((typed_accept_iff 14 p).2.1 h), ?_⟩
  have := readBits_lt p 2 22
  omega

/-- `AvcVideoDescriptor`: profile_idc 8, constraint_set0..5 1 each, AVC_compatible_flags 2,
level_idc 8, AVC_still_present 1, AVC_24_hour_picture_flag 1, frame_packing_SEI_not_present 1 -/
theorem avc_fields_exact (p : Bytes) (h : typedNew 40 p = .ok (.ok ())) :
    avcFields p = .ok
      { profileIdc := readBits p 0 8,
        cs0 := readBits p 8 1 == 1, cs1 := readBits p 9 1 == 1, cs2 := readBits p 10 1 == 1,
        cs3 := readBits p 11 1 == 1, cs4 := readBits p 12 1 == 1, cs5 := readBits p 13 1 == 1,
        compat := readBits p 14 2, levelIdc := readBits p 16 8,
        still := readBits p 24 1 == 1, h24 := readBits p 25 1 == 1, fpSei := readBits p 26 1 == 1 } :=
  avcFields_eq p ((typed_accept_iff 40 p).2.1 h)

/-- `Iso639LanguageDescriptor::languages()`: total for every payload; one item per complete 4-byte
group (3-byte code, audio_type byte) followed by exactly one `tooShort n` iff `n = len % 4 ≠ 0` -/
theorem languages_exact (p : Bytes) :
    ∃ items, languagesAll p = .ok items ∧
      items.length = p.length / 4 + (if p.length % 4 = 0 then 0 else 1) ∧
      (∀ i, i < p.length / 4 →
        items[i]? = some (.lang ((p.drop (4 * i)).take 3) (readBits p (8 * (4 * i + 3)) 8))) ∧
      items[p.length / 4]? = (if p.length % 4 = 0 then none else some (.tooShort (p.length % 4))) := by
  refine ⟨specLanguages p, languages_eq _ p (Nat.lt_succ_self _), specLanguages_length p, ?_, lang_last p⟩
  intro i hi
  rw [lang_get p i hi, readBits_byte]

/-! ### tag → variant -/

/-- above 63 every comparison with a tag below 64 fails, in the model's chain of tests as in the
documented table -/
theorem user_private (t : Nat) (h : 64 ≤ t) (h' : t < 256) :
    variantName t = "UserPrivate" ∧ specVariant t = "UserPrivate" := by
  have ne : ∀ k, k < 64 → (t == k) = false := fun k hk => by simp only [beq_eq_false_iff_ne]; omega
  have le : ∀ k, k < 64 → ¬ t ≤ k := fun k hk => by omega
  have h255 : t ≤ 255 := by omega
  constructor
  · simp only [variantName, ne, le, Nat.reduceLT, decide_false, Bool.and_false, Bool.or_false,
      Bool.false_eq_true, if_false]
  · simp only [specVariant, variantRanges, lookupRange, le, Nat.reduceLT, and_false, if_false, h, h255,
      and_self, if_true, Option.getD_some]

/-- all 256 tag values map to the documented variant: tags below 64 by evaluation -/
theorem tag_variant_table (tag : Nat) (h : tag < 256) : variantName tag = specVariant tag := by
  have low : ∀ t : Fin 64, variantName t.val = specVariant t.val := by decide +kernel
  by_cases h64 : tag < 64
  · exact low ⟨tag, h64⟩
  · obtain ⟨a, b⟩ := user_private tag (by omega) h
    rw [a, b]

/-- the table typed in from the documentation is itself well formed: its ranges are increasing and
tile 0..=255 exactly, so `specVariant` never falls through to its default -/
theorem variant_ranges_tile : rangesTile 0 variantRanges = true := by decide

/-! ### tag → variant against ISO/IEC 13818-1 Table 2-45 (independent of the crate's docs and of `Ts/Gen`)

Each row below is `(descriptor_tag, name in Table 2-45, variant of CoreDescriptors)`; the table is
typed in from the standard (2015 edition numbering), NOT from the crate.  The correspondence
"standard's name ↔ variant identifier" is by reading the two names (note the crate's misspelt
`MontentLabeling` for content_labeling_descriptor, tag 36). -/

/-- tags 2..18 and 27..44: the model maps each tag to the variant named after the descriptor the
standard assigns to it -/
theorem tag_table_iso13818_1 :
    ∀ r ∈ ([ (2,  "video_stream_descriptor",                 "VideoStream"),
             (3,  "audio_stream_descriptor",                 "AudioStream"),
             (4,  "hierarchy_descriptor",                    "Hierarchy"),
             (5,  "registration_descriptor",                 "Registration"),
             (6,  "data_stream_alignment_descriptor",        "DataStreamAlignment"),
             (7,  "target_background_grid_descriptor",       "TargetBackgroundGrid"),
             (8,  "video_window_descriptor",                 "VideoWindow"),
             (9,  "CA_descriptor",                           "CA"),
             (10, "ISO_639_language_descriptor",             "ISO639Language"),
             (11, "system_clock_descriptor",                 "SystemClock"),
             (12, "multiplex_buffer_utilization_descriptor", "MultiplexBufferUtilization"),
             (13, "copyright_descriptor",                    "Copyright"),
             (14, "maximum_bitrate_descriptor",              "MaximumBitrate"),
             (15, "private_data_indicator_descriptor",       "PrivateDataIndicator"),
             (16, "smoothing_buffer_descriptor",             "SmoothingBuffer"),
             (17, "STD_descriptor",                          "STD"),
             (18, "IBP_descriptor",                          "IBP"),
             (27, "MPEG-4_video_descriptor",                 "MPEG4Video"),
             (28, "MPEG-4_audio_descriptor",                 "MPEG4Audio"),
             (29, "IOD_descriptor",                          "IOD"),
             (30, "SL_descriptor",                           "SL"),
             (31, "FMC_descriptor",                          "FMC"),
             (32, "external_ES_ID_descriptor",               "ExternalESID"),
             (33, "MuxCode_descriptor",                      "MuxCode"),
             (34, "FmxBufferSize_descriptor",                "FmxBufferSize"),
             (35, "multiplexBuffer_descriptor",              "MultiplexBuffer"),
             (36, "content_labeling_descriptor",             "MontentLabeling"),
             (37, "metadata_pointer_descriptor",             "MetadataPointer"),
             (38, "metadata_descriptor",                     "Metadata"),
             (39, "metadata_STD_descriptor",                 "MetadataStd"),
             (40, "AVC video descriptor",                    "AvcVideo"),
             (41, "IPMP_descriptor",                         "IPMP"),
             (42, "AVC timing and HRD descriptor",           "AvcTimingAndHrd"),
             (43, "MPEG-2_AAC_audio_descriptor",             "Mpeg2AacAudio"),
             (44, "FlexMuxTiming_descriptor",                "FlexMuxTiming") ] : List (Nat × String × String)),
      variantName r.1 = r.2.2 := by decide +kernel


/-- tags 45..56 and 63 (rows added by the amendments folded into the 2013/2015 editions) -/
theorem tag_table_iso13818_1_tail :
    ∀ r ∈ ([ (45, "MPEG-4_text_descriptor",                     "Mpeg4Text"),
             (46, "MPEG-4_audio_extension_descriptor",          "Mpeg4AudioExtension"),
             (47, "Auxiliary_video_stream_descriptor",          "AuxiliaryVideoStream"),
             (48, "SVC extension descriptor",                   "SvcExtension"),
             (49, "MVC extension descriptor",                   "MvcExtension"),
             (50, "J2K video descriptor",                       "J2kVideo"),
             (51, "MVC operation point descriptor",             "MvcOperationPoint"),
             (52, "MPEG2_stereoscopic_video_format_descriptor", "Mpeg2StereoscopicVideoFormat"),
             (53, "Stereoscopic_program_info_descriptor",       "StereoscopicProgramInfo"),
             (54, "Stereoscopic_video_info_descriptor",         "StereoscopicVideoInfo"),
             (55, "Transport_profile_descriptor",               "TransportProfile"),
             (56, "HEVC video descriptor",                      "HevcVideo"),
             (63, "Extension_descriptor",                       "Extension") ] : List (Nat × String × String)),
      variantName r.1 = r.2.2 := by decide +kernel

/-- the ranges of Table 2-45: 19..26 "Defined in ISO/IEC 13818-6", 64..255 "User Private",
0 and 57..62 "Reserved".  DEVIATIONS from later editions, kept visible: tag 1 is "forbidden" (not
"reserved") since the 2012 edition, and tags 57 (VVC video) and 58 (EVC video) are assigned in the
2021 and later editions; the crate (and hence the model) files all three under `Reserved`. -/
theorem tag_table_iso13818_1_ranges (t : Nat) (h : t < 256) :
    (19 ≤ t ∧ t ≤ 26 → variantName t = "IsoIec13818dash6") ∧
    (64 ≤ t → variantName t = "UserPrivate") ∧
    ((t = 0 ∨ t = 1 ∨ (57 ≤ t ∧ t ≤ 62)) → variantName t = "Reserved") := by
  have low : ∀ t : Fin 64, (19 ≤ t.val ∧ t.val ≤ 26 → variantName t.val = "IsoIec13818dash6") ∧
      ((t.val = 0 ∨ t.val = 1 ∨ (57 ≤ t.val ∧ t.val ≤ 62)) → variantName t.val = "Reserved") := by
    decide +kernel
  refine ⟨fun h1 => (low ⟨t, by omega⟩).1 h1, fun h64 => (user_private t h64 h).1,
    fun h1 => (low ⟨t, by omega⟩).2 h1⟩

/-- the three tables together cover every tag 0..=255 (so no tag is left unchecked) -/
theorem tag_table_covers : ∀ t : Fin 256,
    (2 ≤ t.val ∧ t.val ≤ 18) ∨ (27 ≤ t.val ∧ t.val ≤ 44) ∨ (45 ≤ t.val ∧ t.val ≤ 56) ∨ t.val = 63
      ∨ (19 ≤ t.val ∧ t.val ≤ 26) ∨ 64 ≤ t.val ∨ t.val = 0 ∨ t.val = 1 ∨ (57 ≤ t.val ∧ t.val ≤ 62) := by
  decide +kernel

/-! ### non-vacuity -/

/-- a registration descriptor ("CUEI") followed by an ISO 639 descriptor ("eng", undefined) -/
example : descIterAll [0x05, 0x04, 0x43, 0x55, 0x45, 0x49, 0x0a, 0x04, 0x65, 0x6e, 0x67, 0x00]
    = .ok [.ok 5 [0x43, 0x55, 0x45, 0x49], .ok 10 [0x65, 0x6e, 0x67, 0x00]] := by rfl
example : specDescLoop [0x05, 0x04, 0x43, 0x55, 0x45, 0x49, 0x0a, 0x04, 0x65, 0x6e, 0x67, 0x00]
    = ([(5, [0x43, 0x55, 0x45, 0x49]), (10, [0x65, 0x6e, 0x67, 0x00])], []) :=
  loop_encode [(5, [0x43, 0x55, 0x45, 0x49]), (10, [0x65, 0x6e, 0x67, 0x00])] (by decide)
/-- trailing partial descriptor (declares 9 bytes, 1 present) -/
example : descIterAll [0x02, 0x01, 0xff, 0x0e, 0x09, 0x01] = .ok [.ok 2 [0xff], .err .notEnoughData] := by rfl
/-- a single stray byte -/
example : descIterAll [0x02, 0x00, 0x07] = .ok [.ok 2 [], .err .bufferTooShort] := by rfl
/-- a typed error does not stop the loop -/
example : descIterAll [0x05, 0x01, 0xaa, 0x02, 0x00] = .ok [.err .notEnoughData, .ok 2 []] := by rfl
example : classify (5, [0xaa]) = .err .notEnoughData ∧ classify (10, []) = .ok 10 [] := by decide
/-- the crate's own test vectors -/
example : maxBitrateFields [0xc0, 0x01, 0x84] = .ok (388, 155200) := by rfl
example : languagesAll [0x65, 0x6e, 0x67, 0x00, 0x66] = .ok [.lang [0x65, 0x6e, 0x67] 0, .tooShort 1] := by rfl
example : typedNew 14 [0xc0, 0x01, 0x84] = .ok (.ok ()) := by rfl
example : avcFields [0x64, 0x40, 0x28, 0xbf]
    = .ok ⟨100, false, true, false, false, false, false, 0, 40, true, false, true⟩ := by rfl
example : specVariant 5 = "Registration" ∧ specVariant 60 = "Reserved" ∧ specVariant 200 = "UserPrivate" := by
  decide +kernel

/-! ### tie to the `descriptor_enum!{ CoreDescriptors … }` rows regenerated from the source -/
/-- variant / payload type the SOURCE's macro invocation selects for a tag -/
def genRow (tag : Nat) : Option (Nat × Nat × String × String) :=
  Ts.Gen.descVariants.find? (fun r => r.1 ≤ tag && tag ≤ r.2.1)
def genVariant (tag : Nat) : String := match genRow tag with | some r => r.2.2.1 | none => "?"
def genPayloadType (tag : Nat) : String := match genRow tag with | some r => r.2.2.2 | none => "?"

theorem user_private_gen (t : Nat) (h : 64 ≤ t) (h' : t < 256) :
    genVariant t = "UserPrivate" ∧ genPayloadType t = "UnknownDescriptor" := by
  have le : ∀ k, k < 64 → ¬ t ≤ k := fun k hk => by omega
  have h255 : t ≤ 255 := by omega
  constructor
  · simp only [genVariant, genRow, Ts.Gen.descVariants, List.find?_cons, le, Nat.reduceLT, decide_false,
      Bool.and_false, h, h255, decide_true, Bool.and_self]
  · simp only [genPayloadType, genRow, Ts.Gen.descVariants, List.find?_cons, le, Nat.reduceLT,
      decide_false, Bool.and_false, h, h255, decide_true, Bool.and_self]

/-- every tag 0..=255 is mapped by the source's table to the variant the model (and, by
`tag_variant_table`, the documented table) gives -/
theorem tie_variant_rows : ∀ tag : Fin 256, Ts.Tables.variantName tag.val = genVariant tag.val := by
  have low : ∀ t : Fin 64, variantName t.val = genVariant t.val := by decide +kernel
  intro tag
  by_cases h64 : tag.val < 64
  · exact low ⟨tag.val, h64⟩
  · rw [(user_private tag.val (by omega) tag.isLt).1, (user_private_gen tag.val (by omega) tag.isLt).1]
/-- the typed payload constructors are attached to exactly the tags the model dispatches on
(5 registration, 10 ISO 639 language, 14 maximum bitrate, 40 AVC video; everything else is the
catch-all `UnknownDescriptor`) -/
theorem tie_payload_types : ∀ tag : Fin 256, genPayloadType tag.val =
    (if tag.val = 5 then "RegistrationDescriptor" else if tag.val = 10 then "Iso639LanguageDescriptor"
     else if tag.val = 14 then "MaximumBitrateDescriptor" else if tag.val = 40 then "AvcVideoDescriptor"
     else "UnknownDescriptor") := by
  have low : ∀ t : Fin 64, genPayloadType t.val =
      (if t.val = 5 then "RegistrationDescriptor" else if t.val = 10 then "Iso639LanguageDescriptor"
       else if t.val = 14 then "MaximumBitrateDescriptor" else if t.val = 40 then "AvcVideoDescriptor"
       else "UnknownDescriptor") := by decide +kernel
  intro tag
  by_cases h64 : tag.val < 64
  · exact low ⟨tag.val, h64⟩
  · rw [(user_private_gen tag.val (by omega) tag.isLt).2, if_neg (by omega), if_neg (by omega),
      if_neg (by omega), if_neg (by omega)]

end Ts.Props.C17
