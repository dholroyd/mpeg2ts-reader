import Ts.Lemmas.Projb
/-!
# Helper lemmas for C09 at the application level

Counting `esCcErr` along the events an ES packet records; the acceptor fact behind the quarantine (a
`cont` after a `ccErr` is preceded by a `beginPkt` lying after it); a filter reaches `started` only
through a packet that emits `beginPkt`; `ensure` installs no PES handler.
-/
namespace Ts.Lemmas.C09b
open Ts Ts.Demux Ts.App Ts.Lemmas.Proj Ts.Spec.Protocol
open Ts.Lemmas.C08 (stepOf stepPure runPure usOf hpOf ccOf payOf hdrOf continuous)

/-! ### counting `esCcErr` -/

theorem esEvList_count_ccErr (touch : Bool) (tag : Nat) (p : Bytes) (base : Nat) :
    ∀ (evs : List PesFilter.Ev) (l : List Ev), esEvList touch tag p base evs = .ok l →
      l.count (Ev.esCcErr tag) = evs.count PesFilter.Ev.ccErr := by
  intro evs
  induction evs with
  | nil =>
    intro l h
    have := R.ok_inj h
    subst this
    rfl
  | cons e es ih =>
    intro l h
    unfold esEvList at h
    obtain ⟨a, ha, h⟩ := R.bind_eq_ok h
    obtain ⟨rest, hrest, h⟩ := R.bind_eq_ok h
    have := R.ok_inj h
    subst this
    have key : (a == Ev.esCcErr tag) = (e == PesFilter.Ev.ccErr) := by
      cases e with
      | start => have := R.ok_inj ha; subst this; rfl
      | endPkt => have := R.ok_inj ha; subst this; rfl
      | ccErr => have := R.ok_inj ha; subst this; rw [beq_self_eq_true, beq_self_eq_true]
      | cont o l => have := R.ok_inj ha; subst this; rfl
      | beginPkt o l =>
        obtain ⟨bi, _, ha⟩ := R.bind_eq_ok ha
        cases touch with
        | false => have := R.ok_inj ha; subst this; rfl
        | true =>
          simp only [if_true] at ha
          obtain ⟨_, _, ha⟩ := R.bind_eq_ok ha
          have := R.ok_inj ha; subst this; rfl
    rw [List.count_cons, List.count_cons, ih rest hrest, key]

theorem esAll_counts (touch : Bool) (tag : Nat) : ∀ (pks : List Pk) (evss : List (List PesFilter.Ev))
    (outs : List (List Ev)), pks.length = evss.length → esAll touch tag pks evss = .ok outs →
    outs.map (List.count (Ev.esCcErr tag)) = evss.map (List.count PesFilter.Ev.ccErr) := by
  intro pks
  induction pks with
  | nil =>
    intro evss outs hl h
    cases evss with
    | nil => have := R.ok_inj h; subst this; rfl
    | cons _ _ => simp at hl
  | cons pk pks ih =>
    intro evss outs hl h
    cases evss with
    | nil => simp at hl
    | cons evs evss =>
      rw [esAll_cons] at h
      obtain ⟨a, ha, h⟩ := R.bind_eq_ok h
      obtain ⟨rest, hrest, h⟩ := R.bind_eq_ok h
      have := R.ok_inj h
      subst this
      simp only [List.map_cons, List.cons.injEq]
      exact ⟨esEvList_count_ccErr _ _ _ _ _ _ ha,
        ih evss rest (by simpa using hl) hrest⟩

/-- `.esCcErr τ` is tagged `τ`, so the projection loses none of them -/
theorem count_ccErr_proj (τ : Nat) (c : Ctx) :
    (proj τ c).count (Ev.esCcErr τ) = c.trace.count (Ev.esCcErr τ) := by
  unfold proj
  rw [List.count_eq_countP, List.count_eq_countP, List.countP_filter, List.countP_reverse]
  apply List.countP_congr
  intro e _
  cases e <;> simp [tagOf]

/-! ### the acceptor -/

/-- in a trace accepted from ANY state, continuation data after a `ccErr` is preceded by a
`beginPkt` that lies after that `ccErr`, with nothing but continuation data in between -/
theorem no_cont_after_ccErr {s s' : PState} {pre mid post : List PesFilter.Ev} {o l : Nat}
    (h : accepts s (pre ++ .ccErr :: (mid ++ .cont o l :: post)) = some s') :
    ∃ m1 o' l' m2, mid = m1 ++ .beginPkt o' l' :: m2 ∧ ∀ x ∈ m2, isCont x := by
  obtain ⟨m, _, hpost⟩ := accepts_append_some h
  obtain ⟨m', hm', hrest⟩ := accepts_cons_some hpost
  exact cont_end_preceded_by_begin hrest (step_ccErr hm').1 (Or.inl ⟨o, l, rfl⟩)

/-! ### the filter reaches `started` only through `beginPkt` -/

theorem runPure_take_succ (f : PesFilter.F) (ps : List Bytes) (n : Nat) (p : Bytes)
    (hn : ps[n]? = some p) :
    (runPure f (ps.take (n + 1))).1 = (stepOf (runPure f (ps.take n)).1 p).1 := by
  have : ps.take (n + 1) = ps.take n ++ [p] := by
    rw [List.take_add_one, hn]; rfl
  rw [this, Ts.Lemmas.C08.runPure_append]
  rfl

theorem started_needs_begin (f : PesFilter.F) (ps : List Bytes) (a : Nat) :
    ∀ b, a ≤ b → (runPure f (ps.take a)).1.st ≠ .started →
      (runPure f (ps.take b)).1.st = .started →
      ∃ i q o l, a ≤ i ∧ i < b ∧ ps[i]? = some q ∧ usOf q = true ∧
        PesFilter.Ev.beginPkt o l ∈ (stepOf (runPure f (ps.take i)).1 q).2 := by
  intro b
  induction b with
  | zero =>
    intro hab h1 h2
    have : a = 0 := by omega
    subst this
    exact absurd h2 h1
  | succ b ih =>
    intro hab h1 h2
    by_cases hba : a = b + 1
    · subst hba; exact absurd h2 h1
    · have hab' : a ≤ b := by omega
      cases hq : ps[b]? with
      | none =>
        have hlen : ps.length ≤ b := List.getElem?_eq_none_iff.mp hq
        rw [List.take_of_length_le (by omega), ← List.take_of_length_le hlen] at h2
        obtain ⟨i, q, o, l, x1, x2, x3⟩ := ih hab' h1 h2
        exact ⟨i, q, o, l, x1, by omega, x3⟩
      | some q =>
        rw [runPure_take_succ f ps b q hq] at h2
        rcases Ts.Lemmas.C08.stepOf_started h2 with ⟨hu, o, l, hb⟩ | ⟨_, hs, _⟩
        · exact ⟨b, q, o, l, hab', Nat.lt_succ_self _, hq, hu, hb⟩
        · obtain ⟨i, q', o, l, x1, x2, x3⟩ := ih hab' h1 hs
          exact ⟨i, q', o, l, x1, by omega, x3⟩

/-! ### `ensure` installs no PES handler -/

theorem construct_byPid_not_pes (c : Ctx) (pid σ : Nat) (f : PesFilter.F) :
    (construct c (.byPid pid)).1 ≠ .pes σ f := by
  unfold construct
  cases pid <;> simp

theorem ensure_pes_old (t : Tab Handler) (c : Ctx) (pid : Nat) (t1 : Tab Handler) (c1 : Ctx)
    (h : ensure App.sem t c pid = .ok (t1, c1)) (q σ : Nat) (f : PesFilter.F)
    (hg : t1.get q = some (.pes σ f)) : t.get q = some (.pes σ f) := by
  rcases ensure_cases t c pid t1 c1 h with ⟨_, e1, _⟩ | ⟨_, e1, _⟩
  · subst e1; exact hg
  · subst e1
    rw [Tab.get_insert] at hg
    split at hg
    · injection hg with hg
      exact absurd hg (construct_byPid_not_pes c pid σ f)
    · exact hg

end Ts.Lemmas.C09b
