import Ts.Props.C04Crc
import Ts.Lemmas.C04b
import Ts.Lemmas.C04c
import Ts.Model.App
import Ts.Lemmas.AppEval
/-!
# C04 (gate half) — PAT / PMT handlers act only on sections whose CRC verifies

With the CRC check compiled in (`bypassCrc = false`, i.e. not `cfg(fuzzing)`), from one call of
`runDeliveries` up to whole runs.  The statement to rely on is `requests_from_verified_delivery`;
`requests_only_from_verified` is a weak corollary that by `reseal` does not distinguish a working
gate.  Known finding F12 (`crc_fail_causes_reapplication`): the property sentence's causal reading
("no section whose CRC fails ever CAUSES …") is false for this crate.

The error-detection lemmas compare a span with a corruption of THE SAME LENGTH.  A flipped bit in
`section_length`, `pointer_field` or the syntax bit changes WHICH bytes are delivered; that case is
covered only by the gate theorems (whatever is delivered must verify before it is acted on), by the
harness enumeration, and by the kernel-checked example `twoPacket_every_bit_blocked`.
-/
namespace Ts.Props.C04
open Ts Ts.CrcSpec

/-! `App.runDeliveries` is the only path from reassembled sections to `PatProcessor::new_table` /
`PmtProcessor::new_table`.  The theorems of this section ASSUME, for every delivery, the syntax bit
(otherwise `crcPass` panics on its `assert!`) and at least 2 bytes (otherwise it panics reading
byte 1); section `Handler` discharges that for the deliveries of `Psi.consume Psi.table`. -/
section Gate
open Ts.App Ts.Psi

theorem crcPass_iff (data : Bytes) (hs : byteD data 1 &&& 0b1000_0000 ≠ 0) (hl : 2 ≤ data.length) :
    Psi.crcPass false data = .ok (decide (12 ≤ data.length ∧ crc data = 0)) := by
  rw [Ts.Lemmas.C04b.crcPass_eq false data hs hl, Bool.false_or, Bool.decide_and]

/-- sections that fail the CRC are invisible to the table processor: the run over all deliveries
equals the run over the verified ones only -/
theorem gate_filters (sect : Ctx → List Nat → Bytes → R (Ctx × List Nat × List (Demux.Change Handler)))
    (c : Ctx) (reg : List Nat) (hb : c.cfg.bypassCrc = false)
    (hcfg : ∀ c' r d c'' r'' ch, sect c' r d = .ok (c'', r'', ch) → c''.cfg = c'.cfg) :
    ∀ (ds : List Delivery),
      (∀ d ∈ ds, byteD d.bytes 1 &&& 0b1000_0000 ≠ 0 ∧ 2 ≤ d.bytes.length) →
      runDeliveries sect c reg ds =
        runDeliveries sect c reg (ds.filter (fun d => decide (12 ≤ d.bytes.length ∧ crc d.bytes = 0))) := by
  intro ds
  induction ds generalizing c reg with
  | nil => intro _; rfl
  | cons d ds ih =>
    intro h
    have hd := h d (List.mem_cons_self ..)
    have hrest : ∀ d' ∈ ds, byteD d'.bytes 1 &&& 0b1000_0000 ≠ 0 ∧ 2 ≤ d'.bytes.length :=
      fun d' hm => h d' (List.mem_cons_of_mem _ hm)
    by_cases hp : (12 ≤ d.bytes.length ∧ crc d.bytes = 0)
    · have hf : (d :: ds).filter (fun d => decide (12 ≤ d.bytes.length ∧ crc d.bytes = 0))
          = d :: ds.filter (fun d => decide (12 ≤ d.bytes.length ∧ crc d.bytes = 0)) := by
        simp [hp]
      rw [hf]
      simp only [runDeliveries, hb, crcPass_iff d.bytes hd.1 hd.2, hp, and_self, decide_true,
        R.ok_bind, if_true]
      cases hs : sect c reg d.bytes with
      | panic s => rfl
      | ok v =>
        obtain ⟨c1, reg1, chg1⟩ := v
        have hc1 : c1.cfg.bypassCrc = false := by rw [hcfg _ _ _ _ _ _ hs]; exact hb
        simp only [R.ok_bind]
        rw [ih c1 reg1 hc1 hrest]
    · have hf : (d :: ds).filter (fun d => decide (12 ≤ d.bytes.length ∧ crc d.bytes = 0))
          = ds.filter (fun d => decide (12 ≤ d.bytes.length ∧ crc d.bytes = 0)) := by
        simp [hp]
      rw [hf]
      simp only [runDeliveries, hb, crcPass_iff d.bytes hd.1 hd.2, hp, decide_false,
        R.ok_bind, Bool.false_eq_true, if_false]
      exact ih c reg hb hrest

theorem gate_blocks' (sect : Ctx → List Nat → Bytes → R (Ctx × List Nat × List (Demux.Change Handler)))
    (c : Ctx) (reg : List Nat) (hb : c.cfg.bypassCrc = false) :
    ∀ (ds : List Delivery),
      (∀ d ∈ ds, byteD d.bytes 1 &&& 0b1000_0000 ≠ 0 ∧ 2 ≤ d.bytes.length
        ∧ ¬ (12 ≤ d.bytes.length ∧ crc d.bytes = 0)) →
      runDeliveries sect c reg ds = .ok (c, reg, []) := by
  intro ds
  induction ds with
  | nil => intro _; rfl
  | cons d ds ih =>
    intro h
    have hd := h d (List.mem_cons_self ..)
    simp only [runDeliveries, hb, crcPass_iff d.bytes hd.1 hd.2.1, hd.2.2, decide_false, R.ok_bind,
      Bool.false_eq_true, if_false]
    exact ih (fun d' hm => h d' (List.mem_cons_of_mem _ hm))

/-- ONE call of `runDeliveries`: if every section of `ds` has the syntax bit set, at least 2 bytes
and a non-zero CRC, the context, the registered set and the change queue are untouched — `sect` is
never invoked.  Says nothing about later calls (whether the reassembler DELIVERS a later intact
section may depend on the failed one: F12, `crc_fail_causes_reapplication`) nor about where `ds`
comes from (`table_handler_gated`). -/
theorem gate_blocks (sect : Ctx → List Nat → Bytes → R (Ctx × List Nat × List (Demux.Change Handler)))
    (c : Ctx) (reg : List Nat) (hb : c.cfg.bypassCrc = false) :
    ∀ (ds : List Delivery),
      (∀ d ∈ ds, byteD d.bytes 1 &&& 0b1000_0000 ≠ 0 ∧ 2 ≤ d.bytes.length ∧ crc d.bytes ≠ 0) →
      runDeliveries sect c reg ds = .ok (c, reg, []) :=
  fun ds h => gate_blocks' sect c reg hb ds
    (fun d hd => ⟨(h d hd).1, (h d hd).2.1, fun hh => (h d hd).2.2 hh.2⟩)

/-- Literally `detect_single_bit_flip`; the statement does not mention the gate.  With
`table_handler_gated` it blocks a corrupted section only when the reassembler delivers a span of
the same length, i.e. when the flipped bit is NOT in `section_length`, `pointer_field` or the syntax
bit; a flip there changes WHICH bytes are delivered, which only the gate theorems, the harness
enumeration and `twoPacket_every_bit_blocked` cover. -/
theorem corrupted_section_blocked (m : Bytes) (p : Nat) (hm : crc m = 0) (hp : p < 8 * m.length) :
    crc (flipBit m p) ≠ 0 := detect_single_bit_flip m p hp hm

end Gate

section Handler
open Ts.App Ts.Psi Ts.Demux Ts.Lemmas.C04b Ts.Lemmas.C04c Ts.Lemmas.Proj

theorem patSection_cfg (c : Ctx) (reg : List Nat) (d : Bytes) (c' : Ctx) (reg' : List Nat)
    (chg : List (Change Handler)) (h : App.patSection c reg d = .ok (c', reg', chg)) : c'.cfg = c.cfg := by
  obtain ⟨_, _, -, -, rfl, -⟩ := Ts.Lemmas.C05.patSection_shape h
  rfl

theorem pmtSection_cfg (c : Ctx) (pid : Nat) (reg : List Nat) (d : Bytes) (c' : Ctx) (reg' : List Nat)
    (chg : List (Change Handler)) (h : pmtSection c pid reg d = .ok (c', reg', chg)) : c'.cfg = c.cfg := by
  obtain ⟨_, _, -, -, rfl, -⟩ := Ts.Lemmas.C05.pmtSection_shape h
  rfl

theorem gate_filters_pat (c : Ctx) (reg : List Nat) (hb : c.cfg.bypassCrc = false) (ds : List Delivery)
    (hds : ∀ d ∈ ds, byteD d.bytes 1 &&& 0b1000_0000 ≠ 0 ∧ 2 ≤ d.bytes.length) :
    runDeliveries App.patSection c reg ds =
      runDeliveries App.patSection c reg (ds.filter (fun d => decide (12 ≤ d.bytes.length ∧ crc d.bytes = 0))) :=
  gate_filters App.patSection c reg hb (fun c' r d c'' r'' ch h => patSection_cfg c' r d c'' r'' ch h) ds hds

theorem gate_filters_pmt (pid : Nat) (c : Ctx) (reg : List Nat) (hb : c.cfg.bypassCrc = false)
    (ds : List Delivery)
    (hds : ∀ d ∈ ds, byteD d.bytes 1 &&& 0b1000_0000 ≠ 0 ∧ 2 ≤ d.bytes.length) :
    runDeliveries (fun c r d => pmtSection c pid r d) c reg ds =
      runDeliveries (fun c r d => pmtSection c pid r d) c reg
        (ds.filter (fun d => decide (12 ≤ d.bytes.length ∧ crc d.bytes = 0))) :=
  gate_filters _ c reg hb (fun c' r d c'' r'' ch h => pmtSection_cfg c' pid r d c'' r'' ch h) ds hds

/-- **Handler-level gate.**  `hs`: the reassembly state satisfies `GateInv` (true of `{}` and
preserved: `gateInv_init`, `consume_table_gateInv`); `hbad`: NO section completed by the packet
verifies.  Then the PAT handler, and every PMT handler, returns with the context literally
unchanged (no request, no tag, no event), `reg` unchanged and an EMPTY change list; only the
reassembly state advances. -/
theorem table_handler_gated' (s : Psi.St) (reg : List Nat) (c : Ctx) (pk : Pk) (s' : Psi.St)
    (ds : List Psi.Delivery) (hb : c.cfg.bypassCrc = false) (hs : GateInv s)
    (hl : pk.bytes.length = 188) (hP : Psi.consume Psi.table s pk.bytes = .ok (s', ds))
    (hbad : ∀ d ∈ ds, ¬ (12 ≤ d.bytes.length ∧ crc d.bytes = 0)) :
    App.consume (.pat s reg) c pk = .ok (.pat s' reg, c, []) ∧
    (∀ pid prog, App.consume (.pmt pid prog s reg) c pk = .ok (.pmt pid prog s' reg, c, [])) ∧
    GateInv s' := by
  obtain ⟨hs', hds⟩ := consume_table_gateInv s hs pk.bytes hl s' ds hP
  have hside : ∀ d ∈ ds, byteD d.bytes 1 &&& 0b1000_0000 ≠ 0 ∧ 2 ≤ d.bytes.length
      ∧ ¬ (12 ≤ d.bytes.length ∧ crc d.bytes = 0) :=
    fun d hd => ⟨(hds d hd).1, by have := (hds d hd).2; omega, hbad d hd⟩
  refine ⟨?_, ?_, hs'⟩
  · simp only [App.consume, hP, R.ok_bind, gate_blocks' App.patSection c reg hb ds hside]
    rfl
  · intro pid prog
    simp only [App.consume, hP, R.ok_bind,
      gate_blocks' (fun c r d => pmtSection c pid r d) c reg hb ds hside]
    rfl

/-- the same with the hypothesis in the form "the CRC of every completed section is non-zero" -/
theorem table_handler_gated (s : Psi.St) (reg : List Nat) (c : Ctx) (pk : Pk) (s' : Psi.St)
    (ds : List Psi.Delivery) (hb : c.cfg.bypassCrc = false) (hs : GateInv s)
    (hl : pk.bytes.length = 188) (hP : Psi.consume Psi.table s pk.bytes = .ok (s', ds))
    (hbad : ∀ d ∈ ds, crc d.bytes ≠ 0) :
    App.consume (.pat s reg) c pk = .ok (.pat s' reg, c, []) ∧
    ∀ pid prog, App.consume (.pmt pid prog s reg) c pk = .ok (.pmt pid prog s' reg, c, []) :=
  have h := table_handler_gated' s reg c pk s' ds hb hs hl hP (fun d hd hh => hbad d hd hh.2)
  ⟨h.1, h.2.1⟩

/-- **Handler-level filter**: under the same hypotheses minus `hbad`, what a PAT / PMT handler does
on a packet is what its table processor does on the completed sections that verify (≥ 12 bytes and
Annex A CRC zero), in order; the others are invisible -/
theorem table_handler_filtered (s : Psi.St) (reg : List Nat) (c : Ctx) (pk : Pk) (s' : Psi.St)
    (ds : List Psi.Delivery) (hb : c.cfg.bypassCrc = false) (hs : GateInv s)
    (hl : pk.bytes.length = 188) (hP : Psi.consume Psi.table s pk.bytes = .ok (s', ds)) :
    App.consume (.pat s reg) c pk =
      (runDeliveries App.patSection c reg (ds.filter (fun d => decide (12 ≤ d.bytes.length ∧ crc d.bytes = 0)))
        >>= fun r => R.ok (.pat s' r.2.1, r.1, r.2.2)) ∧
    ∀ pid prog, App.consume (.pmt pid prog s reg) c pk =
      (runDeliveries (fun c r d => pmtSection c pid r d) c reg
          (ds.filter (fun d => decide (12 ≤ d.bytes.length ∧ crc d.bytes = 0)))
        >>= fun r => R.ok (.pmt pid prog s' r.2.1, r.1, r.2.2)) := by
  obtain ⟨_, hds⟩ := consume_table_gateInv s hs pk.bytes hl s' ds hP
  have hside : ∀ d ∈ ds, byteD d.bytes 1 &&& 0b1000_0000 ≠ 0 ∧ 2 ≤ d.bytes.length :=
    fun d hd => ⟨(hds d hd).1, by have := (hds d hd).2; omega⟩
  refine ⟨?_, ?_⟩
  · simp only [App.consume, hP, R.ok_bind, gate_filters_pat c reg hb ds hside]
    rfl
  · intro pid prog
    simp only [App.consume, hP, R.ok_bind, gate_filters_pmt pid c reg hb ds hside]
    rfl

/-- a completed section that the CRC layer (check compiled in) does not let through: shorter than
12 bytes, or Annex A CRC over the whole section non-zero -/
def FailsGate (b : Bytes) : Prop := ¬ (12 ≤ b.length ∧ crc b = 0)

theorem consume_table_blocked (h : Handler) (s s' : Psi.St) (c : Ctx) (pk : Pk)
    (ds : List Psi.Delivery) (hst : tableSt h = some s) (hb : c.cfg.bypassCrc = false)
    (hs : GateInv s) (hl : pk.bytes.length = 188)
    (hP : Psi.consume Psi.table s pk.bytes = .ok (s', ds)) (hbad : ∀ d ∈ ds, FailsGate d.bytes) :
    App.consume h c pk = .ok (withSt h s', c, []) := by
  cases h with
  | pat s0 reg => cases hst; exact (table_handler_gated' s reg c pk s' ds hb hs hl hP hbad).1
  | pmt pid prog s0 reg =>
    cases hst; exact (table_handler_gated' s reg c pk s' ds hb hs hl hP hbad).2.1 pid prog
  | pes _ _ => cases hst
  | recorder _ => cases hst

/-- one dispatcher step on an unflagged packet served by a PAT or PMT handler `h`: if no section
completed by this packet verifies, the context is unchanged and the table changes only in that
`h`'s reassembly state advances -/
theorem step_table_gated (t : Tab Handler) (c : Ctx) (pk : Pk) (h : Handler) (s s' : Psi.St)
    (ds : List Psi.Delivery) (hb : c.cfg.bypassCrc = false) (hg : t.get pk.pid = some h)
    (hst : tableSt h = some s) (hs : GateInv s) (hf : pk.flagged = false)
    (hl : pk.bytes.length = 188) (hP : Psi.consume Psi.table s pk.bytes = .ok (s', ds))
    (hbad : ∀ d ∈ ds, FailsGate d.bytes) :
    specStep App.sem (t, c) pk = .ok (t.insert pk.pid (withSt h s'), c) := by
  have hc : t.contains pk.pid = true := (Tab.contains_eq_true_iff t pk.pid).2 ⟨_, hg⟩
  rw [specStep_consume_of_contains App.sem t c pk _ hc hf hg]
  show (App.consume h c pk >>= _) = _
  rw [consume_table_blocked h s s' c pk ds hst hb hs hl hP hbad]
  rfl

theorem step_pat_gated (t : Tab Handler) (c : Ctx) (pk : Pk) (s : Psi.St) (reg : List Nat) (s' : Psi.St)
    (ds : List Psi.Delivery) (hg : t.get pk.pid = some (.pat s reg)) (hf : pk.flagged = false)
    (hb : c.cfg.bypassCrc = false) (hs : GateInv s) (hl : pk.bytes.length = 188)
    (hP : Psi.consume Psi.table s pk.bytes = .ok (s', ds))
    (hbad : ∀ d ∈ ds, ¬ (12 ≤ d.bytes.length ∧ crc d.bytes = 0)) :
    specStep App.sem (t, c) pk = .ok (t.insert pk.pid (.pat s' reg), c) :=
  step_table_gated t c pk (.pat s reg) s s' ds hb hg rfl hs hf hl hP hbad

theorem step_pmt_gated (t : Tab Handler) (c : Ctx) (pk : Pk) (pid prog : Nat) (s : Psi.St)
    (reg : List Nat) (s' : Psi.St) (ds : List Psi.Delivery)
    (hg : t.get pk.pid = some (.pmt pid prog s reg)) (hf : pk.flagged = false)
    (hb : c.cfg.bypassCrc = false) (hs : GateInv s) (hl : pk.bytes.length = 188)
    (hP : Psi.consume Psi.table s pk.bytes = .ok (s', ds))
    (hbad : ∀ d ∈ ds, ¬ (12 ≤ d.bytes.length ∧ crc d.bytes = 0)) :
    specStep App.sem (t, c) pk = .ok (t.insert pk.pid (.pmt pid prog s' reg), c) :=
  step_table_gated t c pk (.pmt pid prog s reg) s s' ds hb hg rfl hs hf hl hP hbad

theorem verified_iff (S : Bytes) :
    Verified S ↔ 12 ≤ S.length ∧ byteD S 1 &&& 0b1000_0000 ≠ 0 ∧ crc S = 0 := by
  unfold Verified
  rw [sum32_zero_iff]

/-- the whole run is the packet-at-a-time fold over `framedAll pushes 0`: the packets each `push`
frames out of its own buffer, in order, incomplete tails dropped -/
theorem runApp_is_fold (cfg : App.Cfg) (pushes : List Bytes) :
    runApp cfg pushes = pushSpec App.sem (App.init cfg) (framedAll pushes 0) :=
  pushAll_eq_pushSpec App.sem pushes (App.init cfg) 0

/-- **History form, any run.**  Check compiled in, any pushes: every event of the final trace is
the initial `ByPid(0)` request of `Demultiplex::new`, or was appended by the dispatcher step on some
framed packet `pk`, from the state `(t1, c1)` reached after the packets before it, and satisfies
`StepEv t1 c1 pk` there: the `ByPid(pk.pid)` request, or an event allowed to the serving handler by
`GatedEv` — for a PAT / PMT handler a request computed from a section its own reassembler delivers
on `pk` and that is `Verified`. -/
theorem requests_history_run (cfg : App.Cfg) (hb : cfg.bypassCrc = false) (pushes : List Bytes)
    (t : Tab Handler) (c : Ctx) (h : runApp cfg pushes = .ok (t, c)) :
    ∀ e ∈ c.trace, e = Ev.construct (.byPid 0) 0 ∨
      ∃ pre pk post t1 c1, framedAll pushes 0 = pre ++ pk :: post ∧
        pushSpec App.sem (App.init cfg) pre = .ok (t1, c1) ∧ StepEv t1 c1 pk e := by
  intro e hm
  rw [runApp_is_fold] at h
  obtain ⟨_, _, out, hout, hall⟩ := pushSpec_gated (framedAll pushes 0) (App.init cfg) (t, c) hb h
  rw [show (t, c).2.trace = out ++ [Ev.construct (.byPid 0) 0] from hout] at hm
  rcases List.mem_append.1 hm with hm | hm
  · exact Or.inr (hall e hm)
  · exact Or.inl (List.mem_singleton.1 hm)

/-- The gate statement for one run, with no hypothesis on `cfg.bypassCrc` so that it can be refuted
for a build without the check (`gate_statement_fails_without_crc_check`): every handler request in
the final trace is a `ByPid` request, or `FromVerifiedDelivery t1 c1 pk req` for a framed packet
`pk` of the run and the state `(t1, c1)` reached before it. -/
def GateStatement (cfg : App.Cfg) (pushes : List Bytes) : Prop :=
  ∀ t c, runApp cfg pushes = .ok (t, c) → ∀ req tag, Ev.construct req tag ∈ c.trace →
    (∃ p, req = Req.byPid p) ∨
      ∃ pre pk post t1 c1, framedAll pushes 0 = pre ++ pk :: post ∧
        pushSpec App.sem (App.init cfg) pre = .ok (t1, c1) ∧ FromVerifiedDelivery t1 c1 pk req

/-- **Stream-level gate ("ever"), strong form.**  With the check compiled in, for EVERY list of
pushed buffers (arbitrary bytes, lengths, chunking) every PAT / PMT processor request of the run is
computed from a section that the requesting handler's own reassembler delivered, on an identified
packet, in the reachable state at that point, and that section is `Verified`.
NOT claimed: that a section which failed the check has no influence on WHICH later sections are
delivered.  It has (F12, `crc_fail_causes_reapplication`): the reassembler records
`version_number` before the CRC is known. -/
theorem requests_from_verified_delivery (cfg : App.Cfg) (hb : cfg.bypassCrc = false)
    (pushes : List Bytes) : GateStatement cfg pushes := by
  intro t c h req tag hm
  rcases requests_history_run cfg hb pushes t c h _ hm with he | ⟨pre, pk, post, t1, c1, h1, h2, h3⟩
  · injection he with he _
    exact Or.inl ⟨0, he⟩
  · rcases fromVerifiedDelivery_of_stepEv t1 c1 pk req tag h3 with hp | hv
    · exact Or.inl ⟨pk.pid, hp⟩
    · exact Or.inr ⟨pre, pk, post, t1, c1, h1, h2, hv⟩

/-- `&data[8 .. data.len() - 4]`, all a table processor reads besides `table_id`, does not contain
the last four bytes -/
theorem secBody_append (m x : Bytes) (hx : x.length = 4) (hm : 8 ≤ m.length) :
    secBody (m ++ x) = m.drop 8 := by
  unfold secBody
  rw [List.length_append, hx, List.drop_append_of_le_length hm]
  have : m.length + 4 - 4 - 8 = (m.drop 8).length := by rw [List.length_drop]; omega
  rw [this, List.take_left]

/-- **Why the existential form below is weak.**  Replacing the last four bytes of ANY `S` of ≥ 12
bytes with the syntax bit set by the CRC of the rest gives a `Verified` string with the same PAT
requests and, on every PID, the same PMT requests (the processors never read the CRC bytes).  So
`∃ S, Verified S ∧ req ∈ patRequests S` holds as soon as `req ∈ patRequests S₀` for any such `S₀`. -/
theorem reseal (S : Bytes) (h12 : 12 ≤ S.length) (hsyn : byteD S 1 &&& 0b1000_0000 ≠ 0) :
    ∃ S', Verified S' ∧ S'.length = S.length ∧ S'.take (S.length - 4) = S.take (S.length - 4)
      ∧ patRequests S' = patRequests S ∧ ∀ pid, pmtRequests pid S' = pmtRequests pid S := by
  have hm : (S.take (S.length - 4)).length = S.length - 4 := by rw [List.length_take]; omega
  have hS : S = S.take (S.length - 4) ++ S.drop (S.length - 4) := (List.take_append_drop _ _).symm
  have hd : (S.drop (S.length - 4)).length = 4 := by rw [List.length_drop]; omega
  have hb : (be32 (crc (S.take (S.length - 4)))).length = 4 := rfl
  have hbody : secBody (S.take (S.length - 4) ++ be32 (crc (S.take (S.length - 4)))) = secBody S := by
    rw [secBody_append _ _ hb (by omega)]
    conv => rhs; rw [hS]
    rw [secBody_append _ _ hd (by omega)]
  have hbyte : ∀ i, i < 8 → byteD (S.take (S.length - 4) ++ be32 (crc (S.take (S.length - 4)))) i
      = byteD S i := by
    intro i hi
    rw [Ts.Lemmas.C03.byteD_append_left _ _ _ (by omega), byteD_take _ _ _ (by omega)]
  refine ⟨S.take (S.length - 4) ++ be32 (crc (S.take (S.length - 4))), ?_, ?_, ?_, ?_, ?_⟩
  · rw [verified_iff]
    refine ⟨by rw [List.length_append, hm, hb]; omega, by rw [hbyte 1 (by omega)]; exact hsyn,
      sum32_append_self _⟩
  · rw [List.length_append, hm, hb]; omega
  · exact List.take_left' hm
  · unfold patRequests
    rw [hbyte 0 (by omega), hbody]
  · intro pid
    unfold pmtRequests
    rw [hbyte 0 (by omega), hbody]

/-- **Stream-level gate, WEAK existential corollary** of `requests_from_verified_delivery`, obtained
by forgetting where the section was delivered: every handler request is a `ByPid` request or one the
PAT / a PMT processor computes from SOME `S` with ≥ 12 bytes, the syntax bit and CRC zero.
WARNING: `S` is not tied to the input; by `reseal` this does not distinguish a working CRC gate from
one that lets every such section through (`weak_form_holds_without_crc_check`); it only excludes
requests that no section at all could produce. -/
theorem requests_only_from_verified (cfg : App.Cfg) (hb : cfg.bypassCrc = false) (pushes : List Bytes)
    (t : Tab Handler) (c : Ctx) (h : runApp cfg pushes = .ok (t, c)) :
    ∀ req tag, Ev.construct req tag ∈ c.trace → (∃ p, req = Req.byPid p) ∨
      ∃ S, 12 ≤ S.length ∧ byteD S 1 &&& 0b1000_0000 ≠ 0 ∧ crc S = 0 ∧ Ts.Crc.sum32 S = .ok 0
        ∧ (req ∈ patRequests S ∨ ∃ pid, req ∈ pmtRequests pid S) := by
  intro req tag hm
  rcases requests_from_verified_delivery cfg hb pushes t c h req tag hm with hp
    | ⟨_, pk, _, t1, c1, _, _, hv⟩
  · exact Or.inl hp
  · obtain ⟨S, hv, hr⟩ := fromVerifiedDelivery_weaken t1 c1 pk req hv
    exact Or.inr ⟨S, hv.1, hv.2.1, (sum32_zero_iff S).1 hv.2.2, hv.2.2, hr⟩

/-- **History form, one push**: the special case `pushes = [buf]` of `requests_history_run`
(`framedAll [buf] 0` is what `frame buf 0` returns, `framedAll_single`); `pks` are the packets
`push` iterates over. -/
theorem requests_history (cfg : App.Cfg) (hb : cfg.bypassCrc = false) (buf : Bytes)
    (t : Tab Handler) (c : Ctx) (h : runApp cfg [buf] = .ok (t, c)) :
    ∃ pks, frame buf 0 = .ok pks ∧ ∀ e ∈ c.trace, e = Ev.construct (.byPid 0) 0 ∨
      ∃ pre pk post t1 c1, pks = pre ++ pk :: post ∧
        pushSpec App.sem (App.init cfg) pre = .ok (t1, c1) ∧ StepEv t1 c1 pk e := by
  refine ⟨_, frame_eq_pure buf 0, ?_⟩
  rw [← framedAll_single buf _ (frame_eq_pure buf 0)]
  exact requests_history_run cfg hb [buf] t c h

/-- **Run-level gate for the table ("replaced or removed").**  Split the framed packets of ANY run
with the check compiled in as `pre ++ bad ++ post`, `(t1, c1)` the state after `pre`, and suppose
`BlockedRun FailsGate t1 bad`: every packet of `bad` is unflagged and — in the table as it stands
when the packet is reached — served by a PAT or PMT handler whose reassembler completes ONLY
sections that fail the gate (possibly none).  Then the run over `bad` returns, the context is
literally unchanged, every slot holds the same handler up to its reassembly state (`forgetSt`: same
kind, PMT PID / program number, `filters_registered`) — nothing inserted, replaced or removed — and
slots of PIDs not occurring in `bad` are identical.  `blockedRun_of_check` reduces `hbad` to an
evaluation.  NOT claimed: that `post` is then treated as if `bad` had not been sent — `lastVersion`
did advance: F12. -/
theorem blocked_run_keeps_table (cfg : App.Cfg) (hb : cfg.bypassCrc = false) (pushes : List Bytes)
    (pre bad post : List Pk) (hsplit : framedAll pushes 0 = pre ++ bad ++ post)
    (t1 : Tab Handler) (c1 : Ctx) (hpre : pushSpec App.sem (App.init cfg) pre = .ok (t1, c1))
    (hbad : BlockedRun FailsGate t1 bad) :
    ∃ t2, pushSpec App.sem (t1, c1) bad = .ok (t2, c1)
      ∧ (∀ q, (t2.get q).map forgetSt = (t1.get q).map forgetSt)
      ∧ (∀ q, (∀ pk ∈ bad, pk.pid ≠ q) → t2.get q = t1.get q) := by
  have hb1 : c1.cfg.bypassCrc = false := by
    have := (pushSpec_gated pre (App.init cfg) (t1, c1) hb hpre).1
    rw [show (t1, c1).2.cfg = c1.cfg from rfl] at this
    rw [this]; exact hb
  have hgate :=
    reachable_tabInv cfg pushes pre (bad ++ post) (by rw [hsplit, List.append_assoc]) t1 c1 hpre
  have hlen : ∀ pk ∈ bad, pk.bytes.length = 188 := fun pk hm =>
    framedAll_len pushes 0 pk (by
      rw [hsplit]; exact List.mem_append_left _ (List.mem_append_right _ hm))
  exact pushSpec_blocked FailsGate step_table_gated bad t1 c1 hb1 hgate hlen hbad

/-- a Boolean evaluator for the hypothesis `BlockedRun FailsGate t pks` -/
def blockedRunB : Tab Handler → List Pk → Bool
  | _, [] => true
  | t, pk :: rest => !pk.flagged &&
    (match t.get pk.pid with
      | none => false
      | some h =>
        match tableSt h with
        | none => false
        | some s =>
          match Psi.consume Psi.table s pk.bytes with
          | .panic _ => false
          | .ok (s', ds) =>
            ds.all (fun d => !(decide (12 ≤ d.bytes.length) && crc d.bytes == 0))
              && blockedRunB (t.insert pk.pid (withSt h s')) rest)

theorem blockedRun_of_check : ∀ (pks : List Pk) (t : Tab Handler), blockedRunB t pks = true →
    BlockedRun FailsGate t pks := by
  intro pks
  induction pks with
  | nil => intro t _; trivial
  | cons pk rest ih =>
    intro t h
    unfold blockedRunB at h
    rw [Bool.and_eq_true] at h
    obtain ⟨hf, h⟩ := h
    have hf' : pk.flagged = false := by simpa using hf
    cases hg : t.get pk.pid with
    | none => rw [hg] at h; cases h
    | some hd =>
      rw [hg] at h; dsimp only at h
      cases hs : tableSt hd with
      | none => rw [hs] at h; cases h
      | some s =>
        rw [hs] at h; dsimp only at h
        cases hP : Psi.consume Psi.table s pk.bytes with
        | panic _ => rw [hP] at h; cases h
        | ok r =>
          obtain ⟨s', ds⟩ := r
          rw [hP] at h; dsimp only at h
          rw [Bool.and_eq_true, List.all_eq_true] at h
          refine ⟨hf', hd, s, s', ds, hg, hs, hP, ?_, ih _ h.2⟩
          intro d hdm hh
          have := h.1 d hdm
          simp [hh.1, hh.2] at this

end Handler

section Examples
open Ts.App Ts.Demux Ts.Lemmas.C04b Ts.Lemmas.C04c
open scoped Ts.Lemmas.C08

/-! ### multi-packet clause: a PAT split over two transport packets, through the whole application
(`Demultiplex::new` + one `push`), by kernel evaluation -/

/-- append the CRC_32 computed by the MODEL of `mpegts_crc::sum32` -/
def sealSection (b : Bytes) : Bytes :=
  match Ts.Crc.sum32 b with
  | .ok v => b ++ be32 v
  | .panic _ => b

/-- first packet on PID 0: unit start, adaptation field of 173 bytes (all stuffing), then
`pointer_field = 0` and the first 9 bytes of `sec` -/
def splitPkt1 (sec : Bytes) : Bytes :=
  [0x47, 0x40, 0x00, 0x30, 173, 0x00] ++ List.replicate 172 0xff ++ [0x00] ++ sec.take 9

/-- second packet on PID 0: continuation, payload only: the rest of `sec`, then `0xff` stuffing -/
def splitPkt2 (sec : Bytes) : Bytes :=
  [0x47, 0x00, 0x00, 0x11] ++ sec.drop 9 ++ List.replicate (184 - (sec.length - 9)) 0xff

def splitStream (sec : Bytes) : Bytes := splitPkt1 sec ++ splitPkt2 sec

/-- the `q`-th payload bit of `splitStream sec` for a 16-byte `sec`: bits 0..79 are the
`pointer_field` and the 9 section bytes in packet 1, bits 80..135 the 7 section bytes in packet 2 -/
def splitBitPos (q : Nat) : Nat := if q < 80 then 8 * 178 + q else 8 * 192 + (q - 80)

/-- the PAT / PMT processor requests (everything except `ByPid`) of a run, oldest first;
`none` if the run panicked -/
def tableRequests : R (Tab Handler × Ctx) → Option (List Req)
  | .ok (_, c) => some (c.trace.reverse.filterMap (fun e =>
      match e with
      | .construct (.byPid _) _ => none
      | .construct r _ => some r
      | _ => none))
  | .panic _ => none

example : sealSection patBody = patSection := by eval_app [sealSection]
example : (splitPkt1 patSection).length = 188 ∧ (splitPkt2 patSection).length = 188 := by decide +kernel

/-- the intact two-packet PAT (CRC computed by the model's `sum32`): the run returns and the PAT
processor requests the PMT handler of program 1 -/
theorem twoPacket_intact :
    tableRequests (runApp {} [splitStream (sealSection patBody)]) = some [Req.pmt 0x1e0 1] := by
  eval_app

/-- one bit inverted in the SECOND packet (bit 37 of the packet = bit 5 of section byte 9): the run
returns and no PAT / PMT processor request is made -/
theorem twoPacket_second_packet_bit :
    tableRequests (runApp {} [splitPkt1 patSection ++ flipBit (splitPkt2 patSection) 37]) = some [] := by
  eval_app

example : (List.range 136).map splitBitPos
    = (List.range 80).map (· + 8 * 178) ++ (List.range 56).map (· + 8 * 192) := by decide +kernel

/-- the stream cut around the 10 payload bytes of its first packet (`pointer_field`, section bytes
0..8), resp. the 7 section bytes in its second -/
theorem splitStream_payload1 : splitStream patSection =
    ([0x47, 0x40, 0x00, 0x30, 173, 0x00] ++ List.replicate 172 0xff)
      ++ ((0x00 :: patSection.take 9) ++ splitPkt2 patSection) := by decide +kernel

theorem splitStream_payload2 : splitStream patSection =
    (splitPkt1 patSection ++ [0x47, 0x00, 0x00, 0x11])
      ++ (patSection.drop 9 ++ List.replicate 177 0xff) := by decide +kernel

theorem twoPacket_every_bit_blocked_a : ∀ q : Fin 80, tableRequests (runApp {}
    [([0x47, 0x40, 0x00, 0x30, 173, 0x00] ++ List.replicate 172 0xff)
      ++ (flipBit (0x00 :: patSection.take 9) q.val ++ splitPkt2 patSection)]) = some [] := by
  eval_app

theorem twoPacket_every_bit_blocked_b : ∀ q : Fin 56, tableRequests (runApp {}
    [(splitPkt1 patSection ++ [0x47, 0x00, 0x00, 0x11])
      ++ (flipBit (patSection.drop 9) q.val ++ List.replicate 177 0xff)]) = some [] := by
  eval_app

/-- **multi-packet clause on a concrete section, every payload bit** (kernel evaluation of the whole
application model, not an instance of the algebraic lemmas): the 16-byte PAT `patSection` is sent
as 9 + 7 bytes in two packets on PID 0.  Inverting ANY ONE of the 136 payload bits — the
`pointer_field`, `table_id`, the syntax bit, `section_length`, version, the body, the CRC, in the
first or in the second packet — yields a run that returns and makes NO PAT / PMT processor request;
the intact stream makes exactly the request for program 1 (`twoPacket_intact`).  Bits of the
4-byte transport headers, of the adaptation field and of the trailing stuffing are not covered. -/
theorem twoPacket_every_bit_blocked (q : Nat) (hq : q < 136) :
    tableRequests (runApp {} [flipBit (splitStream patSection) (splitBitPos q)]) = some [] := by
  -- the flip is moved onto the payload bytes it hits (`flipBit_mid`): inverting a bit of the
  -- 376-byte stream costs the kernel more than framing and running the stream
  unfold splitBitPos
  by_cases h : q < 80
  · have hx : q < 8 * (0x00 :: patSection.take 9).length := h
    rw [if_pos h, splitStream_payload1, flipBit_mid _ _ _ 178 q rfl hx]
    exact twoPacket_every_bit_blocked_a ⟨q, h⟩
  · have hx : q - 80 < 8 * (patSection.drop 9).length := show q - 80 < 56 by omega
    rw [if_neg h, splitStream_payload2, flipBit_mid _ _ _ 192 (q - 80) rfl hx]
    exact twoPacket_every_bit_blocked_b ⟨q - 80, by omega⟩

theorem bitAt_lt (e : Bytes) (i : Nat) (h : bitAt e i = 1) : i < 8 * e.length := by
  apply Classical.byContradiction
  intro hn
  have h0 : byteD e (i / 8) = 0 := by
    unfold byteD
    rw [List.getD_eq_getElem?_getD, List.getElem?_eq_none (by omega)]
    rfl
  unfold bitAt at h
  rw [h0] at h
  simp at h

/-- **double-bit errors inside one section**: the distance bound `q - p < 65536` of
`detect_double_bit` follows from the section length limit (`S.length ≤ 4096`, i.e. at most
32768 bit positions; the reassembler of this crate even caps sections at 1024 bytes) -/
theorem detect_double_bit_section (S e : Bytes) (p q : Nat) (hl : e.length = S.length)
    (hS : S.length ≤ 4096) (hm : crc S = 0) (hpq : p < q)
    (hp : bitAt e p = 1) (hq : bitAt e q = 1) (honly : ∀ i, bitAt e i = 1 → i = p ∨ i = q) :
    crc (xorBytes S e) ≠ 0 := by
  have := bitAt_lt e q hq
  exact detect_double_bit S e p q hl hm hpq (by omega) hp hq honly

/-- the same for two concrete bit inversions -/
theorem detect_double_bit_flip_section (S : Bytes) (p q : Nat) (hpq : p < q) (hq : q < 8 * S.length)
    (hS : S.length ≤ 4096) (hm : crc S = 0) : crc (flipBit (flipBit S p) q) ≠ 0 :=
  detect_double_bit_flip S p q hpq hq (by omega) hm

example : crc (flipBit (flipBit patSection 3) 120) ≠ 0 :=
  detect_double_bit_flip_section patSection 3 120 (by decide) (by decide) (by decide) crc_patSection

/-- a burst that is NOT a single bit: pattern `ff 00 00 81` over bytes 3..6 (bits 24..55) -/
def burstPattern : Bytes := [0, 0, 0, 0xff, 0, 0, 0x81, 0, 0, 0, 0, 0, 0, 0, 0, 0]

theorem burstPattern_window : ∀ i, bitAt burstPattern i = 1 → 24 ≤ i ∧ i < 24 + 32 := by
  intro i hi
  have hlt : i < 128 := bitAt_lt burstPattern i hi
  have key : ∀ j : Fin 128, bitAt burstPattern j.val = 1 → 24 ≤ j.val ∧ j.val < 24 + 32 := by
    decide +kernel
  exact key ⟨i, hlt⟩ hi

example : crc (xorBytes patSection burstPattern) ≠ 0 :=
  detect_burst_le_32 patSection burstPattern 24 (by decide) crc_patSection
    ⟨0xff, by decide, by decide⟩ burstPattern_window

/-! ### non-vacuity of the handler-level gate, single- and multi-packet -/

/-- `patSection` with the last CRC bit inverted -/
def patBad : Bytes := flipBit patSection 127

/-- one transport packet on PID `pid`, unit start, no adaptation field, `pointer_field = 0`,
carrying the whole section `sec` followed by `0xff` stuffing -/
def onePkt (pid : Nat) (sec : Bytes) : Bytes :=
  [0x47, UInt8.ofNat (0x40 ||| (pid >>> 8)), UInt8.ofNat (pid &&& 0xff), 0x10, 0x00] ++ sec
    ++ List.replicate (183 - sec.length) 0xff

theorem crc_patBad : crc patBad ≠ 0 := by decide +kernel

theorem not_verified_patBad : ¬ Verified patBad := fun h => crc_patBad ((verified_iff _).1 h).2.2

/-- the packet completes the corrupt PAT: it IS delivered to the CRC layer -/
theorem consume_onePkt_patBad : Psi.consume Psi.table {} (onePkt 0 patBad)
    = .ok ({ lastVersion := some 0 }, [⟨patBad, some 5⟩]) := by decide +kernel

/-- `table_handler_gated` on a single packet: the PAT handler does nothing, in ANY context -/
theorem gated_single_packet (c : Ctx) (hb : c.cfg.bypassCrc = false) (reg : List Nat) :
    App.consume (.pat {} reg) c ⟨onePkt 0 patBad, 0, 0, false, false⟩
      = .ok (.pat { lastVersion := some 0 } reg, c, []) :=
  (table_handler_gated {} reg c ⟨onePkt 0 patBad, 0, 0, false, false⟩ { lastVersion := some 0 }
    [⟨patBad, some 5⟩] hb gateInv_init (by decide +kernel) consume_onePkt_patBad
    (by intro d hd; simp only [List.mem_singleton] at hd; subst hd; exact crc_patBad)).1

/-- reassembly state after the first packet of the split PAT: 9 bytes buffered, 7 owed -/
def splitState : Psi.St := { lastVersion := some 0, buf := patSection.take 9, remaining := some 7 }

theorem splitState_reached :
    Psi.consume Psi.table {} (splitPkt1 patSection) = .ok (splitState, []) := by decide +kernel

theorem splitState_inv : GateInv splitState :=
  (consume_table_gateInv {} gateInv_init _ (by decide +kernel) _ _ splitState_reached).1

/-- `table_handler_gated` on a multi-packet section: the second packet completes a section whose
last bit was inverted in transit; PAT and PMT handlers do nothing, in ANY context -/
theorem gated_second_packet (c : Ctx) (hb : c.cfg.bypassCrc = false) (reg : List Nat) :
    App.consume (.pat splitState reg) c ⟨splitPkt2 patBad, 188, 0, false, false⟩
      = .ok (.pat { lastVersion := some 0, buf := patBad } reg, c, []) ∧
    ∀ pid prog, App.consume (.pmt pid prog splitState reg) c ⟨splitPkt2 patBad, 188, pid, false, false⟩
      = .ok (.pmt pid prog { lastVersion := some 0, buf := patBad } reg, c, []) := by
  have hP : Psi.consume Psi.table splitState (splitPkt2 patBad)
      = .ok ({ lastVersion := some 0, buf := patBad }, [⟨patBad, none⟩]) := by decide +kernel
  have hbad : ∀ d ∈ [(⟨patBad, none⟩ : Psi.Delivery)], crc d.bytes ≠ 0 := by
    intro d hd; simp only [List.mem_singleton] at hd; subst hd; exact crc_patBad
  have hlen : (splitPkt2 patBad).length = 188 := by decide +kernel
  refine ⟨(table_handler_gated splitState reg c ⟨splitPkt2 patBad, 188, 0, false, false⟩ _ _ hb
    splitState_inv hlen hP hbad).1, ?_⟩
  intro pid prog
  exact (table_handler_gated splitState reg c ⟨splitPkt2 patBad, 188, pid, false, false⟩ _ _ hb
    splitState_inv hlen hP hbad).2 pid prog

/-- a reassembly state that satisfies the buffer invariant `PsiInv .syntax` but NOT `SynInv`: eight
bytes buffered whose header has `section_syntax_indicator = 0`, one byte owed -/
def noSynState : Psi.St := { buf := [0x00, 0x30, 0x06, 0, 0, 0, 0, 0], remaining := some 1 }

/-- **`GateInv` cannot be weakened to `PsiInv .syntax`** in `table_handler_gated`: from `noSynState`
a continuation packet completes a 9-byte section without the syntax bit, whose CRC is non-zero,
and the PAT handler PANICS (on the `assert!` of the CRC layer) instead of returning.  (The state is
unreachable: `SynInv` is an invariant, `consume_table_gateInv`.) -/
theorem table_handler_gated_needs_synInv :
    Ts.Lemmas.C03.PsiInv .syntax noSynState ∧ (splitPkt2 []).length = 188
    ∧ Psi.consume Psi.table noSynState (splitPkt2 [])
        = .ok ({ buf := [0x00, 0x30, 0x06, 0, 0, 0, 0, 0, 0xff] },
               [⟨[0x00, 0x30, 0x06, 0, 0, 0, 0, 0, 0xff], none⟩])
    ∧ crc [0x00, 0x30, 0x06, 0, 0, 0, 0, 0, 0xff] ≠ 0
    ∧ (App.consume (.pat noSynState []) { cfg := {} } ⟨splitPkt2 [], 0, 0, false, false⟩).isOk
        = false := by
  refine ⟨?_, by decide +kernel, by decide +kernel, by decide +kernel, by decide +kernel⟩
  intro n hn
  have : n = 1 := by injection hn with hn; exact hn.symm
  subst this
  decide

/-! ### non-vacuity of the stream-level gate -/

/-- a PMT for program 1 (PCR PID 0x100, one H.264 stream on PID 0x100), without CRC -/
def pmtBody : Bytes :=
  [0x02, 0xb0, 0x12, 0x00, 0x01, 0xc1, 0x00, 0x00, 0xe1, 0x00, 0xf0, 0x00, 0x1b, 0xe1, 0x00, 0xf0, 0x00]
def pmtSectionBytes : Bytes := sealSection pmtBody

/-- the sealed PMT written out.  Proofs that evaluate something over `pmtSectionBytes` rewrite with
this first: otherwise the kernel seals `pmtBody` again, with the model's table-driven `sum32`,
in every such evaluation. -/
theorem pmtSectionBytes_eq : pmtSectionBytes =
    [0x02, 0xb0, 0x12, 0x00, 0x01, 0xc1, 0x00, 0x00, 0xe1, 0x00, 0xf0, 0x00, 0x1b, 0xe1, 0x00, 0xf0,
     0x00, 0x15, 0xbd, 0x4d, 0x56] := by
  eval_app [pmtSectionBytes, sealSection]

example : Verified patSection ∧ patRequests patSection = [Req.pmt 0x1e0 1] := by
  rw [verified_iff]; decide +kernel
example : Verified pmtSectionBytes ∧ pmtRequests 0x1e0 pmtSectionBytes = [Req.stream 0x1e0 0x1b 0x100 0x100 [] []] := by
  rw [pmtSectionBytes_eq, verified_iff]; decide +kernel

/-- intact PAT (split over two packets) then intact PMT: the run returns and the requests are
exactly those of `requests_only_from_verified`; with one bit of the PMT inverted the PMT's stream
request is never made -/
theorem app_pat_pmt :
    tableRequests (runApp {} [splitStream patSection ++ onePkt 0x1e0 pmtSectionBytes])
      = some [Req.pmt 0x1e0 1, Req.stream 0x1e0 0x1b 0x100 0x100 [] []]
    ∧ tableRequests (runApp {} [splitStream patSection ++ onePkt 0x1e0 (flipBit pmtSectionBytes 100)])
      = some [Req.pmt 0x1e0 1] := by
  eval_app [pmtSectionBytes_eq]

/-- Trap: with `b` given as a `fun`, the alternative expected here is a beta-redex while an
evaluated proof's is not, and the kernel settles the mismatch by running `r` on the model's side;
write the check out under the `match` instead (last example of this file) -/
theorem ok_of_check {α : Type} (r : R α) (b : α → Bool)
    (h : (match r with | .ok a => b a | .panic _ => false) = true) : ∃ a, r = .ok a ∧ b a = true := by
  cases r with
  | ok a => exact ⟨a, rfl, h⟩
  | panic s => cases h

/-- the run returned and its trace contains `construct req tag` (Boolean, for `decide +kernel`) -/
def hasConstruct (r : R (Tab Handler × Ctx)) (req : Req) (tag : Nat) : Bool :=
  match r with
  | .ok (_, c) => c.trace.any (fun e =>
      match e with
      | .construct r t => r == req && t == tag
      | _ => false)
  | .panic _ => false

theorem hasConstruct_elim (r : R (Tab Handler × Ctx)) (req : Req) (tag : Nat)
    (h : hasConstruct r req tag = true) : ∃ t c, r = .ok (t, c) ∧ Ev.construct req tag ∈ c.trace := by
  cases r with
  | panic s => cases h
  | ok tc =>
    obtain ⟨t, c⟩ := tc
    refine ⟨t, c, rfl, ?_⟩
    simp only [hasConstruct, List.any_eq_true] at h
    obtain ⟨e, he, hb⟩ := h
    cases e with
    | construct r0 t0 =>
      simp only [Bool.and_eq_true, beq_iff_eq] at hb
      rw [← hb.1, ← hb.2]; exact he
    | _ => cases hb

/-- all handler requests of a run with their tags, oldest first; `none` if the run panicked -/
def constructs : R (Tab Handler × Ctx) → Option (List (Req × Nat))
  | .ok (_, c) => some (c.trace.reverse.filterMap (fun e =>
      match e with
      | .construct r tag => some (r, tag)
      | _ => none))
  | .panic _ => none

/-- **`GateStatement` distinguishes a working gate from none.**  In the `cfg(fuzzing)` build the
statement is FALSE: push the single packet `onePkt 0 patBad`.  The run requests the PMT handler
(`construct (pmt 0x1e0 1) 1`); the only framed packet is this one, the only section the PAT
handler's reassembler delivers on it is `patBad`, and `patBad` is not `Verified`. -/
theorem gate_statement_fails_without_crc_check :
    ¬ GateStatement { bypassCrc := true } [onePkt 0 patBad] := by
  intro hG
  obtain ⟨t, c, hrun, hm⟩ := hasConstruct_elim
    (runApp { bypassCrc := true } [onePkt 0 patBad]) (Req.pmt 0x1e0 1) 1 (by eval_app)
  rcases hG t c hrun _ _ hm with ⟨p, hp⟩ | ⟨pre, pk, post, t1, c1, hsplit, hpre, hv⟩
  · cases hp
  · have hfr : framedAll [onePkt 0 patBad] 0 = [⟨onePkt 0 patBad, 0, 0, false, false⟩] := by
      decide +kernel
    rw [hfr, List.singleton_eq_append_iff] at hsplit
    rcases hsplit with ⟨rfl, hpk⟩ | ⟨_, hnil⟩
    case inr => cases hnil
    cases hpk
    cases hpre
    obtain ⟨h0, hserv, hcase⟩ := hv
    have hh0 : h0 = .pat {} [] := by
      rcases hserv with e | ⟨e, _⟩
      · exact (Option.some.inj e).symm
      · cases e
    subst hh0
    rcases hcase with ⟨s, reg, s', ds, d, e0, hP, hd, hver, _⟩
      | ⟨pid, prog, s, reg, s', ds, d, e0, _⟩
    · cases e0
      have hP' : Psi.consume Psi.table {} (onePkt 0 patBad) = .ok (s', ds) := hP
      rw [consume_onePkt_patBad] at hP'
      cases hP'
      cases List.mem_singleton.1 hd
      exact not_verified_patBad hver
    · cases e0

/-- …while the WEAK existential form (the conclusion of `requests_only_from_verified`) holds for
that very request of that very run without the check, by `reseal`: it cannot tell the difference -/
theorem weak_form_holds_without_crc_check :
    ¬ Verified patBad ∧ Req.pmt 0x1e0 1 ∈ patRequests patBad ∧
    ∃ S, 12 ≤ S.length ∧ byteD S 1 &&& 0b1000_0000 ≠ 0 ∧ crc S = 0 ∧ Ts.Crc.sum32 S = .ok 0
      ∧ (Req.pmt 0x1e0 1 ∈ patRequests S ∨ ∃ pid, Req.pmt 0x1e0 1 ∈ pmtRequests pid S) := by
  have hreq : Req.pmt 0x1e0 1 ∈ patRequests patBad := by decide +kernel
  refine ⟨not_verified_patBad, hreq, ?_⟩
  · obtain ⟨S, hv, _, _, hpat, _⟩ := reseal patBad (by decide +kernel) (by decide +kernel)
    exact ⟨S, hv.1, hv.2.1, (sum32_zero_iff S).1 hv.2.2, hv.2.2, Or.inl (by rw [hpat]; exact hreq)⟩

/-! ### known finding F12: a section that fails the CRC changes what happens to later, intact ones -/

/-- one transport packet on PID `pid` with continuity counter `cc`: unit start, no adaptation
field, `pointer_field = 0`, the whole section `sec`, then `0xff` stuffing -/
def secPkt (pid cc : Nat) (sec : Bytes) : Bytes :=
  [0x47, UInt8.ofNat (0x40 ||| (pid >>> 8)), UInt8.ofNat (pid &&& 0xff), UInt8.ofNat (0x10 ||| cc), 0x00]
    ++ sec ++ List.replicate (183 - sec.length) 0xff

/-- the probe's PAT (program 1 → PMT PID 0x100, version 0), its copy with ONE flipped bit in
`version_number` (byte 5: `c1` → `c3`; CRC bytes unchanged, so the check fails), and its PMT
(PCR PID 0x101, one H.264 stream on PID 0x101) -/
def f12Pat : Bytes :=
  [0x00, 0xb0, 0x0d, 0x00, 0x01, 0xc1, 0x00, 0x00, 0x00, 0x01, 0xe1, 0x00, 0xe8, 0xf9, 0x5e, 0x7d]
def f12PatBad : Bytes := flipBit f12Pat 46
def f12Pmt : Bytes :=
  [0x02, 0xb0, 0x12, 0x00, 0x01, 0xc1, 0x00, 0x00, 0xe1, 0x01, 0xf0, 0x00, 0x1b, 0xe1, 0x01, 0xf0,
   0x00, 0x4f, 0xc4, 0x3d, 0x1b]
/-- PID 0x101: start of a PES packet, then a continuation packet -/
def f12Es1 : Bytes := [0x47, 0x41, 0x01, 0x10, 0, 0, 1, 0xe0, 0, 0, 0x80, 0, 0] ++ List.replicate 175 0x55
def f12Es2 : Bytes := [0x47, 0x01, 0x01, 0x11] ++ List.replicate 184 0x66

/-- the probe stream of known finding F12 (`G1 demux b0t0 …`; with
`second = f12PatBad`) and its control (`G1c`; `second = f12Pat`): PAT, PMT, ES packet, a SECOND PAT
copy, a third (intact, unchanged) PAT copy, the PMT again, an ES continuation -/
def f12Stream (second : Bytes) : Bytes :=
  secPkt 0 0 f12Pat ++ secPkt 0x100 0 f12Pmt ++ f12Es1 ++ secPkt 0 1 second ++ secPkt 0 2 f12Pat
    ++ secPkt 0x100 1 f12Pmt ++ f12Es2

/-- **Known finding F12: the causal reading of C04's gate sentence FAILS for this crate.**
Whole application model, check compiled in, on the exact probe bytes and on the control.
Control (three intact copies of the same PAT): the requests are `ByPid(0)` (tag 0), the PMT handler
(tag 1) and the ES handler (tag 2); the repeats are dropped as duplicates.  Probe (the second copy
has one flipped bit in `version_number`, hence a failing CRC — it is NOT applied): the third,
intact and unchanged copy is applied AGAIN: the PMT handler is re-requested (tag 3) and, on the
repeated PMT, the ES handler is requested again (tag 4) and replaces the one in the middle of its
PES packet.  So a section whose CRC failed DID cause handlers to be requested and replaced —
through the reassembler, which records `version_number` at section start, before the CRC is known.
Every one of these requests is nevertheless computed from a verified, delivered section:
`requests_from_verified_delivery`, not the property sentence's "ever causes", is what holds. -/
theorem crc_fail_causes_reapplication :
    f12PatBad = [0x00, 0xb0, 0x0d, 0x00, 0x01, 0xc3, 0x00, 0x00, 0x00, 0x01, 0xe1, 0x00, 0xe8, 0xf9, 0x5e, 0x7d]
    ∧ crc f12Pat = 0 ∧ crc f12PatBad ≠ 0 ∧ crc f12Pmt = 0
    ∧ constructs (runApp {} [f12Stream f12Pat])
        = some [(Req.byPid 0, 0), (Req.pmt 0x100 1, 1), (Req.stream 0x100 0x1b 0x101 0x101 [] [], 2)]
    ∧ constructs (runApp {} [f12Stream f12PatBad])
        = some [(Req.byPid 0, 0), (Req.pmt 0x100 1, 1), (Req.stream 0x100 0x1b 0x101 0x101 [] [], 2),
                (Req.pmt 0x100 1, 3), (Req.stream 0x100 0x1b 0x101 0x101 [] [], 4)] := by
  eval_app

/-! ### non-vacuity of the run-level theorems -/

/-- two pushes: the PAT split over two packets followed by two stray bytes (dropped by `push`),
then the PMT in a second push (its packet therefore sits at byte offset 378) -/
def twoPush : List Bytes := [splitStream patSection ++ [0x47, 0x00], onePkt 0x1e0 pmtSectionBytes]

theorem twoPush_framed : framedAll twoPush 0 =
    [⟨splitPkt1 patSection, 0, 0, false, false⟩, ⟨splitPkt2 patSection, 188, 0, false, false⟩,
     ⟨onePkt 0x1e0 pmtSectionBytes, 378, 0x1e0, false, false⟩] := by
  rw [twoPush, pmtSectionBytes_eq]; decide +kernel

/-- `requests_history_run` / `requests_from_verified_delivery` on the two-push run: they yield the
packet and the reachable state in which a verified, actually delivered section produced the ES
handler request (tag 2) -/
example : ∃ t c, runApp {} twoPush = .ok (t, c)
    ∧ Ev.construct (Req.stream 0x1e0 0x1b 0x100 0x100 [] []) 2 ∈ c.trace
    ∧ (∀ e ∈ c.trace, e = Ev.construct (.byPid 0) 0 ∨
        ∃ pre pk post t1 c1, framedAll twoPush 0 = pre ++ pk :: post ∧
          pushSpec App.sem (App.init {}) pre = .ok (t1, c1) ∧ StepEv t1 c1 pk e)
    ∧ ∃ pre pk post t1 c1, framedAll twoPush 0 = pre ++ pk :: post ∧
        pushSpec App.sem (App.init {}) pre = .ok (t1, c1) ∧
        FromVerifiedDelivery t1 c1 pk (Req.stream 0x1e0 0x1b 0x100 0x100 [] []) := by
  obtain ⟨t, c, hrun, hm⟩ := hasConstruct_elim (runApp {} twoPush)
    (Req.stream 0x1e0 0x1b 0x100 0x100 [] []) 2 (by eval_app [twoPush, pmtSectionBytes_eq])
  refine ⟨t, c, hrun, hm, requests_history_run {} rfl twoPush t c hrun, ?_⟩
  rcases requests_from_verified_delivery {} rfl twoPush t c hrun _ _ hm with ⟨p, hp⟩ | h
  · cases hp
  · exact h

example : ∃ t c, runApp {} [splitStream patSection] = .ok (t, c)
    ∧ Ev.construct (Req.pmt 0x1e0 1) 1 ∈ c.trace
    ∧ ∃ pks, frame (splitStream patSection) 0 = .ok pks ∧
        ∀ e ∈ c.trace, e = Ev.construct (.byPid 0) 0 ∨
          ∃ pre pk post t1 c1, pks = pre ++ pk :: post ∧
            pushSpec App.sem (App.init {}) pre = .ok (t1, c1) ∧ StepEv t1 c1 pk e := by
  obtain ⟨t, c, hrun, hm⟩ := hasConstruct_elim
    (runApp {} [splitStream patSection]) (Req.pmt 0x1e0 1) 1 (by eval_app)
  exact ⟨t, c, hrun, hm, requests_history {} rfl _ t c hrun⟩

/-- a PAT for program 1 with `version_number = 1` -/
def patV1 : Bytes := sealSection [0x00, 0xb0, 0x0d, 0x00, 0x01, 0xc3, 0x00, 0x00, 0x00, 0x01, 0xe1, 0xe0]

/-- `patV1` written out, for the same use as `pmtSectionBytes_eq` -/
theorem patV1_eq : patV1 =
    [0x00, 0xb0, 0x0d, 0x00, 0x01, 0xc3, 0x00, 0x00, 0x00, 0x01, 0xe1, 0xe0, 0xb3, 0xfe, 0xa8, 0x26] := by
  eval_app [patV1, sealSection]

/-- PID 0, unit start, `pointer_field = 7`: the last 7 bytes of the CORRUPTED `patBad` (completing
the section begun by `splitPkt1`), then the whole intact `patV1`, then stuffing -/
def finishAndStartPkt : Bytes :=
  [0x47, 0x40, 0x00, 0x11, 7] ++ patBad.drop 9 ++ patV1 ++ List.replicate 160 0xff

/-- `table_handler_filtered` on a packet that completes TWO sections, the first failing the CRC,
the second verifying: the PAT handler does what its processor does on the second one alone -/
example (c : Ctx) (hb : c.cfg.bypassCrc = false) (reg : List Nat) :
    App.consume (.pat splitState reg) c ⟨finishAndStartPkt, 188, 0, false, false⟩ =
      (runDeliveries App.patSection c reg [⟨patV1, some 12⟩]
        >>= fun r => R.ok (.pat { lastVersion := some 1, buf := patBad } r.2.1, r.1, r.2.2)) := by
  have hP : Psi.consume Psi.table splitState finishAndStartPkt
      = .ok ({ lastVersion := some 1, buf := patBad }, [⟨patBad, none⟩, ⟨patV1, some 12⟩]) := by
    rw [finishAndStartPkt, patV1_eq]; decide +kernel
  have hfilt : [(⟨patBad, none⟩ : Psi.Delivery), ⟨patV1, some 12⟩].filter
      (fun d => decide (12 ≤ d.bytes.length ∧ crc d.bytes = 0)) = [⟨patV1, some 12⟩] := by
    rw [patV1_eq]; decide +kernel
  have h := (table_handler_filtered splitState reg c ⟨finishAndStartPkt, 188, 0, false, false⟩ _ _ hb
    splitState_inv (by rw [finishAndStartPkt, patV1_eq]; decide +kernel) hP).1
  rw [hfilt] at h
  exact h

/-- `step_pmt_gated`: slot 0x1e0 holds the PMT handler of program 1, the PMT has bit 100 inverted:
the step only advances that handler's reassembly state -/
example (c : Ctx) (hb : c.cfg.bypassCrc = false) :
    specStep App.sem (Tab.insert [] 0x1e0 (.pmt 0x1e0 1 {} []), c)
        ⟨onePkt 0x1e0 (flipBit pmtSectionBytes 100), 376, 0x1e0, false, false⟩
      = .ok ((Tab.insert [] 0x1e0 (.pmt 0x1e0 1 {} [])).insert 0x1e0
          (.pmt 0x1e0 1 { lastVersion := some 0 } []), c) :=
  step_pmt_gated _ c ⟨onePkt 0x1e0 (flipBit pmtSectionBytes 100), 376, 0x1e0, false, false⟩
    0x1e0 1 {} [] { lastVersion := some 0 } [⟨flipBit pmtSectionBytes 100, some 5⟩]
    (Tab.get_insert_self _ _ _) rfl hb gateInv_init (by rw [pmtSectionBytes_eq]; decide +kernel)
    (by rw [pmtSectionBytes_eq]; decide +kernel)
    (by intro d hd; simp only [List.mem_singleton] at hd; subst hd; rw [pmtSectionBytes_eq]; decide +kernel)

/-- two pushes: the intact split PAT and two stray bytes; then, in one buffer, the PMT with bit 100
inverted and a PAT copy with one flipped `version_number` bit (both ARE completed and delivered to
the CRC layer, both fail) -/
def twoPushBad : List Bytes :=
  [splitStream patSection ++ [0x47, 0x00],
   onePkt 0x1e0 (flipBit pmtSectionBytes 100) ++ onePkt 0 (flipBit patSection 46)]

/-- `blocked_run_keeps_table` on a two-push run: after the two PAT packets (PMT handler in slot
0x1e0), the two damaged packets of the second push leave the context untouched and every slot's
handler unchanged up to reassembly state -/
example : ∃ t1 c1 t2,
    pushSpec App.sem (App.init {}) [⟨splitPkt1 patSection, 0, 0, false, false⟩,
      ⟨splitPkt2 patSection, 188, 0, false, false⟩] = .ok (t1, c1)
    ∧ (∃ s, t1.get 0x1e0 = some (.pmt 0x1e0 1 s []))
    ∧ pushSpec App.sem (t1, c1) [⟨onePkt 0x1e0 (flipBit pmtSectionBytes 100), 378, 0x1e0, false, false⟩,
        ⟨onePkt 0 (flipBit patSection 46), 566, 0, false, false⟩] = .ok (t2, c1)
    ∧ (∀ q, (t2.get q).map forgetSt = (t1.get q).map forgetSt)
    ∧ (∀ q, q ≠ 0x1e0 → q ≠ 0 → t2.get q = t1.get q) := by
  have hsplit : framedAll twoPushBad 0 =
      [⟨splitPkt1 patSection, 0, 0, false, false⟩, ⟨splitPkt2 patSection, 188, 0, false, false⟩]
      ++ [⟨onePkt 0x1e0 (flipBit pmtSectionBytes 100), 378, 0x1e0, false, false⟩,
          ⟨onePkt 0 (flipBit patSection 46), 566, 0, false, false⟩] ++ [] := by
    rw [twoPushBad, pmtSectionBytes_eq]; decide +kernel
  -- the check is written out under the `match`, not passed to `ok_of_check` as a function: applied
  -- to a `fun`, the expected alternative is a beta-redex, the evaluated proof's is not, and the
  -- kernel then decides the mismatch by running the model's side of the run
  have hchk : (match pushSpec App.sem (App.init {}) [⟨splitPkt1 patSection, 0, 0, false, false⟩,
        ⟨splitPkt2 patSection, 188, 0, false, false⟩] with
      | .ok tc =>
        blockedRunB tc.1 [⟨onePkt 0x1e0 (flipBit pmtSectionBytes 100), 378, 0x1e0, false, false⟩,
            ⟨onePkt 0 (flipBit patSection 46), 566, 0, false, false⟩]
          && (match tc.1.get 0x1e0 with
              | some (.pmt pid prog _ reg) => pid == 0x1e0 && prog == 1 && reg.isEmpty
              | _ => false)
      | .panic _ => false) = true := by
    eval_app [pmtSectionBytes_eq]
  cases hpre : pushSpec App.sem (App.init {}) [⟨splitPkt1 patSection, 0, 0, false, false⟩,
      ⟨splitPkt2 patSection, 188, 0, false, false⟩] with
  | panic _ => rw [hpre] at hchk; cases hchk
  | ok tc =>
    obtain ⟨t1, c1⟩ := tc
    rw [hpre, Bool.and_eq_true] at hchk
    obtain ⟨t2, h2, k1, k2⟩ := blocked_run_keeps_table {} rfl twoPushBad _ _ _ hsplit t1 c1 hpre
      (blockedRun_of_check _ _ hchk.1)
    refine ⟨t1, c1, t2, rfl, ?_, h2, k1, ?_⟩
    · have h3 := hchk.2
      dsimp only at h3
      cases hg : t1.get 0x1e0 with
      | none => rw [hg] at h3; cases h3
      | some h =>
        rw [hg] at h3
        cases h with
        | pmt pid prog s reg =>
          simp only [Bool.and_eq_true, beq_iff_eq, List.isEmpty_iff] at h3
          obtain ⟨⟨e1, e2⟩, e3⟩ := h3
          subst e1 e2 e3
          exact ⟨s, rfl⟩
        | _ => cases h3
    · intro q h1 h0
      apply k2
      intro pk hm
      simp only [List.mem_cons, List.mem_nil_iff, or_false] at hm
      rcases hm with e | e
      · rw [e]; exact fun x => h1 x.symm
      · rw [e]; exact fun x => h0 x.symm

end Examples

end Ts.Props.C04
