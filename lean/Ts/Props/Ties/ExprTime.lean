import Ts.Model.Pes
import Ts.Model.Tables
import Ts.Model.App
import Ts.Model.Values
import Ts.Gen.Consts
import Ts.Refl.OrHom
import Ts.Gen.Exprs
import Ts.Model.Time
import Ts.Props.Ties.ExprSpecCore
import Ts.Lemmas.C15
/-!
# Ties to `/repo/src` — timestamps and clock references (audited with C15)

Constants (`namespace Ts.Props.Ties`): the model's literals against `Ts/Gen/Consts.lean`; see
`Ts/Props/Ties/Psi.lean`.

Expressions (`tie_expr_*`, `tie_model_*`).  `Ts.Gen.Expr.*` are the bit-field expressions of `/repo/src`
as they read NOW, translated by `tools/gen_exprs.py` (Rust precedence, integer widths, truncating shifts).  Each theorem
`tie_expr_*` proves, for ALL byte values, that the translated expression computes what the
hand-written model's expression computes; each `tie_model_*` (by `rfl`) shows that the model function
really is built from that expression.  A changed mask, shift, byte index, width or operator in the
source therefore breaks a proof obligation here; an equivalent rewrite does not.

CODE = ISO (`code_*_is_iso`): see `Ts/Props/Ties/ExprSpecCore.lean`.
-/
namespace Ts.Props.Ties
open Ts Ts.Pes Ts.Tables Ts.Demux

/-- `ClockRef::from_parts`: both assertions -/
theorem tie_cref_from_parts (base ext : Nat) :
    Time.crefFromParts base ext = (do
      assertR (base < Gen.crefBaseBound) "assert!(base < (1 << 33))"
      assertR (ext < Gen.crefExtBound) "assert!(extension < (1 << 9))"
      pure ⟨base, ext⟩) := rfl

/-- `Timestamp::likely_wrapped_since` compares with `Timestamp::MAX.val / 2` -/
theorem tie_ts_max_wrap (self since : Nat) :
    Time.likelyWrappedSince self since = (decide (self ≤ since) && decide (since - self > Gen.tsMax / 2)) := rfl

/-- `Timestamp::from_u64` (the model takes the bound as an argument; every property theorem passes
`Gen.tsFromU64Bound`): with the regenerated bound it accepts exactly the values up to the MODEL's
`Time.MAX` (= `Timestamp::MAX`, `Ts.Props.C15.tie_model_max_gen`).  Breaks when the asserted bound
and `MAX + 1` come apart. -/
theorem tie_from_u64_accepts_to_max (v : Nat) :
    (Time.fromU64 Gen.tsFromU64Bound v).isOk = true ↔ v ≤ Time.MAX := by
  have hb : Gen.tsFromU64Bound = 8589934592 := rfl
  have hm : Time.MAX = 8589934591 := by decide
  unfold Time.fromU64 assertR
  rw [hb, hm]
  by_cases c : v < 8589934592
  · simp only [c, decide_true, if_true, R.ok_bind, R.pure_eq]
    exact ⟨fun _ => by omega, fun _ => rfl⟩
  · simp only [c, decide_false, Bool.false_eq_true, if_false, R.panic_bind]
    exact ⟨fun h => (by cases h), fun h => (by omega)⟩

end Ts.Props.Ties

namespace Ts.Props.Ties.Expr
open Ts Ts.Refl Ts.Gen.Expr

/-- `Timestamp::from_bytes`: the 33-bit value -/
def mTsVal (e : Env) : Nat := Time.tsVal (e 0) (e 1) (e 2) (e 3) (e 4)
theorem tie_expr_ts_val : ∀ l : List Nat, l.length ≤ 5 → (∀ x ∈ l, x < 256) →
    ts_val (envL l) = mTsVal (envL l) := by
  tie_linear 5

theorem tie_expr_ts_val' (b0 b1 b2 b3 b4 : Nat) (h0 : b0 < 256) (h1 : b1 < 256) (h2 : b2 < 256)
    (h3 : b3 < 256) (h4 : b4 < 256) :
    ts_val (envL [b0, b1, b2, b3, b4]) = Time.tsVal b0 b1 b2 b3 b4 :=
  tie_expr_ts_val [b0, b1, b2, b3, b4] (by simp) (by simp; omega)

/-- `check_prefix`: `buf[0] >> 4` -/
def mPrefix (e : Env) : Nat := e 0 >>> 4
theorem tie_expr_ts_prefix : ∀ x : Fin 256, ts_prefix (envL [x.val]) = mPrefix (envL [x.val]) := by
  decide +kernel
theorem tie_model_ts_prefix (buf : Bytes) (expected : Nat) : Time.checkPrefix buf expected = (do
    assertR (expected ≤ 0b1111) "assert!(expected <= 0b1111)"
    let b0 ← byteAt buf 0
    let actual := mPrefix (envL [b0])
    if actual == expected then pure (.ok ()) else pure (.error (.incorrectPrefix expected actual))) := rfl

/-- `ClockRef::from_slice`: base and extension -/
def mCrefBase (e : Env) : Nat := (e 0 <<< 25) ||| (e 1 <<< 17) ||| (e 2 <<< 9) ||| (e 3 <<< 1) ||| (e 4 >>> 7)
def mCrefExt (e : Env) : Nat := ((e 4 &&& 0b1) <<< 8) ||| e 5
theorem tie_expr_cref_base : ∀ l : List Nat, l.length ≤ 6 → (∀ x ∈ l, x < 256) →
    cref_base (envL l) = mCrefBase (envL l) := by tie_linear 6
theorem tie_expr_cref_ext : ∀ l : List Nat, l.length ≤ 6 → (∀ x ∈ l, x < 256) →
    cref_ext (envL l) = mCrefExt (envL l) := by tie_linear 6
theorem tie_model_cref (d : Bytes) : Time.crefFromSlice d = (do
    let d0 ← byteAt d 0; let d1 ← byteAt d 1; let d2 ← byteAt d 2; let d3 ← byteAt d 3; let d4 ← byteAt d 4
    let base := mCrefBase (envL [d0, d1, d2, d3, d4])
    let d4' ← byteAt d 4
    let d5 ← byteAt d 5
    let ext := mCrefExt (envL [0, 0, 0, 0, d4', d5])
    pure ⟨base, ext⟩) := rfl

end Ts.Props.Ties.Expr

namespace Ts.Props.Ties.Expr
open Ts Ts.Refl Ts.Gen.Expr Ts.Spec

theorem code_model_ts_val (bs : Bytes) : ts_val (envB bs) = mTsVal (envB bs) :=
  tie_on_bytes 5 tie_expr_ts_val (by reads_below ts_val) (by reads_below mTsVal) bs

theorem code_model_cref_base (bs : Bytes) : cref_base (envB bs) = mCrefBase (envB bs) :=
  tie_on_bytes 6 tie_expr_cref_base (by reads_below cref_base) (by reads_below mCrefBase) bs

theorem code_model_cref_ext (bs : Bytes) : cref_ext (envB bs) = mCrefExt (envB bs) :=
  tie_on_bytes 6 tie_expr_cref_ext (by reads_below cref_ext) (by reads_below mCrefExt) bs

open Ts.Lemmas.C15 in
theorem model_iso_ts_val (bs : Bytes) :
    mTsVal (envB bs) = readBits bs 4 3 * 2^30 + readBits bs 8 15 * 2^15 + readBits bs 24 15 := by
  simp only [mTsVal, envB_byteD]
  rw [tsVal_arith _ _ _ _ _ (byteD_lt bs 0) (byteD_lt bs 1) (byteD_lt bs 2) (byteD_lt bs 3) (byteD_lt bs 4),
    field_hi, field_mid, field_lo]
  omega

open Ts.Lemmas.C15 in
theorem model_iso_cref_base (bs : Bytes) : mCrefBase (envB bs) = readBits bs 0 33 := by
  simp only [mCrefBase, envB_byteD]
  rw [crefBase_arith _ _ _ _ _ (byteD_lt bs 0) (byteD_lt bs 1) (byteD_lt bs 2) (byteD_lt bs 3) (byteD_lt bs 4),
    field_pcrBase]

open Ts.Lemmas.C15 in
theorem model_iso_cref_ext (bs : Bytes) : mCrefExt (envB bs) = readBits bs 39 9 := by
  simp only [mCrefExt, envB_byteD]
  rw [crefExt_arith _ _ (byteD_lt bs 5), field_pcrExt]

/-- PTS / DTS: the three value fields `[32..30]`, `[29..15]`, `[14..0]` between the marker bits -/
theorem code_ts_val_is_iso (bs : Bytes) (_h : 5 ≤ bs.length) :
    ts_val (envB bs) = readBits bs 4 3 * 2^30 + readBits bs 8 15 * 2^15 + readBits bs 24 15 :=
  (code_model_ts_val bs).trans (model_iso_ts_val bs)

/-- PCR / OPCR: `program_clock_reference_base`, 33 bits at bit 0 -/
theorem code_cref_base_is_iso (bs : Bytes) (_h : 6 ≤ bs.length) : cref_base (envB bs) = readBits bs 0 33 :=
  (code_model_cref_base bs).trans (model_iso_cref_base bs)

/-- PCR / OPCR: `program_clock_reference_extension`, 9 bits at bit 39 -/
theorem code_cref_ext_is_iso (bs : Bytes) (_h : 6 ≤ bs.length) : cref_ext (envB bs) = readBits bs 39 9 :=
  (code_model_cref_ext bs).trans (model_iso_cref_ext bs)

/-- PTS `21 00 05 bf 21` = prefix 0010, value 0x15f90 = 90000 (one second of the 90 kHz clock) -/
example : ts_val (envB [0x21, 0x00, 0x05, 0xbf, 0x21]) = 90000
    ∧ readBits [0x21, 0x00, 0x05, 0xbf, 0x21] 4 3 * 2^30 + readBits [0x21, 0x00, 0x05, 0xbf, 0x21] 8 15 * 2^15
        + readBits [0x21, 0x00, 0x05, 0xbf, 0x21] 24 15 = 90000 := by decide

end Ts.Props.Ties.Expr
