import Ts.Gen.PushGen
import Ts.Lemmas.DemuxQ
import Ts.Props.C07Q
/-!
# Tie: the translated loops of `Demultiplex::push` ARE the model's loops

`Ts/Gen/PushGen.lean` is regenerated from `/repo/src/demultiplex.rs` on every run.  This file proves it
equal to the hand-written transcription `innerQ / outerQ / pushModelQ / pushQ` (Ts/Model/DemuxQ.lean)
and hence — `pushModelQ_eq_pushSpecQ` — to the one-packet-at-a-time specification `pushSpecQ` that the
C06 / C07 / C18 theorems are stated about.
-/
-- the simp sets cover the spellings the generator may emit; the text it emits today leaves some unused
set_option linter.unusedSimpArgs false
namespace Ts.Props.Ties.StmtPush
open Ts Ts.Demux Ts.DemuxQ Ts.Gen Ts.Lemmas.DemuxQ

variable {H C : Type}

/-- `if !contains { add_pid_filter }` is `ensureQ` -/
theorem tie_stmt_add_pid_filter (sem : SemQ H C) (t : Tab H) (c : C) (q : List (Change H)) (pid : Nat)
    (h : t.contains pid = false) :
    PushGen.add_pid_filter sem t c q pid = ensureQ sem t c q pid := by
  unfold PushGen.add_pid_filter ensureQ
  simp only [h]
  cases sem.construct c pid with
  | panic s => rfl
  | ok r => rfl

/-- "take the next packet; if its PID differs re-enter the outer loop, else go round again", whichever
way the comparison is written -/
private theorem next_pk (sem : SemQ H C) (pid : Nat)
    (K : Tab H → C → List (Change H) → Pk → List Pk → R (StQ H C)) (n : Nat)
    (ih : ∀ (t : Tab H) (c : C) (q : List (Change H)) (pk : Pk) (itr : List Pk),
      PushGen.loop_inner sem pid t c q pk itr K n = innerQ sem pid t c q pk itr K n)
    (t : Tab H) (c : C) (q : List (Change H)) (p : Pk) (r : List Pk) {lhs : R (StQ H C)}
    (hl : lhs = (if (p.pid != pid) = true then K t c q p r else PushGen.loop_inner sem pid t c q p r K n) ∨
          lhs = (if (pid != p.pid) = true then K t c q p r else PushGen.loop_inner sem pid t c q p r K n) ∨
          lhs = (if (p.pid == pid) = true then PushGen.loop_inner sem pid t c q p r K n else K t c q p r) ∨
          lhs = (if (pid == p.pid) = true then PushGen.loop_inner sem pid t c q p r K n else K t c q p r)) :
    lhs = (if (p.pid != pid) = true then K t c q p r else innerQ sem pid t c q p r K n) := by
  by_cases hp : p.pid = pid
  · have hp' : pid = p.pid := hp.symm
    rcases hl with h | h | h | h <;> simp [h, hp, ih] <;> simp [← hp, ih]
  · have hp' : ¬ pid = p.pid := fun h => hp h.symm
    rcases hl with h | h | h | h <;> simp [h, hp, hp', ih]

/-- the translated `'inner` loop is `innerQ`, for any continuation -/
theorem tie_stmt_inner (sem : SemQ H C) (pid : Nat)
    (K : Tab H → C → List (Change H) → Pk → List Pk → R (StQ H C)) :
    ∀ (fuel : Nat) (t : Tab H) (c : C) (q : List (Change H)) (pk : Pk) (itr : List Pk),
      PushGen.loop_inner sem pid t c q pk itr K fuel = innerQ sem pid t c q pk itr K fuel := by
  intro fuel
  induction fuel with
  | zero => intros; simp only [PushGen.loop_inner, innerQ]
  | succ n ih =>
    intro t c q pk itr
    unfold PushGen.loop_inner innerQ
    simp only [Pk.flagged]
    cases htei : pk.tei <;> cases hsc : pk.scrambled <;>
      simp only [Bool.or_self, Bool.or_true, Bool.true_or, Bool.or_false, Bool.false_eq_true, if_true, if_false, ite_true, ite_false, reduceIte]
    all_goals
      first
      | (cases itr with
         | nil => rfl
         | cons p r => exact next_pk sem pid K n ih _ _ _ p r (by first | exact Or.inl rfl | exact Or.inr (Or.inl rfl) | exact Or.inr (Or.inr (Or.inl rfl)) | exact Or.inr (Or.inr (Or.inr rfl))))
      | (cases hg : t.get pid with
         | none => rfl
         | some h =>
           simp only []
           cases hc : sem.consume h c pk with
           | panic s => rfl
           | ok r =>
             obtain ⟨h', c', chg⟩ := r
             simp only []
             cases he : (q ++ chg).isEmpty
             · cases itr <;> simp
             · have hq : q ++ chg = [] := List.isEmpty_iff.mp he
               simp only [hq, List.isEmpty_nil, Bool.not_true, Bool.false_eq_true, if_false, if_true]
               cases itr with
               | nil => rfl
               | cons p r => exact next_pk sem pid K n ih _ _ _ p r (by first | exact Or.inl rfl | exact Or.inr (Or.inl rfl) | exact Or.inr (Or.inr (Or.inl rfl)) | exact Or.inr (Or.inr (Or.inr rfl))))

/-- the translated `'outer` loop is `outerQ` -/
theorem tie_stmt_outer (sem : SemQ H C) :
    ∀ (fuel : Nat) (t : Tab H) (c : C) (q : List (Change H)) (pk : Pk) (itr : List Pk),
      PushGen.loop_outer sem fuel t c q pk itr = outerQ sem fuel t c q pk itr := by
  intro fuel
  induction fuel with
  | zero => intros; simp only [PushGen.loop_outer, outerQ]
  | succ n ih =>
    intro t c q pk itr
    have hK : PushGen.loop_outer sem n = outerQ sem n := by
      funext t c q pk itr; exact ih t c q pk itr
    unfold PushGen.loop_outer outerQ
    simp only [hK, tie_stmt_inner]
    cases hct : t.contains pk.pid
    · -- absent: `add_pid_filter`, then the `unwrap` finds what was just inserted
      simp only [Bool.not_false, Bool.not_true, Bool.false_eq_true, if_true, if_false, reduceIte,
        tie_stmt_add_pid_filter sem t c q pk.pid hct]
      cases he : ensureQ sem t c q pk.pid with
      | panic s => rfl
      | ok r =>
        obtain ⟨t1, c1, q1⟩ := r
        have hc := ensureQ_contains sem t c q pk.pid t1 c1 q1 he
        obtain ⟨h, hg⟩ := (Tab.contains_eq_true_iff t1 pk.pid).mp hc
        simp only [hg]
    · -- present: the `unwrap` succeeds
      obtain ⟨h, hg⟩ := (Tab.contains_eq_true_iff t pk.pid).mp hct
      simp only [Bool.not_true, Bool.not_false, Bool.false_eq_true, if_false, if_true, reduceIte, hg,
        ensureQ_of_contains sem t c q pk.pid hct]

/-- the translated body of `push` is `pushModelQ` -/
theorem tie_stmt_pushPks (sem : SemQ H C) (st : StQ H C) (pks : List Pk) :
    PushGen.pushPks sem st pks = pushModelQ sem st pks := by
  obtain ⟨t, c, q⟩ := st
  cases pks with
  | nil => rfl
  | cons pk rest => simp only [PushGen.pushPks, pushModelQ, tie_stmt_outer]

/-- the translated `Demultiplex::push` is the model's `pushQ` -/
theorem tie_stmt_push (sem : SemQ H C) (st : StQ H C) (buf : Bytes) (base : Nat) :
    PushGen.push sem st buf base = pushQ sem st buf base := by
  unfold PushGen.push pushQ
  cases frame buf base with
  | panic s => rfl
  | ok pks => exact tie_stmt_pushPks sem st pks

/-- CODE = SPEC: the loops of `/repo/src/demultiplex.rs`, as translated, dispatch one packet at a time -/
theorem code_push_is_spec (sem : SemQ H C) (st : StQ H C) (pks : List Pk) :
    PushGen.pushPks sem st pks = pushSpecQ sem st pks := by
  rw [tie_stmt_pushPks, pushModelQ_eq_pushSpecQ]

/-- successive calls of the translated `push` (what is pending at the end of one call is pending at the
start of the next) -/
def codePushAll (sem : SemQ H C) (st : StQ H C) : List Bytes → Nat → R (StQ H C)
  | [], _ => .ok st
  | b :: bs, base =>
    match PushGen.push sem st b base with
    | .panic s => .panic s
    | .ok st' => codePushAll sem st' bs (base + b.length)

theorem tie_stmt_pushAll (sem : SemQ H C) (bufs : List Bytes) :
    ∀ (st : StQ H C) (base : Nat), codePushAll sem st bufs base = pushAllQ sem st bufs base := by
  induction bufs with
  | nil => intros; rfl
  | cons b bs ih =>
    intro st base
    simp only [codePushAll, pushAllQ, tie_stmt_push]
    cases pushQ sem st b base with
    | panic s => rfl
    | ok st' => exact ih st' (base + b.length)

/-- **C07 about the translated code**: however the byte stream is cut into packet-aligned buffers (the
last one may be ragged), the loops of `demultiplex.rs` as translated reach the same table, context and
pending changeset as one `push` of the whole stream. -/
theorem code_chunking_irrelevant (sem : SemQ H C) (st : StQ H C) (bufs : List Bytes) (base : Nat)
    (h : ∀ c ∈ bufs.dropLast, c.length % 188 = 0) :
    codePushAll sem st bufs base = codePushAll sem st [bufs.flatten] base := by
  rw [tie_stmt_pushAll, tie_stmt_pushAll]
  exact Ts.Props.C07Q.chunking_irrelevantQ_general sem st bufs base h

/-- **C06 / C18 about the translated code**: one `push` = framing, then one packet at a time through
`specStepQ` (lookup-or-construct, drop flagged packets, consume, apply everything pending in order). -/
theorem code_push_refines_spec (sem : SemQ H C) (st : StQ H C) (buf : Bytes) (base : Nat) :
    PushGen.push sem st buf base =
      (match frame buf base with
       | .panic s => .panic s
       | .ok pks => pushSpecQ sem st pks) := by
  rw [tie_stmt_push]; exact Ts.Props.C07Q.push_refines_specQ sem st buf base

/-- non-vacuity: a two-packet stream on which the translated loop constructs a handler, keeps the change
queued by `construct` pending over a dropped packet and applies it with the next consumed one -/
example :
    let sem : SemQ Nat Nat :=
      { consume := fun h c _ => .ok (h + 1, c + 1, []),
        construct := fun c pid => .ok (pid, c, [Change.insert 7 99]) }
    let p1 : Pk := { bytes := [], off := 0, pid := 3, tei := true, scrambled := false }
    let p2 : Pk := { bytes := [], off := 188, pid := 3, tei := false, scrambled := false }
    (match PushGen.pushPks sem ([], 0, []) [p1] with
     | .ok (t, _, q) => (t.get 3, t.get 7, q.length) | .panic _ => (none, none, 0)) = (some 3, none, 1) ∧
    (match PushGen.pushPks sem ([], 0, []) [p1, p2] with
     | .ok (t, c, q) => (t.get 3, t.get 7, c, q.length) | .panic _ => (none, none, 0, 0)) = (some 4, some 99, 1, 0) := by
  decide

end Ts.Props.Ties.StmtPush
