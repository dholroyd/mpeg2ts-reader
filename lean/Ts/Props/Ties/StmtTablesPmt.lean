import Ts.Props.Ties.StmtTables
import Ts.Props.Ties.StmtPmt
import Ts.Lemmas.C05
/-!
# Statement-level tie — the PMT table processor (audited with C05 and C10)

`Ts.Gen.TablesGen.PmtProcessor` is `PmtProcessor::{new, section, new_table, remove_outdated}` of
`/repo/src/demultiplex.rs` as they read NOW (tools/gen_tables.py); its `for stream_info in
sect.streams()` loop runs the TRANSLATED stream iterator (`PmtGen.StreamInfoIter.next`), and the
`ByStream` request it builds carries VIEWS (the PMT section and the stream entry).  The harness
application reads what it prints out of those views (`reqOfRaw`: PCR PID, program descriptors, the
entry's PID and descriptors) — the model stores them parsed in `Req.stream`.
`tie_stmt_pmt_section` proves that, with that application plugged in, the translated processor IS
the model's `App.pmtSection` for every context, registered set, queue, header and section data.
-/
-- as in `StmtPsi.lean`: the simp lists cover equivalent spellings of the source
set_option linter.unusedSimpArgs false
namespace Ts.Props.Ties.StmtTables
open Ts Ts.Stmt Ts.StmtVec Ts.Demux Ts.App Ts.Gen Ts.Gen.TablesGen Ts.Props.Ties.StmtPsi Ts.Props.Ties.StmtIters
open Ts.Props.Ties.StmtPmt Ts.Lemmas.C16 Ts.Spec Ts.Spec.TableSpec Ts.Tables

attribute [local irreducible] App.outdated

/-- what the harness application makes of a raw `ByStream` request -/
def reqOfRaw : RawReq → R Req
  | .byStream pp st sect info => do
    let pcr ← Tables.pmtPcrPid sect.bytes
    let pd ← Tables.pmtDescriptorBytes sect.bytes
    pure (.stream pp st (streamAt info.bytes).pid pcr (streamAt info.bytes).descBytes pd)

def appConstructRaw (c : Ctx) (r : RawReq) : R (Handler × Ctx) := reqOfRaw r >>= fun q => R.ok (App.construct c q)

def pmtBody (sect : Slice) (stream_info : Slice)
    (st : PmtProcessor × Ctx × List (Change Handler) × List Nat) :
    R (PmtProcessor × Ctx × List (Change Handler) × List Nat) := do
  let (self, ctx, q, pids_seen) := st
  let t1 ← Stmt.streamType stream_info
  let (pes_packet_consumer, ctx) ← appConstructRaw ctx (Stmt.RawReq.byStream self.pid t1 sect stream_info)
  let t2 ← Stmt.elementaryPid stream_info
  let q := q ++ [Change.insert t2 pes_packet_consumer]
  let t3 ← Stmt.elementaryPid stream_info
  let pids_seen := pids_seen ++ [t3]
  let t4 ← Stmt.elementaryPid stream_info
  let self := { self with filters_registered := self.filters_registered ++ [t4] }
  pure (self, ctx, q, pids_seen)

def pmtStep (pmtPid pcr : Nat) (pd : Bytes) (acc : Ctx × List (Change Handler)) (s : StreamInfo) : Ctx × List (Change Handler) :=
  let (h, c') := construct acc.1 (Req.stream pmtPid s.streamType s.pid pcr s.descBytes pd)
  (c', acc.2 ++ [Change.insert s.pid h])

theorem streamType_ok (v : Slice) (h : streamFits v.bytes) : Stmt.streamType v = .ok (streamAt v.bytes).streamType := by
  unfold Stmt.streamType streamAt
  rw [byteAt_ok _ 0 (by have := h.1; omega), st_type]

theorem elementaryPid_ok (v : Slice) (h : streamFits v.bytes) : Stmt.elementaryPid v = .ok (streamAt v.bytes).pid := by
  unfold Stmt.elementaryPid streamAt
  rw [byteAt_ok _ 1 (by have := h.1; omega), byteAt_ok _ 2 (by have := h.1; omega)]
  simp only [R.ok_bind]
  rw [mask13 _ _ (byteD_lt _ 1) (byteD_lt _ 2), ← st_pid]
  have := readBits_lt v.bytes 11 13
  exact pidNew_ok _ (by omega)

theorem pmtBody_eq (pid pn : Nat) (reg : List Nat) (sect v : Slice) (c : Ctx) (q : List (Change Handler)) (seen : List Nat)
    (hv : streamFits v.bytes) (ha : specPmtAccept sect.bytes) :
    pmtBody sect v (⟨pid, pn, reg⟩, c, q, seen)
      = .ok (⟨pid, pn, reg ++ [(streamAt v.bytes).pid]⟩,
          (pmtStep pid (specPcrPid sect.bytes) (specProgramDescBytes sect.bytes) (c, q) (streamAt v.bytes).info).1,
          (pmtStep pid (specPcrPid sect.bytes) (specProgramDescBytes sect.bytes) (c, q) (streamAt v.bytes).info).2,
          seen ++ [(streamAt v.bytes).pid]) := by
  unfold pmtBody appConstructRaw reqOfRaw
  simp only [streamType_ok v hv, elementaryPid_ok v hv, R.ok_bind, R.pure_eq,
    pmtPcrPid_eq sect.bytes (by have := ha.1; omega), pmtDescriptorBytes_eq sect.bytes ha, R.bind_assoc]
  rfl

/-- every view the stream iterator yields is a complete entry -/
theorem iterate_fits (fuel : Nat) : ∀ (b : Bytes) (src : Option Nat) (l : List Slice),
    iterate PmtGen.StreamInfoIter.next fuel ⟨⟨b, src⟩⟩ = .ok l → ∀ v ∈ l, streamFits v.bytes := by
  induction fuel with
  | zero => intro b src l h; cases h; exact List.forall_mem_nil _
  | succ n ih =>
    intro b src l h
    unfold iterate at h
    rw [stream_next] at h
    by_cases he : b.isEmpty = true
    · simp only [he, if_true, R.ok_bind] at h; cases h; exact List.forall_mem_nil _
    · simp only [he, Bool.false_eq_true, if_false] at h
      by_cases hf : streamFits b
      · simp only [hf, if_true, R.ok_bind] at h
        obtain ⟨rest, hi, h⟩ := R.bind_eq_ok h
        cases h
        exact List.forall_mem_cons.2 ⟨hf, ih _ _ rest hi⟩
      · simp only [hf, if_false, R.ok_bind] at h; cases h; exact List.forall_mem_nil _

/-- ANY loop body that, on a complete entry, does what `pmtBody` does (whatever the order of its
statements), run over the yielded views, is the model's fold over their parsed records -/
theorem pmt_loop (pid pn : Nat) (sect : Slice)
    (f : Slice → PmtProcessor × Ctx × List (Change Handler) × List Nat → R (PmtProcessor × Ctx × List (Change Handler) × List Nat))
    (hf : ∀ (v : Slice) (reg : List Nat) (c : Ctx) (q : List (Change Handler)) (seen : List Nat), streamFits v.bytes →
      f v (⟨pid, pn, reg⟩, c, q, seen)
        = .ok (⟨pid, pn, reg ++ [(streamAt v.bytes).pid]⟩,
            (pmtStep pid (specPcrPid sect.bytes) (specProgramDescBytes sect.bytes) (c, q) (streamAt v.bytes).info).1,
            (pmtStep pid (specPcrPid sect.bytes) (specProgramDescBytes sect.bytes) (c, q) (streamAt v.bytes).info).2,
            seen ++ [(streamAt v.bytes).pid]))
    (views : List Slice) :
    (∀ v ∈ views, streamFits v.bytes) → ∀ (reg : List Nat) (c : Ctx) (q : List (Change Handler)) (seen : List Nat),
    forEach views ((⟨pid, pn, reg⟩ : PmtProcessor), c, q, seen) f
      = .ok (⟨pid, pn, reg ++ views.map fun v => (streamAt v.bytes).pid⟩,
          ((views.map fun v => (streamAt v.bytes).info).foldl (pmtStep pid (specPcrPid sect.bytes) (specProgramDescBytes sect.bytes)) (c, q)).1,
          ((views.map fun v => (streamAt v.bytes).info).foldl (pmtStep pid (specPcrPid sect.bytes) (specProgramDescBytes sect.bytes)) (c, q)).2,
          seen ++ views.map fun v => (streamAt v.bytes).pid) := by
  induction views with
  | nil => intro _ reg c q seen; simp [forEach]
  | cons v vs ih =>
    intro hall reg c q seen
    unfold forEach
    rw [hf v reg c q seen (hall v (List.mem_cons_self ..))]
    simp only []
    rw [ih (fun w hw => hall w (List.mem_cons_of_mem _ hw))]
    simp [List.append_assoc]

theorem pmt_fold_queue (pid pcr : Nat) (pd : Bytes) (l : List StreamInfo) : ∀ (c : Ctx) (q : List (Change Handler)),
    l.foldl (pmtStep pid pcr pd) (c, q)
      = ((l.foldl (pmtStep pid pcr pd) (c, [])).1, q ++ (l.foldl (pmtStep pid pcr pd) (c, [])).2) :=
  foldl_queue (pmtStep pid pcr pd) (fun _ _ _ => rfl) l

theorem tie_stmt_pmt_remove_outdated (pid pn : Nat) (reg seen : List Nat) (q : List (Change Handler)) :
    PmtProcessor.remove_outdated (H := Handler) ⟨pid, pn, reg⟩ q seen
      = ((outdated reg seen).mapM remItem >>= fun rem => R.ok ((⟨pid, pn, seen⟩ : PmtProcessor), q ++ rem)) := by
  unfold PmtProcessor.remove_outdated
  show (forEach (outdated reg seen) q remBody >>= fun q' => R.ok ((⟨pid, pn, seen⟩ : PmtProcessor), q')) = _
  rw [remove_loop]
  cases List.mapM remItem (outdated reg seen) <;> rfl

/-- the stream iterator of an accepted section, run to exhaustion: the views it yields, read through
`streamAt`, are the model's stream list -/
theorem pmt_views (sect : Slice) (ha : specPmtAccept sect.bytes) :
    ∃ (it : PmtGen.Self) (views : List Slice), PmtGen.PmtSection.streams sect = .ok it ∧
      iterate PmtGen.StreamInfoIter.next (it.buf.len + 1) it = .ok views ∧
      (views.map fun v => (streamAt v.bytes).info) = (specStreams (specStreamBytes sect.bytes)).1.map StreamEnc.info ∧
      ∀ v ∈ views, streamFits v.bytes := by
  rcases sect with ⟨b, src⟩
  have hm := tie_stmt_pmt_streams b src
  rw [pmtStreams_eq b ha] at hm
  obtain ⟨views, hx, hm⟩ := rmap_eq_ok hm
  obtain ⟨it, hs, hi⟩ := R.bind_eq_ok hx
  refine ⟨it, views, hs, hi, hm, ?_⟩
  rcases it with ⟨⟨ib, isrc⟩⟩
  exact iterate_fits _ ib isrc views hi

/-- `PmtProcessor::new_table`, closed form on an accepted section -/
theorem tie_stmt_pmt_new_table (pid pn : Nat) (reg : List Nat) (c : Ctx) (q : List (Change Handler)) (h : Psi.Header)
    (sect : Slice) (ha : specPmtAccept sect.bytes) :
    PmtProcessor.new_table appConstructRaw ⟨pid, pn, reg⟩ c q h sect
      = (if (2 != h.tableId) = true then R.ok ((⟨pid, pn, reg⟩ : PmtProcessor), c, q)
         else
           let ss := (specStreams (specStreamBytes sect.bytes)).1.map StreamEnc.info
           let r := ss.foldl (pmtStep pid (specPcrPid sect.bytes) (specProgramDescBytes sect.bytes)) (c, [])
           (outdated (reg ++ ss.map StreamInfo.pid) (ss.map StreamInfo.pid)).mapM remItem >>= fun rem =>
             R.ok ((⟨pid, pn, ss.map StreamInfo.pid⟩ : PmtProcessor), r.1, q ++ r.2 ++ rem)) := by
  unfold PmtProcessor.new_table
  by_cases ht : (2 != h.tableId) = true
  · simp only [ht, if_true, R.pure_eq]
  · simp only [ht, Bool.false_eq_true, if_false]
    obtain ⟨it, views, hs, hi, hmap, hfit⟩ := pmt_views sect ha
    rw [hs]
    simp only [R.ok_bind]
    rw [forIter_of_iterate _ _ _ _ _ _ hi]
    rw [pmt_loop pid pn sect _ (by
      -- the translated loop body, with the application plugged in, on a complete entry: every bind is a
      -- checked read that succeeds, so the order of the statements does not matter
      intro v reg' c' q' seen' hv
      simp only [streamType_ok v hv, elementaryPid_ok v hv, R.ok_bind, R.pure_eq, appConstructRaw, reqOfRaw,
        pmtPcrPid_eq sect.bytes (by have := ha.1; omega), pmtDescriptorBytes_eq sect.bytes ha, R.bind_assoc]
      rfl) views hfit]
    simp only [R.ok_bind, List.nil_append]
    have hp : (views.map fun v => (streamAt v.bytes).pid) = ((specStreams (specStreamBytes sect.bytes)).1.map StreamEnc.info).map StreamInfo.pid := by
      rw [← hmap, List.map_map]; rfl
    rw [tie_stmt_pmt_remove_outdated, hmap, hp, pmt_fold_queue]
    simp only [R.bind_assoc, R.ok_bind]
    try rfl

/-- TIE: `PmtProcessor::section` with the harness application plugged in IS the model's
`App.pmtSection`, the model's changes appended to whatever was already queued -/
theorem tie_stmt_pmt_section (c : Ctx) (pid pn : Nat) (reg : List Nat) (q : List (Change Handler)) (h : Psi.Header)
    (d : Slice) (hh : h.tableId = byteD d.bytes 0) :
    PmtProcessor.«section» appConstructRaw ⟨pid, pn, reg⟩ c q h d
      = rmap (fun r => ((⟨pid, pn, r.2.1⟩ : PmtProcessor), r.1, q ++ r.2.2)) (App.pmtSection c pid reg d.bytes) := by
  unfold PmtProcessor.«section» App.pmtSection
  simp only [Slice.len]
  by_cases h4 : 4 ≤ d.bytes.length
  · simp only [subR_ok _ _ h4, R.ok_bind, Slice.sub, R.bind_assoc, R.pure_eq]
    cases hb : sliceR d.bytes 8 (d.bytes.length - 4) with
    | panic m => rfl
    | ok body =>
      simp only [R.ok_bind, tie_stmt_pmt_from_bytes, pmtFromBytes_eq, rmap_ok]
      by_cases ha : specPmtAccept body
      · simp only [ha, if_true, Option.map, byteAt_ok d.bytes 0 (by omega), R.ok_bind]
        rw [tie_stmt_pmt_new_table pid pn reg c q h _ ha, hh, bne_comm (a := 2)]
        by_cases ht : (byteD d.bytes 0 != 2) = true
        · simp only [ht, if_true, R.pure_eq, rmap_ok, List.append_nil]
        · have hto := Ts.Lemmas.C05.touchPmt_ok body ha
          simp only [ht, Bool.false_eq_true, if_false, pmtStreams_eq body ha,
            pmtPcrPid_eq body (by have := ha.1; omega), pmtDescriptorBytes_eq body ha, R.ok_bind]
          cases hc : c.cfg.touch <;>
            simp only [Bool.false_eq_true, if_false, if_true, hto, R.ok_bind, rmap_bind, R.pure_eq]
          all_goals
            show (List.mapM remItem _ >>= _) = (List.mapM remItem _ >>= _)
            cases List.mapM remItem (outdated (reg ++ List.map StreamInfo.pid (List.map StreamEnc.info (specStreams (specStreamBytes body)).1))
                (List.map StreamInfo.pid (List.map StreamEnc.info (specStreams (specStreamBytes body)).1))) with
            | panic m => rfl
            | ok rem =>
              simp only [R.ok_bind, rmap_ok, List.append_assoc]
              rfl
      · simp only [ha, if_false, Option.map, R.pure_eq, rmap_ok, List.append_nil]
  · have : subR d.bytes.length 4 = .panic "attempt to subtract with overflow" := by
      unfold subR; simp [h4]
    simp only [this, R.panic_bind, rmap_panic]

end Ts.Props.Ties.StmtTables
