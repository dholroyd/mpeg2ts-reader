import Ts.Model.App
import Ts.Props.C12
import Ts.Lemmas.C03d
import Ts.Lemmas.C08
import Ts.Lemmas.DemuxB
import Ts.Props.C07
/-!
# C19, part 1: every delivered slice is a sub-slice of the pushed buffer

Framed packets are windows of the pushed buffer (`frame_pk_props`); the events of a `.pes` handler
expose ranges inside the packet being consumed (`pes_consume_events`); a whole-section delivery is
either started and completed in this packet — then delivered in place — or completed by a
continuation of a buffered section (`consumeSpec_origin`).
-/
namespace Ts.Lemmas.C19
open Ts Ts.Demux

/-! ### framing: offsets and bytes of the packets `push` iterates over -/

theorem frame_pk_props (buf : Bytes) (base : Nat) (pks : List Pk) (h : frame buf base = .ok pks) :
    ∀ pk ∈ pks, base ≤ pk.off ∧ pk.off + 188 ≤ base + buf.length ∧ (pk.off - base) % 188 = 0
      ∧ pk.bytes = (buf.drop (pk.off - base)).take 188 ∧ pk.bytes.length = 188
      ∧ pk.pid ≤ 0x1fff ∧ byteD pk.bytes 0 = 0x47 := by
  intro pk hpk
  obtain ⟨k, hk, h1, h2, h3, h4, _, h6⟩ := Props.C07.frame_mem buf base pks h pk hpk
  have hsub : pk.off - base = 188 * k := by omega
  exact ⟨by omega, by omega, by rw [hsub]; omega, by rw [hsub]; exact h2, h3, h6, h4⟩

/-- a window of a framed packet is a window of the pushed buffer -/
theorem window_of_window (buf : Bytes) (a b l : Nat) (h : b + l ≤ 188) :
    (((buf.drop a).take 188).drop b).take l = (buf.drop (a + b)).take l := by
  rw [List.drop_take, List.take_take, List.drop_drop]
  congr 1
  omega

/-! ### elementary-stream callbacks -/

/-- the slice an application event exposes (global range), if any -/
def evRange : App.Ev → Option (Nat × Nat)
  | .esBegin _ bi => bi.pl
  | .esCont _ off len => some (off, len)
  | _ => none

/-- shape of the events a `.pes tag` handler may emit for the packet at global offset `pkoff` -/
def EvInPacket (tag pkoff : Nat) : App.Ev → Prop
  | .esStart t => t = tag
  | .esEnd t => t = tag
  | .esCcErr t => t = tag
  | .esCont t off len => t = tag ∧ pkoff + 4 ≤ off ∧ off + len = pkoff + 188 ∧ 0 < len
  | .esBegin t bi => t = tag ∧ ∀ o l, bi.pl = some (o, l) → pkoff + 4 ≤ o ∧ o + l ≤ pkoff + 188
  | _ => False

theorem parsedFromBytes_some (b c : Bytes) (h : Pes.parsedFromBytes b = .ok (some c)) : c = b := by
  unfold Pes.parsedFromBytes at h
  split at h
  · cases h
  · obtain ⟨b0, _, h⟩ := R.bind_eq_ok h
    dsimp only at h
    split at h
    · cases h
    · obtain ⟨hd, _, h⟩ := R.bind_eq_ok h
      split at h
      · obtain ⟨_, _, h⟩ := R.bind_eq_ok h; cases h
      · obtain ⟨f, _, h⟩ := R.bind_eq_ok h
        obtain ⟨ce, _, h⟩ := R.bind_eq_ok h
        split at h
        · obtain ⟨_, _, h⟩ := R.bind_eq_ok h; cases h
        · have := R.ok_inj h
          injection this with this
          exact this.symm

theorem sliceFrom_eq_ok (b r : Bytes) (n : Nat) (h : sliceFrom b n = .ok r) : n ≤ b.length ∧ r = b.drop n := by
  unfold sliceFrom at h
  split at h
  · cases h
  · exact ⟨by omega, (R.ok_inj h).symm⟩

theorem payloadOffset_ok (c : Bytes) (o : Nat) (h : Pes.payloadOffset c = .ok o) : o ≤ c.length := by
  unfold Pes.payloadOffset at h
  obtain ⟨hd, _, h⟩ := R.bind_eq_ok h
  obtain ⟨r, hr, h⟩ := R.bind_eq_ok h
  have := R.ok_inj h
  subst this
  exact (sliceFrom_eq_ok _ _ _ hr).1

theorem contents_ok (hb : Bytes) (ct : Pes.Contents) (h : Pes.contents hb = .ok ct) :
    6 ≤ hb.length ∧ (∀ rest, ct = .payload rest → rest = hb.drop 6)
      ∧ (∀ c, ct = .parsed (some c) → c = hb.drop 6) := by
  unfold Pes.contents at h
  obtain ⟨rest, hr, h⟩ := R.bind_eq_ok h
  obtain ⟨hl, hrest⟩ := sliceFrom_eq_ok _ _ _ hr
  obtain ⟨sid, _, h⟩ := R.bind_eq_ok h
  refine ⟨hl, ?_, ?_⟩
  · intro r e
    split at h
    · obtain ⟨c, _, h⟩ := R.bind_eq_ok h
      have := R.ok_inj h; subst this; cases e
    · have := R.ok_inj h; subst this
      injection e with e; rw [← e, hrest]; rfl
  · intro c e
    split at h
    · obtain ⟨c', hc', h⟩ := R.bind_eq_ok h
      have := R.ok_inj h; subst this
      injection e with e
      subst e
      rw [parsedFromBytes_some _ _ hc', hrest]; rfl
    · have := R.ok_inj h; subst this; cases e

/-- `begin_packet`: the exposed PES payload lies inside the transport packet's payload -/
theorem beginInfo_pl (p : Bytes) (base o l : Nat) (bi : App.BeginInfo) (hp : p.length = 188)
    (hol : o + l = 188) (h : App.beginInfo p base o l = .ok bi) :
    ∀ a n, bi.pl = some (a, n) → base + o + 6 ≤ a ∧ a + n = base + 188 := by
  have hlen : (Packet.rangeBytes p (o, l)).length = l := by
    simp only [Packet.rangeBytes, List.length_take, List.length_drop]; omega
  unfold App.beginInfo at h
  obtain ⟨sid, _, h⟩ := R.bind_eq_ok h
  obtain ⟨len, _, h⟩ := R.bind_eq_ok h
  obtain ⟨ct, hct, h⟩ := R.bind_eq_ok h
  obtain ⟨h6, hpay, hpar⟩ := contents_ok _ _ hct
  rw [hlen] at h6
  intro a n hpl
  cases ct with
  | payload rest =>
    have hr := hpay rest rfl
    have := R.ok_inj h
    subst this
    simp only [Option.some.injEq, Prod.mk.injEq] at hpl
    obtain ⟨e1, e2⟩ := hpl
    subst e1 e2
    rw [hr, List.length_drop, hlen]
    simp only [Pes.HDR_FIXED]
    omega
  | parsed c =>
    cases c with
    | none =>
      have := R.ok_inj h
      subst this
      cases hpl
    | some c =>
      have hc := hpar c rfl
      obtain ⟨pd, _, h⟩ := R.bind_eq_ok h
      obtain ⟨po, hpo, h⟩ := R.bind_eq_ok h
      have hle := payloadOffset_ok _ _ hpo
      have := R.ok_inj h
      subst this
      simp only [Option.some.injEq, Prod.mk.injEq] at hpl
      obtain ⟨e1, e2⟩ := hpl
      subst e1 e2
      have hcl : c.length = l - 6 := by rw [hc, List.length_drop, hlen]
      simp only [Pes.HDR_FIXED]
      omega

/-- ranges reported by the PES filter for the current packet -/
def PEvOk : PesFilter.Ev → Prop
  | .beginPkt o l => 4 ≤ o ∧ o + l = 188
  | .cont o l => 4 ≤ o ∧ o + l = 188 ∧ 0 < l
  | _ => True

theorem esEvents_trace (touch : Bool) (tag : Nat) (p : Bytes) (base : Nat) (hp : p.length = 188) :
    ∀ (evs : List PesFilter.Ev) (c c' : App.Ctx), (∀ e ∈ evs, PEvOk e) →
      App.esEvents touch tag p base c evs = .ok c' →
      ∃ out, c'.trace = out ++ c.trace ∧ (∀ e ∈ out, EvInPacket tag base e)
        ∧ c'.nextTag = c.nextTag ∧ c'.cfg = c.cfg := by
  intro evs
  induction evs with
  | nil =>
    intro c c' _ h
    have := R.ok_inj h
    subst this
    exact ⟨[], rfl, by simp, rfl, rfl⟩
  | cons e es ih =>
    intro c c' hok h
    unfold App.esEvents at h
    obtain ⟨c1, h1, h⟩ := R.bind_eq_ok h
    have hrest := fun e' he' => hok e' (List.mem_cons_of_mem _ he')
    have key : ∃ ev, c1 = c.emit ev ∧ EvInPacket tag base ev := by
      have he := hok e List.mem_cons_self
      cases e with
      | start => exact ⟨_, (R.ok_inj h1).symm, rfl⟩
      | endPkt => exact ⟨_, (R.ok_inj h1).symm, rfl⟩
      | ccErr => exact ⟨_, (R.ok_inj h1).symm, rfl⟩
      | cont o l =>
        refine ⟨_, (R.ok_inj h1).symm, rfl, ?_⟩
        simp only [PEvOk] at he
        omega
      | beginPkt o l =>
        simp only [PEvOk] at he
        obtain ⟨bi, hbi, h1⟩ := R.bind_eq_ok h1
        have h1' : c1 = c.emit (.esBegin tag bi) := by
          cases touch with
          | false => exact (R.ok_inj h1).symm
          | true =>
            simp only [if_true] at h1
            obtain ⟨_, _, h1⟩ := R.bind_eq_ok h1
            exact (R.ok_inj h1).symm
        refine ⟨_, h1', rfl, ?_⟩
        intro a n hpl
        have := beginInfo_pl p base o l bi hp he.2 hbi a n hpl
        omega
    obtain ⟨ev, hc1, hev⟩ := key
    obtain ⟨out, ho1, ho2, ho3, ho4⟩ := ih c1 c' hrest h
    subst hc1
    refine ⟨out ++ [ev], ?_, ?_, ?_, ?_⟩
    · rw [ho1]; simp [App.Ctx.emit]
    · intro e' he'
      rcases List.mem_append.1 he' with h' | h'
      · exact ho2 e' h'
      · simp only [List.mem_singleton] at h'; subst h'; exact hev
    · rw [ho3]; rfl
    · rw [ho4]; rfl

theorem stepOf_evs_ok (f : PesFilter.F) (p : Bytes) : ∀ e ∈ (C08.stepOf f p).2, PEvOk e := by
  intro e he
  cases e with
  | start => trivial
  | endPkt => trivial
  | ccErr => trivial
  | beginPkt o l =>
    have := ((C08.stepPure_begin_mem ..).1 he).2.1
    have := C08.payOf_sound this
    simp only [PEvOk]; omega
  | cont o l =>
    have := ((C08.stepPure_cont_mem ..).1 he).2.1
    have := C08.payOf_sound this
    simp only [PEvOk]; omega

/-- what a `.pes` handler does with one 188-byte packet, as far as the application can see:
appends events whose slices lie in this packet's payload; queues no change; constructs nothing -/
theorem pes_consume_events (tag : Nat) (f : PesFilter.F) (c : App.Ctx) (pk : Pk)
    (h' : App.Handler) (c' : App.Ctx) (chg : List (Change App.Handler))
    (hlen : pk.bytes.length = 188)
    (h : App.consume (.pes tag f) c pk = .ok (h', c', chg)) :
    ∃ out f', h' = .pes tag f' ∧ chg = [] ∧ c'.trace = out ++ c.trace
      ∧ (∀ e ∈ out, EvInPacket tag pk.off e) ∧ c'.nextTag = c.nextTag ∧ c'.cfg = c.cfg := by
  unfold App.consume at h
  simp only [] at h
  obtain ⟨r, hr, h⟩ := R.bind_eq_ok h
  obtain ⟨f', evs⟩ := r
  obtain ⟨c1, hc1, h⟩ := R.bind_eq_ok h
  have := R.ok_inj h
  simp only [Prod.mk.injEq] at this
  obtain ⟨e1, e2, e3⟩ := this
  subst e1 e2 e3
  obtain ⟨_, hevs⟩ := C08.consume_inv hlen hr
  have hok : ∀ e ∈ evs, PEvOk e := by rw [hevs]; exact stepOf_evs_ok f pk.bytes
  obtain ⟨out, h1, h2, h3, h4⟩ := esEvents_trace _ tag pk.bytes pk.off hlen evs c c1 hok hc1
  exact ⟨out, f', rfl, rfl, h1, h2, h3, h4⟩

/-! ### whole-section deliveries: in place vs. from the reassembly buffer -/

theorem bufContSpec_mem (s : Psi.St) (data : Bytes) (d : Psi.Delivery)
    (h : d ∈ (C03.bufContSpec s data).2) :
    ∃ n, s.remaining = some n ∧ n ≤ data.length ∧ d = ⟨s.buf ++ data.take n, none⟩ := by
  unfold C03.bufContSpec at h
  cases hr : s.remaining with
  | none => rw [hr] at h; simp at h
  | some n =>
    rw [hr] at h
    simp only [] at h
    split at h
    · rename_i hle
      simp only [List.mem_singleton] at h
      exact ⟨n, rfl, hle, h⟩
    · simp at h

theorem contSpec_mem (cfg : Psi.Cfg) (s : Psi.St) (data : Bytes) (d : Psi.Delivery)
    (h : d ∈ (C03.contSpec cfg s data).2) :
    s.ignoreRest = false ∧ (cfg.dedup && s.dedupIgnore) = false ∧
    ∃ n, s.remaining = some n ∧ n ≤ data.length ∧ d = ⟨s.buf ++ data.take n, none⟩ := by
  unfold C03.contSpec at h
  split at h
  · simp at h
  · split at h
    · simp at h
    · rename_i h1 h2
      exact ⟨by simpa using h1, by simpa using h2, bufContSpec_mem s data d h⟩

theorem bufStartSpec_mem (s : Psi.St) (data : Bytes) (off : Nat) (d : Psi.Delivery)
    (h : d ∈ (C03.bufStartSpec s data off).2) :
    C03.hdrLen data + 3 ≤ data.length ∧ d = ⟨data.take (C03.hdrLen data + 3), some off⟩ := by
  unfold C03.bufStartSpec at h
  split at h
  · rename_i hle
    simp only [List.mem_singleton] at h
    exact ⟨hle, h⟩
  · simp at h

theorem startSpec_mem (cfg : Psi.Cfg) (s : Psi.St) (data : Bytes) (off : Nat) (d : Psi.Delivery)
    (h : d ∈ (C03.startSpec cfg s data off).2) :
    C03.startOk cfg data = true ∧ C03.hdrLen data + 3 ≤ data.length
      ∧ d = ⟨data.take (C03.hdrLen data + 3), some off⟩ := by
  unfold C03.startSpec at h
  split at h
  · rename_i hok
    refine ⟨hok, ?_⟩
    unfold C03.dedupStartSpec at h
    split at h
    · split at h
      · simp at h
      · exact bufStartSpec_mem _ data off d h
    · exact bufStartSpec_mem _ data off d h
  · simp at h

/-- `d` is a section that STARTS in the unit-start payload `pk` (at packet offset `off`) and whose
`3 + section_length` bytes are all present in it: it is delivered in place, at
`off + 1 + pointer_field` -/
def StartedHere (cfg : Psi.Cfg) (pk : Bytes) (off : Nat) (d : Psi.Delivery) : Prop :=
  let ptr := byteD pk 0
  let ns := (pk.drop 1).drop ptr
  C03.startOk cfg ns = true ∧ 3 + C03.hdrLen ns ≤ ns.length
    ∧ d = ⟨ns.take (3 + C03.hdrLen ns), some (off + 1 + ptr)⟩

/-- `d` is a buffered section completed by the continuation bytes `data` -/
def CompletedBy (s : Psi.St) (data : Bytes) (d : Psi.Delivery) : Prop :=
  ∃ n, s.remaining = some n ∧ n ≤ data.length ∧ d = ⟨s.buf ++ data.take n, none⟩

/-- the continuation bytes of a payload: all of it, or the `pointer_field` bytes of a unit start -/
def contBytes (us : Bool) (pk : Bytes) : Bytes :=
  if us then (pk.drop 1).take (byteD pk 0) else pk

theorem consumeSpec_origin (cfg : Psi.Cfg) (s : Psi.St) (us : Bool) (pk : Bytes) (off : Nat) :
    ∀ d ∈ (C03.consumeSpec cfg s us pk off).2,
      (us = true ∧ StartedHere cfg pk off d) ∨ CompletedBy s (contBytes us pk) d := by
  intro d hd
  unfold C03.consumeSpec at hd
  cases us with
  | false =>
    simp only [Bool.false_eq_true, if_false] at hd
    exact Or.inr (contSpec_mem cfg s pk d hd).2.2
  | true =>
    simp only [if_true] at hd
    split at hd
    · simp at hd
    · have hr1 : ∀ d ∈ (if 0 < byteD pk 0 then C03.contSpec cfg s ((pk.drop 1).take (byteD pk 0))
          else (s, [])).2, CompletedBy s (contBytes true pk) d := by
        intro d hd
        split at hd
        · exact (contSpec_mem cfg s _ d hd).2.2
        · simp at hd
      split at hd
      · exact Or.inr (hr1 d hd)
      · simp only [List.mem_append] at hd
        rcases hd with hd | hd
        · exact Or.inr (hr1 d hd)
        · obtain ⟨h1, h2, h3⟩ := startSpec_mem cfg _ _ _ d hd
          refine Or.inl ⟨rfl, h1, by omega, ?_⟩
          rw [h3, Nat.add_comm]

theorem plOf_bytes (p : Bytes) (h : p.length = 188) (q : C03.Pl) (hq : C03.plOf p = some q) :
    q.bytes = p.drop q.off := by
  have hsz := C03.plOf_size p h q hq
  unfold C03.plOf at hq
  cases hr : (Props.C12.splitSpec (Packet.hasAf (byteD p 3)) (Packet.hasPayload (byteD p 3)) (byteD p 4)).2 with
  | none => rw [hr] at hq; cases hq
  | some r =>
    rw [hr] at hq
    simp only [Option.some.injEq] at hq
    subst hq
    simp only [Packet.rangeBytes] at hsz ⊢
    apply List.take_of_length_le
    rw [List.length_drop]
    have := hsz.2.2.1
    simp only [List.length_take, List.length_drop] at this
    omega

theorem startedHere_window (cfg : Psi.Cfg) (p : Bytes) (h : p.length = 188) (q : C03.Pl)
    (hq : C03.plOf p = some q) (d : Psi.Delivery) (hd : StartedHere cfg q.bytes q.off d) :
    d.inplace = some (q.off + 1 + byteD q.bytes 0)
      ∧ d.bytes = (p.drop (q.off + 1 + byteD q.bytes 0)).take d.bytes.length
      ∧ q.off + 1 + byteD q.bytes 0 + d.bytes.length ≤ 188
      ∧ d.bytes.length = 3 + C03.hdrLen d.bytes := by
  obtain ⟨_, hfit, hd⟩ := hd
  have hb := plOf_bytes p h q hq
  have hns : (q.bytes.drop 1).drop (byteD q.bytes 0) = p.drop (q.off + 1 + byteD q.bytes 0) := by
    rw [hb, List.drop_drop, List.drop_drop, Nat.add_assoc]
  rw [hns] at hfit hd
  have hl : d.bytes.length = 3 + C03.hdrLen (p.drop (q.off + 1 + byteD q.bytes 0)) := by
    rw [hd]; simp only [List.length_take]; omega
  refine ⟨by rw [hd], ?_, ?_, ?_⟩
  · rw [hl, hd]
  · rw [hl]; rw [List.length_drop] at hfit; omega
  · rw [hl, hd]
    simp only []
    rw [C03.hdrLen_take _ _ (by omega)]

end Ts.Lemmas.C19
