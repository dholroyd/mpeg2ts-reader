-- root of the library: everything `lake build Ts` must check
import Ts.Basic
import Ts.AuditLib
import Ts.Gen.CrcTable
import Ts.Gen.Consts
import Ts.Model.Packet
import Ts.Model.Time
import Ts.Model.Af
import Ts.Model.Pes
import Ts.Model.PesFilter
import Ts.Model.Crc
import Ts.Model.Psi
import Ts.Model.Tables
import Ts.Model.Demux
import Ts.Model.App
import Ts.Props.C12
import Ts.Props.C15
import Ts.Props.C13
import Ts.Props.C04Crc
import Ts.Props.C04
import Ts.Props.C14
import Ts.Props.C16
import Ts.Props.C17
import Ts.Props.C06
import Ts.Props.C07
import Ts.Props.C18
import Ts.Props.C08
import Ts.Props.C09
import Ts.Props.C03
import Ts.Props.C01
import Ts.Props.C02
import Ts.Props.C05
import Ts.Props.C10
import Ts.Props.C11
import Ts.Props.C19
import Ts.Gen.Tables
import Ts.Props.C05History
import Ts.Props.C02Trace
import Ts.Model.Values
import Ts.Props.C16Headers
import Ts.Lemmas.C11c
import Ts.Lemmas.C06b
import Ts.Lemmas.RevC
import Ts.Lemmas.C02c
import Ts.Lemmas.C04b
import Ts.Lemmas.C19c
import Ts.Props.Ties.Packet
import Ts.Props.Ties.Psi
import Ts.Props.Ties.Bounds
import Ts.Lemmas.C10c
import Ts.Lemmas.C05He
import Ts.Lemmas.C09b
import Ts.Lemmas.C02d
import Ts.Lemmas.C04c
import Ts.Lemmas.C05Hf
import Ts.Lemmas.C19d
import Ts.Lemmas.C10d
import Ts.Lemmas.C11d
import Ts.Refl.OrHom
import Ts.Gen.Exprs
import Ts.Props.Ties.ExprPacket
import Ts.Props.Ties.ExprAf
import Ts.Props.Ties.ExprPes
import Ts.Props.Ties.ExprTime
import Ts.Props.Ties.ExprPsi
import Ts.Props.Ties.ExprTables
import Ts.Props.Ties.ExprDesc
import Ts.Props.Ties.ExprSpecCore
import Ts.Props.Ties.ExprSpecPsi
import Ts.Gen.PesFilterGen
import Ts.Props.Ties.StmtPesFilter
import Ts.Refl.Stmt
import Ts.Gen.PsiGen
import Ts.Props.Ties.StmtPsi
import Ts.Props.Ties.StmtPsiGate
import Ts.Model.DemuxQ
import Ts.Model.AppQ
import Ts.Lemmas.DemuxQ
import Ts.Props.C07Q
import Ts.Props.C07QApp
import Ts.Refl.StmtVec
import Ts.Gen.FiltersGen
import Ts.Props.Ties.StmtFilters
import Ts.Gen.PushGen
import Ts.Props.Ties.StmtPush
import Ts.Props.Ties.StmtCapstone
import Ts.Gen.PacketGen
import Ts.Props.Ties.StmtPacket
import Ts.Gen.PesGen
import Ts.Props.Ties.StmtPes
import Ts.Gen.ItersGen
import Ts.Props.Ties.StmtIters
import Ts.Gen.PmtGen
import Ts.Props.Ties.StmtPmt
import Ts.Gen.TablesGen
import Ts.Refl.StmtTbl
import Ts.Props.Ties.StmtTables
import Ts.Props.Ties.StmtTablesPmt
