import Ts.Lemmas.Demux
import Ts.Lemmas.DemuxB
import Ts.Model.App
import Ts.Lemmas.C05
/-!
# Lemmas for the trace-level forms of C06 / C07

The logging wrapper `logSem` of any handler semantics and the delivery sequence of a run; the
run-relative predicates of interleaving independence with their Boolean checkers (and the
application's PES slots as an instance); `frame` as a `filterMap` over the chunk indices.
-/
namespace Ts.Demux
open Ts Ts.Spec

variable {H C : Type}

/-! ### the logging wrapper -/

/-- `sem` with every `consume` call recorded: the context gets a second component, the list of
`(handler state consume was called on, packet it was given)`, oldest first.  `consume` and
`construct` behave exactly as in `sem` on the first component (and panic exactly when `sem` does);
`construct` does not touch the log. -/
def logSem (sem : Sem H C) : Sem H (C × List (H × Pk)) where
  consume h cl pk :=
    match sem.consume h cl.1 pk with
    | .panic s => .panic s
    | .ok (h', c', chg) => .ok (h', (c', cl.2 ++ [(h, pk)]), chg)
  construct cl pid :=
    match sem.construct cl.1 pid with
    | .panic s => .panic s
    | .ok (h, c') => .ok (h, (c', cl.2))

/-- the handler registered for `pid` at the moment a packet of that PID arrives in state `tc`:
the content of slot `pid` after lookup-or-construct (`none` only if `construct` panics) -/
def registeredFor (sem : Sem H C) (tc : Tab H × C) (pid : Nat) : Option H :=
  match ensure sem tc.1 tc.2 pid with
  | .ok (t1, _) => t1.get pid
  | .panic _ => none

/-- what one step delivers: nothing for a flagged packet, otherwise the packet to the handler
registered for its PID -/
def stepDeliveries (sem : Sem H C) (tc : Tab H × C) (pk : Pk) : List (H × Pk) :=
  if pk.flagged then []
  else match registeredFor sem tc pk.pid with
    | some h => [(h, pk)]
    | none => []

/-- the delivery sequence of a run of `pushSpec sem tc pks` (up to the first panic) -/
def deliveries (sem : Sem H C) : Tab H × C → List Pk → List (H × Pk)
  | _, [] => []
  | tc, pk :: pks =>
    stepDeliveries sem tc pk ++
      (match specStep sem tc pk with
       | .ok tc' => deliveries sem tc' pks
       | .panic _ => [])

theorem logSem_consume_eq (sem : Sem H C) (h : H) (c : C) (l : List (H × Pk)) (pk : Pk) :
    (logSem sem).consume h (c, l) pk =
      (match sem.consume h c pk with
       | .panic s => .panic s
       | .ok (h', c', chg) => .ok (h', (c', l ++ [(h, pk)]), chg)) := rfl

theorem logSem_construct_eq (sem : Sem H C) (c : C) (l : List (H × Pk)) (pid : Nat) :
    (logSem sem).construct (c, l) pid =
      (match sem.construct c pid with
       | .panic s => .panic s
       | .ok (h, c') => .ok (h, (c', l))) := rfl

theorem ensure_logSem (sem : Sem H C) (t : Tab H) (c : C) (l : List (H × Pk)) (pid : Nat) :
    ensure (logSem sem) t (c, l) pid = (ensure sem t c pid >>= fun r => R.ok (r.1, (r.2, l))) := by
  unfold ensure
  cases hc : t.contains pid with
  | true => rfl
  | false =>
    simp only [Bool.false_eq_true, if_false]
    rw [logSem_construct_eq]
    cases sem.construct c pid with
    | panic s => rfl
    | ok r => rfl

theorem specStep_logSem (sem : Sem H C) (t : Tab H) (c : C) (l : List (H × Pk)) (pk : Pk) :
    specStep (logSem sem) (t, (c, l)) pk =
      (specStep sem (t, c) pk >>= fun r => R.ok (r.1, (r.2, l ++ stepDeliveries sem (t, c) pk))) := by
  rw [specStep_eq, specStep_eq, ensure_logSem]
  unfold stepDeliveries registeredFor
  cases hE : ensure sem t c pk.pid with
  | panic s => rfl
  | ok r =>
    obtain ⟨t1, c1⟩ := r
    simp only [R.ok_bind]
    cases hf : pk.flagged with
    | true => simp only [if_true, List.append_nil, R.ok_bind]
    | false =>
      simp only [Bool.false_eq_true, if_false]
      cases hg : t1.get pk.pid with
      | none => rfl
      | some h =>
        -- `simp only []` reduces the `match` on `some h`
        simp only []
        rw [logSem_consume_eq]
        cases sem.consume h c1 pk with
        | panic s => rfl
        | ok x => rfl

theorem pushSpec_logSem (sem : Sem H C) : ∀ (pks : List Pk) (t : Tab H) (c : C) (l : List (H × Pk)),
    pushSpec (logSem sem) (t, (c, l)) pks =
      (pushSpec sem (t, c) pks >>= fun r => R.ok (r.1, (r.2, l ++ deliveries sem (t, c) pks))) := by
  intro pks
  induction pks with
  | nil => intro t c l; simp only [pushSpec_nil, deliveries, List.append_nil, R.ok_bind]
  | cons pk pks ih =>
    intro t c l
    rw [pushSpec_cons, pushSpec_cons, specStep_logSem]
    unfold deliveries
    cases hs : specStep sem (t, c) pk with
    | panic s => rfl
    | ok r =>
      obtain ⟨t1, c1⟩ := r
      simp only [R.ok_bind]
      rw [ih, List.append_assoc]

theorem stepDeliveries_of_ok (sem : Sem H C) (tc tc' : Tab H × C) (pk : Pk)
    (h : specStep sem tc pk = .ok tc') :
    (pk.flagged = true ∧ stepDeliveries sem tc pk = []) ∨
    (pk.flagged = false ∧ ∃ hd, registeredFor sem tc pk.pid = some hd ∧
      stepDeliveries sem tc pk = [(hd, pk)]) := by
  obtain ⟨t, c⟩ := tc
  obtain ⟨t1, c1, hE, hr⟩ := specStep_ok_cases sem h
  have hreg : registeredFor sem (t, c) pk.pid = t1.get pk.pid := by
    simp only [registeredFor, hE]
  unfold stepDeliveries
  rw [hreg]
  rcases hr with ⟨hf, _⟩ | ⟨hf, hd, _, _, _, hg, _, _⟩
  · exact .inl ⟨hf, by rw [hf]; rfl⟩
  · exact .inr ⟨hf, hd, hg, by rw [hf, hg]; rfl⟩

theorem deliveries_packets (sem : Sem H C) : ∀ (pks : List Pk) (tc tc' : Tab H × C),
    pushSpec sem tc pks = .ok tc' →
    (deliveries sem tc pks).map (·.2) = pks.filter (fun pk => !pk.flagged) := by
  intro pks
  induction pks with
  | nil => intro tc tc' _; rfl
  | cons pk pks ih =>
    intro tc tc' h
    rw [pushSpec_cons] at h
    obtain ⟨tc1, hs, h⟩ := R.bind_eq_ok h
    simp only [deliveries, hs, List.map_append]
    rw [ih tc1 tc' h]
    rcases stepDeliveries_of_ok sem tc tc1 pk hs with ⟨hf, hd⟩ | ⟨hf, hd, _, hd'⟩
    · rw [hd, List.filter_cons_of_neg (by simp [hf])]; rfl
    · rw [hd', List.filter_cons_of_pos (by simp [hf])]; rfl

theorem deliveries_split (sem : Sem H C) : ∀ (pre : List Pk) (pk : Pk) (post : List Pk)
    (tc tc' : Tab H × C), pk.flagged = false →
    pushSpec sem tc (pre ++ pk :: post) = .ok tc' →
    ∃ tck tck' hd, pushSpec sem tc pre = .ok tck ∧ registeredFor sem tck pk.pid = some hd ∧
      specStep sem tck pk = .ok tck' ∧
      deliveries sem tc (pre ++ pk :: post) =
        deliveries sem tc pre ++ (hd, pk) :: deliveries sem tck' post := by
  intro pre
  induction pre with
  | nil =>
    intro pk post tc tc' hf h
    rw [List.nil_append, pushSpec_cons] at h
    obtain ⟨tc1, hs, _⟩ := R.bind_eq_ok h
    rcases stepDeliveries_of_ok sem tc tc1 pk hs with ⟨hf', _⟩ | ⟨_, hd, hr, hd'⟩
    · rw [hf] at hf'; cases hf'
    · refine ⟨tc, tc1, hd, rfl, hr, hs, ?_⟩
      simp only [List.nil_append, deliveries, hs, hd']
      rfl
  | cons x pre ih =>
    intro pk post tc tc' hf h
    rw [List.cons_append, pushSpec_cons] at h
    obtain ⟨tc1, hs, h⟩ := R.bind_eq_ok h
    obtain ⟨tck, tck', hd, h1, h2, h3, h4⟩ := ih pk post tc1 tc' hf h
    refine ⟨tck, tck', hd, ?_, h2, h3, ?_⟩
    · rw [pushSpec_cons, hs]; exact h1
    · simp only [List.cons_append, deliveries, hs]
      rw [h4, List.append_assoc]

/-! ### run-relative interleaving independence -/

/-- along the run `pushSpec sem tc pks` (up to the first panic), no step on a packet whose PID is
not `p` changes slot `p` -/
def OthersKeep (sem : Sem H C) (p : Nat) : Tab H × C → List Pk → Prop
  | _, [] => True
  | tc, pk :: pks =>
    match specStep sem tc pk with
    | .panic _ => True
    | .ok tc' => (pk.pid ≠ p → tc'.1.get p = tc.1.get p) ∧ OthersKeep sem p tc' pks

/-- along the run `pushSpec sem tc pks` (up to the first panic), whenever a packet of PID `p`
arrives slot `p` is occupied, and if the packet is not flagged the handler met satisfies `P` -/
def OwnMeets (sem : Sem H C) (p : Nat) (P : H → Prop) : Tab H × C → List Pk → Prop
  | _, [] => True
  | tc, pk :: pks =>
    (pk.pid = p → ∃ h, tc.1.get p = some h ∧ (pk.flagged = false → P h)) ∧
    match specStep sem tc pk with
    | .panic _ => True
    | .ok tc' => OwnMeets sem p P tc' pks

/-- for handler state `h`: the handler state and the queued changes `consume` returns are the same
for packet `pk` in any context and packet `pk'` in any context (the returned contexts may differ) -/
def ConsumeAgrees (sem : Sem H C) (h : H) (pk pk' : Pk) : Prop :=
  ∀ c c' r r', sem.consume h c pk = .ok r → sem.consume h c' pk' = .ok r' →
    r.1 = r'.1 ∧ r.2.2 = r'.2.2

/-- for handler state `h` and packet `pk`, the handler state and the queued changes `consume`
returns do not depend on the context it is given (the returned context may) -/
def CtxIrrelevant (sem : Sem H C) (h : H) (pk : Pk) : Prop := ConsumeAgrees sem h pk pk

/-- a packet with its stream offset erased -/
def Pk.noOff (pk : Pk) : Pk := { pk with off := 0 }

theorem Pk.noOff_flagged (a b : Pk) (h : a.noOff = b.noOff) : a.flagged = b.flagged := by
  unfold Pk.noOff at h
  injection h with _ _ _ h4 h5
  unfold Pk.flagged
  rw [h4, h5]

theorem othersKeep_nil (sem : Sem H C) (p : Nat) (tc : Tab H × C) : OthersKeep sem p tc [] := by
  unfold OthersKeep; trivial

theorem othersKeep_cons_iff (sem : Sem H C) (p : Nat) (tc : Tab H × C) (pk : Pk) (pks : List Pk) :
    OthersKeep sem p tc (pk :: pks) ↔
      (match specStep sem tc pk with
       | .panic _ => True
       | .ok tc' => (pk.pid ≠ p → tc'.1.get p = tc.1.get p) ∧ OthersKeep sem p tc' pks) := Iff.rfl

theorem ownMeets_nil (sem : Sem H C) (p : Nat) (P : H → Prop) (tc : Tab H × C) :
    OwnMeets sem p P tc [] := by
  unfold OwnMeets; trivial

theorem ownMeets_cons_iff (sem : Sem H C) (p : Nat) (P : H → Prop) (tc : Tab H × C) (pk : Pk)
    (pks : List Pk) :
    OwnMeets sem p P tc (pk :: pks) ↔
      ((pk.pid = p → ∃ h, tc.1.get p = some h ∧ (pk.flagged = false → P h)) ∧
       (match specStep sem tc pk with
        | .panic _ => True
        | .ok tc' => OwnMeets sem p P tc' pks)) := Iff.rfl

-- The two predicates are Prop-valued recursive functions; on a CONCRETE packet list the elaborator
-- would evaluate the whole run when it normalises such a Prop (looking for binders).  They are
-- therefore sealed; use `othersKeep_nil/_cons_iff`, `ownMeets_nil/_cons_iff`.
attribute [irreducible] OthersKeep OwnMeets

theorem othersKeep_cons (sem : Sem H C) (p : Nat) (tc tc' : Tab H × C) (pk : Pk) (pks : List Pk)
    (hs : specStep sem tc pk = .ok tc') (hK : OthersKeep sem p tc (pk :: pks)) :
    (pk.pid ≠ p → tc'.1.get p = tc.1.get p) ∧ OthersKeep sem p tc' pks := by
  rw [othersKeep_cons_iff, hs] at hK
  exact hK

theorem ownMeets_cons (sem : Sem H C) (p : Nat) (P : H → Prop) (tc tc' : Tab H × C) (pk : Pk)
    (pks : List Pk) (hs : specStep sem tc pk = .ok tc') (hM : OwnMeets sem p P tc (pk :: pks)) :
    (pk.pid = p → ∃ h, tc.1.get p = some h ∧ (pk.flagged = false → P h)) ∧
      OwnMeets sem p P tc' pks := by
  rw [ownMeets_cons_iff, hs] at hM
  exact hM

theorem get_of_others_only (sem : Sem H C) (p : Nat) : ∀ (pks : List Pk) (tc tc' : Tab H × C),
    pks.filter (fun pk => pk.pid == p) = [] → OthersKeep sem p tc pks →
    pushSpec sem tc pks = .ok tc' → tc'.1.get p = tc.1.get p := by
  intro pks
  induction pks with
  | nil => intro tc tc' _ _ h; cases h; rfl
  | cons pk pks ih =>
    intro tc tc' hfil hK h
    rw [pushSpec_cons] at h
    obtain ⟨tc1, hs, h⟩ := R.bind_eq_ok h
    obtain ⟨k1, k2⟩ := othersKeep_cons sem p tc tc1 pk pks hs hK
    by_cases hp : pk.pid = p
    · rw [List.filter_cons_of_pos (by simp [hp])] at hfil; cases hfil
    · rw [List.filter_cons_of_neg (by simp [hp])] at hfil
      rw [ih tc1 tc' hfil k2 h, k1 hp]

/-- one step on packets `pk`, `pk'` of the same PID and flags in two states whose slot holds the same
handler `h` (on which `consume` agrees for the two packets unless they are flagged): the slot
agrees afterwards -/
theorem step_own_agree (sem : Sem H C) (pk pk' : Pk) (h : H) (t1 t2 : Tab H) (c1 c2 : C)
    (tc1' tc2' : Tab H × C) (hpid : pk'.pid = pk.pid) (hfl : pk'.flagged = pk.flagged)
    (hg1 : t1.get pk.pid = some h) (hg2 : t2.get pk.pid = some h)
    (hI : pk.flagged = false → ConsumeAgrees sem h pk pk')
    (hs1 : specStep sem (t1, c1) pk = .ok tc1') (hs2 : specStep sem (t2, c2) pk' = .ok tc2') :
    tc1'.1.get pk.pid = tc2'.1.get pk.pid := by
  have hc1 := (Tab.contains_eq_true_iff t1 pk.pid).2 ⟨h, hg1⟩
  have hg2' : t2.get pk'.pid = some h := by rw [hpid]; exact hg2
  have hc2 := (Tab.contains_eq_true_iff t2 pk'.pid).2 ⟨h, hg2'⟩
  cases hf : pk.flagged with
  | true =>
    rw [specStep_flagged_of_contains sem t1 c1 pk hc1 hf] at hs1
    rw [specStep_flagged_of_contains sem t2 c2 pk' hc2 (by rw [hfl]; exact hf)] at hs2
    cases hs1; cases hs2
    rw [hg1, hg2]
  | false =>
    rw [specStep_consume_of_contains sem t1 c1 pk h hc1 hf hg1] at hs1
    rw [specStep_consume_of_contains sem t2 c2 pk' h hc2 (by rw [hfl]; exact hf) hg2'] at hs2
    obtain ⟨r1, hk1, hs1⟩ := R.bind_eq_ok hs1
    obtain ⟨r2, hk2, hs2⟩ := R.bind_eq_ok hs2
    cases hs1; cases hs2
    obtain ⟨e1, e2⟩ := hI hf c1 c2 r1 r2 hk1 hk2
    -- projections of the two pairs
    simp only []
    rw [e1, e2, hpid]
    apply get_applyChanges_congr
    rw [Tab.get_insert_self, Tab.get_insert_self]

/-- RUN-RELATIVE INTERLEAVING INDEPENDENCE, general form: the own packets of the two runs are
compared through `key` (see `Props.C06.interleaving_independent_along` and `…_mod_off`) -/
theorem get_eq_along {K : Type} (sem : Sem H C) (p : Nat) (P : H → Prop) (key : Pk → K)
    (hkey : ∀ a b, key a = key b → a.flagged = b.flagged)
    (hP : ∀ h pk pk', P h → pk.pid = p → pk.flagged = false → key pk = key pk' →
      ConsumeAgrees sem h pk pk') :
    ∀ (xs ys : List Pk) (tc1 tc2 tc1' tc2' : Tab H × C),
      tc1.1.get p = tc2.1.get p →
      (xs.filter (fun pk => pk.pid == p)).map key = (ys.filter (fun pk => pk.pid == p)).map key →
      OthersKeep sem p tc1 xs → OthersKeep sem p tc2 ys → OwnMeets sem p P tc1 xs →
      pushSpec sem tc1 xs = .ok tc1' → pushSpec sem tc2 ys = .ok tc2' →
      tc1'.1.get p = tc2'.1.get p := by
  intro xs
  induction xs with
  | nil =>
    intro ys tc1 tc2 tc1' tc2' hg hfil _ hK2 _ hr1 hr2
    cases hr1
    have hfil' : ys.filter (fun pk => pk.pid == p) = [] := by
      simp only [List.filter_nil, List.map_nil] at hfil
      exact List.map_eq_nil_iff.1 hfil.symm
    rw [get_of_others_only sem p ys tc2 tc2' hfil' hK2 hr2, hg]
  | cons x xs ih =>
    intro ys tc1 tc2 tc1' tc2' hg hfil hK1 hK2 hM hr1 hr2
    rw [pushSpec_cons] at hr1
    obtain ⟨tc1m, hs, hr1m⟩ := R.bind_eq_ok hr1
    obtain ⟨k1, k2⟩ := othersKeep_cons sem p tc1 tc1m x xs hs hK1
    obtain ⟨m1, m2⟩ := ownMeets_cons sem p P tc1 tc1m x xs hs hM
    by_cases hp : x.pid = p
    · rw [List.filter_cons_of_pos (by simp [hp]), List.map_cons] at hfil
      obtain ⟨h, hh, hPh⟩ := m1 hp
      -- peel the packets of other PIDs off `ys` until the counterpart of `x` is reached
      clear hK1 hM k1
      induction ys generalizing tc2 with
      | nil => cases hfil
      | cons y ys ihy =>
        rw [pushSpec_cons] at hr2
        obtain ⟨tc2m, hs2, hr2m⟩ := R.bind_eq_ok hr2
        obtain ⟨j1, j2⟩ := othersKeep_cons sem p tc2 tc2m y ys hs2 hK2
        by_cases hq : y.pid = p
        · rw [List.filter_cons_of_pos (by simp [hq]), List.map_cons] at hfil
          injection hfil with e1 e2
          subst hp
          obtain ⟨t1, c1⟩ := tc1
          obtain ⟨t2, c2⟩ := tc2
          have hstep := step_own_agree sem x y h t1 t2 c1 c2 tc1m tc2m hq (hkey _ _ e1).symm hh
            (by rw [← hg]; exact hh) (fun hf => hP h x y (hPh hf) rfl hf e1) hs hs2
          exact ih ys tc1m tc2m tc1' tc2' hstep e2 k2 j2 m2 hr1m hr2m
        · rw [List.filter_cons_of_neg (by simp [hq])] at hfil
          exact ihy tc2m (by rw [j1 hq]; exact hg) hfil j2 hr2m
    · rw [List.filter_cons_of_neg (by simp [hp])] at hfil
      exact ih ys tc1m tc2 tc1' tc2' (by rw [k1 hp]; exact hg) hfil k2 hK2 m2 hr1m hr2

/-! ### handler families that do not depend on the context

`hS`: what `consume` returns as handler state and queued changes is a function `step` of handler
state and packet; `hK`: the handler `construct` returns is a function `mk` of the PID. -/

section indep
variable (sem : Sem H C) (step : H → Pk → H × List (Change H)) (mk : Nat → H)
  (hS : ∀ h c pk, ∃ c', sem.consume h c pk = .ok ((step h pk).1, c', (step h pk).2))
  (hK : ∀ c pid, ∃ c', sem.construct c pid = .ok (mk pid, c'))
include hK

/-- the handler found by lookup-or-construct: the registered one, else `mk pid` -/
theorem ensure_get_of_indep {t : Tab H} {c : C} {pid : Nat} {t1 : Tab H} {c1 : C}
    (hE : ensure sem t c pid = .ok (t1, c1)) : t1.get pid = some ((t.get pid).getD (mk pid)) := by
  rcases ensure_ok_cases sem hE with ⟨hc, rfl, _⟩ | ⟨hc, hd, hk, rfl⟩
  · obtain ⟨h, hh⟩ := (Tab.contains_eq_true_iff _ _).1 hc
    rw [hh]; rfl
  · obtain ⟨_, e⟩ := hK c pid
    rw [hk] at e; cases e
    rw [Tab.get_insert_self, (Tab.contains_eq_false_iff _ _).1 hc]; rfl

include hS

theorem specStep_total_of_indep (t : Tab H) (c : C) (pk : Pk) :
    ∃ tc', specStep sem (t, c) pk = .ok tc' := by
  obtain ⟨t1, c1, hE⟩ : ∃ t1 c1, ensure sem t c pk.pid = .ok (t1, c1) := by
    cases hc : t.contains pk.pid with
    | true => exact ⟨t, c, ensure_of_contains sem t c _ hc⟩
    | false =>
      obtain ⟨c', hk⟩ := hK c pk.pid
      exact ⟨_, c', by rw [ensure_of_absent sem t c _ hc, hk]; rfl⟩
  rw [specStep_eq, hE, R.ok_bind]
  cases pk.flagged with
  | true => exact ⟨_, rfl⟩
  | false =>
    obtain ⟨c', hc'⟩ := hS ((t.get pk.pid).getD (mk pk.pid)) c1 pk
    simp only [Bool.false_eq_true, if_false, ensure_get_of_indep sem mk hK hE, hc']
    exact ⟨_, rfl⟩

theorem specStep_get_same_of_indep {t t' : Tab H} {c c' : C} {pk : Pk} {tc1 tc1' : Tab H × C}
    (he : t.get pk.pid = t'.get pk.pid) (hs : specStep sem (t, c) pk = .ok tc1)
    (hs' : specStep sem (t', c') pk = .ok tc1') : tc1.1.get pk.pid = tc1'.1.get pk.pid := by
  obtain ⟨t1, c1, hE, _⟩ := specStep_ok_cases sem hs
  obtain ⟨t1', c1', hE', _⟩ := specStep_ok_cases sem hs'
  rw [← specStep_after_ensure sem t c pk t1 c1 hE] at hs
  rw [← specStep_after_ensure sem t' c' pk t1' c1' hE'] at hs'
  refine step_own_agree sem pk pk _ t1 t1' c1 c1' tc1 tc1' rfl rfl
    (ensure_get_of_indep sem mk hK hE) (by rw [he]; exact ensure_get_of_indep sem mk hK hE') ?_ hs hs'
  intro _ a a' r r' h1 h2
  obtain ⟨_, e1⟩ := hS _ a pk
  obtain ⟨_, e2⟩ := hS _ a' pk
  rw [h1] at e1; rw [h2] at e2
  cases e1; cases e2
  exact ⟨rfl, rfl⟩

omit hK in
/-- a packet of another PID whose handler queues no change for `p` leaves slot `p` alone -/
theorem specStep_get_other_of_indep (p : Nat)
    (hN : ∀ h pk, pk.pid ≠ p → ∀ ch ∈ (step h pk).2, ch.pid ≠ p)
    {t : Tab H} {c : C} {pk : Pk} {tc' : Tab H × C} (hp : pk.pid ≠ p)
    (hs : specStep sem (t, c) pk = .ok tc') : tc'.1.get p = t.get p := by
  obtain ⟨t1, c1, hE, hr⟩ := specStep_ok_cases sem hs
  have h1 := ensure_get_ne sem t c pk.pid t1 c1 hE p (Ne.symm hp)
  rcases hr with ⟨_, rfl⟩ | ⟨_, hd, h', c', chg, _, hk, rfl⟩
  · exact h1
  · obtain ⟨_, e⟩ := hS hd c1 pk
    rw [hk] at e; cases e
    rw [get_applyChanges_untouched _ _ _ (hN hd pk hp), Tab.get_insert_ne _ _ _ _ (Ne.symm hp), h1]

/-- both runs succeed, and dropping the packets of other PIDs does not change slot `p` -/
theorem pushSpec_filter_of_indep (p : Nat)
    (hN : ∀ h pk, pk.pid ≠ p → ∀ ch ∈ (step h pk).2, ch.pid ≠ p) :
    ∀ (pks : List Pk) (t t' : Tab H) (c c' : C), t.get p = t'.get p →
      ∃ tc1 tc2, pushSpec sem (t, c) pks = .ok tc1 ∧
        pushSpec sem (t', c') (pks.filter (fun pk => pk.pid == p)) = .ok tc2 ∧
        tc1.1.get p = tc2.1.get p := by
  intro pks
  induction pks with
  | nil => intro t t' c c' he; exact ⟨_, _, rfl, rfl, he⟩
  | cons pk pks ih =>
    intro t t' c c' he
    obtain ⟨⟨t1, c1⟩, hs⟩ := specStep_total_of_indep sem step mk hS hK t c pk
    by_cases hp : pk.pid = p
    · obtain ⟨⟨t1', c1'⟩, hs'⟩ := specStep_total_of_indep sem step mk hS hK t' c' pk
      subst hp
      obtain ⟨tc1, tc2, h1, h2, h3⟩ := ih t1 t1' c1 c1'
        (specStep_get_same_of_indep sem step mk hS hK he hs hs')
      refine ⟨tc1, tc2, ?_, ?_, h3⟩
      · rw [pushSpec_cons, hs]; exact h1
      · rw [List.filter_cons_of_pos (by simp), pushSpec_cons, hs']; exact h2
    · obtain ⟨tc1, tc2, h1, h2, h3⟩ := ih t1 t' c1 c'
        (by rw [← he]; exact specStep_get_other_of_indep sem step hS p hN hp hs)
      refine ⟨tc1, tc2, ?_, ?_, h3⟩
      · rw [pushSpec_cons, hs]; exact h1
      · rw [List.filter_cons_of_neg (by simp [hp])]; exact h2

end indep

/-! ### Boolean checkers for the run-relative predicates (for evaluation on concrete runs) -/

/-- `OthersKeep`, decided with a sound Boolean comparison `eqb` of slot contents (and requiring the
run not to panic) -/
def othersKeepB (sem : Sem H C) (eqb : Option H → Option H → Bool) (p : Nat) :
    Tab H × C → List Pk → Bool
  | _, [] => true
  | tc, pk :: pks =>
    match specStep sem tc pk with
    | .panic _ => false
    | .ok tc' => (pk.pid == p || eqb (tc'.1.get p) (tc.1.get p)) && othersKeepB sem eqb p tc' pks

/-- `OwnMeets`, decided with a Boolean predicate on handlers -/
def ownMeetsB (sem : Sem H C) (pb : H → Bool) (p : Nat) : Tab H × C → List Pk → Bool
  | _, [] => true
  | tc, pk :: pks =>
    (pk.pid != p || (match tc.1.get p with | some h => pk.flagged || pb h | none => false)) &&
    match specStep sem tc pk with
    | .panic _ => false
    | .ok tc' => ownMeetsB sem pb p tc' pks

theorem othersKeep_of_check (sem : Sem H C) (eqb : Option H → Option H → Bool)
    (heq : ∀ a b, eqb a b = true → a = b) (p : Nat) : ∀ (pks : List Pk) (tc : Tab H × C),
    othersKeepB sem eqb p tc pks = true → OthersKeep sem p tc pks := by
  intro pks
  induction pks with
  | nil => intro tc _; exact othersKeep_nil sem p tc
  | cons pk pks ih =>
    intro tc h
    unfold othersKeepB at h
    rw [othersKeep_cons_iff]
    cases hs : specStep sem tc pk with
    | panic s => trivial
    | ok tc' =>
      rw [hs] at h
      simp only [Bool.and_eq_true, Bool.or_eq_true, beq_iff_eq] at h
      refine ⟨fun hp => ?_, ih tc' h.2⟩
      rcases h.1 with e | e
      · exact absurd e hp
      · exact heq _ _ e

/-- `othersKeepB` also asks that the run not panic -/
theorem pushSpec_ok_of_check (sem : Sem H C) (eqb : Option H → Option H → Bool) (p : Nat) :
    ∀ (pks : List Pk) (tc : Tab H × C), othersKeepB sem eqb p tc pks = true →
      ∃ tc', pushSpec sem tc pks = .ok tc' := by
  intro pks
  induction pks with
  | nil => intro tc _; exact ⟨tc, rfl⟩
  | cons pk pks ih =>
    intro tc h
    unfold othersKeepB at h
    rw [pushSpec_cons]
    cases hs : specStep sem tc pk with
    | panic s => rw [hs] at h; cases h
    | ok tc' =>
      rw [hs] at h
      exact ih tc' (Bool.and_eq_true_iff.1 h).2

theorem ownMeets_of_check (sem : Sem H C) (pb : H → Bool) (P : H → Prop)
    (hpb : ∀ h, pb h = true → P h) (p : Nat) : ∀ (pks : List Pk) (tc : Tab H × C),
    ownMeetsB sem pb p tc pks = true → OwnMeets sem p P tc pks := by
  intro pks
  induction pks with
  | nil => intro tc _; exact ownMeets_nil sem p P tc
  | cons pk pks ih =>
    intro tc h
    unfold ownMeetsB at h
    rw [ownMeets_cons_iff]
    simp only [Bool.and_eq_true, Bool.or_eq_true, bne_iff_ne, ne_eq] at h
    refine ⟨fun hp => ?_, ?_⟩
    · rcases h.1 with e | e
      · exact absurd hp e
      · cases hg : tc.1.get p with
        | none => rw [hg] at e; cases e
        | some hd =>
          rw [hg] at e
          simp only [Bool.or_eq_true] at e
          refine ⟨hd, rfl, fun hf => ?_⟩
          rcases e with e | e
          · rw [hf] at e; cases e
          · exact hpb hd e
    · cases hs : specStep sem tc pk with
      | panic s => trivial
      | ok tc' =>
        have h2 := h.2
        rw [hs] at h2
        exact ih tc' h2

/-! ### the application's PES slots are context-irrelevant -/

/-- a PES handler of the concrete application: its next state is `PesFilter.consume` of its filter
state and the packet BYTES, it queues no change; the context only receives the callbacks -/
theorem pes_consumeAgrees (tag : Nat) (f : PesFilter.F) (pk pk' : Pk) (hb : pk.bytes = pk'.bytes) :
    ConsumeAgrees App.sem (.pes tag f) pk pk' := by
  intro c c' ⟨h1', c1', chg1⟩ ⟨h2', c2', chg2⟩ h1 h2
  obtain ⟨f1, _, a1, _, rfl, rfl⟩ := Lemmas.C05.consume_pes_ok h1
  obtain ⟨f2, _, b1, _, rfl, rfl⟩ := Lemmas.C05.consume_pes_ok h2
  rw [← hb, a1] at b1
  cases b1
  exact ⟨rfl, rfl⟩

theorem pes_ctxIrrelevant (tag : Nat) (f : PesFilter.F) (pk : Pk) :
    CtxIrrelevant App.sem (.pes tag f) pk := pes_consumeAgrees tag f pk pk rfl

def isPesHandler : App.Handler → Bool
  | .pes _ _ => true
  | _ => false

/-- a sound Boolean comparison of slot contents, complete on empty and PES slots -/
def slotEqb : Option App.Handler → Option App.Handler → Bool
  | none, none => true
  | some (.pes a f), some (.pes b g) => a == b && decide (f = g)
  | _, _ => false

theorem slotEqb_sound (a b : Option App.Handler) (h : slotEqb a b = true) : a = b := by
  unfold slotEqb at h
  split at h
  · rfl
  · simp only [Bool.and_eq_true, beq_iff_eq, decide_eq_true_eq] at h
    rw [h.1, h.2]
  · cases h

/-! ### `frame` as a `filterMap` over the chunk indices -/

/-- the `k`-th 188-byte chunk of `buf`: bytes `buf[188k .. 188k+188)` -/
def chunkAt (buf : Bytes) (k : Nat) : Bytes := (buf.drop (188 * k)).take 188

/-- the packet `push` makes of the `k`-th chunk of `buf` (`base` = bytes pushed before), if its
first byte is the sync byte: header fields read bit by bit (`readBits`, ISO/IEC 13818-1 2.4.3.2) -/
def pktAt (buf : Bytes) (base k : Nat) : Option Pk :=
  let ch := chunkAt buf k
  if byteD ch 0 = 0x47 then
    some { bytes := ch, off := base + 188 * k, pid := readBits ch 11 13,
           tei := readBits ch 8 1 == 1, scrambled := readBits ch 24 2 != 0 }
  else none

theorem pktAt_eq_some {buf : Bytes} {base k : Nat} {pk : Pk} (h : pktAt buf base k = some pk) :
    byteD (chunkAt buf k) 0 = 0x47 ∧
    pk = { bytes := chunkAt buf k, off := base + 188 * k, pid := readBits (chunkAt buf k) 11 13,
           tei := readBits (chunkAt buf k) 8 1 == 1, scrambled := readBits (chunkAt buf k) 24 2 != 0 } := by
  unfold pktAt at h
  -- the `let ch := …` of `pktAt`
  simp only [] at h
  split at h
  · next hs => exact ⟨hs, (Option.some.inj h).symm⟩
  · cases h

theorem chunkAt_length (buf : Bytes) (k : Nat) (hk : k < buf.length / 188) :
    (chunkAt buf k).length = 188 := by
  unfold chunkAt
  rw [List.length_take, List.length_drop]
  have : 188 * (k + 1) ≤ buf.length := by
    have := Nat.mul_le_mul_left 188 (Nat.succ_le_of_lt hk)
    have := Nat.mul_div_le buf.length 188
    omega
  omega

theorem chunkAt_drop (buf : Bytes) (k : Nat) : chunkAt (buf.drop 188) k = chunkAt buf (k + 1) := by
  unfold chunkAt
  rw [List.drop_drop]
  have : 188 + 188 * k = 188 * (k + 1) := by omega
  rw [this]

theorem pkOf_eq_pktAt (buf : Bytes) (base k : Nat) (hk : k < buf.length / 188) :
    pkOf (chunkAt buf k) (base + 188 * k) = pktAt buf base k := by
  unfold pkOf pktAt
  -- the `let ch := …` of `pktAt`
  simp only []
  rw [(Props.C12.scrambling_exact (chunkAt buf k) (chunkAt_length buf k hk)).2.2]

theorem filterMap_congr {α β : Type} (f g : α → Option β) : ∀ (l : List α),
    (∀ x ∈ l, f x = g x) → l.filterMap f = l.filterMap g := by
  intro l
  induction l with
  | nil => intro _; rfl
  | cons a l ih =>
    intro h
    rw [List.filterMap_cons, List.filterMap_cons, h a List.mem_cons_self,
      ih (fun x hx => h x (List.mem_cons_of_mem _ hx))]

theorem framePure_chunks_aux : ∀ (n : Nat) (buf : Bytes) (base : Nat), buf.length / 188 = n →
    framePure (chunks buf) base =
      (List.range n).filterMap (fun k => pkOf (chunkAt buf k) (base + 188 * k)) := by
  intro n
  induction n with
  | zero =>
    intro buf base h
    rw [chunks_short buf (by omega)]; rfl
  | succ n ih =>
    intro buf base h
    have hl : ¬ buf.length < 188 := by
      intro hlt
      rw [Nat.div_eq_of_lt hlt] at h; cases h
    rw [chunks_eq buf]
    simp only [hl, if_false]
    have hd : (buf.drop 188).length / 188 = n := by rw [List.length_drop]; omega
    have e0 : chunkAt buf 0 = buf.take 188 := by unfold chunkAt; simp
    rw [List.range_succ_eq_map, List.filterMap_cons, List.filterMap_map]
    have hrest : framePure (chunks (buf.drop 188)) (base + 188) =
        List.filterMap ((fun k => pkOf (chunkAt buf k) (base + 188 * k)) ∘ Nat.succ) (List.range n) := by
      rw [ih (buf.drop 188) (base + 188) hd]
      apply filterMap_congr
      intro k _
      simp only [Function.comp]
      rw [chunkAt_drop]
      have : base + 188 + 188 * k = base + 188 * (k + 1) := by omega
      rw [this]
    unfold framePure
    rw [hrest, e0]
    simp only [Nat.mul_zero, Nat.add_zero]
    cases pkOf (List.take 188 buf) base <;> rfl

theorem framePure_chunks_eq (buf : Bytes) (base : Nat) :
    framePure (chunks buf) base = (List.range (buf.length / 188)).filterMap (pktAt buf base) := by
  rw [framePure_chunks_aux _ buf base rfl]
  apply filterMap_congr
  intro k hk
  exact pkOf_eq_pktAt buf base k (List.mem_range.1 hk)

theorem chunkAt_take (buf : Bytes) (k : Nat) (hk : k < buf.length / 188) :
    chunkAt (buf.take (188 * (buf.length / 188))) k = chunkAt buf k := by
  unfold chunkAt
  have : 188 * (k + 1) ≤ 188 * (buf.length / 188) := Nat.mul_le_mul_left 188 (Nat.succ_le_of_lt hk)
  rw [List.drop_take, List.take_take]
  congr 1
  omega

end Ts.Demux
