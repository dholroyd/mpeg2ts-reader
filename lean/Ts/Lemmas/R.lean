import Ts.Basic
/-!
# The panic monad `R`: laws, inversion of a successful bind, `mapM` / `forM` of total functions
-/
namespace Ts

instance : LawfulMonad R := LawfulMonad.mk' R
  (id_map := by intro α x; cases x <;> rfl)
  (pure_bind := by intros; rfl)
  (bind_assoc := by intro α β γ x f g; cases x <;> rfl)

theorem R.bind_eq_ok {α β : Type} {x : R α} {f : α → R β} {b : β} (h : (x >>= f) = .ok b) :
    ∃ a, x = .ok a ∧ f a = .ok b := by
  cases x with
  | ok a => exact ⟨a, rfl, h⟩
  | panic s => cases h

/-- a bind panics where its first part does, or where the continuation does -/
theorem R.bind_eq_panic {α β : Type} {x : R α} {f : α → R β} {s : String}
    (h : (x >>= f) = .panic s) : x = .panic s ∨ ∃ a, x = .ok a ∧ f a = .panic s := by
  cases x with
  | ok a => exact .inr ⟨a, rfl, h⟩
  | panic s' => injection h with h; exact .inl (by rw [h])

theorem R.ok_inj {α : Type} {a b : α} (h : (R.ok a : R α) = .ok b) : a = b := by
  injection h

theorem mapM_ok {α β : Type} (f : α → R β) (g : α → β) (l : List α) (h : ∀ a ∈ l, f a = .ok (g a)) :
    l.mapM f = .ok (l.map g) := by
  induction l with
  | nil => rfl
  | cons a as ih =>
    rw [List.mapM_cons, h a List.mem_cons_self, ih fun x hx => h x (List.mem_cons_of_mem _ hx)]
    rfl

theorem forM_ok {α : Type} (f : α → R Unit) (l : List α) (h : ∀ a ∈ l, f a = .ok ()) :
    l.forM f = .ok () := by
  induction l with
  | nil => rfl
  | cons a as ih =>
    rw [List.forM, h a List.mem_cons_self]
    exact ih fun x hx => h x (List.mem_cons_of_mem _ hx)

end Ts
