import Ts.Lemmas.C19b
import Ts.Lemmas.C10
import Ts.Lemmas.C10b
/-!
# C19, part 3: Boolean checks and concrete data for the instances; the changeset bound; `mayAlloc`

`steadyB` implies `Steady` (to instantiate the steady-state theorems on a concrete run by kernel
evaluation).  The changeset bound comes from the closed forms of `Lemmas.C05` (`sectLen_changes`) and
the invariant `Inv2`.  `mayAlloc` is a Boolean function of a step's inputs; `mayAlloc_false_step`
says what `false` means in the model.
-/
namespace Ts.Lemmas.C19
open Ts Ts.Demux

/-! ### a Boolean check for the steady-state hypothesis -/

def repeatPayloadB (v : Nat) (q : C03.Pl) : Bool :=
  !q.us ||
    (decide (byteD q.bytes 0 + 9 ≤ q.bytes.length) &&
      C03.hdrSyn ((q.bytes.drop 1).drop (byteD q.bytes 0)) &&
      decide (C03.hdrLen ((q.bytes.drop 1).drop (byteD q.bytes 0)) ≤ 1021) &&
      versionOf ((q.bytes.drop 1).drop (byteD q.bytes 0)) == v)

def repeatPktB (v : Nat) (p : Bytes) : Bool :=
  match C03.plOf p with
  | none => true
  | some q => repeatPayloadB v q

def steadyPkB (t : Tab App.Handler) (pk : Pk) : Bool :=
  pk.bytes.length == 188 && t.contains pk.pid &&
    match t.get pk.pid with
    | none => true
    | some h =>
      match psiOf h with
      | none => true
      | some s =>
        match s.lastVersion with
        | none => false
        | some v => s.remaining.isNone && repeatPktB v pk.bytes

def steadyB (t : Tab App.Handler) (pks : List Pk) : Bool := pks.all (steadyPkB t)

theorem repeatPayloadB_sound (v : Nat) (q : C03.Pl) (h : repeatPayloadB v q = true) :
    RepeatPayload v q := by
  unfold repeatPayloadB at h
  cases hus : q.us with
  | false => exact Or.inl hus
  | true =>
    rw [hus] at h
    simp only [Bool.not_true, Bool.false_or, Bool.and_eq_true, decide_eq_true_eq, beq_iff_eq] at h
    exact Or.inr ⟨h.1.1.1, h.1.1.2, h.1.2, h.2⟩

theorem repeatPktB_sound (v : Nat) (p : Bytes) (h : repeatPktB v p = true) : RepeatPkt v p := by
  intro q hq
  unfold repeatPktB at h
  rw [hq] at h
  exact repeatPayloadB_sound v q h

theorem steadyPkB_sound (t : Tab App.Handler) (pk : Pk) (h : steadyPkB t pk = true) :
    SteadyPk t pk := by
  unfold steadyPkB at h
  simp only [Bool.and_eq_true, beq_iff_eq] at h
  obtain ⟨⟨h1, h2⟩, h3⟩ := h
  refine ⟨h1, h2, ?_⟩
  intro hd s hg hp
  rw [hg] at h3
  simp only [hp] at h3
  cases hv : s.lastVersion with
  | none => rw [hv] at h3; cases h3
  | some v =>
    rw [hv] at h3
    simp only [Bool.and_eq_true, Option.isNone_iff_eq_none] at h3
    exact ⟨v, ⟨hv, h3.1⟩, repeatPktB_sound v pk.bytes h3.2⟩

theorem steadyB_sound (t : Tab App.Handler) (pks : List Pk) (h : steadyB t pks = true) :
    Steady t pks := by
  intro pk hpk
  unfold steadyB at h
  rw [List.all_eq_true] at h
  exact steadyPkB_sound t pk (h pk hpk)

/-! ### `Steady` looks at a packet's bytes and PID only -/

theorem steadyPk_of_same (t : Tab App.Handler) (pk pk' : Pk) (hb : pk'.bytes = pk.bytes)
    (hp : pk'.pid = pk.pid) (h : SteadyPk t pk) : SteadyPk t pk' := by
  unfold SteadyPk at h ⊢
  rw [hb, hp]
  exact h

/-- if the packets framed from `b` at one global offset are steady for `t`, so are those framed
at any other offset (only `Pk.off` differs) -/
theorem steady_of_frame_base (t : Tab App.Handler) (b : Bytes) (base : Nat) (pks : List Pk)
    (hf : frame b base = .ok pks) (hs : Steady t pks) :
    ∀ bs pks', frame b bs = .ok pks' → Steady t pks' := by
  intro bs pks' hf'
  rw [Props.C07.frame_spec] at hf hf'
  cases hf
  cases hf'
  intro pk hpk
  obtain ⟨k, hk, hp⟩ := List.mem_filterMap.1 hpk
  obtain ⟨h47, rfl⟩ := pktAt_eq_some hp
  -- the packet made of the same chunk at the other offset
  cases hq : pktAt b base k with
  | none =>
    unfold pktAt at hq
    simp only [h47, if_true] at hq
    cases hq
  | some pk0 =>
    obtain ⟨-, rfl⟩ := pktAt_eq_some hq
    have h0 := hs _ (List.mem_filterMap.2 ⟨k, hk, hq⟩)
    exact steadyPk_of_same t _ _ rfl rfl h0

/-! ### concrete data: a run that reaches steady state, then a steady push -/

def pad188 (b : Bytes) : Bytes := b ++ List.replicate (188 - b.length) 0xff

/-- PAT on PID 0, version 0: program 1 → PMT PID 0x1e0 (valid CRC); continuity counter `cc` -/
def nvPat (cc : UInt8) : Bytes := pad188 [0x47, 0x40, 0x00, 0x10 + cc, 0x00,
  0x00, 0xb0, 0x0d, 0x00, 0x01, 0xc1, 0x00, 0x00, 0x00, 0x01, 0xe1, 0xe0, 0x2d, 0x50, 0x78, 0x04]

/-- PMT on PID 0x1e0, version 0: PCR PID 0x21, H.264 video on PID 0x21, AAC audio on PID 0x22
(valid CRC); continuity counter `cc` -/
def nvPmt (cc : UInt8) : Bytes := pad188 [0x47, 0x41, 0xe0, 0x10 + cc, 0x00,
  0x02, 0xb0, 0x17, 0x00, 0x01, 0xc1, 0x00, 0x00, 0xe0, 0x21, 0xf0, 0x00,
  0x1b, 0xe0, 0x21, 0xf0, 0x00, 0x0f, 0xe0, 0x22, 0xf0, 0x00, 0xfa, 0x81, 0x67, 0x0f]

/-- PES packet start on PID 0x21: header `00 00 01 e0 00 00`, optional header `80 00 00`, 175
payload bytes -/
def nvEsStart (cc fill : UInt8) : Bytes :=
  [0x47, 0x40, 0x21, 0x10 + cc, 0, 0, 1, 0xe0, 0, 0, 0x80, 0, 0] ++ List.replicate 175 fill

/-- PES continuation packet on PID 0x21: 184 payload bytes -/
def nvEsCont (cc fill : UInt8) : Bytes := [0x47, 0x00, 0x21, 0x10 + cc] ++ List.replicate 184 fill

/-- first push: PAT, PMT, start of a PES packet on PID 0x21 -/
def nvSetup : Bytes := nvPat 0 ++ nvPmt 0 ++ nvEsStart 0 0x11

/-- steady push: PES continuation, PAT repetition, PMT repetition, next PES packet start -/
def nvSteady : Bytes := nvEsCont 1 0x12 ++ nvPat 1 ++ nvPmt 1 ++ nvEsStart 2 0x13

/-- a push of 379 bytes: a payload-only packet on PID 5, the PAT packet `patPkt`, 3 stray bytes -/
def twoPkBuf : Bytes := pid5Pkt ++ patPkt ++ [0x47, 0x00, 0x00]

/-- what kind of handler sits in a slot (0 PAT, 1 PMT, 2 PES, 3 recorder) -/
def handlerKind : App.Handler → Nat
  | .pat _ _ => 0
  | .pmt _ _ _ _ => 1
  | .pes _ _ => 2
  | .recorder _ => 3


/-! ### how many changes one packet can queue -/

/-- the PIDs a PAT/PMT processor has registered (`filters_registered`), `[]` for other handlers -/
def regOf : App.Handler → List Nat
  | .pat _ reg => reg
  | .pmt _ _ _ reg => reg
  | _ => []

/-- most table entries a section of at most 1024 bytes can carry: `(1024 - 12) / 4` four-byte PAT
entries (a PMT carries at most `(1024 - 16) / 5 = 201` five-byte stream entries) -/
def MAX_ENTRIES : Nat := 253

def RegOk (h : App.Handler) : Prop := (regOf h).length ≤ MAX_ENTRIES

/-- most changes one packet can queue: two deliveries, each inserting at most `MAX_ENTRIES`
handlers and removing at most `MAX_ENTRIES` previously registered ones -/
def CHG_MAX : Nat := 2 * (2 * MAX_ENTRIES)

def ChgReg (ch : Change App.Handler) : Prop := ∀ h, ch.val = some h → RegOk h

theorem regOk_handlerFor (r : App.Req) (tag : Nat) : RegOk (Spec.Routing.handlerFor r tag) := by
  unfold RegOk
  rcases C05.handlerFor_cases r tag with e | ⟨a, b, e⟩ | e | e <;> rw [e] <;> exact Nat.zero_le _

theorem construct_regOk (c : App.Ctx) (req : App.Req) : RegOk (App.construct c req).1 := by
  rw [C05.construct_eq]; exact regOk_handlerFor _ _

/-- what a table processor may do with one section of at most 1024 bytes -/
def SectLen (reg : List Nat) (reg' : List Nat) (chg : List (Change App.Handler)) : Prop :=
  chg.length ≤ MAX_ENTRIES + reg.length ∧ (reg' = reg ∨ reg'.length ≤ MAX_ENTRIES)
    ∧ ∀ ch ∈ chg, ChgReg ch

theorem sectLen_triv (reg : List Nat) : SectLen reg reg [] :=
  ⟨Nat.zero_le _, Or.inl rfl, by simp⟩

/-- the change queue of an applied table with at most `MAX_ENTRIES` entries: one fresh handler per
entry, and `remove_outdated` queues at most one removal per previously registered PID -/
theorem sectLen_changes (tag : Nat) (reg seen : List Nat) (reqs : List (Nat × App.Req))
    (hn : reqs.length ≤ MAX_ENTRIES) (hs : seen.length ≤ MAX_ENTRIES) :
    SectLen reg seen ((Spec.Routing.built tag reqs).map (fun x => Change.insert x.1 x.2)
      ++ (App.outdated reg seen).map Change.remove) := by
  refine ⟨?_, Or.inr hs, fun ch hch => ?_⟩
  · have ho : (App.outdated reg seen).length ≤ reg.length :=
      List.Nodup.length_le_of_subset (List.nodup_range.sublist List.filter_sublist)
        fun p hp => ((App.mem_outdated _ _ _).1 hp).2.1
    rw [List.length_append, List.length_map, List.length_map, C05.built_length]
    omega
  · rcases List.mem_append.1 hch with hm | hm
    · obtain ⟨x, hx, rfl⟩ := List.mem_map.1 hm
      obtain ⟨r, tag', -, e⟩ := C05.built_mem hx
      intro h hv
      cases hv
      rw [e]
      exact regOk_handlerFor r tag'
    · obtain ⟨p, -, rfl⟩ := List.mem_map.1 hm
      exact fun h hv => nomatch hv

theorem patSection_len (c : App.Ctx) (reg : List Nat) (data : Bytes) (c' : App.Ctx) (reg' : List Nat)
    (chg : List (Change App.Handler)) (hd : data.length ≤ 1024)
    (h : App.patSection c reg data = .ok (c', reg', chg)) : SectLen reg reg' chg := by
  obtain ⟨-, ⟨-, -, rfl, rfl⟩ | ⟨-, -, rfl, rfl⟩⟩ := C05.patSection_ok h
  · exact sectLen_triv _
  · -- four bytes per entry, in a body of at most 1012 bytes
    have hl : (Spec.TableSpec.specPat (Spec.Routing.sectionBody data)).length ≤ MAX_ENTRIES := by
      unfold Spec.TableSpec.specPat
      rw [List.length_map, C16.chunks4_length _ _ (Nat.lt_succ_self _)]
      unfold Spec.Routing.sectionBody MAX_ENTRIES
      rw [List.length_take, List.length_drop]
      omega
    exact sectLen_changes _ _ _ _ (by unfold Spec.Routing.patRequests; rwa [List.length_map])
      (by rwa [List.length_map])

/-- at least five bytes per stream entry -/
theorem specStreams_length (buf : Bytes) : 5 * (Spec.TableSpec.specStreams buf).1.length ≤ buf.length := by
  have h := congrArg List.length (C16.specStreams_props _ buf (Nat.lt_succ_self _)).1
  have hl : ∀ l : List Spec.TableSpec.StreamEnc,
      5 * l.length ≤ ((l.map Spec.TableSpec.encodeStream).flatten).length := by
    intro l
    induction l with
    | nil => exact Nat.le_refl _
    | cons e l ih =>
      simp only [List.map_cons, List.flatten_cons, List.length_append, List.length_cons,
        C16.encodeStream_length]
      omega
  rw [List.length_append] at h
  have := hl (Spec.TableSpec.specStreams buf).1
  omega

theorem pmtSection_len (c : App.Ctx) (pmtPid : Nat) (reg : List Nat) (data : Bytes) (c' : App.Ctx)
    (reg' : List Nat) (chg : List (Change App.Handler)) (hd : data.length ≤ 1024)
    (h : App.pmtSection c pmtPid reg data = .ok (c', reg', chg)) : SectLen reg reg' chg := by
  obtain ⟨-, ⟨-, -, rfl, rfl⟩ | ⟨-, -, -, rfl, rfl⟩⟩ := C05.pmtSection_ok h
  · exact sectLen_triv _
  · have hl : (Spec.Routing.streamsOf (Spec.Routing.sectionBody data)).length ≤ MAX_ENTRIES := by
      have h5 := specStreams_length (Spec.TableSpec.specStreamBytes (Spec.Routing.sectionBody data))
      have hb : (Spec.TableSpec.specStreamBytes (Spec.Routing.sectionBody data)).length ≤ 1012 := by
        unfold Spec.TableSpec.specStreamBytes Spec.Routing.sectionBody
        rw [List.length_drop, List.length_take, List.length_drop]
        omega
      unfold Spec.Routing.streamsOf
      rw [List.length_map]
      unfold MAX_ENTRIES
      omega
    exact sectLen_changes _ _ _ _ (by unfold Spec.Routing.pmtRequests; rwa [List.length_map])
      (by rwa [List.length_map])

theorem runDeliveries_len (sect : App.Ctx → List Nat → Bytes → R (App.Ctx × List Nat × List (Change App.Handler)))
    (hsect : ∀ c reg d c' reg' chg, d.length ≤ 1024 → sect c reg d = .ok (c', reg', chg) →
      SectLen reg reg' chg) :
    ∀ (ds : List Psi.Delivery) (c : App.Ctx) (reg : List Nat) (c' : App.Ctx) (reg' : List Nat)
      (chg : List (Change App.Handler)), (∀ d ∈ ds, d.bytes.length ≤ 1024) →
      reg.length ≤ MAX_ENTRIES →
      App.runDeliveries sect c reg ds = .ok (c', reg', chg) →
      chg.length ≤ ds.length * (2 * MAX_ENTRIES) ∧ reg'.length ≤ MAX_ENTRIES
        ∧ ∀ ch ∈ chg, ChgReg ch := by
  intro ds
  induction ds with
  | nil =>
    intro c reg c' reg' chg _ hr h
    have := R.ok_inj h
    simp only [Prod.mk.injEq] at this
    obtain ⟨_, e2, e3⟩ := this
    subst e2 e3
    exact ⟨Nat.zero_le _, hr, by simp⟩
  | cons d ds ih =>
    intro c reg c' reg' chg hds hr h
    have hd := hds d List.mem_cons_self
    have hrest := fun d' hd' => hds d' (List.mem_cons_of_mem _ hd')
    unfold App.runDeliveries at h
    obtain ⟨b, _, h⟩ := R.bind_eq_ok h
    split at h
    · obtain ⟨r1, h1, h⟩ := R.bind_eq_ok h
      obtain ⟨c1, reg1, chg1⟩ := r1
      dsimp only at h
      obtain ⟨r2, h2, h⟩ := R.bind_eq_ok h
      obtain ⟨c2, reg2, chg2⟩ := r2
      have := R.ok_inj h
      simp only [Prod.mk.injEq] at this
      obtain ⟨_, e2, e3⟩ := this
      subst e2 e3
      obtain ⟨a1, a2, a3⟩ := hsect _ _ _ _ _ _ hd h1
      have hr1 : reg1.length ≤ MAX_ENTRIES := by
        rcases a2 with e | e
        · rw [e]; exact hr
        · exact e
      obtain ⟨b1, b2, b3⟩ := ih _ _ _ _ _ hrest hr1 h2
      refine ⟨?_, b2, ?_⟩
      · simp only [List.length_append, List.length_cons]
        rw [Nat.add_mul]
        omega
      · intro ch hch
        rcases List.mem_append.1 hch with x | x
        · exact a3 ch x
        · exact b3 ch x
    · obtain ⟨b1, b2, b3⟩ := ih _ _ _ _ _ hrest hr h
      refine ⟨?_, b2, b3⟩
      simp only [List.length_cons]
      rw [Nat.add_mul]
      omega

/-- `SectionPacketConsumer::consume` yields at most two whole sections of at most 1024 bytes -/
theorem psi_consume_deliveries (s s' : Psi.St) (ds : List Psi.Delivery) (p : Bytes)
    (hs : C03.PsiInv .syntax s) (hp : p.length = 188)
    (h : Psi.consume Psi.table s p = .ok (s', ds)) :
    ds.length ≤ 2 ∧ ∀ d ∈ ds, d.bytes.length ≤ 1024 := by
  rw [C03.consume_eq_spec Psi.table C03.cfgOk_table s hs p hp] at h
  have e : (C03.consumeSpecPk Psi.table s p).2 = ds := congrArg Prod.snd (R.ok_inj h)
  exact e ▸ ⟨C03.consumeSpecPk_length_le_two _ _ _,
    (C03.consumeSpecPk_rule (C03.bufRule_inv Psi.table) s p hs).2⟩

/-- recorder scripts (test-harness input) queue at most `CHG_MAX` changes per packet -/
def ScriptLenOk (cfg : App.Cfg) : Prop := ∀ k ops, (k, ops) ∈ cfg.script → ops.length ≤ CHG_MAX

theorem scriptChanges_len : ∀ (ops : List App.ScriptOp) (c : App.Ctx),
    (App.scriptChanges c ops).2.length = ops.length
      ∧ ∀ ch ∈ (App.scriptChanges c ops).2, ChgReg ch := by
  intro ops
  induction ops with
  | nil => intro c; exact ⟨rfl, by simp [App.scriptChanges]⟩
  | cons op ops ih =>
    intro c
    cases op with
    | ins pid =>
      obtain ⟨a1, a2⟩ := ih ({ c with nextTag := c.nextTag + 1 }.emit (.scriptIns pid c.nextTag))
      simp only [App.scriptChanges, List.length_cons]
      refine ⟨by rw [a1], ?_⟩
      intro ch hch
      rcases List.mem_cons.1 hch with x | x
      · subst x
        intro h hv
        injection hv with hv
        subst hv
        exact Nat.zero_le _
      · exact a2 ch x
    | rem pid =>
      obtain ⟨a1, a2⟩ := ih (c.emit (.scriptRem pid))
      simp only [App.scriptChanges, List.length_cons]
      refine ⟨by rw [a1], ?_⟩
      intro ch hch
      rcases List.mem_cons.1 hch with x | x
      · subst x
        intro h hv; cases hv
      · exact a2 ch x

/-- one `consume` of any application handler on a 188-byte packet queues at most `CHG_MAX`
changes; the handler and every inserted handler remember at most `MAX_ENTRIES` PIDs -/
theorem app_consume_len (h : App.Handler) (c : App.Ctx) (pk : Pk) (h' : App.Handler) (c' : App.Ctx)
    (chg : List (Change App.Handler)) (hh : HOk h) (hr : RegOk h) (hlen : pk.bytes.length = 188)
    (hsl : ScriptLenOk c.cfg) (hc : App.consume h c pk = .ok (h', c', chg)) :
    chg.length ≤ CHG_MAX ∧ RegOk h' ∧ ∀ ch ∈ chg, ChgReg ch := by
  -- a table filter: at most two deliveries, each queueing at most `2 * MAX_ENTRIES` changes
  have table : ∀ s s' ds sect reg reg', HOk h → psiOf h = some s →
      Psi.consume Psi.table s pk.bytes = .ok (s', ds) → reg.length ≤ MAX_ENTRIES →
      (∀ c reg d c' reg' chg, d.length ≤ 1024 → sect c reg d = .ok (c', reg', chg) → SectLen reg reg' chg) →
      App.runDeliveries sect c reg ds = .ok (c', reg', chg) →
      chg.length ≤ CHG_MAX ∧ reg'.length ≤ MAX_ENTRIES ∧ ∀ ch ∈ chg, ChgReg ch := by
    intro s s' ds sect reg reg' hh hs h1 hr hsect h2
    obtain ⟨d1, d2⟩ := psi_consume_deliveries s s' ds pk.bytes (hh s hs).1 hlen h1
    obtain ⟨a1, a2, a3⟩ := runDeliveries_len sect hsect ds _ _ _ _ _ d2 hr h2
    have : ds.length * (2 * MAX_ENTRIES) ≤ 2 * (2 * MAX_ENTRIES) := Nat.mul_le_mul_right _ d1
    exact ⟨by unfold CHG_MAX; omega, a2, a3⟩
  cases h with
  | pat s reg =>
    obtain ⟨s', ds, reg', h1, h2, rfl⟩ := C05.consume_pat_ok hc
    exact table s s' ds _ reg reg' hh rfl h1 hr patSection_len h2
  | pmt pid prog s reg =>
    obtain ⟨s', ds, reg', h1, h2, rfl⟩ := C05.consume_pmt_ok hc
    exact table s s' ds _ reg reg' hh rfl h1 hr (fun c r d => pmtSection_len c pid r d) h2
  | pes tag f =>
    obtain ⟨f', evs, -, -, rfl, rfl⟩ := C05.consume_pes_ok hc
    exact ⟨Nat.zero_le _, Nat.zero_le _, by simp⟩
  | recorder tag =>
    have e := C05.consume_recorder_ok hc
    cases hl : c.cfg.script.lookup (pk.off / 188) with
    | none =>
      rw [hl] at e
      cases e
      exact ⟨Nat.zero_le _, Nat.zero_le _, by simp⟩
    | some ops =>
      rw [hl] at e
      obtain ⟨rfl, e2⟩ := Prod.mk.inj e
      obtain ⟨a1, a2⟩ := scriptChanges_len ops (c.emit (.pkt tag pk.off))
      rw [← e2] at a1 a2
      exact ⟨a1 ▸ hsl _ _ (mem_of_lookup _ _ _ hl), Nat.zero_le _, a2⟩

/-! ### the invariant with registered-PID bounds, and the changeset high-water mark -/

def RegInv (t : Tab App.Handler) : Prop := ∀ p h, t.get p = some h → RegOk h

theorem regInv_insert (t : Tab App.Handler) (p : Nat) (h : App.Handler) (ht : RegInv t)
    (hh : RegOk h) : RegInv (t.insert p h) := by
  intro q h' hg
  rw [Tab.get_insert] at hg
  split at hg
  · injection hg with hg; subst hg; exact hh
  · exact ht q h' hg

theorem regInv_remove (t : Tab App.Handler) (p : Nat) (ht : RegInv t) : RegInv (t.remove p) := by
  intro q h' hg
  rw [Tab.get_remove] at hg
  split at hg
  · cases hg
  · exact ht q h' hg

theorem regInv_applyChange (t : Tab App.Handler) (ch : Change App.Handler) (ht : RegInv t)
    (hc : ChgReg ch) : RegInv (applyChange t ch) := by
  cases ch with
  | insert p h => exact regInv_insert t p h ht (hc h rfl)
  | remove p => exact regInv_remove t p ht

theorem regInv_applyChanges (cs : List (Change App.Handler)) : ∀ (t : Tab App.Handler),
    RegInv t → (∀ ch ∈ cs, ChgReg ch) → RegInv (applyChanges t cs) := by
  induction cs with
  | nil => intro t ht _; exact ht
  | cons a cs ih =>
    intro t ht hc
    rw [applyChanges_cons]
    exact ih _ (regInv_applyChange t a ht (hc a List.mem_cons_self))
      (fun ch hch => hc ch (List.mem_cons_of_mem _ hch))

/-- the dispatcher-level invariant of C19b plus: every handler remembers at most `MAX_ENTRIES`
PIDs, and recorder scripts queue at most `CHG_MAX` changes per packet -/
def Inv2 (tc : Tab App.Handler × App.Ctx) : Prop :=
  Inv tc ∧ RegInv tc.1 ∧ ScriptLenOk tc.2.cfg

theorem ensure_inv2 (t : Tab App.Handler) (c : App.Ctx) (pid : Nat) (t1 : Tab App.Handler) (c1 : App.Ctx)
    (hi : Inv2 (t, c)) (hp : pid < 8192) (h : ensure App.sem t c pid = .ok (t1, c1)) :
    Inv2 (t1, c1) := by
  refine ⟨ensure_inv t c pid t1 c1 hi.1 hp h, ?_⟩
  rcases ensure_ok_cases App.sem h with ⟨_, rfl, rfl⟩ | ⟨_, hd, hk, rfl⟩
  · exact hi.2
  · have e : App.construct c (.byPid pid) = (hd, c1) := R.ok_inj hk
    have e1 : hd = (App.construct c (.byPid pid)).1 := by rw [e]
    have e2 : c1 = (App.construct c (.byPid pid)).2 := by rw [e]
    exact ⟨regInv_insert t pid _ hi.2.1 (e1 ▸ construct_regOk _ _),
      show ScriptLenOk c1.cfg by rw [e2, construct_cfg]; exact hi.2.2⟩

theorem specStep_inv2 (tc : Tab App.Handler × App.Ctx) (pk : Pk) (tc' : Tab App.Handler × App.Ctx)
    (hi : Inv2 tc) (hpk : PkOk pk) (h : specStep App.sem tc pk = .ok tc') : Inv2 tc' := by
  refine ⟨specStep_inv tc pk tc' hi.1 hpk h, ?_⟩
  obtain ⟨t, c⟩ := tc
  obtain ⟨t1, c1, hE, hcase⟩ := specStep_ok_cases App.sem h
  have hi1 := ensure_inv2 t c pk.pid t1 c1 hi hpk.2 hE
  rcases hcase with ⟨_, rfl⟩ | ⟨_, hd, h', c', chg, hg, hx, rfl⟩
  · exact hi1.2
  · obtain ⟨_, a2, _⟩ := app_consume_ok hd c1 pk h' c' chg (hi1.1.1.2 _ _ hg) hpk.1 hi1.1.2 hx
    obtain ⟨_, b2, b3⟩ := app_consume_len hd c1 pk h' c' chg (hi1.1.1.2 _ _ hg) (hi1.2.1 _ _ hg)
      hpk.1 hi1.2.2 hx
    exact ⟨regInv_applyChanges chg _ (regInv_insert t1 pk.pid h' hi1.2.1 b2) b3,
      show ScriptLenOk c'.cfg from a2 ▸ hi1.2.2⟩

theorem stepChg_le (tc : Tab App.Handler × App.Ctx) (pk : Pk) (chg : List (Change App.Handler))
    (hi : Inv2 tc) (hpk : PkOk pk) (h : stepChg tc pk = .ok chg) : chg.length ≤ CHG_MAX := by
  obtain ⟨t, c⟩ := tc
  unfold stepChg at h
  obtain ⟨r, hE, h⟩ := R.bind_eq_ok h
  obtain ⟨t1, c1⟩ := r
  have hi1 := ensure_inv2 t c pk.pid t1 c1 hi hpk.2 hE
  dsimp only at h
  split at h
  · have := R.ok_inj h
    rw [← this]; exact Nat.zero_le _
  · cases hg : t1.get pk.pid with
    | none => rw [hg] at h; cases h
    | some hd =>
      rw [hg] at h
      dsimp only at h
      obtain ⟨x, hx, h⟩ := R.bind_eq_ok h
      obtain ⟨h', c', chg'⟩ := x
      have := R.ok_inj h
      rw [← this]
      exact (app_consume_len hd c1 pk h' c' chg' (hi1.1.1.2 _ _ hg) (hi1.2.1 _ _ hg)
        hpk.1 hi1.2.2 hx).1

/-- number of changes the handler of `pk.pid` queues for this packet (0 if the step panics) -/
def stepChgLen (tc : Tab App.Handler × App.Ctx) (pk : Pk) : Nat :=
  match stepChg tc pk with
  | .ok chg => chg.length
  | .panic _ => 0

/-- high-water mark of the `FilterChangeset` over the run `pushSpec App.sem tc pks`: the largest
number of changes queued by any single packet (up to the first panic, if any) -/
def chgHigh (tc : Tab App.Handler × App.Ctx) : List Pk → Nat
  | [] => 0
  | pk :: rest =>
    max (stepChgLen tc pk)
      (match specStep App.sem tc pk with
       | .ok tc' => chgHigh tc' rest
       | .panic _ => 0)

/-- `chgHigh` over one `push(buf)` -/
def chgHighPush (tc : Tab App.Handler × App.Ctx) (buf : Bytes) (base : Nat) : Nat :=
  match frame buf base with
  | .ok pks => chgHigh tc pks
  | .panic _ => 0

/-- `chgHigh` over successive pushes -/
def chgHighAll (tc : Tab App.Handler × App.Ctx) : List Bytes → Nat → Nat
  | [], _ => 0
  | b :: bs, base =>
    max (chgHighPush tc b base)
      (match push App.sem tc b base with
       | .ok tc' => chgHighAll tc' bs (base + b.length)
       | .panic _ => 0)

/-- an allocation-free run queues no change -/
theorem chgHigh_of_allocFree : ∀ (pks : List Pk) (tc : Tab App.Handler × App.Ctx),
    runAllocFree tc pks → chgHigh tc pks = 0 := by
  intro pks
  induction pks with
  | nil => intro tc _; rfl
  | cons pk rest ih =>
    intro tc h
    obtain ⟨tc', h1, h2, h3⟩ := h
    unfold chgHigh stepChgLen
    rw [h1, h2.2.2.2]
    exact (Nat.max_eq_right (Nat.zero_le _)).trans (ih tc' h3)

theorem stepChgLen_le (tc : Tab App.Handler × App.Ctx) (pk : Pk) (hi : Inv2 tc) (hpk : PkOk pk) :
    stepChgLen tc pk ≤ CHG_MAX := by
  unfold stepChgLen
  cases h : stepChg tc pk with
  | ok chg => exact stepChg_le tc pk chg hi hpk h
  | panic s => exact Nat.zero_le _

theorem chgHigh_le : ∀ (pks : List Pk) (tc : Tab App.Handler × App.Ctx), Inv2 tc →
    (∀ pk ∈ pks, PkOk pk) → chgHigh tc pks ≤ CHG_MAX := by
  intro pks
  induction pks with
  | nil => intro tc _ _; exact Nat.zero_le _
  | cons pk pks ih =>
    intro tc hi hpk
    unfold chgHigh
    have h0 := hpk pk List.mem_cons_self
    apply Nat.max_le.2
    refine ⟨stepChgLen_le tc pk hi h0, ?_⟩
    cases h : specStep App.sem tc pk with
    | ok tc' =>
      exact ih tc' (specStep_inv2 tc pk tc' hi h0 h) (fun p hp => hpk p (List.mem_cons_of_mem _ hp))
    | panic s => exact Nat.zero_le _

theorem push_inv2 (tc : Tab App.Handler × App.Ctx) (buf : Bytes) (base : Nat)
    (tc' : Tab App.Handler × App.Ctx) (hi : Inv2 tc) (h : push App.sem tc buf base = .ok tc') :
    Inv2 tc' :=
  push_invariant App.sem Inv2 PkOk specStep_inv2 tc tc' buf base hi (frame_pkOk buf base) h

theorem chgHighPush_le (tc : Tab App.Handler × App.Ctx) (buf : Bytes) (base : Nat) (hi : Inv2 tc) :
    chgHighPush tc buf base ≤ CHG_MAX := by
  unfold chgHighPush
  cases hf : frame buf base with
  | ok pks => exact chgHigh_le pks tc hi (frame_pkOk buf base pks hf)
  | panic s => exact Nat.zero_le _

theorem chgHighAll_le : ∀ (bufs : List Bytes) (tc : Tab App.Handler × App.Ctx) (base : Nat),
    Inv2 tc → chgHighAll tc bufs base ≤ CHG_MAX := by
  intro bufs
  induction bufs with
  | nil => intro tc base _; exact Nat.zero_le _
  | cons b bs ih =>
    intro tc base hi
    unfold chgHighAll
    apply Nat.max_le.2
    refine ⟨chgHighPush_le tc b base hi, ?_⟩
    cases h : push App.sem tc b base with
    | ok tc' => exact ih tc' _ (push_inv2 tc b base tc' hi h)
    | panic s => exact Nat.zero_le _

theorem pushAll_inv2 (bufs : List Bytes) (tc : Tab App.Handler × App.Ctx) (base : Nat)
    (tc' : Tab App.Handler × App.Ctx) (hi : Inv2 tc) (h : pushAll App.sem tc bufs base = .ok tc') :
    Inv2 tc' :=
  pushAll_invariant App.sem Inv2 PkOk specStep_inv2 frame_pkOk bufs tc tc' base hi h

theorem init_inv2 (cfg : App.Cfg) (hs : ScriptOk cfg) (hl : ScriptLenOk cfg) : Inv2 (App.init cfg) := by
  refine ⟨init_inv cfg hs, ?_, ?_⟩
  · unfold App.init
    dsimp only
    apply regInv_insert
    · intro p h' hg
      rw [Tab.get_of_ge _ _ (by simp)] at hg
      cases hg
    · exact construct_regOk _ _
  · show ScriptLenOk (App.construct { cfg := cfg } (.byPid 0)).2.cfg
    rw [construct_cfg]; exact hl


/-! ### operation level: which steps can reach an allocating operation

`mayAlloc tc pk` is a Boolean function of the INPUTS of a dispatcher step; which operations it covers
is said at §5 of `Ts/Props/C19.lean`.  It is conservative: `true` does not mean the allocator is
called. -/

/-- continuation bytes would reach `Buffer…::continue_*_section` while it is `Buffering(n)` -/
def contReaches (s : Psi.St) : Bool := !s.ignoreRest && !s.dedupIgnore && s.remaining.isSome

/-- the payload `q` makes the `Psi.table` chain of a PAT/PMT consumer in state `s` reach its buffer
layer: continuation bytes (a non-unit-start payload, or the `pointer_field` bytes of a unit start)
arrive while `Buffering`, or a section start passes the processor's checks (`startOk`) and the
dedup layer (`version_number` differs from the remembered one) and so reaches
`Buffer…::start_*_section`.  A unit start whose `pointer_field` points past the payload only
resets (`Vec::clear`). -/
def psiTouches (s : Psi.St) (q : C03.Pl) : Bool :=
  if q.us then
    if 0 < byteD q.bytes 0 ∧ (q.bytes.drop 1).length ≤ byteD q.bytes 0 then false
    else
      (decide (0 < byteD q.bytes 0) && contReaches s)
      || (decide (3 ≤ ((q.bytes.drop 1).drop (byteD q.bytes 0)).length)
          && C03.startOk Psi.table ((q.bytes.drop 1).drop (byteD q.bytes 0))
          && (s.lastVersion != some (versionOf ((q.bytes.drop 1).drop (byteD q.bytes 0)))))
  else contReaches s

/-- `psiTouches` for a 188-byte packet (no payload: nothing reaches the consumer) -/
def psiMayAlloc (s : Psi.St) (p : Bytes) : Bool :=
  match C03.plOf p with
  | none => false
  | some q => psiTouches s q

/-- can `consume` of this handler on this packet reach an allocating operation?  PAT/PMT: see
`psiTouches`; PES filter: never (it keeps no buffer and queues nothing, `es_payload_in_packet`);
recorder (harness): when a script entry exists for this packet index. -/
def handlerMayAlloc (c : App.Ctx) (pk : Pk) : App.Handler → Bool
  | .pat s _ => psiMayAlloc s pk.bytes
  | .pmt _ _ s _ => psiMayAlloc s pk.bytes
  | .pes _ _ => false
  | .recorder _ => (c.cfg.script.lookup (pk.off / 188)).isSome

/-- can the dispatcher step on `pk` from `tc` reach an allocating operation? -/
def mayAlloc (tc : Tab App.Handler × App.Ctx) (pk : Pk) : Bool :=
  !tc.1.contains pk.pid ||
    (!pk.flagged &&
      match tc.1.get pk.pid with
      | some h => handlerMayAlloc tc.2 pk h
      | none => false)

/-- does any step of the run `pushSpec App.sem tc pks` (up to its first panic) satisfy `mayAlloc`? -/
def runMayAlloc (tc : Tab App.Handler × App.Ctx) : List Pk → Bool
  | [] => false
  | pk :: rest =>
    mayAlloc tc pk ||
      (match specStep App.sem tc pk with
       | .ok tc' => runMayAlloc tc' rest
       | .panic _ => false)

/-- `pushSpec sem tc pks` and `runMayAlloc tc pks` in one pass, each step taken once (for kernel
evaluation of concrete runs; `sem` is a parameter so that `eval_app` sees `App.sem` at the call) -/
def pushSpecMay (sem : Sem App.Handler App.Ctx) (tc : Tab App.Handler × App.Ctx) :
    List Pk → R ((Tab App.Handler × App.Ctx) × Bool)
  | [] => .ok (tc, false)
  | pk :: rest =>
    specStep sem tc pk >>= fun tc' => pushSpecMay sem tc' rest >>= fun r => .ok (r.1, mayAlloc tc pk || r.2)

theorem pushSpecMay_ok : ∀ (pks : List Pk) (tc : Tab App.Handler × App.Ctx)
    (r : (Tab App.Handler × App.Ctx) × Bool), pushSpecMay App.sem tc pks = .ok r →
    pushSpec App.sem tc pks = .ok r.1 ∧ runMayAlloc tc pks = r.2 := by
  intro pks
  induction pks with
  | nil => intro tc r h; cases h; exact ⟨rfl, rfl⟩
  | cons pk rest ih =>
    intro tc r h
    unfold pushSpecMay at h
    obtain ⟨tc', h1, h⟩ := R.bind_eq_ok h
    obtain ⟨r', h2, h⟩ := R.bind_eq_ok h
    cases h
    obtain ⟨a, b⟩ := ih tc' r' h2
    unfold runMayAlloc
    rw [pushSpec_cons, h1, R.ok_bind]
    exact ⟨a, congrArg (mayAlloc tc pk || ·) b⟩

/-- what a non-touching payload can do to a section consumer: buffer contents, `Buffering` state
and remembered version unchanged (only the `ignoreRest`/`dedupIgnore` flags may flip), or the
consumer is reset (`Vec::clear`, version forgotten) -/
def PsiQuiet (s s' : Psi.St) : Prop :=
  (s'.buf = s.buf ∧ s'.remaining = s.remaining ∧ s'.lastVersion = s.lastVersion)
    ∨ (s'.buf = [] ∧ s'.remaining = none ∧ s'.lastVersion = none)

theorem contSpec_unreached (s : Psi.St) (d : Bytes) (h : contReaches s = false) :
    C03.contSpec Psi.table s d = (s, []) := by
  unfold C03.contSpec C03.bufContSpec
  unfold contReaches at h
  cases h1 : s.ignoreRest <;> cases h2 : s.dedupIgnore <;> cases h3 : s.remaining <;>
    simp_all [Psi.table]

theorem procReset_quiet (s : Psi.St) : PsiQuiet s (Psi.procReset Psi.table s) :=
  Or.inr ⟨rfl, rfl, rfl⟩

theorem psi_untouched (s : Psi.St) (q : C03.Pl) (h : psiTouches s q = false) :
    (C03.consumeSpec Psi.table s q.us q.bytes q.off).2 = [] ∧
      PsiQuiet s (C03.consumeSpec Psi.table s q.us q.bytes q.off).1 := by
  unfold psiTouches at h
  unfold C03.consumeSpec
  cases hus : q.us with
  | false =>
    rw [hus] at h
    simp only [Bool.false_eq_true, if_false] at h ⊢
    rw [contSpec_unreached s _ h]
    exact ⟨rfl, Or.inl ⟨rfl, rfl, rfl⟩⟩
  | true =>
    rw [hus] at h
    simp only [if_true] at h ⊢
    by_cases hreset : 0 < byteD q.bytes 0 ∧ (q.bytes.drop 1).length ≤ byteD q.bytes 0
    · simp only [hreset, and_self, if_true]
      exact ⟨by first | rfl | trivial, procReset_quiet s⟩
    · simp only [hreset, if_false, Bool.or_eq_false_iff] at h ⊢
      obtain ⟨hc, hstart⟩ := h
      have hr1 : (if 0 < byteD q.bytes 0 then
          C03.contSpec Psi.table s ((q.bytes.drop 1).take (byteD q.bytes 0)) else (s, [])) = (s, []) := by
        split
        · rename_i hp
          simp only [hp, decide_true, Bool.true_and] at hc
          exact contSpec_unreached s _ hc
        · rfl
      rw [hr1]
      by_cases h3 : ((q.bytes.drop 1).drop (byteD q.bytes 0)).length < 3
      · simp only [h3, if_true]
        exact ⟨by first | rfl | trivial, procReset_quiet s⟩
      · simp only [h3, if_false, List.nil_append]
        have h3' : 3 ≤ ((q.bytes.drop 1).drop (byteD q.bytes 0)).length := by omega
        simp only [h3', decide_true, Bool.true_and] at hstart
        unfold C03.startSpec
        by_cases hok : C03.startOk Psi.table ((q.bytes.drop 1).drop (byteD q.bytes 0)) = true
        · simp only [hok, Bool.true_and, bne_eq_false_iff_eq] at hstart
          simp only [hok, if_true]
          unfold C03.dedupStartSpec
          have hd : Psi.table.dedup = true := rfl
          have hb : (s.lastVersion ==
              some ((byteD ((q.bytes.drop 1).drop (byteD q.bytes 0)) 5 >>> 1) &&& 0b0001_1111)) = true := by
            rw [hstart]; simp [versionOf]
          simp only [hd, if_true, hb]
          exact ⟨by first | rfl | trivial, Or.inl ⟨rfl, rfl, rfl⟩⟩
        · simp only [hok]
          exact ⟨by first | rfl | trivial, Or.inl ⟨rfl, rfl, rfl⟩⟩

/-- `psiMayAlloc = false` on a 188-byte packet: `Psi.consume` succeeds with NO delivery (so the
table processor's `section` is not called) and leaves the consumer `PsiQuiet` -/
theorem psi_quiet_consume (s : Psi.St) (p : Bytes) (hs : C03.PsiInv .syntax s) (hp : p.length = 188)
    (h : psiMayAlloc s p = false) :
    ∃ s', Psi.consume Psi.table s p = .ok (s', []) ∧ PsiQuiet s s' := by
  rw [C03.consume_eq_spec Psi.table C03.cfgOk_table s hs p hp]
  unfold psiMayAlloc at h
  unfold C03.consumeSpecPk
  cases hpl : C03.plOf p with
  | none => exact ⟨s, rfl, Or.inl ⟨rfl, rfl, rfl⟩⟩
  | some q =>
    rw [hpl] at h
    obtain ⟨h1, h2⟩ := psi_untouched s q h
    exact ⟨_, by rw [← h1], h2⟩

def HandlerQuiet (pk : Pk) (h h' : App.Handler) : Prop :=
  match h with
  | .pat s reg => ∃ s', h' = .pat s' reg ∧ Psi.consume Psi.table s pk.bytes = .ok (s', []) ∧ PsiQuiet s s'
  | .pmt pid prog s reg =>
    ∃ s', h' = .pmt pid prog s' reg ∧ Psi.consume Psi.table s pk.bytes = .ok (s', []) ∧ PsiQuiet s s'
  | .pes tag _ => ∃ f', h' = .pes tag f'
  | .recorder tag => h' = .recorder tag

/-- `handlerMayAlloc = false`: `consume` queues nothing, constructs nothing (`nextTag` unchanged),
and a PAT/PMT handler's section consumer delivers no section and stays `PsiQuiet` -/
theorem quiet_consume (h : App.Handler) (c : App.Ctx) (pk : Pk) (h' : App.Handler) (c' : App.Ctx)
    (chg : List (Change App.Handler)) (hh : HOk h) (hlen : pk.bytes.length = 188)
    (hm : handlerMayAlloc c pk h = false) (hc : App.consume h c pk = .ok (h', c', chg)) :
    chg = [] ∧ c'.nextTag = c.nextTag ∧ c'.cfg = c.cfg ∧ HandlerQuiet pk h h' := by
  cases h with
  | pat s reg =>
    obtain ⟨s', h1, h2⟩ := psi_quiet_consume s pk.bytes (hh s rfl).1 hlen hm
    obtain ⟨s'', ds, reg', k1, k2, rfl⟩ := C05.consume_pat_ok hc
    cases h1.symm.trans k1
    cases k2
    exact ⟨rfl, rfl, rfl, s', rfl, h1, h2⟩
  | pmt pid prog s reg =>
    obtain ⟨s', h1, h2⟩ := psi_quiet_consume s pk.bytes (hh s rfl).1 hlen hm
    obtain ⟨s'', ds, reg', k1, k2, rfl⟩ := C05.consume_pmt_ok hc
    cases h1.symm.trans k1
    cases k2
    exact ⟨rfl, rfl, rfl, s', rfl, h1, h2⟩
  | pes tag f =>
    obtain ⟨out, f', e1, e2, _, _, e5, e6⟩ := pes_consume_events tag f c pk h' c' chg hlen hc
    subst e1 e2
    exact ⟨rfl, e5, e6, f', rfl⟩
  | recorder tag =>
    have e := C05.consume_recorder_ok hc
    have hl : c.cfg.script.lookup (pk.off / 188) = none := by
      simpa [handlerMayAlloc] using hm
    rw [hl] at e
    cases e
    exact ⟨rfl, rfl, rfl, rfl⟩

/-- what a step with `mayAlloc = false` does: the PID already has a handler (nothing is
constructed by `add_pid_filter`); a flagged packet changes nothing; otherwise the handler `h` of
`pk.pid` is replaced by `h'` with `HandlerQuiet pk h h'`, no change is queued, no tag handed out -/
def StepQuiet (tc : Tab App.Handler × App.Ctx) (pk : Pk) (tc' : Tab App.Handler × App.Ctx) : Prop :=
  tc.1.contains pk.pid = true ∧ stepChg tc pk = .ok [] ∧ tc'.2.nextTag = tc.2.nextTag
    ∧ tc'.2.cfg = tc.2.cfg ∧ tc'.1.length = tc.1.length
    ∧ ((pk.flagged = true ∧ tc' = tc) ∨
       (pk.flagged = false ∧ ∃ h h', tc.1.get pk.pid = some h ∧ tc'.1 = tc.1.insert pk.pid h'
          ∧ HandlerQuiet pk h h'))

/-- soundness of `mayAlloc` with respect to the model: a successful step with `mayAlloc = false`
from a `Bounded` table on a 188-byte packet is `StepQuiet` -/
theorem mayAlloc_false_step (t : Tab App.Handler) (c : App.Ctx) (pk : Pk)
    (tc' : Tab App.Handler × App.Ctx) (hb : Bounded t) (hlen : pk.bytes.length = 188)
    (hm : mayAlloc (t, c) pk = false) (h : specStep App.sem (t, c) pk = .ok tc') :
    StepQuiet (t, c) pk tc' := by
  unfold mayAlloc at hm
  simp only [Bool.or_eq_false_iff, Bool.not_eq_false', Bool.and_eq_false_iff, Bool.not_eq_false'] at hm
  obtain ⟨hcont, hm⟩ := hm
  rcases step_of_contains t c pk tc' hcont h with ⟨hf, rfl, hs⟩ | ⟨hf, hd, h', c', chg, hg, hx, rfl, hs⟩
  · exact ⟨hcont, hs, rfl, rfl, rfl, Or.inl ⟨hf, rfl⟩⟩
  · have hm' : handlerMayAlloc c pk hd = false := by
      rcases hm with hm | hm
      · rw [hf] at hm; cases hm
      · rw [hg] at hm; exact hm
    obtain ⟨rfl, e2, e3, e4⟩ := quiet_consume hd c pk h' c' chg (hb.2 _ _ hg) hlen hm' hx
    exact ⟨hcont, hs, e2, e3, length_insert_same t pk.pid hd h' hg, Or.inr ⟨hf, hd, h', hg, rfl, e4⟩⟩

theorem steady_mayAlloc_false (t : Tab App.Handler) (c : App.Ctx) (pk : Pk)
    (hsc : c.cfg.script = []) (hst : SteadyPk t pk) : mayAlloc (t, c) pk = false := by
  obtain ⟨hlen, hcont, hq⟩ := hst
  obtain ⟨hd, hg⟩ := (Tab.contains_eq_true_iff t pk.pid).1 hcont
  unfold mayAlloc
  simp only [hcont, Bool.not_true, Bool.false_or, hg, Bool.and_eq_false_iff, Bool.not_eq_false']
  refine Or.inr ?_
  have hpsi : ∀ s, psiOf hd = some s → psiMayAlloc s pk.bytes = false := by
    intro s hs
    obtain ⟨v, ⟨hlv, hrem⟩, hr⟩ := hq hd s hg hs
    unfold psiMayAlloc
    cases hpl : C03.plOf pk.bytes with
    | none => rfl
    | some q =>
      have hcr : contReaches s = false := by unfold contReaches; rw [hrem]; simp
      show psiTouches s q = false
      unfold psiTouches
      rcases hr q hpl with hus | ⟨h9, hsyn, hl, hv⟩
      · rw [hus]; simpa using hcr
      · cases hus : q.us with
        | false => simpa using hcr
        | true =>
          simp only [if_true, hcr, Bool.and_false, Bool.false_or]
          split
          · rfl
          · rw [hlv, hv]; simp
  cases hd with
  | pat s reg => exact hpsi s rfl
  | pmt pid prog s reg => exact hpsi s rfl
  | pes tag f => rfl
  | recorder tag => simp [handlerMayAlloc, hsc]

theorem steady_run_mayAlloc_false : ∀ (pks : List Pk) (t : Tab App.Handler) (c : App.Ctx),
    c.cfg.script = [] → Steady t pks → runMayAlloc (t, c) pks = false := by
  intro pks
  induction pks with
  | nil => intro t c _ _; rfl
  | cons pk pks ih =>
    intro t c hsc hst
    unfold runMayAlloc
    rw [steady_mayAlloc_false t c pk hsc (hst pk List.mem_cons_self), Bool.false_or]
    cases h : specStep App.sem (t, c) pk with
    | panic s => rfl
    | ok tc1 =>
      obtain ⟨_, a2, a3⟩ := steady_step t c pk tc1 hsc (hst pk List.mem_cons_self) h
      obtain ⟨t1, c1⟩ := tc1
      have hst1 : Steady t1 pks := fun p hp =>
        steadyPk_congr t t1 p a2 (hst p (List.mem_cons_of_mem _ hp))
      exact ih t1 c1 (by rw [show c1.cfg = c.cfg from a3]; exact hsc) hst1


/-! ### C19's steady-state vocabulary versus C10's

C10 (`Ts/Lemmas/C10.lean`) describes a repetition packet through the SPECIFICATION of a section
transmission (`WellFormedSection`, `WellFormedMux`); C19 only looks at the bytes the dedup layer
reads.  Every C10 repetition packet is a C19 repetition packet, so `steady_state_no_alloc` covers
all traffic C10's theorems talk about. -/

theorem quiescent_iff_c10 (s : Psi.St) (v : Nat) : Quiescent s v ↔ C10.Quiescent v s := Iff.rfl

/-- C19's `versionOf` (what `tshVersion` computes) is the standard's `version_number` field -/
theorem versionOf_eq_c10 (ns : Bytes) : versionOf ns = C10.versionOf ns :=
  (C10.versionOf_eq ns).symm

theorem repeatPayload_of_c10 (v : Nat) (q : C03.Pl) (h : C10.RepPayload v q) : RepeatPayload v q := by
  rcases h with hus | ⟨S, m, hS, h8, hver, hm, _, hb⟩
  · exact Or.inl hus
  · obtain ⟨hk, hmin, hcase⟩ := C10.mux_case S m hm
    have hsz := hm.2.2.1
    have hfl := C10.first_length S m
    have hp : m.pre.length < 256 := by have := hsz.2; omega
    have hb0 : byteD q.bytes 0 = m.pre.length := by
      rw [hb]
      unfold Spec.SectionMux.Mux.first
      rw [byteD_cons_zero, UInt8.toNat_ofNat']
      exact Nat.mod_eq_of_lt hp
    have hns : (q.bytes.drop 1).drop (byteD q.bytes 0) = S.take m.k ++ m.tailBytes := by
      rw [hb0, hb]
      unfold Spec.SectionMux.Mux.first
      simp only [List.drop_succ_cons, List.drop_zero, List.drop_left']
    have hok := C10.share_startOk S hS m.k m.tailBytes hk hmin hcase
    have hv := C10.share_version S m.k m.tailBytes h8 hk hmin hcase
    obtain ⟨o1, _, o3⟩ := (C03.startOk_iff _ _).1 hok
    refine Or.inr ⟨?_, ?_, ?_, ?_⟩
    · rw [hb0, hb, hfl]; omega
    · rw [hns]; exact o1
    · rw [hns]; exact o3
    · rw [hns]
      show C10.verField _ = v
      rw [hv, hver]

theorem repeatPkt_of_c10 (v : Nat) (p : Bytes) (h : C10.RepPacket v p) : RepeatPkt v p :=
  fun q hq => repeatPayload_of_c10 v q (h.2 q hq)


/-- C10's hypotheses about one packet (`run_rep_noop`: its PID's handler is a PAT/PMT handler
quiescent at `v`, the packet is a C10 repetition packet of version `v`) imply C19's `SteadyPk` -/
theorem steadyPk_of_c10 (t : Tab App.Handler) (pk : Pk) (v : Nat) (h : App.Handler)
    (hg : t.get pk.pid = some h) (hq : C10.QuiescentH v h) (hp : C10.RepPacket v pk.bytes) :
    SteadyPk t pk := by
  refine ⟨hp.1, (Tab.contains_eq_true_iff t pk.pid).2 ⟨h, hg⟩, ?_⟩
  intro h' s hg' hs
  rw [hg] at hg'
  injection hg' with hg'
  subst hg'
  cases h with
  | pat s0 reg =>
    injection hs with hs; subst hs
    exact ⟨v, hq, repeatPkt_of_c10 v pk.bytes hp⟩
  | pmt pid prog s0 reg =>
    injection hs with hs; subst hs
    exact ⟨v, hq, repeatPkt_of_c10 v pk.bytes hp⟩
  | pes _ _ => cases hs
  | recorder _ => cases hs

end Ts.Lemmas.C19
