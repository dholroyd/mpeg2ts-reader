import Ts.Model.DemuxQ
import Ts.Lemmas.Demux
import Ts.Lemmas.DemuxB
/-!
# Lemmas about the dispatcher model with an explicit pending changeset (`Ts/Model/DemuxQ.lean`)

The pending queue is one more component of the application context: `StQ H C` is literally
`Tab H × (C × List (Change H))`, and with `SemQ.toSem` every function of `Ts/Model/DemuxQ.lean` IS
the function of the same name of `Ts/Model/Demux.lean` at the semantics `sem.toSem`
(`ensureQ_toSem` … `pushAllQ_toSem`, all without side condition).  Everything proved for every
`Sem` — the refinement `pushModel_eq_pushSpec`, the `++` laws, chunking irrelevance — therefore
holds of the `Q` functions; `pushModelQ_eq_pushSpecQ` is the first instance.

In the other direction (`pushSpecQ_ofSem`): when `construct` queues nothing and nothing is pending
on entry, the fold is the fold `pushSpec` of `Ts/Model/Demux.lean` with `[]` appended.
-/
namespace Ts.DemuxQ
open Ts Ts.Demux

variable {H C : Type}

/-- the same application seen by the dispatcher of `Ts/Model/Demux.lean`: the pending queue travels
in the context; `construct` appends to it, `consume` returns it (with what it queued itself appended)
as the changes to apply at once and leaves it empty -/
def SemQ.toSem (sem : SemQ H C) : Sem H (C × List (Change H)) where
  consume h cq pk :=
    match sem.consume h cq.1 pk with
    | .panic s => .panic s
    | .ok (h', c', chg) => .ok (h', (c', []), cq.2 ++ chg)
  construct cq pid :=
    match sem.construct cq.1 pid with
    | .panic s => .panic s
    | .ok (h, c', chg) => .ok (h, (c', cq.2 ++ chg))

end Ts.DemuxQ

namespace Ts.Lemmas.DemuxQ
open Ts Ts.Demux Ts.DemuxQ

variable {H C : Type}

theorem ensureQ_toSem (sem : SemQ H C) (t : Tab H) (c : C) (q : List (Change H)) (pid : Nat) :
    ensureQ sem t c q pid = ensure sem.toSem t (c, q) pid := by
  unfold ensureQ ensure SemQ.toSem
  split
  · rfl
  · -- `simp only []`, here and below: projections of the pair `(c, q)` and `match`es on tuples
    simp only []
    cases sem.construct c pid <;> rfl

theorem specStepQ_toSem (sem : SemQ H C) (st : StQ H C) (pk : Pk) :
    specStepQ sem st pk = specStep sem.toSem st pk := by
  obtain ⟨t, c, q⟩ := st
  unfold specStepQ
  rw [specStep_eq, ensureQ_toSem]
  cases ensure sem.toSem t (c, q) pk.pid with
  | panic s => rfl
  | ok r =>
    obtain ⟨t1, c1, q1⟩ := r
    simp only [R.ok_bind]
    split
    · rfl
    · cases t1.get pk.pid with
      | none => rfl
      | some h =>
        simp only [SemQ.toSem]
        cases sem.consume h c1 pk <;> rfl

theorem pushSpecQ_toSem (sem : SemQ H C) (pks : List Pk) : ∀ st : StQ H C,
    pushSpecQ sem st pks = pushSpec sem.toSem st pks := by
  induction pks with
  | nil => intro st; rfl
  | cons pk pks ih =>
    intro st
    unfold pushSpecQ
    rw [pushSpec_cons, specStepQ_toSem]
    cases specStep sem.toSem st pk with
    | panic s => rfl
    | ok st' => exact ih st'

theorem innerQ_toSem (sem : SemQ H C) (pid : Nat)
    (K : Tab H → C → List (Change H) → Pk → List Pk → R (StQ H C)) :
    ∀ (fuel : Nat) (t : Tab H) (c : C) (q : List (Change H)) (pk : Pk) (rest : List Pk),
      innerQ sem pid t c q pk rest K fuel =
        inner sem.toSem pid t (c, q) pk rest (fun t cq => K t cq.1 cq.2) fuel := by
  intro fuel
  induction fuel with
  | zero => intros; unfold innerQ inner; rfl
  | succ n ih =>
    intro t c q pk rest
    unfold innerQ inner
    simp only [ih, SemQ.toSem]
    split
    · rfl
    · cases t.get pid with
      | none => rfl
      | some h =>
        simp only []
        cases sem.consume h c pk with
        | panic s => rfl
        | ok x => obtain ⟨h', c', chg⟩ := x; rfl

theorem outerQ_toSem (sem : SemQ H C) :
    ∀ (fuel : Nat) (t : Tab H) (c : C) (q : List (Change H)) (pk : Pk) (rest : List Pk),
      outerQ sem fuel t c q pk rest = outer sem.toSem fuel t (c, q) pk rest := by
  intro fuel
  induction fuel with
  | zero => intros; unfold outerQ outer; rfl
  | succ n ih =>
    intro t c q pk rest
    unfold outerQ outer
    have hK : (fun t (cq : C × List (Change H)) => outerQ sem n t cq.1 cq.2) = outer sem.toSem n := by
      funext t cq pk rest; exact ih t cq.1 cq.2 pk rest
    rw [ensureQ_toSem]
    cases ensure sem.toSem t (c, q) pk.pid with
    | panic s => rfl
    | ok r => obtain ⟨t1, c1, q1⟩ := r; simp only []; rw [innerQ_toSem, hK]

theorem pushModelQ_toSem (sem : SemQ H C) (st : StQ H C) (pks : List Pk) :
    pushModelQ sem st pks = pushModel sem.toSem st pks := by
  cases pks with
  | nil => rfl
  | cons pk rest => exact outerQ_toSem sem _ _ _ _ pk rest

theorem pushQ_toSem (sem : SemQ H C) (st : StQ H C) (buf : Bytes) (base : Nat) :
    pushQ sem st buf base = push sem.toSem st buf base := by
  unfold pushQ push
  cases frame buf base with
  | panic s => rfl
  | ok pks => exact pushModelQ_toSem sem st pks

theorem pushAllQ_toSem (sem : SemQ H C) (bufs : List Bytes) : ∀ (st : StQ H C) (base : Nat),
    pushAllQ sem st bufs base = pushAll sem.toSem st bufs base := by
  induction bufs with
  | nil => intros; rfl
  | cons b bs ih =>
    intro st base
    unfold pushAllQ pushAll
    rw [pushQ_toSem]
    cases push sem.toSem st b base with
    | panic s => rfl
    | ok st' => exact ih st' _

/-! ### `ensureQ` -/

theorem ensureQ_of_contains (sem : SemQ H C) (t : Tab H) (c : C) (q : List (Change H)) (pid : Nat)
    (h : t.contains pid = true) : ensureQ sem t c q pid = .ok (t, c, q) := by
  unfold ensureQ; simp only [h, if_true]

theorem ensureQ_of_absent (sem : SemQ H C) (t : Tab H) (c : C) (q : List (Change H)) (pid : Nat)
    (h : t.contains pid = false) :
    ensureQ sem t c q pid =
      (match sem.construct c pid with
       | .panic s => .panic s
       | .ok (hd, c', chg) => .ok (t.insert pid hd, c', q ++ chg)) := by
  unfold ensureQ; simp only [h, Bool.false_eq_true, if_false]; rfl

theorem ensureQ_of_absent_ok (sem : SemQ H C) (t : Tab H) (c : C) (q : List (Change H)) (pid : Nat)
    (hd : H) (c' : C) (chg : List (Change H))
    (h : t.contains pid = false) (hk : sem.construct c pid = .ok (hd, c', chg)) :
    ensureQ sem t c q pid = .ok (t.insert pid hd, c', q ++ chg) := by
  rw [ensureQ_of_absent sem t c q pid h, hk]

theorem ensureQ_contains (sem : SemQ H C) (t : Tab H) (c : C) (q : List (Change H)) (pid : Nat)
    (t' : Tab H) (c' : C) (q' : List (Change H))
    (h : ensureQ sem t c q pid = .ok (t', c', q')) : t'.contains pid = true := by
  rw [ensureQ_toSem] at h
  exact ensure_contains sem.toSem t (c, q) pid t' (c', q') h

/-! ### the spec step -/

theorem pushSpecQ_nil (sem : SemQ H C) (st : StQ H C) : pushSpecQ sem st [] = .ok st := rfl

theorem pushSpecQ_cons (sem : SemQ H C) (st : StQ H C) (pk : Pk) (rest : List Pk) :
    pushSpecQ sem st (pk :: rest) =
      (match specStepQ sem st pk with
       | .panic s => .panic s
       | .ok st' => pushSpecQ sem st' rest) := rfl

theorem specStepQ_eq (sem : SemQ H C) (t : Tab H) (c : C) (q : List (Change H)) (pk : Pk) :
    specStepQ sem (t, c, q) pk =
      (match ensureQ sem t c q pk.pid with
       | .panic s => .panic s
       | .ok (t1, c1, q1) =>
         if pk.flagged then .ok (t1, c1, q1)
         else
           match t1.get pk.pid with
           | none => .panic "called `Option::unwrap()` on a `None` value"
           | some h =>
             match sem.consume h c1 pk with
             | .panic s => .panic s
             | .ok (h', c', chg) => .ok (applyChanges (t1.insert pk.pid h') (q1 ++ chg), c', [])) := rfl

/-! ### refinement: the labelled loops compute the fold -/

/-- the refinement of `Ts/Lemmas/Demux.lean` at `sem.toSem` -/
theorem pushModelQ_eq_pushSpecQ (sem : SemQ H C) (st : StQ H C) (pks : List Pk) :
    pushModelQ sem st pks = pushSpecQ sem st pks := by
  rw [pushModelQ_toSem, pushSpecQ_toSem, pushModel_eq_pushSpec]

/-! ### byte level: successive `push` calls -/

theorem pushQ_nil (sem : SemQ H C) (st : StQ H C) (base : Nat) : pushQ sem st [] base = .ok st := rfl

theorem pushAllQ_cons (sem : SemQ H C) (st : StQ H C) (b : Bytes) (bs : List Bytes) (base : Nat) :
    pushAllQ sem st (b :: bs) base =
      (match pushQ sem st b base with
       | .panic s => .panic s
       | .ok st' => pushAllQ sem st' bs (base + b.length)) := rfl

theorem pushAllQ_single (sem : SemQ H C) (st : StQ H C) (b : Bytes) (base : Nat) :
    pushAllQ sem st [b] base = pushQ sem st b base := by
  rw [pushAllQ_cons]
  cases pushQ sem st b base with
  | panic s => rfl
  | ok st' => rfl

/-! ### `Ts.Demux` is the special case "construct queues nothing, nothing pending on entry" -/

theorem ofSem_construct (sem : Sem H C) (c : C) (pid : Nat) :
    (SemQ.ofSem sem).construct c pid =
      (match sem.construct c pid with
       | .panic s => .panic s
       | .ok (h, c') => .ok (h, c', [])) := rfl

theorem ofSem_consume (sem : Sem H C) : (SemQ.ofSem sem).consume = sem.consume := rfl

theorem ensureQ_ofSem (sem : Sem H C) (t : Tab H) (c : C) (pid : Nat) :
    ensureQ (SemQ.ofSem sem) t c [] pid =
      (match ensure sem t c pid with
       | .panic s => .panic s
       | .ok (t', c') => .ok (t', c', [])) := by
  cases hc : t.contains pid with
  | true => rw [ensureQ_of_contains _ t c [] pid hc, ensure_of_contains sem t c pid hc]
  | false =>
    rw [ensureQ_of_absent _ t c [] pid hc, ensure_of_absent sem t c pid hc]
    rw [ofSem_construct]
    cases sem.construct c pid with
    | panic s => rfl
    | ok r => rfl

theorem specStepQ_ofSem (sem : Sem H C) (t : Tab H) (c : C) (pk : Pk) :
    specStepQ (SemQ.ofSem sem) (t, c, []) pk =
      (match specStep sem (t, c) pk with
       | .panic s => .panic s
       | .ok (t', c') => .ok (t', c', [])) := by
  rw [specStepQ_eq, ensureQ_ofSem, specStep_eq]
  cases ensure sem t c pk.pid with
  | panic s => rfl
  | ok r =>
    obtain ⟨t1, c1⟩ := r
    simp only [R.ok_bind]
    cases pk.flagged with
    | true => rfl
    | false =>
      simp only [Bool.false_eq_true, if_false]
      cases t1.get pk.pid with
      | none => rfl
      | some h =>
        simp only []
        rw [ofSem_consume]
        cases sem.consume h c1 pk with
        | panic s => rfl
        | ok x => obtain ⟨h', c', chg⟩ := x; rfl

theorem pushSpecQ_ofSem (sem : Sem H C) (pks : List Pk) : ∀ (t : Tab H) (c : C),
    pushSpecQ (SemQ.ofSem sem) (t, c, []) pks =
      (match pushSpec sem (t, c) pks with
       | .panic s => .panic s
       | .ok (t', c') => .ok (t', c', [])) := by
  induction pks with
  | nil => intro t c; rfl
  | cons pk pks ih =>
    intro t c
    rw [pushSpecQ_cons, pushSpec_cons, specStepQ_ofSem]
    cases specStep sem (t, c) pk with
    | panic s => rfl
    | ok r =>
      obtain ⟨t1, c1⟩ := r
      exact ih t1 c1

end Ts.Lemmas.DemuxQ
