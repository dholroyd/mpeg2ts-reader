import Ts.Model.App
import Ts.Props.C03
import Ts.Props.C04Crc
import Ts.Lemmas.Proj
import Ts.Lemmas.C05
/-!
# C04 helper lemmas, part 2: the CRC gate at handler, dispatcher-step and stream level

`GateInv` is the reassembly invariant under which `Psi.crcPass` cannot hit its `assert!`.  With
the check compiled in, every `construct` event a PAT / PMT handler appends is a request
computed from a delivered section that passed the gate (`GatedEv`, `StepEv`, `pushSpec_gated`: the
delivery is kept; `VerifiedReq`, `pushAll_gated` are the weak forms that forget it).
-/
namespace Ts.Lemmas.C04b
open Ts Ts.Psi Ts.Spec Ts.Spec.SectionMux Ts.Lemmas.C03 Ts.Demux Ts.App Ts.Lemmas.Proj

def SynInv (s : St) : Prop := ∀ n, s.remaining = some n → hdrSyn s.buf = true

/-- the state invariant of a PAT / PMT section reassembler that the CRC layer relies on -/
def GateInv (s : St) : Prop := PsiInv .syntax s ∧ SynInv s

/-- what the CRC layer needs of a delivery not to panic -/
def SynOk (d : Delivery) : Prop := hdrSyn d.bytes = true ∧ 3 ≤ d.bytes.length

theorem synInv_of_none (s : St) (h : s.remaining = none) : SynInv s := by
  intro n hn; rw [h] at hn; cases hn

theorem synInv_congr (s s' : St) (hb : s'.buf = s.buf) (hr : s'.remaining = s.remaining)
    (h : SynInv s) : SynInv s' := by
  intro n hn; rw [hr] at hn; rw [hb]; exact h n hn

theorem gateInv_init : GateInv {} := ⟨psiInv_of_none _ _ rfl, synInv_of_none _ rfl⟩

theorem bufContSpec_syn (kind : Kind) (s : St) (data : Bytes) (hi : PsiInv kind s) (hy : SynInv s) :
    SynInv (bufContSpec s data).1 ∧ ∀ d ∈ (bufContSpec s data).2, SynOk d := by
  unfold bufContSpec
  cases hr : s.remaining with
  | none => exact ⟨hy, by simp⟩
  | some n =>
    obtain ⟨_, h1, _⟩ := hi n hr
    have h3 := minHeader_ge kind
    have hb := hy n hr
    by_cases hle : n ≤ data.length
    · simp only [hle, if_true]
      refine ⟨synInv_of_none _ rfl, ?_⟩
      intro d hd
      simp only [List.mem_singleton] at hd
      subst hd
      refine ⟨?_, ?_⟩
      · show hdrSyn (s.buf ++ List.take n data) = true
        rw [hdrSyn_append _ _ (by omega)]; exact hb
      · show 3 ≤ (s.buf ++ List.take n data).length
        rw [List.length_append]; omega
    · simp only [hle, if_false]
      refine ⟨?_, by simp⟩
      intro m _
      show hdrSyn (s.buf ++ data) = true
      rw [hdrSyn_append _ _ (by omega)]; exact hb

theorem bufStartSpec_syn (s : St) (data : Bytes) (off : Nat) (hd : hdrSyn data = true) :
    SynInv (bufStartSpec s data off).1 ∧ ∀ d ∈ (bufStartSpec s data off).2, SynOk d := by
  unfold bufStartSpec
  by_cases hle : hdrLen data + 3 ≤ data.length
  · simp only [hle, if_true]
    refine ⟨synInv_of_none _ rfl, ?_⟩
    intro d hm
    simp only [List.mem_singleton] at hm
    subst hm
    refine ⟨?_, ?_⟩
    · show hdrSyn (data.take (hdrLen data + 3)) = true
      rw [hdrSyn_take _ _ (by omega)]; exact hd
    · show 3 ≤ (data.take (hdrLen data + 3)).length
      rw [List.length_take]; omega
  · simp only [hle, if_false]
    refine ⟨?_, by simp⟩
    intro m _
    exact hd

theorem bufRule_syn (cfg : Psi.Cfg) (hss : cfg.sectionSyntax = true) :
    BufRule cfg (fun s => PsiInv (kindOf cfg) s ∧ SynInv s) SynOk where
  hloc s s' hb hr h := ⟨psiInv_congr _ s s' hb hr h.1, synInv_congr s s' hb hr h.2⟩
  hreset s _ hr := ⟨psiInv_of_none _ s hr, synInv_of_none s hr⟩
  hcont s data h :=
    have hy := bufContSpec_syn _ s data h.1 h.2
    ⟨⟨((bufRule_inv cfg).hcont s data h.1).1, hy.1⟩, hy.2⟩
  hstart s data off hok h :=
    have hy := bufStartSpec_syn s data off (hss ▸ ((startOk_iff cfg data).1 hok).1)
    ⟨⟨((bufRule_inv cfg).hstart s data off hok h.1).1, hy.1⟩, hy.2⟩

theorem syn_bit_of_hdrSyn (b : Bytes) (h : hdrSyn b = true) : byteD b 1 &&& 0b1000_0000 ≠ 0 := by
  unfold hdrSyn at h
  rw [← and_80 _ (byteD_lt b 1)] at h
  simpa using h

/-- **the side condition of the CRC layer is an invariant of PAT / PMT section reassembly**, and
every section delivered under it has the syntax bit set and ≥ 3 bytes -/
theorem consume_table_gateInv (s : St) (hs : GateInv s) (p : Bytes) (hp : p.length = 188)
    (s' : St) (ds : List Delivery) (hP : Psi.consume Psi.table s p = .ok (s', ds)) :
    GateInv s' ∧ ∀ d ∈ ds, byteD d.bytes 1 &&& 0b1000_0000 ≠ 0 ∧ 3 ≤ d.bytes.length := by
  have h := consumeSpecPk_rule (bufRule_syn Psi.table rfl) s p hs
  rw [consume_eq_spec Psi.table cfgOk_table s hs.1 p hp] at hP
  rw [R.ok_inj hP] at h
  exact ⟨h.1, fun d hd => ⟨syn_bit_of_hdrSyn _ (h.2 d hd).1, (h.2 d hd).2⟩⟩

theorem byteAt_inv (b : Bytes) (i v : Nat) (h : byteAt b i = .ok v) : i < b.length ∧ v = byteD b i := by
  by_cases hi : i < b.length
  · rw [byteAt_ok b i hi] at h; exact ⟨hi, (R.ok_inj h).symm⟩
  · unfold byteAt at h
    rw [List.getElem?_eq_none (by omega)] at h; cases h

/-- what `Psi.crcPass false` (the CRC layer with the check compiled in) lets through: at least the
12 bytes of header + CRC, `section_syntax_indicator = 1`, and the model of `mpegts_crc::sum32`
returns 0 on the WHOLE section -/
def Verified (S : Bytes) : Prop :=
  12 ≤ S.length ∧ byteD S 1 &&& 0b1000_0000 ≠ 0 ∧ Crc.sum32 S = .ok 0

/-- the CRC layer in closed form, for either build (`bp` = `cfg(fuzzing)`) -/
theorem crcPass_eq (bp : Bool) (data : Bytes) (hs : byteD data 1 &&& 0b1000_0000 ≠ 0)
    (hl : 2 ≤ data.length) :
    Psi.crcPass bp data
      = .ok (decide (12 ≤ data.length) && (bp || decide (CrcSpec.crc data = 0))) := by
  unfold Psi.crcPass
  rw [byteAt_ok data 1 (by omega)]
  have : (byteD data 1 &&& 0b1000_0000 != 0) = true := by simp [hs]
  simp only [R.ok_bind, assertR, this, if_true, Psi.COMMON, Psi.TSH, Props.C04.sum32_eq_bitserial]
  by_cases h12 : data.length < 3 + 5 + 4
  · have : ¬ 12 ≤ data.length := by omega
    simp [h12, this]
  · have : 12 ≤ data.length := by omega
    cases bp <;> simp [h12, this]
    by_cases hz : CrcSpec.crc data = 0 <;> simp [hz]

/-- it returns only on such sections: `byteAt data 1` needs 2 bytes, the `assert!` the syntax bit -/
theorem crcPass_ok_pre (bp : Bool) (data : Bytes) (b : Bool) (h : Psi.crcPass bp data = .ok b) :
    byteD data 1 &&& 0b1000_0000 ≠ 0 ∧ 2 ≤ data.length := by
  unfold Psi.crcPass at h
  obtain ⟨b1, hb1, h⟩ := R.bind_eq_ok h
  obtain ⟨hlt, rfl⟩ := byteAt_inv data 1 b1 hb1
  obtain ⟨_, ha, _⟩ := R.bind_eq_ok h
  unfold assertR at ha
  split at ha
  · rename_i hc; exact ⟨by simpa using hc, by omega⟩
  · cases ha

theorem verified_of_crcPass (S : Bytes) (h : Psi.crcPass false S = .ok true) : Verified S := by
  obtain ⟨hs, hl⟩ := crcPass_ok_pre _ _ _ h
  rw [crcPass_eq false S hs hl] at h
  have := R.ok_inj h
  simp only [Bool.false_or, Bool.and_eq_true, decide_eq_true_eq] at this
  exact ⟨this.1, hs, by rw [Props.C04.sum32_eq_bitserial, this.2]⟩

theorem crcPass_of_verified (S : Bytes) (h : Verified S) : Psi.crcPass false S = .ok true := by
  obtain ⟨h12, hsyn, hc⟩ := h
  rw [Props.C04.sum32_eq_bitserial] at hc
  rw [crcPass_eq false S hsyn (by omega)]
  simp [h12, R.ok_inj hc]

/-- the table body `&data[8 .. data.len() - 4]` the processors look at -/
def secBody (S : Bytes) : Bytes := (S.drop 8).take (S.length - 4 - 8)

def patReqOf : Tables.PatEntry → Req
  | .program pn pid => Req.pmt pid pn
  | .network pid => Req.nit pid

/-- the handler requests `PatProcessor::new_table` makes for the section `S` (none unless
`table_id = 0`), in order -/
def patRequests (S : Bytes) : List Req :=
  if byteD S 0 = 0 then
    match Tables.patProgramsAll (secBody S) with
    | .ok es => es.map patReqOf
    | .panic _ => []
  else []

/-- the handler requests `PmtProcessor::new_table` on PID `pmtPid` makes for the section `S` (none
unless `table_id = 2` and `PmtSection::from_bytes` accepts), in order -/
def pmtRequests (pmtPid : Nat) (S : Bytes) : List Req :=
  if byteD S 0 = 2 then
    match Tables.pmtFromBytes (secBody S) with
    | .ok (some sect) =>
      match Tables.pmtStreams sect, Tables.pmtPcrPid sect, Tables.pmtDescriptorBytes sect with
      | .ok ss, .ok pcr, .ok pd =>
        ss.map (fun s => Req.stream pmtPid s.streamType s.pid pcr s.descBytes pd)
      | _, _, _ => []
    | _ => []
  else []

/-- `e` is a handler request for one of `L` -/
def IsReq (L : List Req) (e : Ev) : Prop := ∃ req tag, e = Ev.construct req tag ∧ req ∈ L

theorem secBody_eq (S : Bytes) : secBody S = Spec.Routing.sectionBody S := by
  unfold secBody Spec.Routing.sectionBody
  rw [Nat.sub_sub]

theorem patRequests_eq (S : Bytes) (ht : byteD S 0 = 0) :
    patRequests S = (Spec.Routing.patRequests (Spec.TableSpec.specPat (secBody S))).map (·.2) := by
  unfold patRequests Tables.patProgramsAll Spec.Routing.patRequests
  rw [if_pos ht, C16.patPrograms_eq _ _ (Nat.lt_succ_self _), List.map_map]
  exact List.map_congr_left fun e _ => by cases e <;> rfl

theorem pmtRequests_eq (pmtPid : Nat) (S : Bytes) (ht : byteD S 0 = 2)
    (ha : Spec.TableSpec.specPmtAccept (secBody S)) :
    pmtRequests pmtPid S = (Spec.Routing.pmtRequests pmtPid (Spec.TableSpec.specPcrPid (secBody S))
      (Spec.TableSpec.specProgramDescBytes (secBody S)) (Spec.Routing.streamsOf (secBody S))).map (·.2) := by
  unfold pmtRequests Spec.Routing.pmtRequests
  rw [if_pos ht, C16.pmtFromBytes_eq, if_pos ha]
  simp only [C16.pmtStreams_eq _ ha, C16.pmtPcrPid_eq (secBody S) (by have := ha.1; omega),
    C16.pmtDescriptorBytes_eq _ ha, Spec.Routing.streamsOf, List.map_map]
  rfl

theorem patSection_gated (c : Ctx) (reg : List Nat) (data : Bytes) (c' : Ctx) (reg' : List Nat)
    (chg : List (Change Handler)) (h : patSection c reg data = .ok (c', reg', chg)) :
    Emits (IsReq (patRequests data)) c c' := by
  obtain ⟨-, ⟨-, rfl, -, -⟩ | ⟨ht, rfl, -, -⟩⟩ := C05.patSection_ok h
  · exact emits_refl _ _
  · rw [patRequests_eq data ht, secBody_eq]
    exact emits_ctxAfter _ c _ fun x hx tag => ⟨_, tag, rfl, List.mem_map_of_mem hx⟩

theorem pmtFromBytes_some (b sect : Bytes) (h : Tables.pmtFromBytes b = .ok (some sect)) : sect = b := by
  rw [C16.pmtFromBytes_eq] at h
  split at h <;> cases h
  rfl

theorem pmtSection_gated (c : Ctx) (pmtPid : Nat) (reg : List Nat) (data : Bytes) (c' : Ctx)
    (reg' : List Nat) (chg : List (Change Handler))
    (h : pmtSection c pmtPid reg data = .ok (c', reg', chg)) :
    Emits (IsReq (pmtRequests pmtPid data)) c c' := by
  obtain ⟨-, ⟨-, rfl, -, -⟩ | ⟨ha, ht, rfl, -, -⟩⟩ := C05.pmtSection_ok h
  · exact emits_refl _ _
  · rw [← secBody_eq] at ha ⊢
    rw [pmtRequests_eq pmtPid data ht ha]
    exact emits_ctxAfter _ c _ fun x hx tag => ⟨_, tag, rfl, List.mem_map_of_mem hx⟩

/-- **the gate**: with the check compiled in, every event the table processor appends while the
deliveries `ds` are run is attributed (`Q`) to a delivery of `ds` that satisfies `Verified` -/
theorem runDeliveries_gated
    (sect : Ctx → List Nat → Bytes → R (Ctx × List Nat × List (Change Handler)))
    (Q : Bytes → Ev → Prop)
    (hsect : ∀ c reg d c' reg' chg, sect c reg d = .ok (c', reg', chg) → Emits (Q d) c c') :
    ∀ (ds : List Psi.Delivery) (c : Ctx) (reg : List Nat) (c' : Ctx) (reg' : List Nat)
      (chg : List (Change Handler)), c.cfg.bypassCrc = false →
      runDeliveries sect c reg ds = .ok (c', reg', chg) →
      Emits (fun e => ∃ d ∈ ds, Verified d.bytes ∧ Q d.bytes e) c c' := by
  intro ds c reg c' reg' chg hb h
  refine C05.runDeliveries_rel sect
    (fun c _ c' => c.cfg.bypassCrc = false → Emits (fun e => ∃ d ∈ ds, Verified d.bytes ∧ Q d.bytes e) c c')
    (fun _ _ => emits_refl _ _)
    (fun a _ b _ _ h1 h2 ha => emits_trans (h1 ha) (h2 (by rw [(h1 ha).1]; exact ha)))
    ds (fun d hd c reg c' reg' chg hpass hs hb => ?_) c reg c' reg' chg h hb
  rw [hb] at hpass
  exact emits_mono (fun e he => ⟨d, hd, verified_of_crcPass d.bytes hpass, he⟩) (hsect _ _ _ _ _ _ hs)

/-- the events handler `h` may append while consuming packet `pk`, check compiled in: a PAT / PMT
handler only appends requests computed from a section that its own reassembler delivers on this
very packet and that satisfies `Verified`; PES filters and recorders never append a request -/
def GatedEv (h : Handler) (pk : Pk) (e : Ev) : Prop :=
  match h with
  | .pat s _ => ∃ s' ds d, Psi.consume Psi.table s pk.bytes = .ok (s', ds) ∧ d ∈ ds
      ∧ Verified d.bytes ∧ IsReq (patRequests d.bytes) e
  | .pmt pid _ s _ => ∃ s' ds d, Psi.consume Psi.table s pk.bytes = .ok (s', ds) ∧ d ∈ ds
      ∧ Verified d.bytes ∧ IsReq (pmtRequests pid d.bytes) e
  | .pes _ _ => ∀ req tag, e ≠ Ev.construct req tag
  | .recorder _ => ∀ req tag, e ≠ Ev.construct req tag

theorem scriptChanges_emits : ∀ (ops : List ScriptOp) (c : Ctx),
    Emits (fun e => ∀ req tag, e ≠ Ev.construct req tag) c (scriptChanges c ops).1 := by
  intro ops
  induction ops with
  | nil => intro c; exact emits_refl _ _
  | cons op ops ih =>
    intro c
    cases op with
    | ins pid =>
      have a := ih ({ c with nextTag := c.nextTag + 1 }.emit (.scriptIns pid c.nextTag))
      simp only [scriptChanges]
      have e0 : Emits (fun e => ∀ req tag, e ≠ Ev.construct req tag) c
          ({ c with nextTag := c.nextTag + 1 }.emit (.scriptIns pid c.nextTag)) :=
        ⟨rfl, Nat.le_succ _, [.scriptIns pid c.nextTag], rfl, by
          intro e he; simp only [List.mem_singleton] at he; subst he; intro _ _ hh; cases hh⟩
      exact emits_trans e0 a
    | rem pid =>
      have a := ih (c.emit (.scriptRem pid))
      simp only [scriptChanges]
      exact emits_trans (emits_emit _ _ _ (by intro _ _ hh; cases hh)) a

theorem consume_gated (h : Handler) (c : Ctx) (pk : Pk) (h' : Handler) (c' : Ctx)
    (chg : List (Change Handler)) (hb : c.cfg.bypassCrc = false)
    (hc : App.consume h c pk = .ok (h', c', chg)) : Emits (GatedEv h pk) c c' := by
  cases h with
  | pat s reg =>
    obtain ⟨s', ds, reg', h1, h2, -⟩ := C05.consume_pat_ok hc
    refine emits_mono (fun e he => ?_)
      (runDeliveries_gated patSection (fun d => IsReq (patRequests d)) patSection_gated
        ds c reg c' reg' chg hb h2)
    obtain ⟨d, hd, hv, hq⟩ := he
    exact ⟨s', ds, d, h1, hd, hv, hq⟩
  | pmt pid prog s reg =>
    obtain ⟨s', ds, reg', h1, h2, -⟩ := C05.consume_pmt_ok hc
    refine emits_mono (fun e he => ?_)
      (runDeliveries_gated (fun c r d => pmtSection c pid r d) (fun d => IsReq (pmtRequests pid d))
        (fun c r d => pmtSection_gated c pid r d) ds c reg c' reg' chg hb h2)
    obtain ⟨d, hd, hv, hq⟩ := he
    exact ⟨s', ds, d, h1, hd, hv, hq⟩
  | pes tag f =>
    refine emits_mono (fun e he => ?_) (consume_facts _ c pk h' c' chg hc).1.1
    intro req t hh
    subst hh
    simp only [EvBy, tagOf] at he
    cases he.1
  | recorder tag =>
    have e0 : Emits (GatedEv (.recorder tag) pk) c (c.emit (.pkt tag pk.off)) :=
      emits_emit _ _ _ (by intro _ _ hh; cases hh)
    have hr := C05.consume_recorder_ok hc
    cases hl : c.cfg.script.lookup (pk.off / 188) with
    | none => rw [hl] at hr; cases hr; exact e0
    | some ops =>
      rw [hl] at hr
      rw [show c' = (scriptChanges (c.emit (.pkt tag pk.off)) ops).1 from congrArg (·.2.1) hr]
      exact emits_trans e0 (scriptChanges_emits ops _)

/-- the events ONE dispatcher step on packet `pk` from state `(t, c)` may append: the `ByPid`
request for the packet's own PID (lookup-or-construct), or an event allowed (`GatedEv`) to the
handler serving `pk.pid` in this step — the one registered before the step, or the one just
constructed for the `ByPid` request -/
def StepEv (t : Tab Handler) (c : Ctx) (pk : Pk) (e : Ev) : Prop :=
  (∃ tag, e = Ev.construct (.byPid pk.pid) tag) ∨
  ∃ h0, (t.get pk.pid = some h0 ∨ (t.get pk.pid = none ∧ h0 = (construct c (.byPid pk.pid)).1))
    ∧ GatedEv h0 pk e

theorem specStep_gated (t : Tab Handler) (c : Ctx) (pk : Pk) (t' : Tab Handler) (c' : Ctx)
    (hb : c.cfg.bypassCrc = false) (h : specStep App.sem (t, c) pk = .ok (t', c')) :
    Emits (StepEv t c pk) c c' := by
  obtain ⟨t1, c1, hE, hstep⟩ := specStep_ok_cases App.sem h
  -- lookup-or-construct: at most the `ByPid` request, and the handler now serving `pk.pid`
  have he1 : Emits (StepEv t c pk) c c1 ∧ ∀ hd, t1.get pk.pid = some hd →
      t.get pk.pid = some hd ∨ (t.get pk.pid = none ∧ hd = (construct c (.byPid pk.pid)).1) := by
    rcases ensure_ok_cases App.sem hE with ⟨_, rfl, rfl⟩ | ⟨hn, hd, hk, rfl⟩
    · exact ⟨emits_refl _ _, fun _ hg => Or.inl hg⟩
    · have e : construct c (.byPid pk.pid) = (hd, c1) := R.ok_inj hk
      refine ⟨?_, fun hd' hg => ?_⟩
      · rw [show c1 = (construct c (.byPid pk.pid)).2 by rw [e], construct_ctx]
        exact ⟨rfl, Nat.le_succ _, [.construct (.byPid pk.pid) c.nextTag], rfl, by
          intro e he; simp only [List.mem_singleton] at he; subst he; exact Or.inl ⟨_, rfl⟩⟩
      · rw [Tab.get_insert_self] at hg
        cases hg
        exact Or.inr ⟨(Tab.contains_eq_false_iff _ _).1 hn, by rw [e]⟩
  rcases hstep with ⟨_, e⟩ | ⟨_, hd, h', c2, chg, hg, hx, e⟩
  · cases e; exact he1.1
  · cases e
    exact emits_trans he1.1 (emits_mono (fun e he => Or.inr ⟨hd, he1.2 hd hg, he⟩)
      (consume_gated hd c1 pk h' c' chg (by rw [he1.1.1]; exact hb) hx))

/-- an event that, if it is a handler request, is a `ByPid` request or one of the requests
computed from SOME byte string satisfying `Verified`.
WEAK: `S` is existentially quantified and not tied to any delivery of any reassembler, and the
processors do not read the CRC bytes, so any request computable from a string of ≥ 12 bytes with
the syntax bit set is also computable from a `Verified` one (`Ts.Props.C04.reseal`).  `VerifiedReq`
and `pushAll_gated` therefore do not by themselves express that the CRC gate works;
the statements that do are `StepEv` / `GatedEv` (the section is a delivery `d ∈ ds` of the serving
handler's reassembler on that very packet): `pushSpec_gated`, and for whole runs
`Ts.Props.C04.requests_history_run`, `Ts.Props.C04.requests_from_verified_delivery`. -/
def VerifiedReq (e : Ev) : Prop :=
  ∀ req tag, e = Ev.construct req tag → (∃ p, req = Req.byPid p) ∨
    ∃ S, Verified S ∧ (req ∈ patRequests S ∨ ∃ pid, req ∈ pmtRequests pid S)

theorem verifiedReq_of_gatedEv (h : Handler) (pk : Pk) (e : Ev) (hg : GatedEv h pk e) : VerifiedReq e := by
  intro req tag he
  cases h with
  | pat s reg =>
    obtain ⟨_, _, d, _, _, hv, r, t, hr, hm⟩ := hg
    rw [he] at hr; injection hr with hr _; subst hr
    exact Or.inr ⟨d.bytes, hv, Or.inl hm⟩
  | pmt pid prog s reg =>
    obtain ⟨_, _, d, _, _, hv, r, t, hr, hm⟩ := hg
    rw [he] at hr; injection hr with hr _; subst hr
    exact Or.inr ⟨d.bytes, hv, Or.inr ⟨pid, hm⟩⟩
  | pes σ f => exact absurd he (hg req tag)
  | recorder σ => exact absurd he (hg req tag)

theorem verifiedReq_of_stepEv (t : Tab Handler) (c : Ctx) (pk : Pk) (e : Ev) (h : StepEv t c pk e) :
    VerifiedReq e := by
  rcases h with ⟨tag, he⟩ | ⟨h0, _, hg⟩
  · intro req tag' he'
    rw [he] at he'; injection he' with he' _
    exact Or.inl ⟨pk.pid, he'.symm⟩
  · exact verifiedReq_of_gatedEv h0 pk e hg

theorem pushSpec_gated : ∀ (pks : List Pk) (tc tc' : Tab Handler × Ctx), tc.2.cfg.bypassCrc = false →
    pushSpec App.sem tc pks = .ok tc' →
    Emits (fun e => ∃ pre pk post t1 c1, pks = pre ++ pk :: post ∧
      pushSpec App.sem tc pre = .ok (t1, c1) ∧ StepEv t1 c1 pk e) tc.2 tc'.2 := by
  intro pks
  induction pks with
  | nil => intro tc tc' _ h; cases h; exact emits_refl _ _
  | cons pk pks ih =>
    intro tc tc' hb h
    rw [pushSpec_cons] at h
    obtain ⟨tc1, h1, h⟩ := R.bind_eq_ok h
    obtain ⟨t, c⟩ := tc
    obtain ⟨t1, c1⟩ := tc1
    have a := specStep_gated t c pk t1 c1 hb h1
    have hb1 : c1.cfg.bypassCrc = false := by rw [a.1]; exact hb
    refine emits_trans (emits_mono (fun e he => ?_) a) (emits_mono (fun e he => ?_) (ih (t1, c1) tc' hb1 h))
    · exact ⟨[], pk, pks, t, c, rfl, rfl, he⟩
    · obtain ⟨pre, pk', post, t2, c2, e1, e2, e3⟩ := he
      refine ⟨pk :: pre, pk', post, t2, c2, by rw [e1]; rfl, ?_, e3⟩
      rw [pushSpec_cons, h1]; exact e2

theorem pushAll_gated : ∀ (bufs : List Bytes) (tc : Tab Handler × Ctx) (base : Nat)
    (tc' : Tab Handler × Ctx), tc.2.cfg.bypassCrc = false → pushAll App.sem tc bufs base = .ok tc' →
    Emits VerifiedReq tc.2 tc'.2 := by
  intro bufs tc base tc' hb h
  exact pushAll_invariant App.sem (fun x => Emits VerifiedReq tc.2 x.2) (fun _ => True)
    (fun tc1 pk tc2 hi _ hs => emits_trans hi
      (emits_mono (verifiedReq_of_stepEv tc1.1 tc1.2 pk)
        (specStep_gated tc1.1 tc1.2 pk tc2.1 tc2.2 (by rw [hi.1]; exact hb) hs)))
    (fun _ _ _ _ _ _ => trivial) bufs tc tc' base (emits_refl _ _) h

/-- the context `Demultiplex::new` leaves: exactly the `ByPid(0)` request -/
theorem init_trace (cfg : App.Cfg) :
    (App.init cfg).2.trace = [Ev.construct (.byPid 0) 0] ∧ (App.init cfg).2.cfg = cfg := ⟨rfl, rfl⟩

end Ts.Lemmas.C04b
