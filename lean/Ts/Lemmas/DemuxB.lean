import Ts.Lemmas.Demux
import Ts.Props.C12
/-!
# Lemmas about framing (`chunksExact`, `mkPk`, `framePks`, `frame`), plus the tiny concrete `Sem`
used by the non-vacuity examples of C06/C07/C18.
-/
namespace Ts.Demux
open Ts Ts.Spec

variable {H C : Type}

/-! ### `chunks_exact(188)` -/

theorem chunksExact_fuel_irrel : ∀ (f1 f2 : Nat) (b : Bytes),
    b.length / 188 < f1 → b.length / 188 < f2 → chunksExact 188 f1 b = chunksExact 188 f2 b := by
  intro f1
  induction f1 with
  | zero => intro f2 b h; omega
  | succ f1 ih =>
    intro f2 b h1 h2
    cases f2 with
    | zero => omega
    | succ f2 =>
      unfold chunksExact
      by_cases hl : b.length < 188
      · simp [hl]
      · simp only [hl, if_false]
        have hd : (b.drop 188).length = b.length - 188 := List.length_drop
        rw [ih f2 (b.drop 188) (by omega) (by omega)]

/-- the chunks `push` iterates over -/
def chunks (b : Bytes) : List Bytes := chunksExact 188 (b.length / 188 + 1) b

theorem chunks_eq (b : Bytes) :
    chunks b = if b.length < 188 then [] else b.take 188 :: chunks (b.drop 188) := by
  unfold chunks
  rw [chunksExact]
  by_cases hl : b.length < 188
  · simp [hl]
  · simp only [hl, if_false]
    have hd : (b.drop 188).length = b.length - 188 := List.length_drop
    rw [chunksExact_fuel_irrel (b.length / 188) ((b.drop 188).length / 188 + 1) (b.drop 188)
      (by omega) (by omega)]
    rfl

theorem chunks_short (b : Bytes) (h : b.length < 188) : chunks b = [] := by
  rw [chunks_eq]; simp [h]

theorem chunksExact_all_188 : ∀ (fuel : Nat) (b : Bytes), ∀ ch ∈ chunksExact 188 fuel b, ch.length = 188 := by
  intro fuel
  induction fuel with
  | zero => intro b ch h; simp [chunksExact] at h
  | succ fuel ih =>
    intro b ch h
    unfold chunksExact at h
    by_cases hl : b.length < 188
    · simp [hl] at h
    · simp only [hl, if_false] at h
      have h' : ch = b.take 188 ∨ ch ∈ chunksExact 188 fuel (b.drop 188) := by simpa using h
      cases h' with
      | inl e => subst e; rw [List.length_take]; omega
      | inr e => exact ih _ _ e

theorem chunks_all_188 (b : Bytes) : ∀ ch ∈ chunks b, ch.length = 188 := chunksExact_all_188 _ b

theorem chunks_append : ∀ (k : Nat) (a b : Bytes), a.length = 188 * k →
    chunks (a ++ b) = chunks a ++ chunks b := by
  intro k
  induction k with
  | zero =>
    intro a b h
    have : a = [] := List.eq_nil_of_length_eq_zero (by omega)
    subst this
    rw [chunks_short [] (by simp)]; rfl
  | succ k ih =>
    intro a b h
    rw [chunks_eq (a ++ b), chunks_eq a]
    have h1 : ¬ (a ++ b).length < 188 := by rw [List.length_append]; omega
    have h2 : ¬ a.length < 188 := by omega
    simp only [h1, h2, if_false]
    rw [List.take_append_of_le_length (by omega), List.drop_append_of_le_length (by omega)]
    rw [ih (a.drop 188) b (by rw [List.length_drop]; omega)]
    rfl

theorem chunks_length_aligned : ∀ (k : Nat) (a : Bytes), a.length = 188 * k → (chunks a).length = k := by
  intro k
  induction k with
  | zero =>
    intro a h
    rw [chunks_short a (by omega)]; rfl
  | succ k ih =>
    intro a h
    rw [chunks_eq a]
    have h2 : ¬ a.length < 188 := by omega
    simp only [h2, if_false, List.length_cons]
    rw [ih (a.drop 188) (by rw [List.length_drop]; omega)]

/-! ### `mkPk` / `framePks` are total on 188-byte chunks and equal a pure `filterMap` -/

/-- the packet `mkPk` builds, as a pure function (fields per ISO/IEC 13818-1 2.4.3.2, via C12) -/
def pkOf (b : Bytes) (off : Nat) : Option Pk :=
  if byteD b 0 = 0x47 then
    some ⟨b, off, readBits b 11 13, readBits b 8 1 == 1, Packet.isScrambled (byteD b 3)⟩
  else none

theorem tryNew_ok (b : Bytes) (h : b.length = 188) :
    Packet.tryNew b = .ok (if byteD b 0 = 0x47 then some b else none) := by
  unfold Packet.tryNew
  rw [byteAt_ok b 0 (by omega)]
  simp only [assertR, h, Packet.SIZE, Packet.SYNC_BYTE, BEq.rfl, if_true, R.ok_bind, beq_iff_eq]
  split <;> rfl

theorem mkPk_ok (b : Bytes) (off : Nat) (h : b.length = 188) : mkPk b off = .ok (pkOf b off) := by
  unfold mkPk pkOf
  rw [tryNew_ok b h]
  by_cases hs : byteD b 0 = 0x47
  · simp only [hs, if_true, R.ok_bind]
    rw [Props.C12.pid_exact b h, Props.C12.tei_exact b h, (Props.C12.scrambling_exact b h).1]
    rfl
  · simp only [hs, if_false, R.ok_bind]
    rfl

def framePure : List Bytes → Nat → List Pk
  | [], _ => []
  | ch :: chs, off =>
    match pkOf ch off with
    | some pk => pk :: framePure chs (off + 188)
    | none => framePure chs (off + 188)

theorem framePks_ok : ∀ (chs : List Bytes) (off : Nat), (∀ ch ∈ chs, ch.length = 188) →
    framePks chs off = .ok (framePure chs off) := by
  intro chs
  induction chs with
  | nil => intro off _; rfl
  | cons ch chs ih =>
    intro off h
    unfold framePks framePure
    rw [mkPk_ok ch off (h ch List.mem_cons_self),
      ih (off + 188) (fun x hx => h x (List.mem_cons_of_mem _ hx))]
    simp only [R.ok_bind]
    cases pkOf ch off <;> rfl

theorem framePure_append : ∀ (x y : List Bytes) (off : Nat),
    framePure (x ++ y) off = framePure x off ++ framePure y (off + 188 * x.length) := by
  intro x
  induction x with
  | nil => intro y off; simp [framePure]
  | cons ch x ih =>
    intro y off
    simp only [List.cons_append, framePure, List.length_cons]
    rw [ih y (off + 188)]
    have : off + 188 + 188 * x.length = off + 188 * (x.length + 1) := by omega
    rw [this]
    cases pkOf ch off <;> rfl

theorem frame_eq_pure (buf : Bytes) (base : Nat) : frame buf base = .ok (framePure (chunks buf) base) :=
  framePks_ok _ base (chunks_all_188 buf)

theorem frame_append_pure (a b : Bytes) (base : Nat) (ha : a.length % 188 = 0) :
    framePure (chunks (a ++ b)) base
      = framePure (chunks a) base ++ framePure (chunks b) (base + a.length) := by
  have hk : a.length = 188 * (a.length / 188) := by omega
  rw [chunks_append _ a b hk, framePure_append, chunks_length_aligned _ a hk, ← hk]

/-! ### a tiny concrete `Sem` for non-vacuity examples

`H := Nat` counts the packets a handler consumed; `C := List Nat` logs the application callbacks
(`9000+pid` = `construct(ByPid pid)`, `100*pid + n` = `consume` by the handler of `pid` in state `n`).
A packet on PID 1 queues "insert PID 2 with state 50, then remove PID 1" (a handler removing itself);
a packet on PID 3 queues "remove 3, insert 3 := 70" (self-replacement: last request wins);
a packet on PID 4 queues the removal of the never-registered PID 7. -/
def exSem : Sem Nat (List Nat) where
  consume h c pk :=
    .ok (h + 1, c ++ [100 * pk.pid + h],
      if pk.pid == 1 then [.insert 2 50, .remove 1]
      else if pk.pid == 3 then [.remove 3, .insert 3 70]
      else if pk.pid == 4 then [.remove 7]
      else [])
  construct c pid := .ok (0, c ++ [9000 + pid])

/-- an example packet (ghost bytes empty) -/
def exPk (pid : Nat) (tei scr : Bool) : Pk := ⟨[], 0, pid, tei, scr⟩

end Ts.Demux
