import Ts.Lemmas.DemuxQ
import Ts.Props.C07
/-!
# C06/C07 for the dispatcher with the pending changeset made explicit (`Ts/Model/DemuxQ.lean`)

`Ts/Model/Demux.lean` (C06, C07, C18) cannot express an application whose `construct` queues
filter changes, nor a `FilterChangeset` that is non-empty when `push` is entered (see "MODEL
RESTRICTION" in `Ts/Props/C06.lean`).  `Ts/Model/DemuxQ.lean` lifts that restriction: the state is
`(table, context, pending changes)`, both `consume` and `construct` may queue changes.  All theorems
here hold for EVERY `sem : SemQ H C`, every state — in particular every pending queue — and every
input: refinement, chunking irrelevance, `Ts.Demux` as the special case, and the reading of one
step as "changes are applied only after a packet has been consumed".
-/
namespace Ts.Props.C07Q
open Ts Ts.Demux Ts.DemuxQ Ts.Lemmas.DemuxQ

variable {H C : Type}

/-- **REFINEMENT (packet level).**  The two labelled loops of `Demultiplex::push`, carrying the
pending changeset, equal the one-packet-at-a-time fold — same final table, context and pending
queue, and a panic in one iff the same panic in the other. -/
theorem pushModel_refines_specQ (sem : SemQ H C) (st : StQ H C) (pks : List Pk) :
    pushModelQ sem st pks = pushSpecQ sem st pks :=
  pushModelQ_eq_pushSpecQ sem st pks

/-- **REFINEMENT (byte level).**  `Demultiplex::push` on a buffer = frame the buffer
(`chunks_exact(188)` + `try_new`), then run the specification over the framed packets. -/
theorem push_refines_specQ (sem : SemQ H C) (st : StQ H C) (buf : Bytes) (base : Nat) :
    pushQ sem st buf base =
      (match frame buf base with
       | .panic s => .panic s
       | .ok pks => pushSpecQ sem st pks) := by
  unfold pushQ
  cases frame buf base with
  | panic s => rfl
  | ok pks => exact pushModelQ_eq_pushSpecQ sem st pks

/-- framing never panics (`C07.frame_total`), so there always ARE framed packets (characterised
byte by byte by `C07.frame_spec`) -/
theorem push_refines_specQ_framed (sem : SemQ H C) (st : StQ H C) (buf : Bytes) (base : Nat) :
    ∃ pks, frame buf base = .ok pks ∧ pushQ sem st buf base = pushSpecQ sem st pks := by
  obtain ⟨pks, h⟩ := C07.frame_total buf base
  exact ⟨pks, h, by rw [push_refines_specQ, h]⟩

/-- the state handed over — pending queue included — is all that the rest of the run depends on -/
theorem spec_appendQ (sem : SemQ H C) (st : StQ H C) (a b : List Pk) :
    pushSpecQ sem st (a ++ b) =
      (match pushSpecQ sem st a with
       | .panic s => .panic s
       | .ok st' => pushSpecQ sem st' b) := by
  simp only [pushSpecQ_toSem]
  rw [pushSpec_append_aux]
  cases pushSpec sem.toSem st a <;> rfl

/-! ### chunking irrelevance -/

/-- what is pending at the end of the first call is pending at the start of the second -/
theorem push_appendQ (sem : SemQ H C) (st : StQ H C) (a b : Bytes) (base : Nat)
    (ha : a.length % 188 = 0) :
    pushQ sem st (a ++ b) base =
      (match pushQ sem st a base with
       | .panic s => .panic s
       | .ok st' => pushQ sem st' b (base + a.length)) := by
  simp only [pushQ_toSem]
  rw [C07.push_append sem.toSem st a b base ha]
  cases push sem.toSem st a base <;> rfl

/-- **CHUNKING IRRELEVANCE, one cut.**  Two buffers, the first ending at a packet boundary: pushing
them one after the other gives the same table, context and pending queue (or the same panic) as
pushing their concatenation — although at the cut the cached handler slot is lost, `contains` is
re-run, and changes queued by a `construct` for a dropped packet may still be pending. -/
theorem chunking_irrelevantQ (sem : SemQ H C) (st : StQ H C) (a b : Bytes) (base : Nat)
    (ha : a.length % 188 = 0) :
    pushAllQ sem st [a, b] base = pushAllQ sem st [a ++ b] base := by
  rw [pushAllQ_single, push_appendQ sem st a b base ha, pushAllQ_cons]
  cases pushQ sem st a base with
  | panic s => rfl
  | ok st' => exact pushAllQ_single sem st' b (base + a.length)

/-- **CHUNKING IRRELEVANCE, general form.**  All buffers except possibly the last have a length
divisible by 188 (empty and single-packet buffers included; the remainder of the last one is dropped
by `chunks_exact` in both runs): one `push` per buffer = one `push` of the concatenation. -/
theorem chunking_irrelevantQ_general (sem : SemQ H C) (st : StQ H C) (bufs : List Bytes) (base : Nat)
    (h : ∀ c ∈ bufs.dropLast, c.length % 188 = 0) :
    pushAllQ sem st bufs base = pushAllQ sem st [bufs.flatten] base := by
  rw [pushAllQ_single, pushAllQ_toSem, pushQ_toSem]
  exact C07.chunking_irrelevant_dropLast sem.toSem bufs st base h

theorem chunking_irrelevantQ_aligned (sem : SemQ H C) (st : StQ H C) (bufs : List Bytes) (base : Nat)
    (h : ∀ c ∈ bufs, c.length % 188 = 0) :
    pushAllQ sem st bufs base = pushAllQ sem st [bufs.flatten] base :=
  chunking_irrelevantQ_general sem st bufs base (fun c hc => h c (List.dropLast_subset bufs hc))

theorem chunking_irrelevantQ_unaligned_last (sem : SemQ H C) (st : StQ H C)
    (init : List Bytes) (last : Bytes) (base : Nat)
    (h : ∀ c ∈ init, c.length % 188 = 0) :
    pushAllQ sem st (init ++ [last]) base = pushAllQ sem st [init.flatten ++ last] base := by
  have := chunking_irrelevantQ_general sem st (init ++ [last]) base
    (by rw [List.dropLast_concat]; exact h)
  rw [this]
  simp

theorem any_two_cuttings_agreeQ (sem : SemQ H C) (st : StQ H C) (cs1 cs2 : List Bytes) (base : Nat)
    (h1 : ∀ c ∈ cs1, c.length % 188 = 0) (h2 : ∀ c ∈ cs2, c.length % 188 = 0)
    (he : cs1.flatten = cs2.flatten) :
    pushAllQ sem st cs1 base = pushAllQ sem st cs2 base := by
  rw [chunking_irrelevantQ_aligned sem st cs1 base h1, chunking_irrelevantQ_aligned sem st cs2 base h2, he]

/-- **CONSERVATIVITY.**  For an application whose `construct` queues nothing and with nothing
pending on entry, the double loop with the explicit pending queue computes exactly what the double
loop of `Ts/Model/Demux.lean` computes, and ends with nothing pending: C06/C07/C18 are statements
about this special case. -/
theorem ofSem_agrees (sem : Sem H C) (tc : Tab H × C) (pks : List Pk) :
    pushModelQ (SemQ.ofSem sem) (tc.1, tc.2, []) pks =
      (match pushModel sem tc pks with
       | .ok (t, c) => .ok (t, c, [])
       | .panic s => .panic s) := by
  obtain ⟨t, c⟩ := tc
  rw [pushModelQ_eq_pushSpecQ, pushModel_eq_pushSpec, pushSpecQ_ofSem]
  cases pushSpec sem (t, c) pks with
  | panic s => rfl
  | ok r => rfl

theorem ofSem_agrees_push (sem : Sem H C) (tc : Tab H × C) (buf : Bytes) (base : Nat) :
    pushQ (SemQ.ofSem sem) (tc.1, tc.2, []) buf base =
      (match push sem tc buf base with
       | .ok (t, c) => .ok (t, c, [])
       | .panic s => .panic s) := by
  unfold pushQ push
  cases frame buf base with
  | panic s => rfl
  | ok pks => exact ofSem_agrees sem tc pks

/-! ### when pending changes are applied -/

/-- **Changes queued by `construct` wait.**  A flagged packet on a PID without handler: the handler
is constructed and installed, the packet is dropped, and the changes `construct` queued are appended
to the pending queue — NOT applied to the table. -/
theorem construct_changes_wait_for_consumed_packet (sem : SemQ H C) (t : Tab H) (c : C)
    (q : List (Change H)) (pk : Pk) (h : H) (c' : C) (chg : List (Change H))
    (hf : pk.flagged = true) (hc : t.contains pk.pid = false)
    (hk : sem.construct c pk.pid = .ok (h, c', chg)) :
    specStepQ sem (t, c, q) pk = .ok (t.insert pk.pid h, c', q ++ chg) := by
  rw [specStepQ_eq, ensureQ_of_absent_ok sem t c q pk.pid h c' chg hc hk]
  simp only [hf, if_true]

/-- a flagged packet on a PID that has a handler changes nothing, so pending changes survive any run
of dropped packets -/
theorem pending_survives_dropped_packet (sem : SemQ H C) (t : Tab H) (c : C)
    (q : List (Change H)) (pk : Pk) (hf : pk.flagged = true) (hc : t.contains pk.pid = true) :
    specStepQ sem (t, c, q) pk = .ok (t, c, q) := by
  rw [specStepQ_toSem]
  exact specStep_flagged_of_contains sem.toSem t (c, q) pk hc hf

/-- pending changes survive the end of `push`; stated for the empty buffer (in general by
`push_refines_specQ` and `pending_survives_dropped_packet`) -/
theorem pending_survives_empty_push (sem : SemQ H C) (st : StQ H C) (base : Nat) :
    pushQ sem st [] base = .ok st := rfl

/-- **Pending changes are applied by the next consumed packet.**  An unflagged packet is consumed
by the handler `h` its PID has in the table AS IT IS BEFORE the pending changes are applied (even if
one of them would remove or replace `h`); afterwards everything pending — the old queue, then what
this `consume` queued — is applied in order, and the queue is empty. -/
theorem pending_applied_by_next_consumed_packet (sem : SemQ H C) (t : Tab H) (c : C)
    (q : List (Change H)) (pk : Pk) (h h' : H) (c' : C) (chg : List (Change H))
    (hf : pk.flagged = false) (hg : t.get pk.pid = some h)
    (hk : sem.consume h c pk = .ok (h', c', chg)) :
    specStepQ sem (t, c, q) pk = .ok (applyChanges (t.insert pk.pid h') (q ++ chg), c', []) := by
  have hc : t.contains pk.pid = true := (Tab.contains_eq_true_iff t pk.pid).2 ⟨h, hg⟩
  rw [specStepQ_eq, ensureQ_of_contains sem t c q pk.pid hc]
  simp only [hf, Bool.false_eq_true, if_false, hg, hk]

/-- the same when the PID has no handler yet: `construct` runs first and its changes join the queue -/
theorem pending_applied_by_next_consumed_packet_constructed (sem : SemQ H C) (t : Tab H) (c : C)
    (q : List (Change H)) (pk : Pk) (h0 h' : H) (c0 c' : C) (chg0 chg : List (Change H))
    (hf : pk.flagged = false) (hc : t.contains pk.pid = false)
    (hk0 : sem.construct c pk.pid = .ok (h0, c0, chg0))
    (hk : sem.consume h0 c0 pk = .ok (h', c', chg)) :
    specStepQ sem (t, c, q) pk =
      .ok (applyChanges ((t.insert pk.pid h0).insert pk.pid h') ((q ++ chg0) ++ chg), c', []) := by
  rw [specStepQ_eq, ensureQ_of_absent_ok sem t c q pk.pid h0 c0 chg0 hc hk0]
  simp only [hf, Bool.false_eq_true, if_false, Tab.get_insert_self, hk]

/-- after ANY unflagged packet nothing is pending -/
theorem pending_empty_after_consumed (sem : SemQ H C) (st st' : StQ H C) (pk : Pk)
    (hf : pk.flagged = false) (hs : specStepQ sem st pk = .ok st') : st'.2.2 = [] := by
  obtain ⟨t, c, q⟩ := st
  rw [specStepQ_toSem] at hs
  obtain ⟨t1, ⟨c1, q1⟩, _, hr⟩ := specStep_ok_cases sem.toSem hs
  rcases hr with ⟨hf', _⟩ | ⟨_, hd, h', c', chg, _, hk, rfl⟩
  · rw [hf] at hf'; cases hf'
  · -- `sem.toSem.consume` returns the context with the queue emptied
    have hk : (match sem.consume hd c1 pk with
        | .panic s => R.panic s
        | .ok (h', c', chg) => R.ok (h', (c', []), q1 ++ chg)) = .ok (h', c', chg) := hk
    cases hk' : sem.consume hd c1 pk with
    | panic s => rw [hk'] at hk; cases hk
    | ok x => rw [hk'] at hk; cases hk; rfl

theorem pending_empty_after_run_ending_consumed (sem : SemQ H C) (st st' : StQ H C)
    (pre : List Pk) (pk : Pk) (hf : pk.flagged = false)
    (hs : pushModelQ sem st (pre ++ [pk]) = .ok st') : st'.2.2 = [] := by
  rw [pushModelQ_eq_pushSpecQ, pushSpecQ_toSem, pushSpec_append_aux] at hs
  obtain ⟨st1, _, hs⟩ := R.bind_eq_ok hs
  rw [pushSpec_cons] at hs
  obtain ⟨st2, h1, hs⟩ := R.bind_eq_ok hs
  cases hs
  rw [← specStepQ_toSem] at h1
  exact pending_empty_after_consumed sem st1 _ pk hf h1

/-! ### non-vacuity -/

/-- a tiny application: the handler state counts consumed packets, the context counts callbacks
(+1 per `construct`, +10 per `consume`); `construct` for PID `p` QUEUES the insertion of a handler
in state 7 on PID `p+1`; `consume` on PID 9 queues the removal of PID 9 -/
private def exQ : SemQ Nat Nat where
  consume h c pk := .ok (h + 1, c + 10, if pk.pid == 9 then [.remove 9] else [])
  construct c pid := .ok (0, c + 1, [.insert (pid + 1) 7])

/-- a dropped packet on the unknown PID 5: handler constructed, its queued insert stays pending … -/
example : pushModelQ exQ ([], 0, []) [exPk 5 true false]
    = .ok ([none, none, none, none, none, some 0], 1, [.insert 6 7]) := rfl

/-- … across a further dropped packet, and is applied after the next consumed packet (which may be
on another PID, here 2, whose own `construct` queues the insert of PID 3) -/
example : pushModelQ exQ ([], 0, []) [exPk 5 true false, exPk 5 false true, exPk 2 false false]
    = .ok ([none, none, some 1, some 7, none, some 0, some 7], 12, []) := rfl

/-- chunking at the packet-list level with a NON-EMPTY pending queue at the cut: the two-call run and
the one-call run agree (both evaluated) -/
example :
    (match pushModelQ exQ ([], 0, []) [exPk 5 true false] with
     | .panic s => R.panic s
     | .ok st' => pushModelQ exQ st' [exPk 5 false false])
      = .ok ([none, none, none, none, none, some 1, some 7], 11, [])
    ∧ pushModelQ exQ ([], 0, []) [exPk 5 true false, exPk 5 false false]
      = .ok ([none, none, none, none, none, some 1, some 7], 11, []) := ⟨rfl, rfl⟩

/-- a run entered with something pending (`remove 5` queued before `push`): the packet on PID 5 is
still dispatched to PID 5's handler (state 3 → 4, context +10), and only then is the handler removed -/
example : pushModelQ exQ ([none, none, none, none, none, some 3], 0, [.remove 5]) [exPk 5 false false]
    = .ok ([none, none, none, none, none, none], 10, []) := rfl

example : pushSpecQ exQ ([], 0, []) [exPk 5 true false, exPk 5 false true, exPk 2 false false]
    = .ok ([none, none, some 1, some 7, none, some 0, some 7], 12, []) := rfl

private def pkt5 : Bytes := [0x47, 0x00, 0x05, 0x10] ++ List.replicate 184 0
/-- PID 5 with transport_error_indicator set -/
private def pkt5e : Bytes := [0x47, 0x80, 0x05, 0x10] ++ List.replicate 184 0

private theorem pkt5_len : pkt5.length = 188 := by
  unfold pkt5; rw [List.length_append, List.length_replicate]; rfl
private theorem pkt5e_len : pkt5e.length = 188 := by
  unfold pkt5e; rw [List.length_append, List.length_replicate]; rfl

private theorem frame_pkt5e : frame pkt5e 0 = .ok [⟨pkt5e, 0, 5, true, false⟩] := by
  rw [C07.frame_spec]; exact congrArg R.ok (by decide +kernel)

private theorem frame_pkt5 : frame pkt5 188 = .ok [⟨pkt5, 188, 5, false, false⟩] := by
  rw [C07.frame_spec]; exact congrArg R.ok (by decide +kernel)

/-- byte level: pushing the dropped packet alone leaves `construct`'s insert pending at the end of
`push` … -/
example : pushQ exQ ([], 0, []) pkt5e 0
    = .ok ([none, none, none, none, none, some 0], 1, [.insert 6 7]) := by
  unfold pushQ; rw [frame_pkt5e]; rfl

/-- … the next `push` (entered with that pending queue) consumes a packet and then applies it … -/
example : pushQ exQ ([none, none, none, none, none, some 0], 1, [.insert 6 7]) pkt5 188
    = .ok ([none, none, none, none, none, some 1, some 7], 11, []) := by
  unfold pushQ; rw [frame_pkt5]; rfl

/-- … and `chunking_irrelevantQ` applies to this cut (its hypothesis holds): two calls = one call,
with the value computed above -/
example : pushAllQ exQ ([], 0, []) [pkt5e, pkt5] 0 = pushAllQ exQ ([], 0, []) [pkt5e ++ pkt5] 0
    ∧ pushAllQ exQ ([], 0, []) [pkt5e ++ pkt5] 0
      = .ok ([none, none, none, none, none, some 1, some 7], 11, []) := by
  have hf : frame (pkt5e ++ pkt5) 0 = .ok [⟨pkt5e, 0, 5, true, false⟩, ⟨pkt5, 188, 5, false, false⟩] := by
    rw [C07.frame_append pkt5e pkt5 0 (by rw [pkt5e_len]), frame_pkt5e, pkt5e_len, Nat.zero_add,
      frame_pkt5]
    rfl
  refine ⟨chunking_irrelevantQ exQ _ pkt5e pkt5 0 (by rw [pkt5e_len]), ?_⟩
  rw [pushAllQ_single]
  unfold pushQ; rw [hf]; rfl

/-- the hypothesis of the general form is satisfiable with empty, single-packet, multi-packet and a
trailing unaligned buffer -/
example : pushAllQ exQ ([], 0, []) [[], pkt5e, [], pkt5 ++ pkt5e, pkt5 ++ [0x47, 1]] 0
    = pushAllQ exQ ([], 0, []) [pkt5e ++ (pkt5 ++ pkt5e) ++ (pkt5 ++ [0x47, 1])] 0 := by
  have := chunking_irrelevantQ_general exQ ([], 0, []) [[], pkt5e, [], pkt5 ++ pkt5e, pkt5 ++ [0x47, 1]] 0
    (by
      intro c hc
      simp only [List.dropLast, List.mem_cons, List.not_mem_nil, or_false] at hc
      rcases hc with e | e | e | e <;> subst e <;>
        simp only [List.length_append, pkt5_len, pkt5e_len, List.length_nil])
  rw [this]
  simp only [List.flatten_cons, List.flatten_nil, List.nil_append, List.append_nil, List.append_assoc]

/-- the hypotheses of the two step theorems are satisfiable -/
example : specStepQ exQ ([], 0, [.remove 3]) (exPk 5 true false)
    = .ok (Tab.insert [] 5 0, 1, [.remove 3] ++ [.insert 6 7]) :=
  construct_changes_wait_for_consumed_packet exQ [] 0 [.remove 3] (exPk 5 true false) 0 1 [.insert 6 7]
    rfl rfl rfl

example : specStepQ exQ ([none, some 4], 0, [.remove 1, .insert 0 2]) (exPk 1 false false)
    = .ok (applyChanges (Tab.insert [none, some 4] 1 5) ([.remove 1, .insert 0 2] ++ []), 10, []) :=
  pending_applied_by_next_consumed_packet exQ [none, some 4] 0 [.remove 1, .insert 0 2]
    (exPk 1 false false) 4 5 10 [] rfl rfl rfl

/-- `ofSem_agrees` on a concrete run of `exSem` (the example application of C06/C07) -/
example : pushModelQ (SemQ.ofSem exSem) ([], [], []) [exPk 1 false false, exPk 2 false false]
    = .ok ([none, none, some 51], [9001, 100, 250], []) := rfl

end Ts.Props.C07Q
