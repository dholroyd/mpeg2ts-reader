import Ts.Lemmas.R
import Ts.Model.AppQ
/-!
# Evaluating the application in the kernel

`App.outdated` mirrors `FixedBitSet::difference` and scans all 8192 PIDs; evaluated by the kernel
that scan costs seconds per table section and dwarfs everything else a concrete run does.  The CRC
table lookup walks a 256-element list under a bounds proof that grows with every step.
`Eval.outdated` computes the same list from the registered PIDs alone, `Eval.tableAt` reads the table
out of one number by shift and mask, and `Eval.consume` is `App.consume` over these.  `eval_app`
moves a closed goal about the application to that side and evaluates it there.
-/
namespace Ts.App
open Ts Ts.Demux Ts.Tables

theorem mem_outdated (reg seen : List Nat) (p : Nat) :
    p ∈ outdated reg seen ↔ p < 8192 ∧ p ∈ reg ∧ p ∉ seen := by
  simp [outdated, List.mem_filter, List.mem_range]

theorem outdated_sorted (reg seen : List Nat) : (outdated reg seen).Pairwise (· < ·) :=
  List.Pairwise.filter _ List.pairwise_lt_range

end Ts.App

namespace Ts.Eval
open Ts Ts.Demux Ts.Tables Ts.App

/-- insertion into a strictly ascending list -/
def insertAsc (p : Nat) : List Nat → List Nat
  | [] => [p]
  | q :: qs => if p < q then p :: q :: qs else if p = q then q :: qs else q :: insertAsc p qs

theorem mem_insertAsc (p x : Nat) (l : List Nat) : x ∈ insertAsc p l ↔ x = p ∨ x ∈ l := by
  induction l with
  | nil => simp [insertAsc]
  | cons q qs ih =>
    unfold insertAsc
    split
    · simp
    · split
      · subst_vars; simp
      · simp only [List.mem_cons, ih]; exact or_left_comm

theorem insertAsc_sorted (p : Nat) (l : List Nat) (h : l.Pairwise (· < ·)) :
    (insertAsc p l).Pairwise (· < ·) := by
  induction l with
  | nil => simp [insertAsc]
  | cons q qs ih =>
    have ⟨hq, hqs⟩ := List.pairwise_cons.1 h
    unfold insertAsc
    split
    · refine List.pairwise_cons.2 ⟨fun x hx => ?_, h⟩
      rcases List.mem_cons.1 hx with rfl | hx
      · assumption
      · have := hq x hx; omega
    · split
      · exact h
      · refine List.pairwise_cons.2 ⟨fun x hx => ?_, ih hqs⟩
        rcases (mem_insertAsc p x qs).1 hx with rfl | hx
        · omega
        · exact hq x hx

theorem mem_foldr_insertAsc (x : Nat) (l : List Nat) : x ∈ l.foldr insertAsc [] ↔ x ∈ l := by
  induction l with
  | nil => simp
  | cons q qs ih => simp [mem_insertAsc, ih]

theorem foldr_insertAsc_sorted (l : List Nat) : (l.foldr insertAsc []).Pairwise (· < ·) := by
  induction l with
  | nil => exact .nil
  | cons q qs ih => exact insertAsc_sorted q _ ih

def outdated (registered seen : List Nat) : List Nat :=
  (registered.filter fun p => p < 8192 && !seen.contains p).foldr insertAsc []

theorem mem_outdated (reg seen : List Nat) (p : Nat) :
    p ∈ outdated reg seen ↔ p < 8192 ∧ p ∈ reg ∧ p ∉ seen := by
  simp only [outdated, mem_foldr_insertAsc, List.mem_filter, List.contains_eq_mem, Bool.and_eq_true,
    decide_eq_true_eq, Bool.not_eq_true', decide_eq_false_iff_not]
  exact ⟨fun h => ⟨h.2.1, h.1, h.2.2⟩, fun h => ⟨h.2.1, h.1, h.2.2⟩⟩

/-- strictly ascending lists with the same members are equal -/
theorem eq_of_sorted {l₁ l₂ : List Nat} (h₁ : l₁.Pairwise (· < ·)) (h₂ : l₂.Pairwise (· < ·))
    (h : ∀ a, a ∈ l₁ ↔ a ∈ l₂) : l₁ = l₂ :=
  List.Perm.eq_of_pairwise (le := (· < ·)) (fun a b _ _ hab hba => by omega) h₁ h₂
    ((List.perm_ext_iff_of_nodup (h₁.imp Nat.ne_of_lt) (h₂.imp Nat.ne_of_lt)).2 h)

theorem outdated_eq : App.outdated = outdated := by
  funext reg seen
  exact eq_of_sorted (App.outdated_sorted reg seen) (foldr_insertAsc_sorted _) fun a => by
    rw [App.mem_outdated, mem_outdated]

/-! ### the CRC -/

/-- a list of 32-bit words as one number, word `i` in bits `32 i … 32 i + 31` -/
def pack (l : List Nat) : Nat := l.foldr (fun v acc => acc * 4294967296 + v) 0

theorem pack_getD (l : List Nat) (h : ∀ v ∈ l, v < 4294967296) (i : Nat) :
    (pack l >>> (32 * i)) % 4294967296 = l.getD i 0 := by
  induction l generalizing i with
  | nil => simp [pack]
  | cons v vs ih =>
    have hv := h v List.mem_cons_self
    cases i with
    | zero => simp [pack]; omega
    | succ i =>
      have e : pack (v :: vs) = pack vs * 4294967296 + v := rfl
      have : (pack vs * 4294967296 + v) >>> 32 = pack vs := by
        rw [Nat.shiftRight_eq_div_pow]; omega
      rw [e, Nat.mul_add, Nat.mul_one, Nat.add_comm (32 * i), Nat.shiftRight_add, this,
        List.getD_cons_succ]
      exact ih (fun x hx => h x (List.mem_cons_of_mem _ hx)) i

-- irreducible: the elaborator must not try to compute it; the kernel does, once per evaluation
@[irreducible] def packedTable : Nat := pack Ts.Gen.crcTable.toList

def tableAt (i : Nat) : R Nat :=
  if i < 256 then .ok ((packedTable >>> (32 * i)) % 4294967296) else .panic "index out of bounds"

theorem tableAt_eq : Crc.tableAt = tableAt := by
  funext i
  have hall : ∀ v ∈ Ts.Gen.crcTable.toList, v < 4294967296 := by decide +kernel
  have hsz : Ts.Gen.crcTable.size = 256 := by decide +kernel
  unfold Crc.tableAt tableAt packedTable
  rw [pack_getD _ hall]
  by_cases hi : i < 256
  · simp [hi, hsz, List.getD_eq_getElem?_getD]
  · simp [hi, hsz]

/-- `Crc.step` over `Eval.tableAt` -/
def step (crc d : Nat) : R Nat := do
  let index := ((crc >>> Ts.Gen.crcIdxShift) ^^^ d) &&& Ts.Gen.crcIdxMask
  let t ← tableAt index
  pure (((crc <<< Ts.Gen.crcUpdShift) % Crc.M) ^^^ t)

def sum32From (crc : Nat) : Bytes → R Nat
  | [] => .ok crc
  | d :: ds => do let c ← step crc d.toNat; sum32From c ds

def sum32 (data : Bytes) : R Nat := sum32From Ts.Gen.crcInit data

theorem step_eq (c d : Nat) : Crc.step c d = step c d := by
  unfold Crc.step step; rw [tableAt_eq]

-- `step` irreducible: `rfl` would otherwise unfold the table
attribute [local irreducible] Crc.step step in
theorem sum32From_eq (c : Nat) (data : Bytes) : Crc.sum32From c data = sum32From c data := by
  induction data generalizing c with
  | nil => rfl
  | cons d ds ih =>
    show (Crc.step c d.toNat >>= fun c' => Crc.sum32From c' ds) = (step c d.toNat >>= fun c' => sum32From c' ds)
    rw [step_eq]
    exact bind_congr ih

theorem sum32_eq : Crc.sum32 = sum32 := funext fun _ => sum32From_eq _ _

/-- `Psi.crcPass` over `Eval.sum32` -/
def crcPass (bypassCrc : Bool) (data : Bytes) : R Bool := do
  let b1 ← byteAt data 1
  assertR (b1 &&& 0b1000_0000 != 0) "assert!(header.section_syntax_indicator)"
  if data.length < Psi.COMMON + Psi.TSH + 4 then pure false
  else if bypassCrc then pure true
  else do
    let c ← sum32 data
    pure (c == 0)

theorem crcPass_eq : Psi.crcPass = crcPass := by
  unfold Psi.crcPass crcPass; rw [sum32_eq]

/-- `App.runDeliveries` over `Eval.crcPass` -/
def runDeliveries (sect : Ctx → List Nat → Bytes → R (Ctx × List Nat × List (Change Handler)))
    (c : Ctx) (reg : List Nat) : List Psi.Delivery → R (Ctx × List Nat × List (Change Handler))
  | [] => .ok (c, reg, [])
  | d :: ds => do
    if ← crcPass c.cfg.bypassCrc d.bytes then do
      let (c1, reg1, chg1) ← sect c reg d.bytes
      let (c2, reg2, chg2) ← runDeliveries sect c1 reg1 ds
      pure (c2, reg2, chg1 ++ chg2)
    else runDeliveries sect c reg ds

theorem runDeliveries_eq : @App.runDeliveries = @runDeliveries := by
  funext sect c reg ds
  induction ds generalizing c reg with
  | nil => rfl
  | cons d ds ih => simp only [App.runDeliveries, runDeliveries, crcPass_eq, ih]

/-! ### the table processors -/

/-- `App.patSection` over `Eval.outdated` -/
def patSection (c : Ctx) (reg : List Nat) (data : Bytes) : R (Ctx × List Nat × List (Change Handler)) := do
  let start := 8
  let end_ ← subR data.length 4
  let body ← sliceR data start end_
  let tableId ← byteAt data 0
  if tableId != 0 then pure (c, reg, [])
  else do
    let entries ← patProgramsAll body
    let (c1, chg) := entries.foldl (fun (acc : Ctx × List (Change Handler)) e =>
        let req := match e with
          | .program pn pid => Req.pmt pid pn
          | .network pid => Req.nit pid
        let (h, c') := construct acc.1 req
        (c', acc.2 ++ [Change.insert e.pid h])) (c, [])
    let seen := entries.map PatEntry.pid
    let rem ← (outdated (reg ++ seen) seen).mapM (fun p => do let q ← pidNew p; pure (Change.remove (H := Handler) q))
    pure (c1, seen, chg ++ rem)

/-- `App.pmtSection` over `Eval.outdated` -/
def pmtSection (c : Ctx) (pmtPid : Nat) (reg : List Nat) (data : Bytes) : R (Ctx × List Nat × List (Change Handler)) := do
  let start := 8
  let end_ ← subR data.length 4
  let body ← sliceR data start end_
  match ← pmtFromBytes body with
  | none => pure (c, reg, [])
  | some sect => do
    let tableId ← byteAt data 0
    if tableId != 2 then pure (c, reg, [])
    else do
      let streams ← pmtStreams sect
      let pcr ← pmtPcrPid sect
      let progDesc ← pmtDescriptorBytes sect
      if c.cfg.touch then touchPmt sect
      let (c1, chg) := streams.foldl (fun (acc : Ctx × List (Change Handler)) s =>
          let (h, c') := construct acc.1 (Req.stream pmtPid s.streamType s.pid pcr s.descBytes progDesc)
          (c', acc.2 ++ [Change.insert s.pid h])) (c, [])
      let seen := streams.map StreamInfo.pid
      let rem ← (outdated (reg ++ seen) seen).mapM (fun p => do let q ← pidNew p; pure (Change.remove (H := Handler) q))
      pure (c1, seen, chg ++ rem)

theorem patSection_eq : App.patSection = patSection := by
  unfold App.patSection patSection; rw [outdated_eq]; rfl

theorem pmtSection_eq : App.pmtSection = pmtSection := by
  unfold App.pmtSection pmtSection; rw [outdated_eq]; rfl

/-- `App.consume` over `Eval.patSection` / `Eval.pmtSection` -/
def consume (h : Handler) (c : Ctx) (pk : Pk) : R (Handler × Ctx × List (Change Handler)) :=
  match h with
  | .pat s reg => do
    let (s', ds) ← Psi.consume Psi.table s pk.bytes
    let (c', reg', chg) ← runDeliveries patSection c reg ds
    pure (.pat s' reg', c', chg)
  | .pmt pid prog s reg => do
    let (s', ds) ← Psi.consume Psi.table s pk.bytes
    let (c', reg', chg) ← runDeliveries (fun c r d => pmtSection c pid r d) c reg ds
    pure (.pmt pid prog s' reg', c', chg)
  | h => App.consume h c pk

theorem consume_eq : App.consume = consume := by
  funext h c pk
  cases h <;> simp only [App.consume, consume, patSection_eq, pmtSection_eq, runDeliveries_eq]

def sem : Sem Handler Ctx where
  consume := consume
  construct := fun c pid => .ok (construct c (.byPid pid))

def semQ (cs : List (Nat × List ScriptOp)) : DemuxQ.SemQ Handler Ctx where
  consume := consume
  construct := AppQ.constructQ cs

/- The next four are proved by `rw`, not `rfl`, on purpose: with a definitional unfolding `simp` leaves the
kernel to compare the goal before and after, and where the run is the discriminant of a `match` it
does so by evaluating the `App` side. -/
theorem sem_eq : App.sem = sem := by unfold App.sem sem; rw [consume_eq]

theorem semQ_eq (cs : List (Nat × List ScriptOp)) : AppQ.semQ cs = semQ cs := by
  unfold AppQ.semQ semQ; rw [consume_eq]

theorem runApp_eq (cfg : Cfg) (pushes : List Bytes) :
    runApp cfg pushes = pushAll sem (init cfg) pushes 0 := by unfold runApp; rw [sem_eq]

theorem runAppQ_eq (cfg : Cfg) (cs : List (Nat × List ScriptOp)) (pushes : List Bytes) :
    AppQ.runAppQ cfg cs pushes = DemuxQ.pushAllQ (semQ cs) (AppQ.initQ cfg cs) pushes 0 := by
  unfold AppQ.runAppQ; rw [semQ_eq]

end Ts.Eval

/-- `eval_app` closes a closed goal about the application by kernel evaluation on the `Eval` side;
`eval_app [f, g]` first unfolds the definitions `f`, `g` that hide the run from it (by `rw`, for the
reason given at `sem_eq`) -/
syntax "eval_app" (" [" Lean.Parser.Tactic.rwRule,* "]")? : tactic
macro_rules
  | `(tactic| eval_app) =>
    `(tactic| (simp only [Ts.Eval.runApp_eq, Ts.Eval.sem_eq, Ts.Eval.runAppQ_eq, Ts.Eval.semQ_eq, Ts.Eval.consume_eq,
        Ts.Eval.patSection_eq, Ts.Eval.pmtSection_eq, Ts.Eval.outdated_eq, Ts.Eval.runDeliveries_eq,
        Ts.Eval.crcPass_eq, Ts.Eval.sum32_eq]; decide +kernel))
  | `(tactic| eval_app [$ls,*]) => `(tactic| (rw [$ls,*]; eval_app))
