import Ts.Lemmas.Proj
import Ts.Lemmas.C02
import Ts.Spec.Protocol
/-!
# Per-consumer view of the application trace: projection and nesting

`proj τ c` is what consumer `τ` observes.  `pushSpec_view`: over any interleaving it grows by exactly
the events of its own PID's unflagged packets.  `NestInv`: for EVERY tag the projected callbacks are
accepted by the protocol acceptor of C08 from `notStarted`.
-/
namespace Ts.Lemmas.Proj
open Ts Ts.Demux Ts.App Ts.Spec.Protocol
open Ts.Lemmas.C08 (stepOf runPure)

/-! ### projection -/

/-- what consumer `τ` observes: the events of the shared trace tagged `τ`, oldest first -/
def proj (τ : Nat) (c : Ctx) : List Ev := (c.trace.reverse).filter (fun e => decide (tagOf e = some τ))

theorem proj_of_trace (τ : Nat) (c c' : Ctx) (out : List Ev) (h : c'.trace = out ++ c.trace) :
    proj τ c' = proj τ c ++ out.reverse.filter (fun e => decide (tagOf e = some τ)) := by
  unfold proj
  rw [h, List.reverse_append, List.filter_append]

theorem filter_tag_all (τ : Nat) (l : List Ev) (h : ∀ e ∈ l, tagOf e = some τ) :
    l.filter (fun e => decide (tagOf e = some τ)) = l := by
  rw [List.filter_eq_self]
  intro e he
  simp [h e he]

theorem filter_tag_none (τ : Nat) (l : List Ev) (h : ∀ e ∈ l, tagOf e ≠ some τ) :
    l.filter (fun e => decide (tagOf e = some τ)) = [] := by
  rw [List.filter_eq_nil_iff]
  intro e he
  simp [h e he]

def own (p : Nat) (xs : List Pk) : List Pk := xs.filter (fun pk => pk.pid == p && !pk.flagged)

theorem mem_own {p : Nat} {xs : List Pk} {pk : Pk} :
    pk ∈ own p xs ↔ pk ∈ xs ∧ pk.pid = p ∧ pk.flagged = false := by
  simp [own]

theorem own_cons_own {p : Nat} {pk : Pk} (xs : List Pk) (hp : pk.pid = p) (hf : pk.flagged = false) :
    own p (pk :: xs) = pk :: own p xs := by simp [own, hp, hf]

theorem own_cons_flagged {pk : Pk} (p : Nat) (xs : List Pk) (hf : pk.flagged = true) :
    own p (pk :: xs) = own p xs := by simp [own, hf]

theorem own_cons_other {p : Nat} {pk : Pk} (xs : List Pk) (hp : pk.pid ≠ p) :
    own p (pk :: xs) = own p xs := by simp [own, hp]

/-- the application events for a list of packets and the filter callbacks each caused -/
def esAll (touch : Bool) (tag : Nat) : List Pk → List (List PesFilter.Ev) → R (List (List Ev))
  | pk :: pks, evs :: evss => do
    let a ← esEvList touch tag pk.bytes pk.off evs
    let rest ← esAll touch tag pks evss
    pure (a :: rest)
  | _, _ => .ok []

theorem esAll_cons (touch : Bool) (tag : Nat) (pk : Pk) (pks : List Pk) (evs : List PesFilter.Ev)
    (evss : List (List PesFilter.Ev)) :
    esAll touch tag (pk :: pks) (evs :: evss) =
      (esEvList touch tag pk.bytes pk.off evs >>= fun a =>
        esAll touch tag pks evss >>= fun rest => R.ok (a :: rest)) := rfl

theorem pes_consume_inv (tag : Nat) (f : PesFilter.F) (c : Ctx) (pk : Pk) (h' : Handler) (c' : Ctx)
    (chg : List (Change Handler)) (hlen : pk.bytes.length = 188)
    (h : App.consume (.pes tag f) c pk = .ok (h', c', chg)) :
    ∃ l, esEvList c.cfg.touch tag pk.bytes pk.off (stepOf f pk.bytes).2 = .ok l ∧
      h' = .pes tag (stepOf f pk.bytes).1 ∧ chg = [] ∧ c' = { c with trace := l.reverse ++ c.trace } := by
  obtain ⟨f', evs, h1, hc1, rfl, rfl⟩ := C05.consume_pes_ok h
  rw [C08.consume_eq f pk.bytes hlen] at h1
  obtain ⟨l, hl, hc1⟩ := esEvents_emits _ _ _ _ _ _ _ hc1
  rw [R.ok_inj h1]
  exact ⟨l, hl, rfl, rfl, hc1⟩

def holdsPes (t : Tab Handler) (p τ : Nat) : Bool :=
  match t.get p with
  | some (.pes σ _) => σ == τ
  | _ => false

theorem holdsPes_iff (t : Tab Handler) (p τ : Nat) :
    holdsPes t p τ = true ↔ ∃ f, t.get p = some (.pes τ f) := by
  unfold holdsPes
  split
  · rename_i σ f hg
    constructor
    · intro h; have : σ = τ := by simpa using h
      subst this; exact ⟨f, hg⟩
    · rintro ⟨f', hf'⟩; rw [hg] at hf'; injection hf' with hf'; injection hf' with e _; simp [e]
  · rename_i hno
    constructor
    · intro h; cases h
    · rintro ⟨f', hf'⟩; exact absurd hf' (hno τ f')

/-- along the ACTUAL run of the dispatcher from `tc` over `xs`, slot `p` holds the PES handler with
tag `τ` after every step: consumer `τ` is neither removed nor replaced.  (A Boolean function of
the run, so it can be evaluated on a concrete run.) -/
def Keeps (p τ : Nat) : Tab Handler × Ctx → List Pk → Bool
  | _, [] => true
  | tc, pk :: pks =>
    match specStep App.sem tc pk with
    | .ok tc' => holdsPes tc'.1 p τ && Keeps p τ tc' pks
    | .panic _ => true

/-- a packet of another PID cannot change the state of consumer `τ` without replacing it by a
handler with another tag -/
theorem specStep_slot_other (t : Tab Handler) (c : Ctx) (pk : Pk) (t' : Tab Handler) (c' : Ctx)
    (p τ : Nat) (f f1 : PesFilter.F) (hi : TagInv (t, c)) (hg : t.get p = some (.pes τ f))
    (hne : pk.pid ≠ p) (h : specStep App.sem (t, c) pk = .ok (t', c'))
    (hg' : t'.get p = some (.pes τ f1)) : f1 = f := by
  obtain ⟨t1, c1, hE, hcase⟩ := specStep_ok_cases App.sem h
  have hget : t1.get p = t.get p := ensure_get_ne App.sem t c pk.pid t1 c1 hE p (Ne.symm hne)
  obtain ⟨_, hle, _⟩ := ensure_emits t c pk.pid t1 c1 hE
  rcases hcase with ⟨_, e⟩ | ⟨_, hd, h', c2, chg, hgq, hx, e⟩
  · cases e
    rw [hget, hg] at hg'
    injection hg' with hg'; injection hg' with _ e; exact e.symm
  · cases e
    obtain ⟨⟨_, hfr, _⟩, _, _⟩ := consume_facts hd c1 pk h' c' chg hx
    rcases get_applyChanges_cases chg _ p _ hg' with y | y
    · rw [Tab.get_insert_ne _ _ _ _ (Ne.symm hne), hget, hg] at y
      injection y with y; injection y with _ e; exact e.symm
    · have h1 := (chgFresh_mem chg _ _ hfr p _ τ y rfl).1
      have h2 : τ < c.nextTag := hi.1.1 p _ τ hg rfl
      have hle' : c.nextTag ≤ c1.nextTag := hle
      omega

theorem pushSpec_view (p τ : Nat) : ∀ (xs : List Pk) (t : Tab Handler) (c : Ctx) (f : PesFilter.F)
    (t' : Tab Handler) (c' : Ctx),
    TagInv (t, c) → t.get p = some (.pes τ f) →
    (∀ pk ∈ xs, pk.pid = p → pk.flagged = false → pk.bytes.length = 188) →
    Keeps p τ (t, c) xs = true →
    pushSpec App.sem (t, c) xs = .ok (t', c') →
    ∃ outs new,
      esAll c.cfg.touch τ (own p xs) (runPure f ((own p xs).map (·.bytes))).2 = .ok outs ∧
      t'.get p = some (.pes τ (runPure f ((own p xs).map (·.bytes))).1) ∧
      TagInv (t', c') ∧ c'.cfg = c.cfg ∧ c'.trace = new ++ c.trace ∧
      new.reverse.filter (fun e => decide (tagOf e = some τ)) = outs.flatten := by
  intro xs
  induction xs with
  | nil =>
    intro t c f t' c' hi hg _ _ hrun
    cases hrun
    exact ⟨[], [], rfl, hg, hi, rfl, rfl, rfl⟩
  | cons pk xs ih =>
    intro t c f t' c' hi hg h188 hK hrun
    rw [pushSpec_cons] at hrun
    obtain ⟨⟨t1, c1⟩, hstep, hrun⟩ := R.bind_eq_ok hrun
    have h188' : ∀ q ∈ xs, q.pid = p → q.flagged = false → q.bytes.length = 188 :=
      fun q hq => h188 q (List.mem_cons_of_mem _ hq)
    simp only [Keeps, hstep, Bool.and_eq_true] at hK
    obtain ⟨hK1, hN'⟩ := hK
    by_cases hp : pk.pid = p
    · cases hf : pk.flagged with
      | true =>
        have hc : t.contains pk.pid = true := (Tab.contains_eq_true_iff _ _).2 ⟨_, hp ▸ hg⟩
        rw [specStep_flagged_of_contains App.sem t c pk hc hf] at hstep
        cases hstep
        rw [own_cons_flagged p xs hf]
        exact ih t c f t' c' hi hg h188' hN' hrun
      | false =>
        have hb := h188 pk List.mem_cons_self hp hf
        have hi1 := specStep_tagInv t c pk t1 c1 hi hstep
        rw [C02.specStep_pes t c pk τ f (hp ▸ hg) hf hb] at hstep
        obtain ⟨c2, he, hstep⟩ := R.bind_eq_ok hstep
        cases hstep
        obtain ⟨l, hl, rfl⟩ := esEvents_emits _ _ _ _ _ _ _ he
        have hg1 : (t.insert pk.pid (Handler.pes τ (stepOf f pk.bytes).1)).get p
            = some (.pes τ (stepOf f pk.bytes).1) := by
          rw [hp]; exact Tab.get_insert_self _ _ _
        obtain ⟨outs, new, a1, a2, a3, a4, a5, a6⟩ := ih _ _ _ t' c' hi1 hg1 h188' hN' hrun
        have ho := own_cons_own xs hp hf
        have hl' : ∀ e ∈ l, tagOf e = some τ := fun e he => (esEvList_tagged _ _ _ _ _ _ hl e he).1
        refine ⟨l :: outs, new ++ l.reverse, ?_, ?_, a3, a4, ?_, ?_⟩
        · rw [ho]
          simp only [List.map_cons, runPure, esAll_cons, hl, R.ok_bind]
          have a1' : esAll c.cfg.touch τ (own p xs)
              (runPure (stepOf f pk.bytes).1 ((own p xs).map (·.bytes))).2 = .ok outs := a1
          rw [a1']
          rfl
        · rw [ho]; simp only [List.map_cons, runPure]; exact a2
        · rw [a5, List.append_assoc]
        · rw [List.reverse_append, List.reverse_reverse, List.filter_append, filter_tag_all τ l hl', a6,
            List.flatten_cons]
    · obtain ⟨hi1, hcfg, _, out1, ho1, hall⟩ := specStep_facts t c pk t1 c1 hi hstep
      have hg1 : t1.get p = some (.pes τ f) := by
        obtain ⟨f1, hf1⟩ := (holdsPes_iff t1 p τ).1 hK1
        rw [hf1, specStep_slot_other t c pk t1 c1 p τ f f1 hi hg hp hstep hf1]
      obtain ⟨outs, new, a1, a2, a3, a4, a5, a6⟩ := ih t1 c1 f t' c' hi1 hg1 h188' hN' hrun
      have ho := own_cons_other xs hp
      have hnone : out1.reverse.filter (fun e => decide (tagOf e = some τ)) = [] := by
        refine filter_tag_none τ _ ?_
        intro e he hτ
        rcases hall e (List.mem_reverse.1 he) τ hτ with ⟨h0, hg0, ht0⟩ | hge
        · exact hp (hi.1.2 pk.pid p h0 _ τ hg0 hg ht0 rfl)
        · have := hi.1.1 p _ τ hg rfl
          have hge' : c.nextTag ≤ τ := hge
          have hlt : τ < c.nextTag := this
          omega
      refine ⟨outs, new ++ out1, ?_, ?_, a3, by rw [a4, hcfg], ?_, ?_⟩
      · rw [ho, ← hcfg]; exact a1
      · rw [ho]; exact a2
      · rw [a5, ho1, List.append_assoc]
      · rw [List.reverse_append, List.filter_append, hnone, List.nil_append, a6]

theorem pushSpec_proj (p τ : Nat) (xs : List Pk) (t : Tab Handler) (c : Ctx) (f : PesFilter.F)
    (t' : Tab Handler) (c' : Ctx) (hi : TagInv (t, c)) (hg : t.get p = some (.pes τ f))
    (h188 : ∀ pk ∈ xs, pk.pid = p → pk.flagged = false → pk.bytes.length = 188)
    (hK : Keeps p τ (t, c) xs = true) (hrun : pushSpec App.sem (t, c) xs = .ok (t', c')) :
    ∃ outs,
      esAll c.cfg.touch τ (own p xs) (runPure f ((own p xs).map (·.bytes))).2 = .ok outs ∧
      t'.get p = some (.pes τ (runPure f ((own p xs).map (·.bytes))).1) ∧
      TagInv (t', c') ∧ proj τ c' = proj τ c ++ outs.flatten := by
  obtain ⟨outs, new, a1, a2, a3, _, a5, a6⟩ := pushSpec_view p τ xs t c f t' c' hi hg h188 hK hrun
  exact ⟨outs, a1, a2, a3, by rw [proj_of_trace τ c c' new a5, a6]⟩

/-- every event of `esAll` lies in the packet that caused it (C19's `EvInPacket`) -/
theorem esAll_inPacket (touch : Bool) (tag : Nat) : ∀ (pks : List Pk) (fs : PesFilter.F)
    (outs : List (List Ev)), (∀ pk ∈ pks, pk.bytes.length = 188) →
    esAll touch tag pks (runPure fs (pks.map (·.bytes))).2 = .ok outs →
    ∀ e ∈ outs.flatten, ∃ pk ∈ pks, C19.EvInPacket tag pk.off e := by
  intro pks
  induction pks with
  | nil =>
    intro fs outs _ h
    have : outs = [] := (R.ok_inj h).symm
    subst this
    intro e he; cases he
  | cons pk pks ih =>
    intro fs outs hlen h
    simp only [List.map_cons, runPure, esAll_cons] at h
    obtain ⟨a, ha, h⟩ := R.bind_eq_ok h
    obtain ⟨rest, hrest, h⟩ := R.bind_eq_ok h
    have := R.ok_inj h
    subst this
    intro e he
    rw [List.flatten_cons] at he
    rcases List.mem_append.1 he with x | x
    · refine ⟨pk, List.mem_cons_self, ?_⟩
      have hb := hlen pk List.mem_cons_self
      -- replay through `esEvents` on an empty context and use C19
      have hE : esEvents touch tag pk.bytes pk.off { cfg := {} } (stepOf fs pk.bytes).2
          = .ok { cfg := {}, trace := a.reverse ++ [] } := by
        rw [esEvents_eq_list, ha]; rfl
      obtain ⟨out, e1, e2, _⟩ := C19.esEvents_trace touch tag pk.bytes pk.off hb _ _ _
        (C19.stepOf_evs_ok fs pk.bytes) hE
      have : out = a.reverse := by
        simp only [List.append_nil] at e1
        exact e1.symm
      subst this
      exact e2 e (List.mem_reverse.2 x)
    · obtain ⟨q, hq, hin⟩ := ih _ rest (fun q hq => hlen q (List.mem_cons_of_mem _ hq)) hrest e x
      exact ⟨q, List.mem_cons_of_mem _ hq, hin⟩

/-! ### where tags come from -/

theorem specStep_tags_origin (t : Tab Handler) (c : Ctx) (pk : Pk) (t' : Tab Handler) (c' : Ctx)
    (h : specStep App.sem (t, c) pk = .ok (t', c')) :
    ∀ σ ∈ tagsIn t', σ ∈ tagsIn t ∨ c.nextTag ≤ σ := by
  obtain ⟨t1, c1, hE, hcase⟩ := specStep_ok_cases App.sem h
  have h1 : ∀ σ ∈ tagsIn t1, σ ∈ tagsIn t ∨ c.nextTag ≤ σ := by
    intro σ hσ
    rcases ensure_cases t c pk.pid t1 c1 hE with ⟨_, e1, _⟩ | ⟨_, e1, _⟩
    · subst e1; exact Or.inl hσ
    · subst e1
      obtain ⟨q, hd, hg, ht⟩ := (tagsIn_mem _ σ).1 hσ
      rw [Tab.get_insert] at hg
      split at hg
      · injection hg with hg; subst hg
        rcases construct_tag c (.byPid pk.pid) with x | x
        · rw [x] at ht; cases ht
        · rw [x] at ht; injection ht with ht; exact Or.inr (Nat.le_of_eq ht)
      · exact Or.inl ((tagsIn_mem _ σ).2 ⟨q, hd, hg, ht⟩)
  have hn1 : c.nextTag ≤ c1.nextTag := (ensure_emits t c pk.pid t1 c1 hE).2.1
  rcases hcase with ⟨_, e⟩ | ⟨_, hd, h', c2, chg, hg, hx, e⟩
  · cases e
    exact h1
  · cases e
    obtain ⟨⟨_, hfr, _⟩, hsame, _⟩ := consume_facts hd c1 pk h' c' chg hx
    intro σ hσ
    obtain ⟨q, hq, hgq, htq⟩ := (tagsIn_mem _ σ).1 hσ
    rcases get_applyChanges_cases chg _ q hq hgq with y | y
    · rw [Tab.get_insert] at y
      split at y
      · injection y with y; subst y
        rw [hsame] at htq
        exact h1 σ ((tagsIn_mem _ σ).2 ⟨pk.pid, hd, hg, htq⟩)
      · exact h1 σ ((tagsIn_mem _ σ).2 ⟨q, hq, y, htq⟩)
    · have := (chgFresh_mem chg _ _ hfr q hq σ y htq).1
      exact Or.inr (Nat.le_trans hn1 this)

/-! ### nesting -/

/-- the elementary-stream callbacks consumer `τ` has received, arguments erased -/
def esTrace (τ : Nat) (c : Ctx) : List PesFilter.Ev := (proj τ c).filterMap esShape

theorem protoStep_norm (s : PState) (e : PesFilter.Ev) : protoStep s (norm e) = protoStep s e := by
  cases s <;> cases e <;> rfl

theorem accepts_norm : ∀ (l : List PesFilter.Ev) (s : PState), accepts s (l.map norm) = accepts s l := by
  intro l
  induction l with
  | nil => intro s; rfl
  | cons e es ih =>
    intro s
    simp only [List.map_cons, accepts, protoStep_norm]
    cases protoStep s e with
    | none => rfl
    | some s' => exact ih s'

/-- THE NESTING INVARIANT: for every tag, the callbacks received so far are a legal protocol run
from `notStarted`; if the handler is still installed the run ends in the abstraction of its state -/
def NestInv (tc : Tab Handler × Ctx) : Prop :=
  ∀ τ, ∃ s, accepts .notStarted (esTrace τ tc.2) = some s ∧
    ∀ p f, tc.1.get p = some (.pes τ f) → s = C08.abs f.st

theorem esTrace_quiet (τ : Nat) (c c' : Ctx) (out : List Ev) (h : c'.trace = out ++ c.trace)
    (hq : ∀ e ∈ out, tagOf e = some τ → esShape e = none) : esTrace τ c' = esTrace τ c := by
  unfold esTrace
  rw [proj_of_trace τ c c' out h, List.filterMap_append]
  have : (out.reverse.filter (fun e => decide (tagOf e = some τ))).filterMap esShape = [] := by
    rw [List.filterMap_eq_nil_iff]
    intro e he
    rw [List.mem_filter] at he
    exact hq e (List.mem_reverse.1 he.1) (by simpa using he.2)
  rw [this, List.append_nil]

theorem esTrace_nil_of_ge (τ : Nat) (c : Ctx) (hc : TraceTags c) (h : c.nextTag ≤ τ) : esTrace τ c = [] := by
  unfold esTrace proj
  rw [filter_tag_none]
  · rfl
  · intro e he hτ
    have := hc e (List.mem_reverse.1 he) τ hτ
    omega

/-- a piece of code that emits no elementary-stream event and only adds PES handlers that are
fresh (initial state, tag not handed out before) preserves the nesting invariant -/
theorem nest_update (t : Tab Handler) (c : Ctx) (t' : Tab Handler) (c' : Ctx)
    (hc : TraceTags c) (hn : NestInv (t, c)) (he : Emits (fun e => esShape e = none) c c')
    (ht : ∀ q τ f, t'.get q = some (.pes τ f) →
      t.get q = some (.pes τ f) ∨ (f = {} ∧ c.nextTag ≤ τ)) : NestInv (t', c') := by
  obtain ⟨_, _, out, ho, hall⟩ := he
  intro τ
  obtain ⟨s, hs, hslot⟩ := hn τ
  have hq : esTrace τ c' = esTrace τ c := esTrace_quiet τ c c' out ho (fun e he _ => hall e he)
  refine ⟨s, by show accepts _ (esTrace τ c') = _; rw [hq]; exact hs, ?_⟩
  intro q f hg
  rcases ht q τ f hg with x | ⟨x1, x2⟩
  · exact hslot q f x
  · have hnil : esTrace τ c = [] := esTrace_nil_of_ge τ c hc x2
    have hs' : accepts .notStarted (esTrace τ c) = some s := hs
    rw [hnil] at hs'
    have : s = .notStarted := by simpa using hs'.symm
    rw [this, x1]; rfl

/-- appending events all tagged `σ` extends the callbacks of consumer `σ` and of no other -/
theorem esTrace_append_tagged (c : Ctx) (l : List Ev) (σ τ : Nat) (hl : ∀ e ∈ l, tagOf e = some σ) :
    esTrace τ { c with trace := l.reverse ++ c.trace } =
      esTrace τ c ++ (if τ = σ then l.filterMap esShape else []) := by
  unfold esTrace
  rw [proj_of_trace τ c _ l.reverse rfl, List.reverse_reverse, List.filterMap_append]
  split
  · rename_i h
    subst h
    rw [filter_tag_all τ l hl]
  · rename_i h
    rw [filter_tag_none τ l fun e he hx => h (by
      rw [hl e he] at hx; injection hx with hx; exact hx.symm)]
    rfl

theorem specStep_nest (t : Tab Handler) (c : Ctx) (pk : Pk) (t' : Tab Handler) (c' : Ctx)
    (hi : TagInv (t, c)) (hn : NestInv (t, c)) (hlen : pk.bytes.length = 188)
    (h : specStep App.sem (t, c) pk = .ok (t', c')) : NestInv (t', c') := by
  obtain ⟨t1, c1, hE, hcase⟩ := specStep_ok_cases App.sem h
  obtain ⟨hi1, he1⟩ := ensure_tagInv t c pk.pid t1 c1 hi hE
  -- lookup-or-construct
  have hn1 : NestInv (t1, c1) := by
    refine nest_update t c t1 c1 hi.2 hn (emits_mono (fun e hu => esShape_none_of_untagged e hu) he1) ?_
    intro q τ f hg
    rcases ensure_cases t c pk.pid t1 c1 hE with ⟨_, e1, _⟩ | ⟨_, e1, _⟩
    · subst e1; exact Or.inl hg
    · subst e1
      rw [Tab.get_insert] at hg
      split at hg
      · injection hg with hg
        obtain ⟨x1, x2⟩ := construct_pes c (.byPid pk.pid) τ f hg
        exact Or.inr ⟨x1, Nat.le_of_eq x2.symm⟩
      · exact Or.inl hg
  rcases hcase with ⟨_, e⟩ | ⟨_, hd, h', c2, chg, hg, hx, e⟩
  · cases e
    exact hn1
  · cases e
    by_cases hpes : ∃ σ f, hd = .pes σ f
    · -- the handler is a PES filter
      obtain ⟨σ, f, hhd⟩ := hpes
      subst hhd
      obtain ⟨l, hl, eh, ec, ectx⟩ := pes_consume_inv σ f c1 pk h' c' chg hlen hx
      subst eh ec ectx
      rw [applyChanges_nil]
      have hl' : ∀ e ∈ l, tagOf e = some σ := fun e he => (esEvList_tagged _ _ _ _ _ _ hl e he).1
      intro τ
      obtain ⟨s, hs, hslot⟩ := hn1 τ
      by_cases hτ : τ = σ
      · subst hτ
        have hs0 : s = C08.abs f.st := hslot pk.pid f hg
        refine ⟨C08.abs (stepOf f pk.bytes).1.st, ?_, ?_⟩
        · show accepts _ (esTrace τ _) = _
          rw [esTrace_append_tagged c1 l τ τ hl', if_pos rfl, esEvList_shape _ _ _ _ _ _ hl,
            accepts_append, hs, hs0, Option.bind_some, accepts_norm]
          exact C08.stepOf_accepts f pk.bytes
        · intro q f2 hgq
          rw [Tab.get_insert] at hgq
          split at hgq
          · injection hgq with hgq; injection hgq with _ hgq; rw [← hgq]
          · rename_i hne
            exact absurd (hi1.1.2 q pk.pid _ _ τ hgq hg rfl rfl) hne
      · refine ⟨s, ?_, ?_⟩
        · show accepts _ (esTrace τ _) = _
          rw [esTrace_append_tagged c1 l σ τ hl', if_neg hτ, List.append_nil]
          exact hs
        · intro q f2 hgq
          rw [Tab.get_insert] at hgq
          split at hgq
          · injection hgq with hgq; injection hgq with hgq _; exact absurd hgq.symm hτ
          · exact hslot q f2 hgq
    · -- any other handler: no elementary-stream event, only fresh PES handlers
      have hnp : ∀ σ f, hd ≠ .pes σ f := fun σ f e => hpes ⟨σ, f, e⟩
      obtain ⟨⟨hem, hfr, hfp⟩, hsame, hkind⟩ := consume_facts hd c1 pk h' c' chg hx
      refine nest_update t1 c1 _ c' hi1.2 hn1
        (emits_mono (fun e hb => evBy_shape hd e hb hnp) hem) ?_
      intro q τ f hgq
      rcases get_applyChanges_cases chg _ q _ hgq with y | y
      · rw [Tab.get_insert] at y
        split at y
        · injection y with y
          obtain ⟨f0, hf0⟩ := hkind τ f y
          exact absurd hf0 (hnp τ f0)
        · exact Or.inl y
      · exact Or.inr ⟨hfp _ y q τ f rfl, (chgFresh_mem chg _ _ hfr q _ τ y rfl).1⟩

theorem specStep_tagNest (tc : Tab Handler × Ctx) (pk : Pk) (tc' : Tab Handler × Ctx)
    (hi : TagInv tc ∧ NestInv tc) (hlen : pk.bytes.length = 188)
    (h : specStep App.sem tc pk = .ok tc') : TagInv tc' ∧ NestInv tc' :=
  ⟨specStep_tagInv tc.1 tc.2 pk tc'.1 tc'.2 hi.1 h, specStep_nest tc.1 tc.2 pk tc'.1 tc'.2 hi.1 hi.2 hlen h⟩

theorem pushAll_nest (bufs : List Bytes) (tc : Tab Handler × Ctx) (base : Nat)
    (tc' : Tab Handler × Ctx) (hi : TagInv tc) (hn : NestInv tc)
    (h : pushAll App.sem tc bufs base = .ok tc') : TagInv tc' ∧ NestInv tc' :=
  pushAll_invariant App.sem _ _ specStep_tagNest
    (fun buf base pks hf pk hpk => (C19.frame_pk_props buf base pks hf pk hpk).2.2.2.2.1)
    bufs tc tc' base ⟨hi, hn⟩ h

theorem init_nest (cfg : Cfg) : NestInv (App.init cfg) := by
  have h0 : NestInv (([] : Tab Handler), ({ cfg := cfg } : Ctx)) := by
    intro τ
    refine ⟨.notStarted, rfl, ?_⟩
    intro p f hg
    rw [Tab.get_of_ge _ _ (by simp)] at hg; cases hg
  unfold App.init
  dsimp only
  refine nest_update [] { cfg := cfg } _ _ (by intro e he; cases he) h0
    (emits_mono (fun e hu => esShape_none_of_untagged e hu) (construct_emits _ _)) ?_
  intro q τ f hg
  rw [Tab.get_insert] at hg
  split at hg
  · injection hg with hg
    obtain ⟨x1, x2⟩ := construct_pes _ _ τ f hg
    exact Or.inr ⟨x1, Nat.le_of_eq x2.symm⟩
  · exact Or.inl hg

/-! ### clauses in terms of the application events -/

def isStartOf (τ : Nat) : Ev → Bool
  | .esStart σ => σ == τ
  | _ => false

theorem count_start (τ : Nat) (c : Ctx) :
    (esTrace τ c).count .start = c.trace.countP (isStartOf τ) := by
  unfold esTrace proj
  rw [List.count_eq_countP, List.countP_filterMap, List.countP_filter, List.countP_reverse]
  apply List.countP_congr
  intro e _
  cases e <;> simp [esShape, tagOf, isStartOf]

theorem mem_esTrace (τ : Nat) (c : Ctx) (x : PesFilter.Ev) :
    x ∈ esTrace τ c ↔ ∃ e ∈ c.trace, tagOf e = some τ ∧ esShape e = some x := by
  unfold esTrace proj
  simp only [List.mem_filterMap, List.mem_filter, List.mem_reverse, decide_eq_true_eq]
  constructor
  · rintro ⟨e, ⟨h1, h2⟩, h3⟩; exact ⟨e, h1, h2, h3⟩
  · rintro ⟨e, h1, h2, h3⟩; exact ⟨e, ⟨h1, h2⟩, h3⟩

/-! ### the image of a well-formed plan's callbacks (C02 vocabulary) -/

open Ts.Spec.PesMux Ts.Lemmas.C02 in
theorem esEvList_cont (touch : Bool) (p : Bytes) (base tag : Nat) :
    esEvList touch tag p base (contEvs p) =
      .ok (match tpPayload p with
           | some (o, l) => [.esCont tag (base + o) l]
           | none => []) := by
  unfold contEvs
  rcases tpPayload p with _ | ⟨o, l⟩ <;> simp [esEvList]

open Ts.Spec.PesMux Ts.Lemmas.C02 in
theorem esEvList_first (touch : Bool) (pk : PesPkt) (hw : pk.WF) (p : Bytes) (base o l tag : Nat)
    (st : PesFilter.St) (hk : headerLen pk ≤ l) (hle : l ≤ (encodePes pk).length)
    (hh : Packet.rangeBytes p (o, l) = (encodePes pk).take l) :
    esEvList touch tag p base (openEvs st ++ [.beginPkt o l]) =
      .ok (esOpen tag st ++ [.esBegin tag (expectedBegin pk base o l)]) := by
  have hb := beginInfo_of_take pk hw p base o l hk hle hh
  have ht : touchPesHeader (Packet.rangeBytes p (o, l)) = .ok () := by
    refine Ts.Lemmas.C01.touchPesHeader_ok _ ?_
    rw [hh, List.length_take]
    unfold headerLen at hk
    omega
  cases st <;> cases touch <;> simp [openEvs, esOpen, esEvList, hb, ht]

open Ts.Spec.PesMux Ts.Lemmas.C02 in
theorem esEvList_plan_first (touch : Bool) (pes : PesPkt) (hw : pes.WF) (pl : Plan)
    (hpl : WellFormedPlan pes pl) (base tag : Nat) (st : PesFilter.St) :
    ∃ o l, tpPayload pl.first = some (o, l) ∧
      esEvList touch tag pl.first base (firstEvs st pl.first) =
        .ok (esOpen tag st ++ [.esBegin tag (expectedBegin pes base o l)]) := by
  obtain ⟨o, l, hr, _, _, _, hbytes, hk, hle⟩ := first_facts pes pl hpl
  refine ⟨o, l, hr, ?_⟩
  have : firstEvs st pl.first = openEvs st ++ [.beginPkt o l] := by unfold firstEvs; rw [hr]
  rw [this]
  exact esEvList_first touch pes hw pl.first base o l tag st hk hle hbytes

/-! ### stream offsets: every event of a packet is the packet-relative event moved to the packet's offset -/

def shiftBi (d : Nat) (bi : BeginInfo) : BeginInfo :=
  { bi with pl := bi.pl.map (fun r => (d + r.1, r.2)) }

def shiftEv (d : Nat) : Ev → Ev
  | .esBegin tag bi => .esBegin tag (shiftBi d bi)
  | .esCont tag off len => .esCont tag (d + off) len
  | .pkt tag off => .pkt tag (d + off)
  | e => e

theorem beginInfo_base (p : Bytes) (base o l : Nat) :
    beginInfo p base o l = (beginInfo p 0 o l >>= fun bi => R.ok (shiftBi base bi)) := by
  unfold beginInfo
  dsimp only
  cases Pes.streamId (Packet.rangeBytes p (o, l)) with
  | panic s => rfl
  | ok sid =>
  cases Pes.pesPacketLength (Packet.rangeBytes p (o, l)) with
  | panic s => rfl
  | ok len =>
  cases Pes.contents (Packet.rangeBytes p (o, l)) with
  | panic s => rfl
  | ok ct =>
  rcases ct with (_ | cc) | rest
  · rfl
  · simp only [R.ok_bind]
    cases Pes.ptsDts cc with
    | panic s => rfl
    | ok pd =>
    cases Pes.payloadOffset cc with
    | panic s => rfl
    | ok po => simp [shiftBi, Nat.add_assoc]
  · simp [shiftBi, Nat.add_assoc]

theorem esEv_base (touch : Bool) (tag : Nat) (p : Bytes) (base : Nat) (e : PesFilter.Ev) :
    esEv touch tag p base e = (esEv touch tag p 0 e >>= fun a => R.ok (shiftEv base a)) := by
  cases e with
  | beginPkt o l =>
    simp only [esEv]
    rw [beginInfo_base]
    cases touch <;>
      simp only [if_true, Bool.false_eq_true, if_false, bind_assoc, R.ok_bind, R.pure_eq, shiftEv]
  | cont o l => simp only [esEv, R.pure_eq, R.ok_bind, shiftEv, Nat.zero_add]
  | _ => rfl

theorem esEvList_base (touch : Bool) (tag : Nat) (p : Bytes) (base : Nat) (evs : List PesFilter.Ev) :
    esEvList touch tag p base evs =
      (esEvList touch tag p 0 evs >>= fun l => R.ok (l.map (shiftEv base))) := by
  induction evs with
  | nil => rfl
  | cons e es ih =>
    rw [esEvList_cons, esEvList_cons, esEv_base, ih]
    simp only [bind_assoc, R.ok_bind, R.pure_eq, List.map_cons]

/-- `esAll` with every packet taken at stream offset 0: the PACKET-RELATIVE events, a function of
the packets' bytes and the filter callbacks only -/
def esAllRel (touch : Bool) (tag : Nat) : List Bytes → List (List PesFilter.Ev) → R (List (List Ev))
  | b :: bs, evs :: evss => do
    let a ← esEvList touch tag b 0 evs
    let rest ← esAllRel touch tag bs evss
    pure (a :: rest)
  | _, _ => .ok []

def placeAt (pks : List Pk) (rel : List (List Ev)) : List (List Ev) :=
  List.zipWith (fun pk l => l.map (shiftEv pk.off)) pks rel

theorem esShape_shiftEv (d : Nat) (e : Ev) : esShape (shiftEv d e) = esShape e := by
  cases e <;> rfl

theorem esAll_shape (touch : Bool) (tag : Nat) : ∀ (pks : List Pk) (fs : PesFilter.F)
    (outs : List (List Ev)),
    esAll touch tag pks (runPure fs (pks.map (·.bytes))).2 = .ok outs →
    outs.flatten.filterMap esShape = ((runPure fs (pks.map (·.bytes))).2.flatten).map norm := by
  intro pks
  induction pks with
  | nil =>
    intro fs outs h
    have : outs = [] := (R.ok_inj h).symm
    subst this
    rfl
  | cons pk pks ih =>
    intro fs outs h
    simp only [List.map_cons, runPure, esAll_cons] at h ⊢
    obtain ⟨a, ha, h⟩ := R.bind_eq_ok h
    obtain ⟨rest, hrest, h⟩ := R.bind_eq_ok h
    have := R.ok_inj h
    subst this
    rw [List.flatten_cons, List.filterMap_append, List.flatten_cons, List.map_append,
      esEvList_shape _ _ _ _ _ _ ha, ih _ rest hrest]

/-! ### concrete data for the non-vacuity examples -/

deriving instance DecidableEq for Except
deriving instance DecidableEq for Ts.Pes.PtsDts
deriving instance DecidableEq for Ts.App.BeginInfo
deriving instance DecidableEq for Ts.App.Ev
deriving instance DecidableEq for Ts.App.Cfg
deriving instance DecidableEq for Ts.App.Ctx
deriving instance DecidableEq for Ts.App.Handler

section data
open Ts.Spec.PesMux

def pad (b : Bytes) : Bytes := b ++ List.replicate (188 - b.length) 0xff

/-- PAT on PID 0: program 1 → PMT PID 0x20 (CRC bytes are garbage: used with `bypassCrc`) -/
def exPat : Bytes := pad [0x47, 0x40, 0x00, 0x10, 0x00,
  0x00, 0xB0, 0x0D, 0x00, 0x01, 0xC1, 0x00, 0x00, 0x00, 0x01, 0xE0, 0x20, 0xDE, 0xAD, 0xBE, 0xEF]

/-- H.264 video on PID 0x21, AAC audio on PID 0x22 -/
def exPmt2 : Bytes := pad [0x47, 0x40, 0x20, 0x10, 0x00,
  0x02, 0xB0, 0x17, 0x00, 0x01, 0xC1, 0x00, 0x00, 0xE0, 0x21, 0xF0, 0x00,
  0x1B, 0xE0, 0x21, 0xF0, 0x00, 0x0F, 0xE0, 0x22, 0xF0, 0x00, 0xDE, 0xAD, 0xBE, 0xEF]

/-- PES header `00 00 01 e0 00 00` + optional header `80 00 00` (no PTS) -/
def pesHead : Bytes := [0, 0, 1, 0xe0, 0, 0, 0x80, 0, 0]

def exA0 : Bytes := mkTp true 0x21 0 none (pesHead ++ List.replicate 175 0x11)
def exA1 : Bytes := mkTp false 0x21 1 none (List.replicate 184 0x12)
def exA2 : Bytes := mkTp true 0x21 2 none (pesHead ++ List.replicate 175 0x13)
def exB0 : Bytes := mkTp true 0x22 7 none (pesHead ++ List.replicate 175 0x21)
def exB1 : Bytes := mkTp false 0x22 8 (some (stuffingAf 83)) (List.replicate 100 0x22)

/-- the elementary-stream part: PIDs 0x21 (A) and 0x22 (B) interleaved `A B B A A` -/
def exEs : Bytes := exA0 ++ exB0 ++ exB1 ++ exA1 ++ exA2
def exEsAlt : Bytes := exB0 ++ exB1 ++ exA0 ++ exA1 ++ exA2

def exBuf : Bytes := exPat ++ exPmt2 ++ exEs

def exPks : List Pk :=
  [⟨exA0, 376, 0x21, false, false⟩, ⟨exB0, 564, 0x22, false, false⟩, ⟨exB1, 752, 0x22, false, false⟩,
   ⟨exA1, 940, 0x21, false, false⟩, ⟨exA2, 1128, 0x21, false, false⟩]

def exBi (o : Nat) : BeginInfo := ⟨0xe0, 0, 1, some (.error .fieldNotPresent), some (o, 175)⟩

def exState : R (Tab Handler × Ctx) := runApp { bypassCrc := true } [exPat ++ exPmt2]

/-- `exState`, spelled out: PAT handler on PID 0, PMT handler on PID 0x20, PES filters tagged 2 and 3
on PIDs 0x21 and 0x22; four tags handed out -/
def exTab0 : Tab Handler :=
  some (.pat { lastVersion := some 0 } [0x20]) :: List.replicate 31 none ++
    [some (.pmt 0x20 1 { lastVersion := some 0 } [0x21, 0x22]), some (.pes 2 {}), some (.pes 3 {})]

def exCtx0 : Ctx :=
  { cfg := { bypassCrc := true }, nextTag := 4,
    trace := [.construct (.stream 0x20 0x0F 0x22 0x21 [] []) 3, .construct (.stream 0x20 0x1B 0x21 0x21 [] []) 2,
              .construct (.pmt 0x20 1) 1, .construct (.byPid 0) 0] }

/-- the PMT again with `version_number = 1`: both streams are re-announced -/
def exPmt2v1 : Bytes := pad [0x47, 0x40, 0x20, 0x11, 0x00,
  0x02, 0xB0, 0x17, 0x00, 0x01, 0xC3, 0x00, 0x00, 0xE0, 0x21, 0xF0, 0x00,
  0x1B, 0xE0, 0x21, 0xF0, 0x00, 0x0F, 0xE0, 0x22, 0xF0, 0x00, 0xDE, 0xAD, 0xBE, 0xEF]

def exA3 : Bytes := mkTp true 0x21 3 none (pesHead ++ List.replicate 175 0x14)

/-- hostile continuation of PID 0x21 after `exBuf`: a continuity jump (counter 9 after 2), a valid
PES start, a unit start on garbage (no `00 00 01`), a stray continuation -/
def exHostile : Bytes :=
  mkTp false 0x21 9 none (List.replicate 184 0x31)
  ++ mkTp true 0x21 10 none (pesHead ++ List.replicate 175 0x32)
  ++ mkTp true 0x21 11 none (List.replicate 184 0x33)
  ++ mkTp false 0x21 12 none (List.replicate 184 0x34)

end data

end Ts.Lemmas.Proj
