import Ts.Lemmas.Demux
import Ts.Lemmas.DemuxB
import Ts.Props.C06
import Ts.Props.C07
/-!
# C18 — filter changes queued during packet k take effect exactly between k and k+1, in order

All theorems hold for EVERY handler semantics `sem : Sem H C`; they are stated on `specStep` /
`pushSpec`, which `pushModel` (the real loops) equals by C06 `push_refines_spec`.  A theorem stated
as `:= lemma` is the property-level name of that lemma of `Ts/Lemmas/Demux.lean`.
-/
namespace Ts.Props.C18
open Ts Ts.Demux

variable {H C : Type}

/-- None of the changes queued while packet k is processed is in force during packet k: the
handler `h` that consumes k is the one found in the table `t1` as it was BEFORE k's own changes;
its in-place update `h'` is stored first and the queued changes `chg` are applied afterwards. -/
theorem changes_not_in_force_during_k (sem : Sem H C) (t : Tab H) (c : C) (pk : Pk)
    (t1 : Tab H) (c1 : C) (h h' : H) (c' : C) (chg : List (Change H))
    (hf : pk.flagged = false)
    (hE : ensure sem t c pk.pid = .ok (t1, c1))
    (hg : t1.get pk.pid = some h)
    (hC : sem.consume h c1 pk = .ok (h', c', chg)) :
    specStep sem (t, c) pk = .ok (applyChanges (t1.insert pk.pid h') chg, c') := by
  rw [specStep_eq, hE]
  simp only [R.ok_bind, hf, Bool.false_eq_true, if_false, hg, hC]

/-- All of them are in force when packet k+1 is dispatched — whatever its PID (also the same PID:
the cached `this_proc` of the inner loop is abandoned when changes were queued) — since k+1 is
dispatched by `specStep` on exactly the table produced above. Stated for the real loops. -/
theorem changes_in_force_at_k_plus_1 (sem : Sem H C) (t : Tab H) (c : C) (pk pk2 : Pk) (rest : List Pk)
    (t1 : Tab H) (c1 : C) (h h' : H) (c' : C) (chg : List (Change H))
    (hf : pk.flagged = false)
    (hE : ensure sem t c pk.pid = .ok (t1, c1))
    (hg : t1.get pk.pid = some h)
    (hC : sem.consume h c1 pk = .ok (h', c', chg)) :
    pushModel sem (t, c) (pk :: pk2 :: rest) =
      (specStep sem (applyChanges (t1.insert pk.pid h') chg, c') pk2 >>= fun tc =>
        pushModel sem tc rest) := by
  rw [pushModel_cons, changes_not_in_force_during_k sem t c pk t1 c1 h h' c' chg hf hE hg hC,
    R.ok_bind, pushModel_cons]

/-- The same when k is the LAST packet of one `push` call and k+1 the first packet of the next:
the first call ends in exactly that table, and the next call starts by dispatching k+1 on it. -/
theorem changes_in_force_across_push (sem : Sem H C) (tc0 : Tab H × C) (pre : List Pk)
    (t : Tab H) (c : C) (pk pk2 : Pk) (rest : List Pk)
    (t1 : Tab H) (c1 : C) (h h' : H) (c' : C) (chg : List (Change H))
    (hpre : pushModel sem tc0 pre = .ok (t, c))
    (hf : pk.flagged = false)
    (hE : ensure sem t c pk.pid = .ok (t1, c1))
    (hg : t1.get pk.pid = some h)
    (hC : sem.consume h c1 pk = .ok (h', c', chg)) :
    pushModel sem tc0 (pre ++ [pk]) = .ok (applyChanges (t1.insert pk.pid h') chg, c') ∧
    pushModel sem (applyChanges (t1.insert pk.pid h') chg, c') (pk2 :: rest) =
      (specStep sem (applyChanges (t1.insert pk.pid h') chg, c') pk2 >>= fun tc =>
        pushModel sem tc rest) ∧
    pushModel sem tc0 (pre ++ pk :: pk2 :: rest) =
      pushModel sem (applyChanges (t1.insert pk.pid h') chg, c') (pk2 :: rest) := by
  have hk := changes_not_in_force_during_k sem t c pk t1 c1 h h' c' chg hf hE hg hC
  refine ⟨?_, ?_, ?_⟩
  · rw [C07.pushModel_append, hpre, R.ok_bind, pushModel_cons, hk]; rfl
  · exact pushModel_cons sem _ pk2 rest
  · rw [C07.pushModel_append, hpre, R.ok_bind, pushModel_cons, hk, R.ok_bind]

theorem changes_in_force_across_push_bytes (sem : Sem H C) (tc : Tab H × C) (a b : Bytes) (base : Nat)
    (ha : a.length % 188 = 0) :
    pushAll sem tc [a, b] base = push sem tc (a ++ b) base := by
  have := C07.chunking_irrelevant_unaligned_last sem tc [a] b base (by simpa using ha)
  simpa using this

/-- changes are applied in the order queued -/
theorem apply_in_order (t : Tab H) (a b : List (Change H)) :
    applyChanges t (a ++ b) = applyChanges (applyChanges t a) b :=
  applyChanges_append t a b

/-- the last request for a PID wins -/
theorem last_insert_wins (t : Tab H) (cs : List (Change H)) (p : Nat) (h : H) :
    (applyChanges t (cs ++ [.insert p h])).get p = some h :=
  get_applyChanges_last t cs [] (.insert p h) (by simp)

theorem last_remove_wins (t : Tab H) (cs : List (Change H)) (p : Nat) :
    (applyChanges t (cs ++ [.remove p])).get p = none :=
  get_applyChanges_last t cs [] (.remove p) (by simp)

theorem last_change_wins (t : Tab H) (pre post : List (Change H)) (ch : Change H)
    (hpost : ∀ x ∈ post, x.pid ≠ ch.pid) :
    (applyChanges t (pre ++ ch :: post)).get ch.pid = ch.val :=
  get_applyChanges_last t pre post ch hpost

theorem unmentioned_pid_unchanged (t : Tab H) (cs : List (Change H)) (q : Nat)
    (hq : ∀ ch ∈ cs, ch.pid ≠ q) : (applyChanges t cs).get q = t.get q :=
  get_applyChanges_untouched cs t q hq

/-- removing an unregistered PID is harmless — also beyond the end of the vector: the table is
literally unchanged (no growth, and `Tab.remove` is total so no panic) -/
theorem remove_absent_noop (t : Tab H) (p : Nat) (hg : t.get p = none) :
    t.remove p = t ∧ (∀ q, (t.remove p).get q = t.get q) ∧ (t.remove p).length = t.length := by
  have := Tab.remove_of_get_none t p hg
  exact ⟨this, fun q => by rw [this], by rw [this]⟩

theorem remove_beyond_end_noop (t : Tab H) (p : Nat) (hp : t.length ≤ p) : t.remove p = t :=
  Tab.remove_of_ge t p hp

theorem table_length (t : Tab H) (p : Nat) (h : H) :
    (t.remove p).length = t.length ∧ (t.insert p h).length = max t.length (p + 1) :=
  ⟨Tab.length_remove t p, Tab.length_insert t p h⟩

/-! ### run level: the table never exceeds `max PID + 1` slots

`table_length` above is a one-step equation.  The run-level statement needs a bound on the PIDs that
packets carry and that handlers name in their changes; it is stated for EVERY `sem` relative to a
context invariant `I` (for the application of `Ts/Model/App.lean`, `I` is "the recorder script names
13-bit PIDs only": `Ts.Lemmas.C19.ScriptOk`, and the instance at `n = 0x1fff` — together with the
bound on the reassembly buffers — is `Ts.Lemmas.C19.pushSpec_inv` / `Ts.Props.C19.bounded_push`,
`retained_bounded`; C19 is not imported here). -/

theorem applyChanges_length_le (n : Nat) (cs : List (Change H)) : ∀ (t : Tab H),
    t.length ≤ n + 1 → (∀ ch ∈ cs, ch.pid ≤ n) → (applyChanges t cs).length ≤ n + 1 := by
  induction cs with
  | nil => intro t ht _; exact ht
  | cons ch cs ih =>
    intro t ht hcs
    rw [applyChanges_cons]
    apply ih
    · cases ch with
      | insert p h =>
        have hp : p ≤ n := hcs (.insert p h) (List.mem_cons_self ..)
        show (t.insert p h).length ≤ n + 1
        rw [Tab.length_insert]; omega
      | remove p =>
        show (t.remove p).length ≤ n + 1
        rw [Tab.length_remove]; exact ht
    · intro x hx; exact hcs x (List.mem_cons_of_mem _ hx)

/-- `hcons`: from a context satisfying `I`, `consume` keeps `I` and only queues changes naming PIDs
`≤ n`; `hmk`: `construct` keeps `I` -/
theorem table_length_step (sem : Sem H C) (I : C → Prop) (n : Nat)
    (hcons : ∀ h c pk h' c' chg, I c → sem.consume h c pk = .ok (h', c', chg) →
      I c' ∧ ∀ ch ∈ chg, ch.pid ≤ n)
    (hmk : ∀ c p h c', I c → sem.construct c p = .ok (h, c') → I c')
    (t : Tab H) (c : C) (pk : Pk) (t' : Tab H) (c' : C)
    (ht : t.length ≤ n + 1) (hc : I c) (hp : pk.pid ≤ n)
    (hs : specStep sem (t, c) pk = .ok (t', c')) : t'.length ≤ n + 1 ∧ I c' := by
  obtain ⟨t1, c1, hE, hr⟩ := specStep_ok_cases sem hs
  -- the table after lookup-or-construct
  have h1 : t1.length ≤ n + 1 ∧ I c1 := by
    rcases ensure_ok_cases sem hE with ⟨_, rfl, rfl⟩ | ⟨_, hd, hk, rfl⟩
    · exact ⟨ht, hc⟩
    · exact ⟨by rw [Tab.length_insert]; omega, hmk c pk.pid hd c1 hc hk⟩
  rcases hr with ⟨_, e⟩ | ⟨_, hd, h', c2, chg, _, hk, e⟩
  · cases e; exact h1
  · cases e
    obtain ⟨hI, hchg⟩ := hcons hd c1 pk h' _ chg h1.2 hk
    exact ⟨applyChanges_length_le n chg _ (by rw [Tab.length_insert]; omega) hchg, hI⟩

/-- **Whole run.**  If every packet has a PID `≤ n`, a run that does not panic ends with at most
`n + 1` slots.  With `n = 0x1fff` (every framed packet has a 13-bit PID): the table length never
exceeds max PID + 1 = 8192. -/
theorem table_length_run (sem : Sem H C) (I : C → Prop) (n : Nat)
    (hcons : ∀ h c pk h' c' chg, I c → sem.consume h c pk = .ok (h', c', chg) →
      I c' ∧ ∀ ch ∈ chg, ch.pid ≤ n)
    (hmk : ∀ c p h c', I c → sem.construct c p = .ok (h, c') → I c') :
    ∀ (pks : List Pk) (tc tc' : Tab H × C), (∀ pk ∈ pks, pk.pid ≤ n) →
      tc.1.length ≤ n + 1 → I tc.2 →
      (pushSpec sem tc pks = .ok tc' → tc'.1.length ≤ n + 1 ∧ I tc'.2) ∧
      (pushModel sem tc pks = .ok tc' → tc'.1.length ≤ n + 1 ∧ I tc'.2) := by
  intro pks tc tc' hp ht hc
  have key : pushSpec sem tc pks = .ok tc' → tc'.1.length ≤ n + 1 ∧ I tc'.2 :=
    pushSpec_invariant sem (fun tc => tc.1.length ≤ n + 1 ∧ I tc.2) (fun pk => pk.pid ≤ n)
      (fun tc pk tc' hi hpk hs =>
        table_length_step sem I n hcons hmk tc.1 tc.2 pk tc'.1 tc'.2 hi.1 hi.2 hpk hs)
      pks tc tc' ⟨ht, hc⟩ hp
  exact ⟨key, fun h => key (by rw [← pushModel_eq_pushSpec]; exact h)⟩

theorem table_length_run_13bit (sem : Sem H C) (I : C → Prop)
    (hcons : ∀ h c pk h' c' chg, I c → sem.consume h c pk = .ok (h', c', chg) →
      I c' ∧ ∀ ch ∈ chg, ch.pid ≤ 0x1fff)
    (hmk : ∀ c p h c', I c → sem.construct c p = .ok (h, c') → I c')
    (pks : List Pk) (tc tc' : Tab H × C) (hp : ∀ pk ∈ pks, pk.pid ≤ 0x1fff)
    (ht : tc.1.length ≤ 8192) (hc : I tc.2) (h : pushModel sem tc pks = .ok tc') :
    tc'.1.length ≤ 8192 :=
  ((table_length_run sem I 0x1fff hcons hmk pks tc tc' hp ht hc).2 h).1

/-- a handler may REPLACE itself: if the last change it queues for its own PID is `insert pid h2`,
then after the step the slot holds `h2`, overriding the in-place update `h'` -/
theorem self_replace (sem : Sem H C) (t : Tab H) (c : C) (pk : Pk)
    (t1 : Tab H) (c1 : C) (h h' h2 : H) (c' : C) (pre post : List (Change H))
    (hf : pk.flagged = false)
    (hE : ensure sem t c pk.pid = .ok (t1, c1))
    (hg : t1.get pk.pid = some h)
    (hC : sem.consume h c1 pk = .ok (h', c', pre ++ .insert pk.pid h2 :: post))
    (hpost : ∀ x ∈ post, x.pid ≠ pk.pid) :
    ∃ T, specStep sem (t, c) pk = .ok (T, c') ∧ T.get pk.pid = some h2 :=
  ⟨_, changes_not_in_force_during_k sem t c pk t1 c1 h h' c' _ hf hE hg hC,
    get_applyChanges_last _ pre post (.insert pk.pid h2) hpost⟩

theorem self_remove (sem : Sem H C) (t : Tab H) (c : C) (pk : Pk)
    (t1 : Tab H) (c1 : C) (h h' : H) (c' : C) (pre post : List (Change H))
    (hf : pk.flagged = false)
    (hE : ensure sem t c pk.pid = .ok (t1, c1))
    (hg : t1.get pk.pid = some h)
    (hC : sem.consume h c1 pk = .ok (h', c', pre ++ .remove pk.pid :: post))
    (hpost : ∀ x ∈ post, x.pid ≠ pk.pid) :
    ∃ T, specStep sem (t, c) pk = .ok (T, c') ∧ T.get pk.pid = none ∧ T.contains pk.pid = false := by
  have hn := get_applyChanges_last (t1.insert pk.pid h') pre post (.remove pk.pid) hpost
  exact ⟨_, changes_not_in_force_during_k sem t c pk t1 c1 h h' c' _ hf hE hg hC, hn,
    (Tab.contains_eq_false_iff _ _).2 hn⟩

/-- if the handler queues nothing about its own PID its in-place update is what remains -/
theorem self_update_persists (sem : Sem H C) (t : Tab H) (c : C) (pk : Pk)
    (t1 : Tab H) (c1 : C) (h h' : H) (c' : C) (chg : List (Change H))
    (hf : pk.flagged = false)
    (hE : ensure sem t c pk.pid = .ok (t1, c1))
    (hg : t1.get pk.pid = some h)
    (hC : sem.consume h c1 pk = .ok (h', c', chg))
    (hno : ∀ x ∈ chg, x.pid ≠ pk.pid) :
    ∃ T, specStep sem (t, c) pk = .ok (T, c') ∧ T.get pk.pid = some h' := by
  refine ⟨_, changes_not_in_force_during_k sem t c pk t1 c1 h h' c' _ hf hE hg hC, ?_⟩
  rw [get_applyChanges_untouched chg _ _ hno, Tab.get_insert_self]

/-- a PID left without a handler is offered to the application again: `ensure` requests
`construct(ByPid p)` (exactly as for a never-seen PID) and installs the result -/
theorem orphan_pid_reoffered (sem : Sem H C) (t : Tab H) (c : C) (p : Nat) (hg : t.get p = none) :
    ensure sem t c p = (sem.construct c p >>= fun r => R.ok (t.insert p r.1, r.2)) ∧
    (∀ hn cn, sem.construct c p = .ok (hn, cn) →
      ensure sem t c p = .ok (t.insert p hn, cn) ∧ (t.insert p hn).get p = some hn) := by
  have he := ensure_of_absent sem t c p ((Tab.contains_eq_false_iff t p).2 hg)
  refine ⟨he, ?_⟩
  intro hn cn hk
  rw [he, hk]
  exact ⟨rfl, Tab.get_insert_self _ _ _⟩

theorem removed_pid_reoffered (sem : Sem H C) (t : Tab H) (c : C) (p : Nat) (cs : List (Change H)) :
    ensure sem (applyChanges t (cs ++ [.remove p])) c p =
      (sem.construct c p >>= fun r => R.ok ((applyChanges t (cs ++ [.remove p])).insert p r.1, r.2)) :=
  (orphan_pid_reoffered sem _ c p (last_remove_wins t cs p)).1

/-! ### non-vacuity (`exSem`: `H := Nat` counts consumed packets, `C := List Nat` logs callbacks:
`9000+pid` = construct, `100*pid+n` = consume by the handler of `pid` in state `n`) -/

/-- PID 1's handler queues `[insert 2 50, remove 1]` (removes itself).  The second PID-1 packet is
therefore offered to the application again (second 9001) and handled by a fresh handler (state 0
again: `100`), and PID 2's packet goes to the inserted handler in state 50 (`250`). -/
example : pushModel exSem ([], []) [exPk 1 false false, exPk 1 false false, exPk 2 false false]
    = .ok ([none, none, some 51], [9001, 100, 9001, 100, 250]) := rfl

/-- PID 3's handler queues `[remove 3, insert 3 70]`: last request wins, self-replacement overrides
the in-place update (state 1), next packet is consumed in state 70 without a new `construct` -/
example : pushModel exSem ([], []) [exPk 3 false false, exPk 3 false false]
    = .ok ([none, none, none, some 70], [9003, 300, 370]) := rfl

/-- PID 4's handler queues the removal of the never-registered PID 7 (beyond the vector's end):
harmless, no growth -/
example : pushModel exSem ([], []) [exPk 4 false false, exPk 4 false false]
    = .ok ([none, none, none, none, some 2], [9004, 400, 401]) := rfl

/-- the hypotheses of `changes_not_in_force_during_k` / `self_remove` are satisfiable -/
example : ∃ t1 c1 h h' c' pre post,
    (exPk 1 false false).flagged = false ∧
    ensure exSem ([] : Tab Nat) [] (exPk 1 false false).pid = .ok (t1, c1) ∧
    t1.get (exPk 1 false false).pid = some h ∧
    exSem.consume h c1 (exPk 1 false false) = .ok (h', c', pre ++ .remove (exPk 1 false false).pid :: post) ∧
    (∀ x ∈ post, x.pid ≠ (exPk 1 false false).pid) :=
  ⟨[none, some 0], [9001], 0, 1, [9001, 100], [.insert 2 50], [], rfl, rfl, rfl, rfl, by simp⟩

example : (pushModel exSem ([], []) [exPk 1 false false] >>= fun tc => pushModel exSem tc [exPk 1 false false, exPk 2 false false])
    = pushModel exSem ([], []) [exPk 1 false false, exPk 1 false false, exPk 2 false false] :=
  (C07.pushModel_append exSem ([], []) [exPk 1 false false]
    [exPk 1 false false, exPk 2 false false]).symm

/-- the bound is attained and the PID hypothesis is needed: one packet on PID `n` grows the empty
table to exactly `n + 1` slots (`exSem`, `n = 9`) -/
example : (pushModel exSem ([], []) [exPk 9 false false]).isOk = true ∧
    (match pushModel exSem ([], []) [exPk 9 false false] with
     | .ok tc => tc.1.length | .panic _ => 0) = 10 := ⟨rfl, rfl⟩

/-- the hypotheses of `table_length_run` are satisfiable: `exSem` with `I := True`, `n = 7` (its
handlers name the PIDs 1, 2, 3, 7), on a three-packet run -/
example : ∀ tc', pushModel exSem ([], []) [exPk 1 false false, exPk 1 false false, exPk 4 false false] = .ok tc' →
    tc'.1.length ≤ 8 := by
  intro tc' h
  refine ((table_length_run exSem (fun _ => True) 7 ?_ ?_ _ ([], []) tc' ?_ (by decide) trivial).2 h).1
  · intro h c pk h' c' chg _ hC
    refine ⟨trivial, ?_⟩
    have : chg = (if pk.pid == 1 then [.insert 2 50, .remove 1]
        else if pk.pid == 3 then [.remove 3, .insert 3 70]
        else if pk.pid == 4 then [.remove 7] else []) := by
      cases hC; rfl
    subst this
    intro ch hch
    split at hch
    · simp only [List.mem_cons, List.not_mem_nil, or_false] at hch
      rcases hch with rfl | rfl <;> decide
    · split at hch
      · simp only [List.mem_cons, List.not_mem_nil, or_false] at hch
        rcases hch with rfl | rfl <;> decide
      · split at hch
        · simp only [List.mem_cons, List.not_mem_nil, or_false] at hch
          subst hch; decide
        · cases hch
  · intros; trivial
  · intro pk hpk
    simp only [List.mem_cons, List.not_mem_nil, or_false] at hpk
    rcases hpk with rfl | rfl | rfl <;> decide

end Ts.Props.C18
