import Ts.Spec.Routing
import Ts.Lemmas.C05
import Ts.Lemmas.C05Run
import Ts.Props.C16
import Ts.Props.C18
import Ts.Lemmas.AppEval
/-!
# C05 — routing follows the latest valid PAT and PMTs

After any history of valid PAT and PMT versions, a packet on a PID listed by the most recent PMT of a
program listed by the most recent PAT is handled by a handler the application built from a request
naming that PID, its stream type and the owning program map; PMT PIDs are requested as program-map
PIDs with the announced program number and network entries as NIT PIDs.  PIDs dropped by a newer
version of the same table stop being handled by the handler that table installed, and a new version
takes effect for the very next transport packet.

Known finding F7 (`removal_counterexample`): dropped PIDs are removed only if the SAME PMT filter
instance applied the older version; after a PAT version in between they are not, because the
application is asked for a new PMT filter for every listed program and its `filters_registered`
starts empty.
-/
namespace Ts.Props.C05
open Ts Ts.Tables Ts.App Ts.Demux Ts.Spec.TableSpec Ts.Spec.Routing Ts.Lemmas.C05

/-- `FixedBitSet::difference`: `outdated registered seen` lists, strictly ascending, exactly the
13-bit PIDs that are registered and not seen -/
theorem outdated_spec (registered seen : List Nat) :
    (outdated registered seen).Pairwise (· < ·) ∧
    ∀ p, p ∈ outdated registered seen ↔ p < 8192 ∧ p ∈ registered ∧ p ∉ seen :=
  ⟨outdated_sorted registered seen, mem_outdated registered seen⟩

theorem outdated_disjoint_seen (registered seen : List Nat) (p : Nat) :
    ¬ (p ∈ seen ∧ p ∈ outdated registered seen) :=
  fun h => ((mem_outdated registered seen p).1 h.2).2.2 h.1

/-- a filter that has applied no table yet removes nothing (the root of F7) -/
theorem outdated_fresh (seen : List Nat) : outdated [] seen = [] := by
  unfold outdated
  simp

/-- `construct` hands out the next tag, logs exactly one `construct` event and answers with
`handlerFor`: a fresh PMT filter (nothing registered) for a program-map request, a PES filter for a
stream request iff the stream type `is_pes`, a recorder otherwise -/
theorem construct_effect (c : Ctx) (req : Req) :
    construct c req = (handlerFor req c.nextTag,
      { c with nextTag := c.nextTag + 1, trace := Ev.construct req c.nextTag :: c.trace }) :=
  construct_eq c req

theorem handler_kinds (tag pid prog pmtPid st pcr : Nat) (ed pd : Bytes) :
    handlerFor (.pmt pid prog) tag = .pmt pid prog {} [] ∧
    handlerFor (.nit pid) tag = .recorder tag ∧
    handlerFor (.stream pmtPid st pid pcr ed pd) tag = (if isPes st then .pes tag {} else .recorder tag) :=
  ⟨rfl, rfl, rfl⟩

/-- the context after the callbacks of one table: same configuration, one tag and one event per
request (events oldest first = `constructEvents`; the trace is kept most recent first) -/
theorem ctx_after_table (c : Ctx) (reqs : List (Nat × Req)) :
    (ctxAfter c reqs).cfg = c.cfg ∧ (ctxAfter c reqs).nextTag = c.nextTag + reqs.length ∧
    (ctxAfter c reqs).trace = (constructEvents c.nextTag reqs).reverse ++ c.trace ∧
    (constructEvents c.nextTag reqs).length = reqs.length ∧
    ∀ i, (constructEvents c.nextTag reqs)[i]? = reqs[i]?.map fun x => Ev.construct x.2 (c.nextTag + i) :=
  ⟨rfl, rfl, rfl, constructEvents_length reqs _, constructEvents_get reqs _⟩

/-- `PatProcessor::section` on a section with table_id 0 (`data` = whole section incl. CRC; the
CRC layer passes nothing shorter than 12 bytes, `crc_layer_min_length`): never panics; requests and
queues exactly `patChanges`: one request + insert per entry in order with consecutive tags from
`c.nextTag`, then one remove per outdated PID ascending; the filter then remembers the PIDs just listed -/
theorem pat_new_table_effect (c : Ctx) (reg : List Nat) (data : Bytes)
    (hlen : 12 ≤ data.length) (htid : byteD data 0 = 0) :
    let entries := specPat ((data.drop 8).take (data.length - 12))
    let reqs := patRequests entries
    let seen := entries.map PatEntry.pid
    patSection c reg data = .ok (ctxAfter c reqs, seen,
      (built c.nextTag reqs).map (fun x => Change.insert x.1 x.2)
        ++ (outdated reg seen).map Change.remove) := by
  have := patSection_eq c reg data hlen
  rw [if_neg (by simp [htid])] at this
  exact this

/-- the `i`-th entry `e`: requested as a program-map PID with the announced program number, or as
the NIT PID for program number 0; the event carries tag `c.nextTag + i`; the inserted handler is the
one `construct` returns for that request at that tag -/
theorem pat_entry_effect (c : Ctx) (body : Bytes) (i : Nat) (e : PatEntry)
    (he : (specPat body)[i]? = some e) :
    let reqs := patRequests (specPat body)
    let req := match (generalizing := false) e with
      | .program pn pid => Req.pmt pid pn
      | .network pid => Req.nit pid
    reqs[i]? = some (e.pid, req) ∧
    (constructEvents c.nextTag reqs)[i]? = some (Ev.construct req (c.nextTag + i)) ∧
    (∀ ci : Ctx, ci.nextTag = c.nextTag + i →
      (built c.nextTag reqs)[i]? = some (e.pid, (construct ci req).1)) ∧
    (built c.nextTag reqs)[i]? = some (e.pid, match (generalizing := false) e with
      | .program pn pid => Handler.pmt pid pn {} []
      | .network _ => Handler.recorder (c.nextTag + i)) := by
  have hr : (patRequests (specPat body))[i]? = some (e.pid, patRequest e) := by
    unfold patRequests; rw [List.getElem?_map, he]; rfl
  dsimp only
  cases e with
  | network pid =>
    exact ⟨hr, by rw [constructEvents_get, hr]; rfl,
      fun ci hci => by rw [built_get, hr, construct_eq, hci]; rfl, by rw [built_get, hr]; rfl⟩
  | program pn pid =>
    exact ⟨hr, by rw [constructEvents_get, hr]; rfl,
      fun ci hci => by rw [built_get, hr, construct_eq, hci]; rfl, by rw [built_get, hr]; rfl⟩

/-- a section with any other table_id on the PAT PID: nothing is requested, queued or forgotten -/
theorem pat_other_table_ignored (c : Ctx) (reg : List Nat) (data : Bytes)
    (hlen : 12 ≤ data.length) (htid : byteD data 0 ≠ 0) :
    patSection c reg data = .ok (c, reg, []) := by
  rw [patSection_eq c reg data hlen, if_pos htid]

/-- the entries are exactly what C16 proves `PatSection::programs()` yields; all PIDs are 13-bit -/
theorem pat_entries_are_parsed (body : Bytes) :
    patProgramsAll body = .ok (specPat body) ∧ ∀ p ∈ (specPat body).map PatEntry.pid, p < 8192 :=
  ⟨(C16.pat_entries body).1, pat_pids_13bit body⟩

/-- what the model reads from an accepted body is what the spec names -/
theorem pmt_body_fields (body : Bytes) (hacc : specPmtAccept body) :
    pmtFromBytes body = .ok (some body) ∧
    pmtStreams body = .ok (streamsOf body) ∧
    pmtPcrPid body = .ok (specPcrPid body) ∧
    pmtDescriptorBytes body = .ok (specProgramDescBytes body) ∧
    ∀ p ∈ (streamsOf body).map StreamInfo.pid, p < 8192 := by
  refine ⟨?_, ?_, (C16.pmt_fields body hacc).1, (C16.pmt_fields body hacc).2.2.2, pmt_pids_13bit body⟩
  · rw [C16.pmt_accept_iff, if_pos hacc]
  · exact Ts.Lemmas.C16.pmtStreams_eq body hacc

/-- `PmtProcessor::section` (filter for the PMT on `pmtPid`) on a section with table_id 2 whose body
`PmtSection::from_bytes` accepts: never panics (also with the `touch` configuration that walks the
whole table and its descriptors); per stream entry in order, with consecutive tags, one stream
request (owning program-map PID, stream type, elementary PID, PCR PID, descriptor bytes) and one
insert; then one remove per outdated PID ascending; the filter then remembers the PIDs just listed -/
theorem pmt_new_table_effect (c : Ctx) (pmtPid : Nat) (reg : List Nat) (data : Bytes)
    (hlen : 12 ≤ data.length) (htid : byteD data 0 = 2)
    (hacc : specPmtAccept ((data.drop 8).take (data.length - 12))) :
    let body := (data.drop 8).take (data.length - 12)
    let streams := streamsOf body
    let reqs := pmtRequests pmtPid (specPcrPid body) (specProgramDescBytes body) streams
    let seen := streams.map StreamInfo.pid
    pmtSection c pmtPid reg data = .ok (ctxAfter c reqs, seen,
      (built c.nextTag reqs).map (fun x => Change.insert x.1 x.2)
        ++ (outdated reg seen).map Change.remove) := by
  exact pmtSection_tid2 c pmtPid reg data hlen hacc htid

/-- the `i`-th stream entry `s`: the request, the event with tag `c.nextTag + i`, the handler
`construct` returns for it — a PES filter iff `is_pes(stream_type)`, else a recorder -/
theorem pmt_entry_effect (c : Ctx) (pmtPid : Nat) (body : Bytes) (i : Nat) (s : StreamInfo)
    (hs : (streamsOf body)[i]? = some s) :
    let reqs := pmtRequests pmtPid (specPcrPid body) (specProgramDescBytes body) (streamsOf body)
    let req := Req.stream pmtPid s.streamType s.pid (specPcrPid body) s.descBytes (specProgramDescBytes body)
    reqs[i]? = some (s.pid, req) ∧
    (constructEvents c.nextTag reqs)[i]? = some (Ev.construct req (c.nextTag + i)) ∧
    (∀ ci : Ctx, ci.nextTag = c.nextTag + i →
      (built c.nextTag reqs)[i]? = some (s.pid, (construct ci req).1)) ∧
    (built c.nextTag reqs)[i]? = some (s.pid,
      if isPes s.streamType then Handler.pes (c.nextTag + i) {} else Handler.recorder (c.nextTag + i)) := by
  have hr : (pmtRequests pmtPid (specPcrPid body) (specProgramDescBytes body) (streamsOf body))[i]?
      = some (s.pid, streamRequest pmtPid (specPcrPid body) (specProgramDescBytes body) s) := by
    unfold pmtRequests; rw [List.getElem?_map, hs]; rfl
  dsimp only
  refine ⟨hr, ?_, ?_, ?_⟩
  · rw [constructEvents_get, hr]; rfl
  · intro ci hci
    rw [built_get, hr, construct_eq, hci]; rfl
  · rw [built_get, hr]; rfl

/-- a body `PmtSection::from_bytes` rejects, or any other table_id: nothing happens -/
theorem pmt_rejected_or_other_table_ignored (c : Ctx) (pmtPid : Nat) (reg : List Nat) (data : Bytes)
    (hlen : 12 ≤ data.length)
    (h : ¬ specPmtAccept ((data.drop 8).take (data.length - 12)) ∨ byteD data 0 ≠ 2) :
    pmtSection c pmtPid reg data = .ok (c, reg, []) := by
  rw [pmtSection_eq c pmtPid reg data hlen]
  dsimp only
  by_cases ha : specPmtAccept ((data.drop 8).take (data.length - 12))
  · rcases h with h | h
    · exact absurd ha h
    · rw [if_neg (not_not_intro ha), if_pos h]
  · rw [if_pos ha]

/-- the CRC layer never hands on a section shorter than 12 bytes, so the length hypotheses above
always hold where the processors are called (`runDeliveries`) -/
theorem crc_layer_min_length (bypass : Bool) (data : Bytes) (h : Psi.crcPass bypass data = .ok true) :
    12 ≤ data.length := crcPass_true_len bypass data h

/-- Let `t'` be the table after applying `inserts ++ removes` of one table (`listed` = (pid, handler)
per entry in order, `reg` = what the previous version applied by this filter had installed). Then
slot by slot `t'` is the spec's function update `applied`; in particular
(1) a listed PID holds the handler built for its LAST entry,
(2) an outdated PID is empty (not `contains`),
(3) every other slot is unchanged,
(4) no PID is both listed and outdated. -/
theorem routing_after_table {H : Type} (t : Tab H) (listed : List (Nat × H)) (reg seen : List Nat)
    (hseen : listed.map (·.1) = seen) :
    let t' := applyChanges t (listed.map (fun x => Change.insert x.1 x.2)
      ++ (outdated reg seen).map Change.remove)
    (∀ p, t'.get p = applied t.get listed reg p) ∧
    (∀ pre p h post, listed = pre ++ (p, h) :: post → (∀ x ∈ post, x.1 ≠ p) → t'.get p = some h) ∧
    (∀ p ∈ outdated reg seen, t'.get p = none ∧ t'.contains p = false) ∧
    (∀ p, p ∉ seen → p ∉ outdated reg seen → t'.get p = t.get p) ∧
    (∀ p, ¬ (p ∈ seen ∧ p ∈ outdated reg seen)) := by
  subst hseen
  have hall := get_applied t listed reg
  dsimp only
  refine ⟨hall, ?_, ?_, ?_, fun p => outdated_disjoint_seen reg _ p⟩
  · intro pre p h post e hpost
    rw [hall, applied_of_lastFor _ _ _ _ h (e ▸ lastFor_of_split pre post p h hpost)]
  · intro p hp
    have hns : p ∉ listed.map (·.1) := fun hm => outdated_disjoint_seen reg _ p ⟨hm, hp⟩
    have hg : (applyChanges t (listed.map (fun x => Change.insert x.1 x.2)
        ++ (outdated reg (listed.map (·.1))).map Change.remove)).get p = none := by
      rw [hall, applied_of_not_mem _ _ _ _ hns, if_pos (show Outdated _ _ _ from (mem_outdated _ _ _).1 hp)]
    exact ⟨hg, (Tab.contains_eq_false_iff _ _).2 hg⟩
  · intro p hns ho
    rw [hall, applied_of_not_mem _ _ _ _ hns,
      if_neg fun hh : Outdated _ _ _ => ho ((mem_outdated _ _ _).2 hh)]

theorem routing_after_pat (t : Tab Handler) (c : Ctx) (reg : List Nat) (body : Bytes) :
    let listed := built c.nextTag (patRequests (specPat body))
    let seen := (specPat body).map PatEntry.pid
    let t' := applyChanges t (patChanges c reg body)
    (∀ p, t'.get p = applied t.get listed reg p) ∧
    (∀ pre p h post, listed = pre ++ (p, h) :: post → (∀ x ∈ post, x.1 ≠ p) → t'.get p = some h) ∧
    (∀ p ∈ outdated reg seen, t'.get p = none ∧ t'.contains p = false) ∧
    (∀ p, p ∉ seen → p ∉ outdated reg seen → t'.get p = t.get p) :=
  have h := routing_after_table t (built c.nextTag (patRequests (specPat body))) reg
    ((specPat body).map PatEntry.pid) (by rw [built_pids, patRequests_pids])
  ⟨h.1, h.2.1, h.2.2.1, h.2.2.2.1⟩

theorem routing_after_pmt (t : Tab Handler) (c : Ctx) (pmtPid : Nat) (reg : List Nat) (body : Bytes) :
    let listed := built c.nextTag
      (pmtRequests pmtPid (specPcrPid body) (specProgramDescBytes body) (streamsOf body))
    let seen := (streamsOf body).map StreamInfo.pid
    let t' := applyChanges t (pmtChanges c pmtPid reg body)
    (∀ p, t'.get p = applied t.get listed reg p) ∧
    (∀ pre p h post, listed = pre ++ (p, h) :: post → (∀ x ∈ post, x.1 ≠ p) → t'.get p = some h) ∧
    (∀ p ∈ outdated reg seen, t'.get p = none ∧ t'.contains p = false) ∧
    (∀ p, p ∉ seen → p ∉ outdated reg seen → t'.get p = t.get p) :=
  have h := routing_after_table t (built c.nextTag
      (pmtRequests pmtPid (specPcrPid body) (specProgramDescBytes body) (streamsOf body))) reg
    ((streamsOf body).map StreamInfo.pid) (by rw [built_pids, pmtRequests_pids])
  ⟨h.1, h.2.1, h.2.2.1, h.2.2.2.1⟩

/-- a PID whose slot was emptied stops being handled by the handler the table had installed: when
it next appears the application is asked again (`ByPid`), exactly as for a never-seen PID (C18) -/
theorem dropped_pid_reoffered {t' : Tab Handler} (c : Ctx) (p : Nat) (hg : t'.get p = none) :
    ensure sem t' c p = .ok (t'.insert p (construct c (.byPid p)).1, (construct c (.byPid p)).2) := by
  have := (C18.orphan_pid_reoffered sem t' c p hg).1
  rw [this]; rfl

/-- a packet on a PID whose slot holds `h` is consumed by exactly `h` (C06) -/
theorem packet_on_listed_pid_handled (t' : Tab Handler) (c : Ctx) (pk : Pk) (h : Handler)
    (hg : t'.get pk.pid = some h) (hf : pk.flagged = false) :
    specStep sem (t', c) pk =
      (App.consume h c pk >>= fun x => R.ok (applyChanges (t'.insert pk.pid x.1) x.2.2, x.2.1)) :=
  specStep_consume_of_contains sem t' c pk h
    ((Tab.contains_eq_true_iff _ _).2 ⟨h, hg⟩) hf hg

/-- the PAT filter, on a packet that completes one section (table_id 0) passing the CRC layer:
answers with exactly the requests / queue of `pat_new_table_effect` and remembers the PIDs listed -/
theorem pat_handler_applies_section (s : Psi.St) (reg : List Nat) (c : Ctx) (pk : Pk) (s' : Psi.St)
    (d : Psi.Delivery)
    (hP : Psi.consume Psi.table s pk.bytes = .ok (s', [d]))
    (hcrc : Psi.crcPass c.cfg.bypassCrc d.bytes = .ok true)
    (htid : byteD d.bytes 0 = 0) :
    App.consume (.pat s reg) c pk = .ok (.pat s' ((specPat (sectionBody d.bytes)).map PatEntry.pid),
      ctxAfter c (patRequests (specPat (sectionBody d.bytes))), patChanges c reg (sectionBody d.bytes)) :=
  consume_pat_one s reg c pk s' d hP hcrc htid

/-- the same for a PMT filter: the SAME instance (`pid`, `prog`) continues with `reg` := PIDs listed -/
theorem pmt_handler_applies_section (pid prog : Nat) (s : Psi.St) (reg : List Nat) (c : Ctx) (pk : Pk)
    (s' : Psi.St) (d : Psi.Delivery)
    (hP : Psi.consume Psi.table s pk.bytes = .ok (s', [d]))
    (hcrc : Psi.crcPass c.cfg.bypassCrc d.bytes = .ok true)
    (hacc : specPmtAccept (sectionBody d.bytes)) (htid : byteD d.bytes 0 = 2) :
    App.consume (.pmt pid prog s reg) c pk =
      .ok (.pmt pid prog s' ((streamsOf (sectionBody d.bytes)).map StreamInfo.pid),
        ctxAfter c (pmtRequests pid (specPcrPid (sectionBody d.bytes))
          (specProgramDescBytes (sectionBody d.bytes)) (streamsOf (sectionBody d.bytes))),
        pmtChanges c pid reg (sectionBody d.bytes)) :=
  consume_pmt_one pid prog s reg c pk s' d hP hcrc hacc htid

/-- C18 for the application: whatever handler consumed packet `pk` and whatever it queued, the very
next packet `pk2` (ANY PID, also `pk.pid` itself) is dispatched on the table with all of `chg`
applied.  Stated for the real loops (`pushModel`). -/
theorem takes_effect_next_packet (t : Tab Handler) (c : Ctx) (pk pk2 : Pk) (rest : List Pk)
    (t1 : Tab Handler) (c1 : Ctx) (h h' : Handler) (c' : Ctx) (chg : List (Change Handler))
    (hf : pk.flagged = false)
    (hE : ensure sem t c pk.pid = .ok (t1, c1))
    (hg : t1.get pk.pid = some h)
    (hC : App.consume h c1 pk = .ok (h', c', chg)) :
    pushModel sem (t, c) (pk :: pk2 :: rest) =
      (specStep sem (applyChanges (t1.insert pk.pid h') chg, c') pk2 >>= fun tc =>
        pushModel sem tc rest) :=
  C18.changes_in_force_at_k_plus_1 sem t c pk pk2 rest t1 c1 h h' c' chg hf hE hg hC

/-- … instantiated for a PAT version: the table that dispatches the packet after the one completing
the section is exactly `t'` = (table with the filter's own state stored) + `patChanges`, whose slots
`routing_after_pat` describes -/
theorem takes_effect_next_packet_pat (t : Tab Handler) (c : Ctx) (pk pk2 : Pk) (rest : List Pk)
    (t1 : Tab Handler) (c1 : Ctx) (s : Psi.St) (reg : List Nat) (s' : Psi.St) (d : Psi.Delivery)
    (hf : pk.flagged = false)
    (hE : ensure sem t c pk.pid = .ok (t1, c1))
    (hg : t1.get pk.pid = some (.pat s reg))
    (hP : Psi.consume Psi.table s pk.bytes = .ok (s', [d]))
    (hcrc : Psi.crcPass c1.cfg.bypassCrc d.bytes = .ok true)
    (htid : byteD d.bytes 0 = 0) :
    let body := sectionBody d.bytes
    let t' := applyChanges (t1.insert pk.pid (.pat s' ((specPat body).map PatEntry.pid)))
      (patChanges c1 reg body)
    pushModel sem (t, c) (pk :: pk2 :: rest) =
      (specStep sem (t', ctxAfter c1 (patRequests (specPat body))) pk2 >>= fun tc =>
        pushModel sem tc rest) :=
  takes_effect_next_packet t c pk pk2 rest t1 c1 _ _ _ _ hf hE hg
    (consume_pat_one s reg c1 pk s' d hP hcrc htid)

theorem takes_effect_next_packet_pmt (t : Tab Handler) (c : Ctx) (pk pk2 : Pk) (rest : List Pk)
    (t1 : Tab Handler) (c1 : Ctx) (pid prog : Nat) (s : Psi.St) (reg : List Nat) (s' : Psi.St)
    (d : Psi.Delivery)
    (hf : pk.flagged = false)
    (hE : ensure sem t c pk.pid = .ok (t1, c1))
    (hg : t1.get pk.pid = some (.pmt pid prog s reg))
    (hP : Psi.consume Psi.table s pk.bytes = .ok (s', [d]))
    (hcrc : Psi.crcPass c1.cfg.bypassCrc d.bytes = .ok true)
    (hacc : specPmtAccept (sectionBody d.bytes)) (htid : byteD d.bytes 0 = 2) :
    let body := sectionBody d.bytes
    let t' := applyChanges (t1.insert pk.pid (.pmt pid prog s' ((streamsOf body).map StreamInfo.pid)))
      (pmtChanges c1 pid reg body)
    pushModel sem (t, c) (pk :: pk2 :: rest) =
      (specStep sem (t', ctxAfter c1 (pmtRequests pid (specPcrPid body) (specProgramDescBytes body)
        (streamsOf body))) pk2 >>= fun tc => pushModel sem tc rest) :=
  takes_effect_next_packet t c pk pk2 rest t1 c1 _ _ _ _ hf hE hg
    (consume_pmt_one pid prog s reg c1 pk s' d hP hcrc hacc htid)

/-- a packet consumed by an elementary-stream handler changes no slot other than its own, and its
own slot keeps the same handler instance (same tag): what a table installed stays in force until
a later table touches it -/
theorem es_packet_keeps_routing (t : Tab Handler) (c : Ctx) (pk : Pk) (tag : Nat) (f : PesFilter.F)
    (t2 : Tab Handler) (c2 : Ctx)
    (hg : t.get pk.pid = some (.pes tag f)) (hf : pk.flagged = false)
    (hs : specStep sem (t, c) pk = .ok (t2, c2)) :
    (∃ f', t2.get pk.pid = some (.pes tag f')) ∧ ∀ q, q ≠ pk.pid → t2.get q = t.get q := by
  rw [packet_on_listed_pid_handled t c pk _ hg hf] at hs
  obtain ⟨⟨h', c', chg⟩, hc, hs⟩ := R.bind_eq_ok hs
  obtain ⟨f', -, -, -, rfl, rfl⟩ := consume_pes_ok hc
  cases hs
  exact ⟨⟨f', Tab.get_insert_self _ _ _⟩, fun q hq => Tab.get_insert_ne _ _ _ _ hq⟩

/-- a packet on a PMT PID that completes no section changes nothing but the filter's reassembly
state: same instance, same remembered PIDs, no request, every other slot untouched -/
theorem pmt_packet_without_section_keeps_routing (t : Tab Handler) (c : Ctx) (pk : Pk)
    (pid prog : Nat) (s s' : Psi.St) (reg : List Nat)
    (hg : t.get pk.pid = some (.pmt pid prog s reg)) (hf : pk.flagged = false)
    (hP : Psi.consume Psi.table s pk.bytes = .ok (s', [])) :
    specStep sem (t, c) pk = .ok (t.insert pk.pid (.pmt pid prog s' reg), c) := by
  rw [packet_on_listed_pid_handled t c pk _ hg hf, consume_pmt_none pid prog s reg c pk s' hP]
  rfl

theorem pat_packet_without_section_keeps_routing (t : Tab Handler) (c : Ctx) (pk : Pk)
    (s s' : Psi.St) (reg : List Nat)
    (hg : t.get pk.pid = some (.pat s reg)) (hf : pk.flagged = false)
    (hP : Psi.consume Psi.table s pk.bytes = .ok (s', [])) :
    specStep sem (t, c) pk = .ok (t.insert pk.pid (.pat s' reg), c) := by
  rw [packet_on_listed_pid_handled t c pk _ hg hf, consume_pat_none s reg c pk s' hP]
  rfl

/-- If the SAME PMT filter instance — `.pmt pid prog s reg` with `reg` = the PIDs listed by the
previous version it applied (`bodyOld`) — applies a newer version that does not list `q`, then `q`
is outdated, `remove q` is queued, and after the queue is drained slot `q` is empty whatever the
table was. -/
theorem removal_partial (pid prog : Nat) (s : Psi.St) (bodyOld : Bytes) (c : Ctx) (pk : Pk) (s' : Psi.St)
    (d : Psi.Delivery) (q : Nat)
    (hP : Psi.consume Psi.table s pk.bytes = .ok (s', [d]))
    (hcrc : Psi.crcPass c.cfg.bypassCrc d.bytes = .ok true)
    (hacc : specPmtAccept (sectionBody d.bytes)) (htid : byteD d.bytes 0 = 2)
    (hq : q ∈ (streamsOf bodyOld).map StreamInfo.pid)
    (hdrop : q ∉ (streamsOf (sectionBody d.bytes)).map StreamInfo.pid) :
    let reg := (streamsOf bodyOld).map StreamInfo.pid
    let seen := (streamsOf (sectionBody d.bytes)).map StreamInfo.pid
    ∃ c' chg, App.consume (.pmt pid prog s reg) c pk = .ok (.pmt pid prog s' seen, c', chg) ∧
      q ∈ outdated reg seen ∧ Change.remove q ∈ chg ∧
      ∀ t : Tab Handler, (applyChanges t chg).get q = none ∧ (applyChanges t chg).contains q = false := by
  dsimp only
  have hout : q ∈ outdated ((streamsOf bodyOld).map StreamInfo.pid)
      ((streamsOf (sectionBody d.bytes)).map StreamInfo.pid) :=
    (mem_outdated _ _ _).2 ⟨pmt_pids_13bit bodyOld q hq, hq, hdrop⟩
  refine ⟨_, _, consume_pmt_one pid prog s _ c pk s' d hP hcrc hacc htid, hout, ?_, ?_⟩
  · unfold pmtChanges
    exact List.mem_append_right _ (List.mem_map.2 ⟨q, hout, rfl⟩)
  · intro t
    exact (routing_after_pmt t c pid _ (sectionBody d.bytes)).2.2.1 q hout

/-- the general form, for any remembered set `reg` (13-bit PIDs) -/
theorem removal_partial_any_reg (c : Ctx) (pmtPid : Nat) (reg : List Nat) (data : Bytes) (q : Nat)
    (hlen : 12 ≤ data.length) (htid : byteD data 0 = 2) (hacc : specPmtAccept (sectionBody data))
    (hq : q ∈ reg) (h13 : q < 8192) (hdrop : q ∉ (streamsOf (sectionBody data)).map StreamInfo.pid) :
    ∃ c' chg, pmtSection c pmtPid reg data = .ok (c', (streamsOf (sectionBody data)).map StreamInfo.pid, chg) ∧
      Change.remove q ∈ chg ∧ ∀ t : Tab Handler, (applyChanges t chg).get q = none := by
  have hout : q ∈ outdated reg ((streamsOf (sectionBody data)).map StreamInfo.pid) :=
    (mem_outdated _ _ _).2 ⟨h13, hq, hdrop⟩
  refine ⟨_, _, pmtSection_tid2 c pmtPid reg data hlen hacc htid, ?_, ?_⟩
  · unfold pmtChanges
    exact List.mem_append_right _ (List.mem_map.2 ⟨q, hout, rfl⟩)
  · intro t
    exact ((routing_after_pmt t c pmtPid reg (sectionBody data)).2.2.1 q hout).1

/-- … but a FRESH PMT filter (as built for every program entry of every PAT version) never queues a
removal, whatever the table lists: this is why F7 happens -/
theorem fresh_pmt_filter_removes_nothing (c : Ctx) (pmtPid : Nat) (body : Bytes) :
    pmtChanges c pmtPid [] body =
      (built c.nextTag (pmtRequests pmtPid (specPcrPid body) (specProgramDescBytes body)
        (streamsOf body))).map (fun x => Change.insert x.1 x.2) ∧
    ∀ (t : Tab Handler) (q : Nat), q ∉ (streamsOf body).map StreamInfo.pid →
      (applyChanges t (pmtChanges c pmtPid [] body)).get q = t.get q := by
  refine ⟨by unfold pmtChanges; rw [outdated_fresh]; simp, ?_⟩
  intro t q hq
  refine (routing_after_pmt t c pmtPid [] body).2.2.2 q hq ?_
  rw [outdated_fresh]; simp

open Ts.Lemmas.C05Run in
/-- History (bytes from the generator's `F7` / `F7control` probes, one `push`, run through
`App.runApp {}`):
PAT v0 {1 → 0x100}, PMT v0 on 0x100 {0x1b@0x101, 0x0f@0x102}, PAT v1 {1 → 0x100, 2 → 0x110},
PMT v1 on 0x100 {0x1b@0x101}, then a packet on 0x102.

* F7: no panic; before AND after the probe packet slot 0x102 holds the PES handler with tag 3 — the
  one built for `stream 0x100 0x0f 0x102` of PMT v0 — although the current PMT (applied by the filter
  with tag 4 that PAT v1 requested, remembering only 0x101) does not list 0x102; the
  application is never asked `ByPid 0x102`.
* control (no PAT v1): the filter that applied PMT v0 applies v1: slot 0x102 is empty after the
  tables, and the probe packet makes the application get `ByPid 0x102` (tag 5), which records it. -/
theorem removal_counterexample :
    (∃ t c, runApp {} [patV0 ++ pmtV0 ++ patV1 ++ pmtV1] = .ok (t, c) ∧
      (∃ f, t.get 0x102 = some (.pes 3 f)) ∧
      (∃ s, t.get 0x100 = some (.pmt 0x100 1 s [0x101]))) ∧
    (∃ t c, runApp {} [f7Bytes] = .ok (t, c) ∧
      (∃ f, t.get 0x102 = some (.pes 3 f)) ∧
      Ev.construct (.stream 0x100 0x0f 0x102 0x101 [] []) 3 ∈ c.trace ∧
      Ev.construct (.pmt 0x100 1) 4 ∈ c.trace ∧
      (∀ tag, Ev.construct (.byPid 0x102) tag ∉ c.trace) ∧
      constructs c = [(.byPid 0, 0), (.pmt 0x100 1, 1), (.stream 0x100 0x1b 0x101 0x101 [] [], 2),
        (.stream 0x100 0x0f 0x102 0x101 [] [], 3), (.pmt 0x100 1, 4), (.pmt 0x110 2, 5),
        (.stream 0x100 0x1b 0x101 0x101 [] [], 6)]) ∧
    (∃ t c, runApp {} [patV0 ++ pmtV0 ++ pmtV1] = .ok (t, c) ∧ t.get 0x102 = none) ∧
    (∃ t c, runApp {} [ctlBytes] = .ok (t, c) ∧
      t.get 0x102 = some (.recorder 5) ∧
      Ev.construct (.byPid 0x102) 5 ∈ c.trace ∧ pkts c = [(5, 564)]) := by
  refine ⟨?_, ?_, ?_, ?_⟩
  · obtain ⟨t, c, hr, -, -, h100, -, h102, -⟩ := observe_some _ _ f7_tables
    exact ⟨t, c, hr, slot_pes _ _ h102, slot_pmt _ _ _ _ h100⟩
  · obtain ⟨t, c, hr, hc, -, -, -, h102, -⟩ := observe_some _ _ f7_run
    refine ⟨t, c, hr, slot_pes _ _ h102, ?_, ?_, ?_, hc⟩
    · rw [← mem_constructs, hc]; decide
    · rw [← mem_constructs, hc]; decide
    · intro tag hm
      rw [← mem_constructs, hc] at hm
      simp [constructsV0] at hm
  · obtain ⟨t, c, hr, -, -, -, -, h102, -⟩ := observe_some _ _ ctl_tables
    exact ⟨t, c, hr, slot_empty _ h102⟩
  · obtain ⟨t, c, hr, hc, hp, -, -, h102, -⟩ := observe_some _ _ ctl_run
    refine ⟨t, c, hr, slot_recorder _ _ h102, ?_, hp⟩
    rw [← mem_constructs, hc]; decide

/-! ### non-vacuity -/

/-! `patSectionEx` (`Ts/Spec/Routing.lean`): table_id 0, NIT on 0x10, program 1 on 0x100 -/

example : specPat (sectionBody patSectionEx) = [.network 0x10, .program 1 0x100] := by decide

/-- `pat_new_table_effect` on it, by a filter that had 0x100 and 0x200 registered: NIT request then
PMT request, tags 7 and 8, and 0x200 removed -/
example : ∃ c', patSection { cfg := {}, nextTag := 7 } [0x100, 0x200] patSectionEx =
      .ok (c', [0x10, 0x100],
        [.insert 0x10 (.recorder 7), .insert 0x100 (.pmt 0x100 1 {} []), .remove 0x200]) ∧
    c'.nextTag = 9 ∧ c'.trace = [.construct (.pmt 0x100 1) 8, .construct (.nit 0x10) 7] := by
  have h := pat_new_table_effect { cfg := {}, nextTag := 7 } [0x100, 0x200] patSectionEx (by decide) (by decide)
  have e : specPat ((patSectionEx.drop 8).take (patSectionEx.length - 12)) = [.network 0x10, .program 1 0x100] := by
    decide
  dsimp only at h
  rw [e] at h
  have ho : outdated [0x100, 0x200] ([PatEntry.network 0x10, .program 1 0x100].map PatEntry.pid) = [0x200] := by
    eval_app
  rw [ho] at h
  exact ⟨_, h, rfl, rfl⟩

/-! `pmtSectionEx` (`Ts/Spec/Routing.lean`): table_id 2, body `pmtExample` (H.264 on 0x100, AAC on 0x101) -/

example : sectionBody pmtSectionEx = pmtExample := by decide
example : specPmtAccept (sectionBody pmtSectionEx) := by decide
example : streamsOf pmtExample
    = [⟨0x1b, 0x100, []⟩, ⟨0x0f, 0x101, [0x0a, 0x04, 0x65, 0x6e, 0x67, 0x00]⟩] := by
  decide +kernel

/-- the model run on it (PMT filter on 0x30 that had 0x100 and 0x1ff registered): two stream
requests, two PES filters (both types are PES), 0x1ff removed -/
example : (pmtSection { cfg := {}, nextTag := 2 } 0x30 [0x100, 0x1ff] pmtSectionEx).isOk = true := by
  eval_app

/-- the hypotheses of `removal_partial_any_reg` are satisfiable -/
example : ∃ c' chg, pmtSection { cfg := {} } 0x30 [0x100, 0x1ff] pmtSectionEx = .ok (c', [0x100, 0x101], chg) ∧
    Change.remove 0x1ff ∈ chg := by
  have hs : (streamsOf (sectionBody pmtSectionEx)).map StreamInfo.pid = [0x100, 0x101] := by
    decide +kernel
  obtain ⟨c', chg, h1, h2, -⟩ := removal_partial_any_reg { cfg := {} } 0x30 [0x100, 0x1ff] pmtSectionEx 0x1ff
    (by decide) (by decide) (by decide) (by decide) (by decide) (by rw [hs]; decide)
  rw [hs] at h1
  exact ⟨c', chg, h1, h2⟩

/-- `routing_after_table` on a small table: last entry for PID 5 wins, outdated 9 is emptied, 3 keeps
its handler -/
example : let t : Tab Nat := [none, none, none, some 30, none, some 50, none, none, none, some 90]
    let t' := applyChanges t ([(5, 51), (7, 70), (5, 52)].map (fun x => Change.insert x.1 x.2)
      ++ (outdated [5, 9] [5, 7, 5]).map Change.remove)
    t'.get 5 = some 52 ∧ t'.get 7 = some 70 ∧ t'.get 9 = none ∧ t'.get 3 = some 30 := by
  eval_app

example : outdated [5, 9, 9000] [5, 7, 5] = [9] := by eval_app

/-- the hypotheses of `takes_effect_next_packet_pat` / `pat_handler_applies_section` are satisfiable:
the first packet of the F7 history, consumed by the initial PAT filter -/
example : ∃ s' d, Psi.consume Psi.table {} Ts.Lemmas.C05Run.patV0 = .ok (s', [d]) ∧
    Psi.crcPass false d.bytes = .ok true ∧ byteD d.bytes 0 = 0 ∧
    specPat (sectionBody d.bytes) = [.program 1 0x100] := by
  have h : (match Psi.consume Psi.table {} Ts.Lemmas.C05Run.patV0 with
      | .ok (_, [d]) =>
        (match Psi.crcPass false d.bytes with | .ok true => true | _ => false) &&
          byteD d.bytes 0 == 0 && decide (specPat (sectionBody d.bytes) = [.program 1 0x100])
      | _ => false) = true := by eval_app
  split at h
  · rename_i s' d heq
    simp only [Bool.and_eq_true, beq_iff_eq, decide_eq_true_eq] at h
    obtain ⟨⟨h1, h2⟩, h3⟩ := h
    split at h1
    · rename_i hc; exact ⟨s', d, heq, hc, h2, h3⟩
    · cases h1
  · cases h

end Ts.Props.C05
