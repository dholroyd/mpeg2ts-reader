import Ts.Lemmas.C11c
import Ts.Lemmas.AppEval
import Ts.Lemmas.Projb
/-!
# C11 helper data

What the starting payload of a MULTI-packet transmission delivers (`first_payload_incomplete`), and
case `N5` / `N5ctl`: a legal DUPLICATE of the first packet of a two-packet PMT, evaluated on the whole
model (`runApp {}` = harness mode `demux b0t0`; byte lists equal to the case lines, checked outside Lean).
-/
namespace Ts.Lemmas.C11c
open Ts Ts.Psi Ts.Spec Ts.Spec.SectionMux Ts.Lemmas.C03 Ts.Lemmas.C10 Ts.App Ts.Demux

/-- the starting payload of a well-formed packetisation that does NOT hold the whole section
(`m.k < S.length`), in any state with the buffer invariant: no panic; the only deliveries are what
the pointer bytes complete of the old buffer; the version of `S` is recorded -/
theorem first_payload_incomplete (S : Bytes) (hS : WellFormedSection .syntax S) (h8 : 8 ≤ S.length)
    (m : Mux) (hm : WellFormedMux .syntax S m) (hk : m.k < S.length)
    (s : St) (hs : PsiInv .syntax s) (off : Nat) :
    ∃ s1, consumePayload Psi.table s true (m.first S) off = .ok (s1, (preSpec Psi.table s m.pre).2)
      ∧ s1.lastVersion = some (versionOf S) ∧ PsiInv .syntax s1 := by
  obtain ⟨hk', hmin, hcase⟩ := mux_case S m hm
  have hne : 1 ≤ (m.first S).length := by rw [first_length]; omega
  have h1 := consumePayload_eq Psi.table cfgOk_table s true (m.first S) off hne hs
  have hi := consumeSpec_inv Psi.table s true (m.first S) off hs
  have hok := share_startOk S hS m.k m.tailBytes hk' hmin hcase
  have hver := share_version S m.k m.tailBytes h8 hk' hmin hcase
  refine ⟨(consumeSpec Psi.table s true (m.first S) off).1, ?_, ?_, hi⟩
  · rw [h1, consumeSpec_first_table S m hm s off]
    by_cases hv : (preSpec Psi.table s m.pre).1.lastVersion = some (verField (S.take m.k ++ m.tailBytes))
    · rw [startSpec_table_same _ _ _ hok hv]; simp
    · rw [startSpec_table_diff _ _ _ hok hv]
      have hstart := startSpec_wf .syntax S hS
        ({ (preSpec Psi.table s m.pre).1 with dedupIgnore := false, lastVersion := some (verField (S.take m.k ++ m.tailBytes)) } : St)
        m.k m.tailBytes (off + 1 + m.pre.length) hk' hmin hcase
      simp only [cfgOf] at hstart
      rw [hstart, if_neg (by omega)]
      simp
  · rw [consumeSpec_first_table S m hm s off]
    show (startSpec Psi.table _ _ _).1.lastVersion = _
    rw [startSpec_records _ _ _ hok, hver]

/-! ### case N5: a duplicated first packet of a two-packet PMT -/

/-- PAT section, version 0: program 1 → PMT PID 0x100 -/
def patN5 : Bytes :=
  [0x00, 0xb0, 0x0d, 0x00, 0x01, 0xc1, 0x00, 0x00, 0x00, 0x01, 0xe1, 0x00, 0xe8, 0xf9, 0x5e, 0x7d]

/-- PMT section of program 1, VERSION 1, PCR PID 0x101, 40 H.264 streams on PIDs 0x101 … 0x128:
216 bytes, so it needs two transport packets; valid CRC -/
def pmtN5 : Bytes :=
  [0x02, 0xb0, 0xd5, 0x00, 0x01, 0xc3, 0x00, 0x00, 0xe1, 0x01, 0xf0, 0x00]
    ++ (List.range 40).flatMap (fun i => [0x1b, 0xe1, UInt8.ofNat (i + 1), 0xf0, 0x00])
    ++ [0x3d, 0x11, 0xbe, 0x0b]

/-- packet `a`: PID 0x100, unit start, continuity counter 0, `pointer_field = 0`, the first 183
bytes of `pmtN5` -/
def n5a : Bytes := [0x47, 0x41, 0x00, 0x10, 0x00] ++ pmtN5.take 183

/-- packet `b`: PID 0x100, continuation, continuity counter 1, the remaining 33 bytes, stuffing -/
def n5b : Bytes := [0x47, 0x01, 0x00, 0x11] ++ pmtN5.drop 183 ++ List.replicate 151 0xff

def n5Mux : Mux := ⟨[], 183, [], [pmtN5.drop 183 ++ List.replicate 151 0xff], []⟩

theorem pmtN5_facts :
    WellFormedSection .syntax pmtN5 ∧ pmtN5.length = 216 ∧ Ts.CrcSpec.crc pmtN5 = 0
      ∧ versionOf pmtN5 = 1 ∧ byteD pmtN5 0 = 2 ∧ WellFormedMux .syntax pmtN5 n5Mux
      ∧ n5Mux.k < pmtN5.length ∧ n5Mux.pre = [] := by decide +kernel

theorem n5_plOf :
    n5a.length = 188 ∧ n5b.length = 188
      ∧ plOf n5a = some ⟨true, n5Mux.first pmtN5, 4⟩
      ∧ plOf n5b = some ⟨false, pmtN5.drop 183 ++ List.replicate 151 0xff, 4⟩
      ∧ readBits n5a 28 4 = 0 ∧ readBits n5b 28 4 = 1 := by decide +kernel

/-- case `N5`: PAT, then `a`, `a` (a legal duplicate: identical packet, same continuity
counter), `b` -/
def n5Bytes : Bytes := pktOf patN5 ++ n5a ++ n5a ++ n5b

def n5CtlBytes : Bytes := pktOf patN5 ++ n5a ++ n5b

/-- the PMT slot (PID 0x100) after a run: section-filter state and registered PIDs -/
def pmtSlot100 : R (Tab Handler × Ctx) → Option (St × List Nat)
  | .ok (t, _) => match t.get 0x100 with
    | some (.pmt _ _ s reg) => some (s, reg)
    | _ => none
  | .panic _ => none

/-- after `N5`: the PMT filter has buffered the first 183 bytes, recorded version 1, and ignores
what follows (the duplicate restarted the section and found its version already recorded) -/
theorem n5_state : runApp {} [n5Bytes]
    = .ok ((Tab.insert [] 0 (.pat { lastVersion := some 0 } [0x100])).insert 0x100
          (.pmt 0x100 1
            { lastVersion := some 1, dedupIgnore := true, buf := pmtN5.take 183, remaining := some 33 } []),
        { cfg := {}, nextTag := 2, trace := [.construct (.pmt 0x100 1) 1, .construct (.byPid 0) 0] }) := by
  eval_app

theorem n5_run : requests (runApp {} [n5Bytes]) = [.byPid 0, .pmt 0x100 1] :=
  (congrArg requests n5_state).trans (by decide +kernel)

theorem n5_slot : pmtSlot100 (runApp {} [n5Bytes])
    = some ({ lastVersion := some 1, dedupIgnore := true, buf := pmtN5.take 183, remaining := some 33 }, []) :=
  (congrArg pmtSlot100 n5_state).trans (by decide +kernel)

theorem n5_ctl_run : requests (runApp {} [n5CtlBytes])
    = .byPid 0 :: .pmt 0x100 1 ::
        (List.range 40).map (fun i => Req.stream 0x100 0x1b (0x101 + i) 0x101 [] []) := by eval_app

theorem n5_run_more : requests (runApp {} [n5Bytes ++ n5a ++ n5b ++ n5a ++ n5b]) = [.byPid 0, .pmt 0x100 1] :=
  (congrArg requests (runApp_append {} n5Bytes (n5a ++ n5b ++ n5a ++ n5b) _ _ n5_state (by decide +kernel)
    (by simp only [List.append_assoc]))).trans (by eval_app)

end Ts.Lemmas.C11c
