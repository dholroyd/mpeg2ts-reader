import Ts.Lemmas.C10
import Ts.Lemmas.C10b
import Ts.Lemmas.C05
import Ts.Props.C05
import Ts.Lemmas.DemuxB
import Ts.Props.C07
/-!
# C11 helper lemmas

A table handler (PAT or PMT) fed a run of packets of its own PID through the DISPATCHER, when the
section filter delivers nothing (`table_run_quiet`) or exactly one section that passes the CRC layer
(`table_run_one`): the queued changes are applied right after the completing packet.  Also
`runApp_append` and the packet builders of the kernel-evaluated witnesses.
-/
namespace Ts.Lemmas.C11c
open Ts Ts.Psi Ts.Spec Ts.Spec.SectionMux Ts.Lemmas.C03 Ts.Lemmas.C10 Ts.App Ts.Demux


/-- what `reset()` does on the `Psi.table` chain: the buffer is dropped AND the de-duplication
layer forgets the version; the processor's `ignore_rest` flag is NOT touched -/
theorem procReset_table (s : St) :
    procReset Psi.table s
      = { s with buf := [], remaining := none, lastVersion := none, dedupIgnore := false } := rfl

/-- `pointer_field` pointing at or beyond the end of the payload (`pre` non-empty, nothing after
it): reset at once, the pointer bytes are not even handed on -/
theorem consumeSpec_pointer_beyond (cfg : Psi.Cfg) (s : St) (pre : Bytes) (off : Nat)
    (hp : pre.length < 256) (hpre : pre ≠ []) :
    consumeSpec cfg s true (UInt8.ofNat pre.length :: pre) off = (procReset cfg s, []) := by
  rw [consumeSpec_true, byteD_ofNat_cons _ hp]
  simp [List.length_pos_iff.2 hpre]


/-- a table handler constructor (`.pat` or `.pmt pid prog`) together with its table processor -/
def IsTableHandler (sect : Sect) (mk : St → List Nat → Handler) : Prop :=
  ∀ s s' reg c pk ds, Psi.consume Psi.table s pk.bytes = .ok (s', ds) →
    App.consume (mk s reg) c pk =
      (runDeliveries sect c reg ds >>= fun r => R.ok (mk s' r.2.1, r.1, r.2.2))

theorem isTableHandler_pat : IsTableHandler patSection (fun s reg => .pat s reg) :=
  fun s s' reg c pk ds h => consume_pat_eq s s' reg c pk ds h

theorem isTableHandler_pmt (pid prog : Nat) :
    IsTableHandler (fun c r d => pmtSection c pid r d) (fun s reg => .pmt pid prog s reg) :=
  fun s s' reg c pk ds h => consume_pmt_eq pid prog s s' reg c pk ds h

theorem step_table (sect : Sect) (mk : St → List Nat → Handler) (hmk : IsTableHandler sect mk)
    (t : Tab Handler) (c : Ctx) (pk : Pk) (s s' : St) (reg : List Nat) (ds : List Delivery)
    (hg : t.get pk.pid = some (mk s reg)) (hf : pk.flagged = false)
    (hpsi : Psi.consume Psi.table s pk.bytes = .ok (s', ds))
    (c' : Ctx) (reg' : List Nat) (chg : List (Change Handler))
    (hrun : runDeliveries sect c reg ds = .ok (c', reg', chg)) :
    specStep App.sem (t, c) pk = .ok (applyChanges (t.insert pk.pid (mk s' reg')) chg, c') := by
  rw [specStep_consume_of_contains App.sem t c pk _ (contains_of_get t pk.pid _ hg) hf hg]
  show (App.consume (mk s reg) c pk >>= _) = _
  rw [hmk s s' reg c pk ds hpsi, hrun]
  rfl

/-- packets of PID `p` on which the section filter delivers NOTHING: the dispatcher only rewrites
slot `p` with the filter's new state; context (trace, tag counter) and all other slots unchanged -/
theorem table_run_quiet (sect : Sect) (mk : St → List Nat → Handler) (hmk : IsTableHandler sect mk)
    (p : Nat) (c : Ctx) (reg : List Nat) : ∀ (pks : List Pk) (t : Tab Handler) (s sfin : St)
      (dss : List (List Delivery)),
    (∀ pk ∈ pks, pk.pid = p ∧ pk.flagged = false) →
    t.get p = some (mk s reg) →
    Psi.run Psi.table s (pks.map (·.bytes)) = .ok (sfin, dss) → dss.flatten = [] →
    ∃ t', pushSpec App.sem (t, c) pks = .ok (t', c) ∧ t'.get p = some (mk sfin reg)
      ∧ ∀ q, q ≠ p → t'.get q = t.get q := by
  intro pks
  induction pks with
  | nil =>
    intro t s sfin dss _ hg hrun _
    simp only [List.map_nil, Psi.run] at hrun
    cases hrun
    exact ⟨t, rfl, hg, fun _ _ => rfl⟩
  | cons pk pks ih =>
    intro t s sfin dss hall hg hrun hflat
    obtain ⟨hpid, hf⟩ := hall pk (List.mem_cons_self ..)
    simp only [List.map_cons, Psi.run] at hrun
    obtain ⟨⟨s1, d1⟩, h1, hrun⟩ := R.bind_eq_ok hrun
    obtain ⟨⟨s2, d2⟩, h2, hrun⟩ := R.bind_eq_ok hrun
    cases hrun
    simp only [List.flatten_cons, List.append_eq_nil_iff] at hflat
    obtain ⟨hd1, hd2⟩ := hflat
    subst hd1
    have hstep := step_table sect mk hmk t c pk s s1 reg [] (by rw [hpid]; exact hg) hf h1
      c reg [] rfl
    rw [hpid, applyChanges_nil] at hstep
    obtain ⟨t', hr, hgp, hne⟩ := ih (t.insert p (mk s1 reg)) s1 _ d2
      (fun pk' hm => hall pk' (List.mem_cons_of_mem _ hm)) (Tab.get_insert_self _ _ _) h2 hd2
    refine ⟨t', ?_, hgp, ?_⟩
    · rw [pushSpec_cons, hstep]; exact hr
    · intro q hq
      rw [hne q hq, Tab.get_insert_ne _ _ _ _ hq]

/-- packets of PID `p` over which the section filter delivers exactly ONE section `d`, which passes
the CRC layer and on which the table processor answers `(c', reg', chg)` with `chg` not touching
slot `p` itself: the dispatcher ends with context `c'`, slot `p` = the handler with the filter's
final state and `reg'`, and every other slot as after draining `chg` on the original table -/
theorem table_run_one (sect : Sect) (mk : St → List Nat → Handler) (hmk : IsTableHandler sect mk)
    (p : Nat) (c : Ctx) (reg : List Nat) (d : Delivery) (c' : Ctx) (reg' : List Nat)
    (chg : List (Change Handler))
    (hcrc : Psi.crcPass c.cfg.bypassCrc d.bytes = .ok true)
    (hsect : sect c reg d.bytes = .ok (c', reg', chg))
    (hself : ∀ ch ∈ chg, ch.pid ≠ p) : ∀ (pks : List Pk) (t : Tab Handler) (s sfin : St)
      (dss : List (List Delivery)),
    (∀ pk ∈ pks, pk.pid = p ∧ pk.flagged = false) →
    t.get p = some (mk s reg) →
    Psi.run Psi.table s (pks.map (·.bytes)) = .ok (sfin, dss) → dss.flatten = [d] →
    ∃ t', pushSpec App.sem (t, c) pks = .ok (t', c') ∧ t'.get p = some (mk sfin reg')
      ∧ ∀ q, q ≠ p → t'.get q = (applyChanges t chg).get q := by
  intro pks
  induction pks with
  | nil =>
    intro t s sfin dss _ hg hrun hflat
    simp only [List.map_nil, Psi.run] at hrun
    cases hrun
    cases hflat
  | cons pk pks ih =>
    intro t s sfin dss hall hg hrun hflat
    obtain ⟨hpid, hf⟩ := hall pk (List.mem_cons_self ..)
    simp only [List.map_cons, Psi.run] at hrun
    obtain ⟨⟨s1, d1⟩, h1, hrun⟩ := R.bind_eq_ok hrun
    obtain ⟨⟨s2, d2⟩, h2, hrun⟩ := R.bind_eq_ok hrun
    cases hrun
    simp only [List.flatten_cons] at hflat
    cases d1 with
    | nil =>
      simp only [List.nil_append] at hflat
      have hstep := step_table sect mk hmk t c pk s s1 reg [] (by rw [hpid]; exact hg) hf h1
        c reg [] rfl
      rw [hpid, applyChanges_nil] at hstep
      obtain ⟨t', hr, hgp, hne⟩ := ih (t.insert p (mk s1 reg)) s1 _ d2
        (fun pk' hm => hall pk' (List.mem_cons_of_mem _ hm)) (Tab.get_insert_self _ _ _) h2 hflat
      refine ⟨t', ?_, hgp, ?_⟩
      · rw [pushSpec_cons, hstep]; exact hr
      · intro q hq
        rw [hne q hq]
        exact Ts.Demux.get_applyChanges_congr chg _ _ q (Tab.get_insert_ne _ _ _ _ hq)
    | cons a d1' =>
      simp only [List.cons_append, List.cons.injEq, List.append_eq_nil_iff] at hflat
      obtain ⟨ha, hd1', hd2⟩ := hflat
      subst ha hd1'
      have hstep := step_table sect mk hmk t c pk s s1 reg [a] (by rw [hpid]; exact hg) hf h1
        c' reg' chg (Ts.Lemmas.C05.runDeliveries_one sect c reg a c' reg' chg hcrc hsect)
      rw [hpid] at hstep
      have hgp1 : (applyChanges (t.insert p (mk s1 reg')) chg).get p = some (mk s1 reg') := by
        rw [get_applyChanges_untouched chg _ p hself]; exact Tab.get_insert_self _ _ _
      obtain ⟨t', hr, hgp, hne⟩ := table_run_quiet sect mk hmk p c' reg' pks _ s1 _ d2
        (fun pk' hm => hall pk' (List.mem_cons_of_mem _ hm)) hgp1 h2 hd2
      refine ⟨t', ?_, hgp, ?_⟩
      · rw [pushSpec_cons, hstep]; exact hr
      · intro q hq
        rw [hne q hq]
        exact Ts.Demux.get_applyChanges_congr chg _ _ q (Tab.get_insert_ne _ _ _ _ hq)


theorem preSpec_quiet (s : St) (pre : Bytes) (h : pre = [] ∨ s.remaining = none) :
    preSpec Psi.table s pre = (s, []) := by
  rcases h with h | h
  · subst h; rfl
  · exact preSpec_idle _ _ _ h

/-- C11 (partial) through the dispatcher, generic in the table handler: the packets `pks` (all of
PID `p`, none flagged) of a well-formed transmission of an intact section `S` whose version
differs from the last STARTED one, with nothing completed by the pointer bytes; `(c', reg', chg)` =
the table processor's answer on `S`, `chg` not touching slot `p` -/
theorem table_applied_pushSpec (sect : Sect) (mk : St → List Nat → Handler)
    (hmk : IsTableHandler sect mk)
    (S : Bytes) (hS : WellFormedSection .syntax S) (h12 : 12 ≤ S.length)
    (hcrc : Ts.CrcSpec.crc S = 0) (m : Mux) (hm : WellFormedMux .syntax S m)
    (s : St) (hs : PsiInv .syntax s) (hv : s.lastVersion ≠ some (versionOf S))
    (hquiet : m.pre = [] ∨ s.remaining = none)
    (p : Nat) (t : Tab Handler) (c : Ctx) (reg : List Nat) (hg : t.get p = some (mk s reg))
    (pks : List Pk) (hpk : ∀ pk ∈ pks, pk.pid = p ∧ pk.flagged = false ∧ pk.bytes.length = 188)
    (off : Nat) (rest : List Pl)
    (hview : (pks.map (·.bytes)).filterMap plOf = ⟨true, m.first S, off⟩ :: rest)
    (hus : ∀ q ∈ rest, q.us = false) (hrest : rest.map (·.bytes) = m.rest)
    (c' : Ctx) (reg' : List Nat) (chg : List (Change Handler))
    (hsect : sect c reg S = .ok (c', reg', chg)) (hself : ∀ ch ∈ chg, ch.pid ≠ p) :
    ∃ t' sfin, pushSpec App.sem (t, c) pks = .ok (t', c') ∧ t'.get p = some (mk sfin reg')
      ∧ Quiescent (versionOf S) sfin ∧ ∀ q, q ≠ p → t'.get q = (applyChanges t chg).get q := by
  obtain ⟨sfin, h1, hq, _, _⟩ := table_applied S hS (by omega) m hm s hs hv off rest hus hrest
  have hlen' : ∀ b ∈ pks.map (·.bytes), b.length = 188 := by
    intro b hb
    obtain ⟨pk, hpk', e⟩ := List.mem_map.1 hb
    rw [← e]; exact (hpk pk hpk').2.2
  rw [← hview, preSpec_quiet s m.pre hquiet, List.nil_append] at h1
  obtain ⟨dss, hrun, hflat⟩ := run_of_runPl s (pks.map (·.bytes)) hlen' sfin _ h1
  obtain ⟨t', hr, hgp, hne⟩ := table_run_one sect mk hmk p c reg
    ⟨S, if m.k = S.length then some (off + 1 + m.pre.length) else none⟩ c' reg' chg
    (crcPass_valid _ S hS h12 hcrc) hsect hself pks t s sfin dss
    (fun pk hm' => ⟨(hpk pk hm').1, (hpk pk hm').2.1⟩) hg hrun hflat
  exact ⟨t', sfin, hr, hgp, hq, hne⟩

/-- F2 through the dispatcher, generic in the table handler: the packets of a well-formed
transmission of a section whose version EQUALS the last started one (nothing completed by the
pointer bytes) leave the context — trace and tag counter — and every other slot unchanged -/
theorem table_blocked_pushSpec (sect : Sect) (mk : St → List Nat → Handler)
    (hmk : IsTableHandler sect mk)
    (S : Bytes) (hS : WellFormedSection .syntax S) (h8 : 8 ≤ S.length)
    (m : Mux) (hm : WellFormedMux .syntax S m)
    (s : St) (hs : PsiInv .syntax s) (hv : s.lastVersion = some (versionOf S))
    (hquiet : m.pre = [] ∨ s.remaining = none)
    (p : Nat) (t : Tab Handler) (c : Ctx) (reg : List Nat) (hg : t.get p = some (mk s reg))
    (pks : List Pk) (hpk : ∀ pk ∈ pks, pk.pid = p ∧ pk.flagged = false ∧ pk.bytes.length = 188)
    (off : Nat) (rest : List Pl)
    (hview : (pks.map (·.bytes)).filterMap plOf = ⟨true, m.first S, off⟩ :: rest)
    (hus : ∀ q ∈ rest, q.us = false) (hrest : rest.map (·.bytes) = m.rest) :
    ∃ t' sfin, pushSpec App.sem (t, c) pks = .ok (t', c) ∧ t'.get p = some (mk sfin reg)
      ∧ sfin.lastVersion = some (versionOf S) ∧ ∀ q, q ≠ p → t'.get q = t.get q := by
  obtain ⟨sfin, h1, hl, _⟩ := table_blocked S hS h8 m hm s hs hv off rest hus hrest
  have hlen' : ∀ b ∈ pks.map (·.bytes), b.length = 188 := by
    intro b hb
    obtain ⟨pk, hpk', e⟩ := List.mem_map.1 hb
    rw [← e]; exact (hpk pk hpk').2.2
  rw [← hview, preSpec_quiet s m.pre hquiet] at h1
  obtain ⟨dss, hrun, hflat⟩ := run_of_runPl s (pks.map (·.bytes)) hlen' sfin _ h1
  obtain ⟨t', hr, hgp, hne⟩ := table_run_quiet sect mk hmk p c reg pks t s sfin dss
    (fun pk hm' => ⟨(hpk pk hm').1, (hpk pk hm').2.1⟩) hg hrun hflat
  exact ⟨t', sfin, hr, hgp, hl, hne⟩


open Ts.Spec.Routing in
theorem filterMap_constructEvents : ∀ (reqs : List (Nat × Req)) (tag : Nat),
    (constructEvents tag reqs).filterMap (fun e => match e with | .construct r _ => some r | _ => none)
      = reqs.map (·.2) := by
  intro reqs
  induction reqs with
  | nil => intro _; rfl
  | cons x rest ih =>
    intro tag
    obtain ⟨p, r⟩ := x
    simp only [constructEvents, List.filterMap_cons, List.map_cons, ih]

open Ts.Spec.Routing in
theorem requests_ctxAfter (t t' : Tab Handler) (c : Ctx) (reqs : List (Nat × Req)) :
    requests (.ok (t', ctxAfter c reqs)) = requests (.ok (t, c)) ++ reqs.map (·.2) := by
  simp only [requests, ctxAfter, List.reverse_append, List.reverse_reverse, List.filterMap_append]
  congr 1
  exact filterMap_constructEvents reqs c.nextTag


/-- a run is continued from the state a packet-aligned prefix `a` of the buffer has left.  The probes
of `C10c`, `C10d`, `C11d` share prefixes; each is evaluated from the literal state its longest
evaluated prefix left, so that no prefix is evaluated twice -/
theorem runApp_append (cfg : App.Cfg) (a b buf : Bytes) (tc : Tab Handler × Ctx)
    (h : runApp cfg [a] = .ok tc) (ha : a.length % 188 = 0) (hbuf : buf = a ++ b) :
    runApp cfg [buf] = pushAll App.sem tc [b] a.length := by
  subst hbuf
  unfold runApp at h ⊢
  rw [Ts.Props.C07.pushAll_single] at h ⊢
  rw [Ts.Props.C07.push_append _ _ _ _ 0 ha, h, Ts.Props.C07.pushAll_single, Nat.zero_add]
  rfl


open Ts.Tables Ts.Spec.Routing Ts.Spec.TableSpec in
theorem tableChanges_not_self (tag : Nat) (reqs : List (Nat × Req)) (reg seen : List Nat) (p : Nat)
    (hp : p ∉ reg) (hl : ∀ x ∈ reqs, x.1 ≠ p) :
    ∀ ch ∈ (built tag reqs).map (fun x => Change.insert x.1 x.2)
        ++ (outdated reg seen).map (Change.remove (H := Handler)), ch.pid ≠ p := by
  intro ch hch
  rcases List.mem_append.1 hch with h | h
  · obtain ⟨x, hx, rfl⟩ := List.mem_map.1 h
    have : x.1 ∈ (built tag reqs).map (·.1) := List.mem_map_of_mem hx
    rw [Ts.Lemmas.C05.built_pids] at this
    obtain ⟨y, hy, e⟩ := List.mem_map.1 this
    show x.1 ≠ p
    rw [← e]; exact hl y hy
  · obtain ⟨q, hq, rfl⟩ := List.mem_map.1 h
    show q ≠ p
    intro e
    subst e
    exact hp ((App.mem_outdated reg seen q).1 hq).2.1


theorem getLast?_filter_eq_some {α : Type} (p : α → Bool) (l : List α) (d : α) :
    (l.filter p).getLast? = some d ↔
      ∃ pre post, l = pre ++ d :: post ∧ p d = true ∧ ∀ x ∈ post, p x = false := by
  rw [List.getLast?_eq_head?_reverse, ← List.filter_reverse, List.head?_filter,
    List.find?_eq_some_iff_append]
  constructor
  · rintro ⟨hp, as, bs, e, h⟩
    refine ⟨bs.reverse, as.reverse, ?_, hp, ?_⟩
    · have := congrArg List.reverse e
      simpa using this
    · intro x hx
      have := h x (List.mem_reverse.1 hx)
      simpa using this
  · rintro ⟨pre, post, e, hp, h⟩
    refine ⟨hp, post.reverse, pre.reverse, ?_, ?_⟩
    · subst e; simp
    · intro x hx
      have := h x (List.mem_reverse.1 hx)
      simp [this]

theorem passes_iff (d : Delivery) : passes d = true ↔ Psi.crcPass false d.bytes = .ok true := by
  unfold passes
  cases h : Psi.crcPass false d.bytes with
  | panic m => simp
  | ok b => cases b <;> simp

/-! ### packet builders for the concrete witnesses (PID 0, no adaptation field) -/

/-- unit-start packet on PID 0, continuity counter `cc`: `pointer_field = ptr`, then `ptr` bytes
of `0xff` stuffing (legal after the end of the previous section), then `share` — the first bytes
of a section — filling the packet exactly when `1 + ptr + share.length = 184`, padded with `0xff`
otherwise -/
def startPkt (cc : UInt8) (ptr : Nat) (share : Bytes) : Bytes :=
  [0x47, 0x40, 0x00, 0x10 ||| cc, UInt8.ofNat ptr] ++ List.replicate ptr 0xff ++ share
    ++ List.replicate (183 - ptr - share.length) 0xff

def contPktOf (cc : UInt8) (body : Bytes) : Bytes :=
  [0x47, 0x00, 0x00, 0x10 ||| cc] ++ body ++ List.replicate (184 - body.length) 0xff

/-- a transmission of `sec` on PID 0 whose starting packet carries only the first `k` section
bytes, at the very end of its payload (`pointer_field = 183 - k`), the rest in one continuation
packet -/
def splitTx (sec : Bytes) (k : Nat) : Bytes :=
  startPkt 0 (183 - k) (sec.take k) ++ contPktOf 1 (sec.drop k)

/-- the PAT slot after a run, if slot 0 holds a PAT handler: section-filter state and registered PIDs -/
def patSlot : R (Tab Handler × Ctx) → Option (St × List Nat)
  | .ok (t, _) => match t.get 0 with
    | some (.pat s reg) => some (s, reg)
    | _ => none
  | .panic _ => none

theorem patSlot_eq_some (r : R (Tab Handler × Ctx)) (s : St) (reg : List Nat)
    (h : patSlot r = some (s, reg)) : ∃ t c, r = .ok (t, c) ∧ t.get 0 = some (.pat s reg) := by
  cases r with
  | panic m => cases h
  | ok tc =>
    obtain ⟨t, c⟩ := tc
    refine ⟨t, c, rfl, ?_⟩
    simp only [patSlot] at h
    cases hg : t.get 0 with
    | none => rw [hg] at h; cases h
    | some hd =>
      rw [hg] at h
      cases hd with
      | pat s' reg' =>
        simp only [Option.some.injEq, Prod.mk.injEq] at h
        rw [h.1, h.2]
      | pmt _ _ _ _ => cases h
      | pes _ _ => cases h
      | recorder _ => cases h

/-- a 21-byte PMT section (`table_id = 2`, program 1, version 0, PCR PID 0x100, no program
descriptors, one H.264 stream on PID 0x100), CRC appended -/
def pmtGood : Bytes :=
  [0x02, 0xb0, 0x12, 0x00, 0x01, 0xc1, 0x00, 0x00, 0xe1, 0x00, 0xf0, 0x00, 0x1b, 0xe1, 0x00, 0xf0, 0x00] ++
    Ts.CrcSpec.be32 (Ts.CrcSpec.crc
      [0x02, 0xb0, 0x12, 0x00, 0x01, 0xc1, 0x00, 0x00, 0xe1, 0x00, 0xf0, 0x00, 0x1b, 0xe1, 0x00, 0xf0, 0x00])

def pktOn32 (sec : Bytes) : Bytes :=
  [0x47, 0x40, 0x20, 0x10, 0x00] ++ sec ++ List.replicate (183 - sec.length) 0xff

end Ts.Lemmas.C11c
