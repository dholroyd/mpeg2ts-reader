import Ts.Lemmas.BitOps
import Ts.Spec.Bits
import Ts.Spec.TimeSpec
import Ts.Model.Time
/-! `Timestamp::from_bytes` and `ClockRef::from_slice` against the `uimsbf` fields they read, and the
specification's encoder decoded again. -/
namespace Ts.Lemmas.C15
open Ts Ts.Time Ts.Spec Ts.Spec.TimeSpec

/-! ### code side: masks and shifts to arithmetic -/

theorem tsVal_arith (b0 b1 b2 b3 b4 : Nat) (h0 : b0 < 256) (h1 : b1 < 256) (h2 : b2 < 256)
    (h3 : b3 < 256) (h4 : b4 < 256) :
    tsVal b0 b1 b2 b3 b4 = (b0 / 2 % 8) * 2^30 + b1 * 2^22 + (b2 / 2) * 2^15 + b3 * 2^7 + b4 / 2 := by
  unfold tsVal
  rw [and_0e b0 h0, and_fe b2 h2]
  simp only [Nat.shiftLeft_eq, Nat.shiftRight_eq_div_pow]
  simp (disch := omega) only [or_eq_add 7, or_eq_add 15, or_eq_add 22, or_eq_add 30]
  omega

/-! ### spec side: `uimsbf` fields to the same arithmetic -/

theorem field_hi (buf : Bytes) : readBits buf 4 3 = byteD buf 0 / 2 % 8 := by
  simpa using readBits_sub buf 0 4 3 (by omega)

theorem field_mid (buf : Bytes) : readBits buf 8 15 = byteD buf 1 * 2^7 + byteD buf 2 / 2 := by
  have := readBits_be buf 1 0 15 2 (by omega)
  simp only [be, Nat.zero_mul, Nat.zero_add, Nat.add_zero, Nat.reduceAdd, Nat.reduceMul] at this
  have := byteD_lt buf 1; have := byteD_lt buf 2
  omega

theorem field_lo (buf : Bytes) : readBits buf 24 15 = byteD buf 3 * 2^7 + byteD buf 4 / 2 := by
  have := readBits_be buf 3 0 15 2 (by omega)
  simp only [be, Nat.zero_mul, Nat.zero_add, Nat.add_zero, Nat.reduceAdd, Nat.reduceMul] at this
  have := byteD_lt buf 3; have := byteD_lt buf 4
  omega

theorem field_prefix (buf : Bytes) : readBits buf 0 4 = byteD buf 0 / 16 := by
  have r := readBits_sub buf 0 0 4 (by omega)
  have := byteD_lt buf 0
  simp only [Nat.mul_zero, Nat.add_zero] at r
  omega

theorem field_marker (buf : Bytes) (i : Nat) : readBits buf (8 * i + 7) 1 = byteD buf i % 2 := by
  simpa using readBits_sub buf i 7 1 (by omega)

/-! ### the marker checks and `from_bytes` -/

theorem checkMarkerBit_ok (buf : Bytes) (n : Nat) (h : n / 8 < buf.length) :
    checkMarkerBit buf n =
      .ok (if readBits buf n 1 = 0 then .error (.markerBitNotSet n) else .ok ()) := by
  have m := bit_eq_mask buf (n / 8) (n % 8) (Nat.mod_lt _ (by decide))
  rw [Nat.div_add_mod] at m
  unfold checkMarkerBit
  simp only [byteAt_ok buf _ h, R.ok_bind, R.pure_eq, Nat.one_shiftLeft, ← m]
  have := readBits_lt buf n 1
  by_cases c : readBits buf n 1 = 0
  · simp [c]
  · simp [show readBits buf n 1 = 1 by omega]

theorem fromBytes_exact (buf : Bytes) (h : 5 ≤ buf.length) :
    fromBytes buf = .ok (
      if readBits buf 7 1 = 0 then .error (.markerBitNotSet 7)
      else if readBits buf 23 1 = 0 then .error (.markerBitNotSet 23)
      else if readBits buf 39 1 = 0 then .error (.markerBitNotSet 39)
      else .ok (readBits buf 4 3 * 2^30 + readBits buf 8 15 * 2^15 + readBits buf 24 15)) := by
  unfold fromBytes
  rw [checkMarkerBit_ok buf 7 (by omega), checkMarkerBit_ok buf 23 (by omega),
    checkMarkerBit_ok buf 39 (by omega)]
  rw [byteAt_ok buf 0 (by omega), byteAt_ok buf 1 (by omega), byteAt_ok buf 2 (by omega),
    byteAt_ok buf 3 (by omega), byteAt_ok buf 4 (by omega)]
  simp only [R.ok_bind, R.pure_eq]
  rw [tsVal_arith _ _ _ _ _ (byteD_lt buf 0) (byteD_lt buf 1) (byteD_lt buf 2) (byteD_lt buf 3) (byteD_lt buf 4)]
  rw [field_hi, field_mid, field_lo]
  by_cases c7 : readBits buf 7 1 = 0
  · simp only [c7, if_true]
  · by_cases c23 : readBits buf 23 1 = 0
    · simp only [c7, c23, if_true, if_false]
    · by_cases c39 : readBits buf 39 1 = 0
      · simp only [c7, c23, c39, if_true, if_false]
      · simp only [c7, c23, c39, if_false]
        have e : byteD buf 0 / 2 % 8 * 2 ^ 30 + byteD buf 1 * 2 ^ 22 + byteD buf 2 / 2 * 2 ^ 15 + byteD buf 3 * 2 ^ 7
            + byteD buf 4 / 2 = byteD buf 0 / 2 % 8 * 2 ^ 30 + (byteD buf 1 * 2 ^ 7 + byteD buf 2 / 2) * 2 ^ 15 +
                (byteD buf 3 * 2 ^ 7 + byteD buf 4 / 2) := by omega
        rw [e]

/-! ### short buffers, prefix check -/

theorem byteAt_short (buf : Bytes) (i : Nat) (h : buf.length ≤ i) :
    byteAt buf i = .panic "index out of bounds" := by
  unfold byteAt
  rw [List.getElem?_eq_none h]

theorem checkMarkerBit_short (buf : Bytes) (n : Nat) (h : buf.length ≤ n / 8) :
    checkMarkerBit buf n = .panic "index out of bounds" := by
  unfold checkMarkerBit
  simp only []  -- the `let`s in front of the read
  rw [byteAt_short buf _ h]
  rfl

/-- `from_bytes` can only deliver a value after reading byte 4 (the third marker check): on a
buffer shorter than 5 bytes it errors or panics, it never yields a timestamp -/
theorem fromBytes_ok_len (buf : Bytes) (v : Nat) (h : fromBytes buf = .ok (.ok v)) : 5 ≤ buf.length := by
  unfold fromBytes at h
  obtain ⟨r7, _, h⟩ := R.bind_eq_ok h
  match r7, h with
  | .ok (), h =>
    obtain ⟨r23, _, h⟩ := R.bind_eq_ok h
    match r23, h with
    | .ok (), h =>
      obtain ⟨_, h39, _⟩ := R.bind_eq_ok h
      by_cases hl : 5 ≤ buf.length
      · exact hl
      · rw [checkMarkerBit_short buf 39 (by omega)] at h39
        cases h39

theorem checkPrefix_ok (buf : Bytes) (e : Nat) (he : e ≤ 15) (h : 1 ≤ buf.length) :
    checkPrefix buf e =
      .ok (if readBits buf 0 4 = e then .ok () else .error (.incorrectPrefix e (readBits buf 0 4))) := by
  unfold checkPrefix
  rw [byteAt_ok buf 0 (by omega), field_prefix]
  have hs : byteD buf 0 >>> 4 = byteD buf 0 / 16 := by rw [Nat.shiftRight_eq_div_pow]
  have ha : assertR (decide (e ≤ 0b1111)) "assert!(expected <= 0b1111)" = .ok () := by
    simp [assertR, he]
  rw [ha]
  simp only [R.ok_bind, R.pure_eq, hs]
  by_cases c : byteD buf 0 / 16 = e
  · simp [c]
  · simp [c]

/-! ### the encoder of the specification, byte by byte -/

theorem beByte_toNat (w k i : Nat) : (beByte w k i).toNat = w / 2 ^ (8 * (k - 1 - i)) % 256 := by
  unfold beByte
  rw [UInt8.toNat_ofNat']
  omega

theorem encodeTs_bytes (pfx v : Nat) (rest : Bytes) :
    let buf := encodeTs pfx v ++ rest
    byteD buf 0 = tsWord pfx v / 2^32 % 256 ∧ byteD buf 1 = tsWord pfx v / 2^24 % 256 ∧
    byteD buf 2 = tsWord pfx v / 2^16 % 256 ∧ byteD buf 3 = tsWord pfx v / 2^8 % 256 ∧
    byteD buf 4 = tsWord pfx v % 256 := by
  simp only [encodeTs, List.cons_append, List.nil_append]
  refine ⟨?_, ?_, ?_, ?_, ?_⟩
  · rw [byteD_cons_zero, beByte_toNat]
  · rw [byteD_cons_succ, byteD_cons_zero, beByte_toNat]
  · rw [byteD_cons_succ, byteD_cons_succ, byteD_cons_zero, beByte_toNat]
  · rw [byteD_cons_succ, byteD_cons_succ, byteD_cons_succ, byteD_cons_zero, beByte_toNat]
  · rw [byteD_cons_succ, byteD_cons_succ, byteD_cons_succ, byteD_cons_succ, byteD_cons_zero, beByte_toNat]
    simp

theorem tsWord_arith (pfx v : Nat) (hp : pfx < 16) (hv : v < 2^33) :
    tsWord pfx v = (pfx * 16 + v / 2^30 * 2 + 1) * 2^32 + (v / 2^15 % 2^15 * 2 + 1) * 2^16 + (v % 2^15 * 2 + 1) := by
  unfold tsWord cat
  simp only []  -- the chain of `let w := …`
  omega

/- The round trip in two `omega` stages: first the five bytes of the word in terms of the fields
(`bytes_arith`), then the fields back from the bytes (`roundtrip_arith`).  In one stage, with word
and bytes in the same problem, `omega` needs seconds for the value equation. -/

theorem bytes_arith (pfx hi mid lo w : Nat) (hp : pfx < 16) (hh : hi < 8) (hm : mid < 2^15) (hl : lo < 2^15)
    (hw : w = (pfx * 16 + hi * 2 + 1) * 2^32 + (mid * 2 + 1) * 2^16 + (lo * 2 + 1)) :
    w / 2^32 % 256 = pfx * 16 + hi * 2 + 1 ∧ w / 2^24 % 256 = mid / 2^7 ∧
    w / 2^16 % 256 = mid % 2^7 * 2 + 1 ∧ w / 2^8 % 256 = lo / 2^7 ∧ w % 256 = lo % 2^7 * 2 + 1 := by
  subst hw
  refine ⟨?_, ?_, ?_, ?_, ?_⟩ <;> omega

theorem roundtrip_arith (pfx v w b0 b1 b2 b3 b4 : Nat) (hp : pfx < 16) (hv : v < 2^33)
    (hw : w = (pfx * 16 + v / 2^30 * 2 + 1) * 2^32 + (v / 2^15 % 2^15 * 2 + 1) * 2^16 + (v % 2^15 * 2 + 1))
    (h0 : b0 = w / 2^32 % 256) (h1 : b1 = w / 2^24 % 256) (h2 : b2 = w / 2^16 % 256)
    (h3 : b3 = w / 2^8 % 256) (h4 : b4 = w % 256) :
    b0 % 2 = 1 ∧ b2 % 2 = 1 ∧ b4 % 2 = 1 ∧ b0 / 16 = pfx ∧
    (b0 / 2 % 8) * 2^30 + (b1 * 2^7 + b2 / 2) * 2^15 + (b3 * 2^7 + b4 / 2) = v := by
  obtain ⟨e0, e1, e2, e3, e4⟩ :=
    bytes_arith pfx (v / 2^30) (v / 2^15 % 2^15) (v % 2^15) w hp (by omega) (by omega) (by omega) hw
  rw [← h0] at e0; rw [← h1] at e1; rw [← h2] at e2; rw [← h3] at e3; rw [← h4] at e4
  clear hw h0 h1 h2 h3 h4
  subst e0 e1 e2 e3 e4
  refine ⟨?_, ?_, ?_, ?_, ?_⟩ <;> omega

/-! ### ClockRef -/

theorem crefBase_arith (d0 d1 d2 d3 d4 : Nat) (_h0 : d0 < 256) (h1 : d1 < 256) (h2 : d2 < 256)
    (h3 : d3 < 256) (h4 : d4 < 256) :
    (d0 <<< 25) ||| (d1 <<< 17) ||| (d2 <<< 9) ||| (d3 <<< 1) ||| (d4 >>> 7)
      = d0 * 2^25 + d1 * 2^17 + d2 * 2^9 + d3 * 2 + d4 / 128 := by
  simp only [Nat.shiftLeft_eq, Nat.shiftRight_eq_div_pow]
  simp (disch := omega) only [or_eq_add 1, or_eq_add 9, or_eq_add 17, or_eq_add 25]

theorem crefExt_arith (d4 d5 : Nat) (h5 : d5 < 256) :
    ((d4 &&& 0b1) <<< 8) ||| d5 = d4 % 2 * 2^8 + d5 := by
  rw [Nat.and_one_is_mod, Nat.shiftLeft_eq]
  exact or_eq_add 8 (Nat.dvd_mul_left _ _) h5

theorem crefFromParts_ok (b e : Nat) (hb : b < 2 ^ 33) (he : e < 2 ^ 9) :
    crefFromParts b e = .ok ⟨b, e⟩ := by
  unfold crefFromParts assertR
  have e1 : (1 <<< 33 : Nat) = 2 ^ 33 := by rw [Nat.shiftLeft_eq, Nat.one_mul]
  have e2 : (1 <<< 9 : Nat) = 2 ^ 9 := by rw [Nat.shiftLeft_eq, Nat.one_mul]
  rw [e1, e2]
  simp only [decide_eq_true hb, decide_eq_true he, if_true, R.ok_bind, R.pure_eq]

theorem field_pcrBase (d : Bytes) :
    readBits d 0 33 = byteD d 0 * 2^25 + byteD d 1 * 2^17 + byteD d 2 * 2^9 + byteD d 3 * 2 + byteD d 4 / 128 := by
  have := readBits_be d 0 0 33 5 (by omega)
  simp only [be, Nat.mul_zero, Nat.zero_add, Nat.add_zero] at this
  have := byteD_lt d 0; have := byteD_lt d 1; have := byteD_lt d 2; have := byteD_lt d 3; have := byteD_lt d 4
  omega

theorem field_pcrExt (d : Bytes) : readBits d 39 9 = byteD d 4 % 2 * 2^8 + byteD d 5 := by
  have := readBits_be d 4 7 9 2 (by omega)
  simp only [be, Nat.zero_mul, Nat.zero_add, Nat.add_zero, Nat.reduceAdd, Nat.reduceMul] at this
  have := byteD_lt d 4; have := byteD_lt d 5
  omega

theorem crefFromSlice_ok (d : Bytes) (h : 6 ≤ d.length) :
    crefFromSlice d = .ok ⟨readBits d 0 33, readBits d 39 9⟩ := by
  unfold crefFromSlice
  rw [byteAt_ok d 0 (by omega), byteAt_ok d 1 (by omega), byteAt_ok d 2 (by omega),
    byteAt_ok d 3 (by omega), byteAt_ok d 4 (by omega), byteAt_ok d 5 (by omega)]
  simp only [R.ok_bind, R.pure_eq]
  rw [crefBase_arith _ _ _ _ _ (byteD_lt d 0) (byteD_lt d 1) (byteD_lt d 2) (byteD_lt d 3) (byteD_lt d 4),
    crefExt_arith _ _ (byteD_lt d 5), field_pcrBase, field_pcrExt]

/-! ### round trip, prefix wrappers, range -/

theorem encodeTs_length (pfx v : Nat) : (encodeTs pfx v).length = 5 := rfl

/-- decoding the specification's encoding, with anything after the five bytes: the three markers
are set, the prefix field is `pfx`, the value fields give `v` -/
theorem encodeTs_fields (pfx v : Nat) (rest : Bytes) (hp : pfx < 16) (hv : v < 2^33) :
    readBits (encodeTs pfx v ++ rest) 7 1 = 1 ∧ readBits (encodeTs pfx v ++ rest) 23 1 = 1 ∧
    readBits (encodeTs pfx v ++ rest) 39 1 = 1 ∧ readBits (encodeTs pfx v ++ rest) 0 4 = pfx ∧
    readBits (encodeTs pfx v ++ rest) 4 3 * 2^30 + readBits (encodeTs pfx v ++ rest) 8 15 * 2^15
      + readBits (encodeTs pfx v ++ rest) 24 15 = v := by
  obtain ⟨e0, e1, e2, e3, e4⟩ := encodeTs_bytes pfx v rest
  obtain ⟨a0, a2, a4, ap, av⟩ := roundtrip_arith pfx v _ _ _ _ _ _ hp hv (tsWord_arith pfx v hp hv) e0 e1 e2 e3 e4
  have m7 := field_marker (encodeTs pfx v ++ rest) 0
  have m23 := field_marker (encodeTs pfx v ++ rest) 2
  have m39 := field_marker (encodeTs pfx v ++ rest) 4
  simp only [Nat.mul_zero, Nat.zero_add, Nat.reduceMul, Nat.reduceAdd] at m7 m23 m39
  rw [m7, m23, m39, field_prefix, field_hi, field_mid, field_lo]
  exact ⟨a0, a2, a4, ap, av⟩

theorem fromBytes_encode (pfx v : Nat) (rest : Bytes) (hp : pfx < 16) (hv : v < 2^33) :
    fromBytes (encodeTs pfx v ++ rest) = .ok (.ok v) := by
  have hl : 5 ≤ (encodeTs pfx v ++ rest).length := by
    rw [List.length_append, encodeTs_length]; omega
  obtain ⟨a7, a23, a39, _, av⟩ := encodeTs_fields pfx v rest hp hv
  rw [fromBytes_exact _ hl, a7, a23, a39, av]
  rfl

/-- the shape shared by `from_pts_bytes` (`e = 0b0010`) and `from_dts_bytes` (`e = 0b0001`) -/
theorem prefixed_unfold (buf : Bytes) (e : Nat) (he : e ≤ 15) (h : 1 ≤ buf.length) :
    (do match ← checkPrefix buf e with
        | .error er => pure (.error er)
        | .ok () => fromBytes buf : R TsRes) =
      (if readBits buf 0 4 = e then fromBytes buf
        else .ok (.error (.incorrectPrefix e (readBits buf 0 4)))) := by
  rw [checkPrefix_ok buf e he h]
  by_cases c : readBits buf 0 4 = e
  · simp only [c, if_true, R.ok_bind]
  · simp only [c, if_false, R.ok_bind, R.pure_eq]

theorem fromPts_unfold (buf : Bytes) (h : 1 ≤ buf.length) :
    fromPtsBytes buf = (if readBits buf 0 4 = 2 then fromBytes buf
      else .ok (.error (.incorrectPrefix 2 (readBits buf 0 4)))) :=
  prefixed_unfold buf 2 (by omega) h

theorem fromDts_unfold (buf : Bytes) (h : 1 ≤ buf.length) :
    fromDtsBytes buf = (if readBits buf 0 4 = 1 then fromBytes buf
      else .ok (.error (.incorrectPrefix 1 (readBits buf 0 4)))) :=
  prefixed_unfold buf 1 (by omega) h

theorem prefixed_ok_imp (buf : Bytes) (e v : Nat)
    (h : (do match ← checkPrefix buf e with
            | .error er => pure (.error er)
            | .ok () => fromBytes buf : R TsRes) = .ok (.ok v)) :
    fromBytes buf = .ok (.ok v) := by
  obtain ⟨r, _, h⟩ := R.bind_eq_ok h
  match r, h with
  | .ok (), h => exact h

theorem fromPts_ok_imp (buf : Bytes) (v : Nat) (h : fromPtsBytes buf = .ok (.ok v)) :
    fromBytes buf = .ok (.ok v) := prefixed_ok_imp buf 2 v h

theorem fromDts_ok_imp (buf : Bytes) (v : Nat) (h : fromDtsBytes buf = .ok (.ok v)) :
    fromBytes buf = .ok (.ok v) := prefixed_ok_imp buf 1 v h

theorem encode_prefix_pass (e v : Nat) (rest : Bytes) (he : e < 16) (hv : v < 2^33) (x : R TsRes) :
    (if readBits (encodeTs e v ++ rest) 0 4 = e then fromBytes (encodeTs e v ++ rest) else x)
      = .ok (.ok v) := by
  rw [(encodeTs_fields e v rest he hv).2.2.2.1, if_pos rfl]
  exact fromBytes_encode e v rest he hv

theorem encodeTs_append_length (pfx v : Nat) (rest : Bytes) : 1 ≤ (encodeTs pfx v ++ rest).length := by
  rw [List.length_append, encodeTs_length]; omega

theorem fromPts_encode (v : Nat) (rest : Bytes) (hv : v < 2^33) :
    fromPtsBytes (encodeTs 2 v ++ rest) = .ok (.ok v) :=
  (fromPts_unfold _ (encodeTs_append_length 2 v rest)).trans (encode_prefix_pass 2 v rest (by omega) hv _)

theorem fromDts_encode (v : Nat) (rest : Bytes) (hv : v < 2^33) :
    fromDtsBytes (encodeTs 1 v ++ rest) = .ok (.ok v) :=
  (fromDts_unfold _ (encodeTs_append_length 1 v rest)).trans (encode_prefix_pass 1 v rest (by omega) hv _)

theorem fromBytes_ne_prefix (buf : Bytes) (h : 5 ≤ buf.length) (e a : Nat) :
    fromBytes buf ≠ .ok (.error (.incorrectPrefix e a)) := by
  rw [fromBytes_exact buf h]
  intro c
  split at c
  · cases c
  split at c
  · cases c
  split at c <;> cases c

theorem fromBytes_range (buf : Bytes) (v : Nat) (h : fromBytes buf = .ok (.ok v)) : v < 2^33 := by
  have hl := fromBytes_ok_len buf v h
  rw [fromBytes_exact buf hl] at h
  have b1 := readBits_lt buf 4 3
  have b2 := readBits_lt buf 8 15
  have b3 := readBits_lt buf 24 15
  split at h
  · cases h
  · split at h
    · cases h
    · split at h
      · cases h
      · injection h with h; injection h with h
        omega

end Ts.Lemmas.C15
