import Ts.Props.C12
import Ts.Lemmas.C03c
/-!
# From 188-byte packets to payloads (uses the C12 characterisation)

`consume_eq_spec`: on every 188-byte packet `Psi.consume` is `R.ok` of the pure `consumeSpecPk`.
-/
namespace Ts.Lemmas.C03
open Ts Ts.Psi Ts.Packet Ts.Spec Ts.Spec.SectionMux Ts.Props.C12

/-- the payload of a 188-byte packet as `consume` sees it: unit-start flag (bit 9), payload bytes
and payload offset, per the C12 split table; `none` when the packet has no payload -/
def plOf (p : Bytes) : Option Pl :=
  match (splitSpec (hasAf (byteD p 3)) (hasPayload (byteD p 3)) (byteD p 4)).2 with
  | none => none
  | some r => some ⟨readBits p 9 1 == 1, rangeBytes p r, r.1⟩

theorem consume_eq_plOf (cfg : Cfg) (s : St) (p : Bytes) (h : p.length = 188) :
    Psi.consume cfg s p =
      match plOf p with
      | none => .ok (s, [])
      | some q => consumePayload cfg s q.us q.bytes q.off := by
  unfold Psi.consume plOf
  rw [payload_exact p h]
  simp only [R.ok_bind]
  cases (splitSpec (hasAf (byteD p 3)) (hasPayload (byteD p 3)) (byteD p 4)).2 with
  | none => rfl
  | some r =>
    simp only [pusi_exact p h, R.ok_bind]
    rfl

theorem plOf_size (p : Bytes) (h : p.length = 188) (q : Pl) (hq : plOf p = some q) :
    1 ≤ q.bytes.length ∧ q.bytes.length ≤ 184 ∧ q.off + q.bytes.length = 188 ∧ 4 ≤ q.off := by
  unfold plOf at hq
  have hs := (split_sound (hasAf (byteD p 3)) (hasPayload (byteD p 3)) (byteD p 4)).2.1
  cases hr : (splitSpec (hasAf (byteD p 3)) (hasPayload (byteD p 3)) (byteD p 4)).2 with
  | none => rw [hr] at hq; cases hq
  | some r =>
    rw [hr] at hq
    simp only [Option.some.injEq] at hq
    subst hq
    obtain ⟨h1, h2, h3⟩ := hs r hr
    have hl : (rangeBytes p r).length = r.2 := by
      unfold rangeBytes; simp; omega
    simp only [hl]
    omega

def consumeSpecPk (cfg : Cfg) (s : St) (p : Bytes) : St × List Delivery :=
  match plOf p with
  | none => (s, [])
  | some q => consumeSpec cfg s q.us q.bytes q.off

theorem consume_eq_spec (cfg : Cfg) (hc : CfgOk cfg) (s : St) (hs : PsiInv (kindOf cfg) s)
    (p : Bytes) (hp : p.length = 188) : Psi.consume cfg s p = .ok (consumeSpecPk cfg s p) := by
  rw [consume_eq_plOf cfg s p hp]
  unfold consumeSpecPk
  cases hq : plOf p with
  | none => rfl
  | some q => exact consumePayload_eq cfg hc s q.us q.bytes q.off (plOf_size p hp q hq).1 hs

theorem consumeSpecPk_rule {cfg : Cfg} {I : St → Prop} {D : Delivery → Prop} (hr : BufRule cfg I D)
    (s : St) (p : Bytes) (h : I s) : Ends I D (consumeSpecPk cfg s p) := by
  unfold consumeSpecPk
  split
  · exact .nil h
  · exact consumeSpec_rule hr s _ _ _ h

theorem consumeSpecPk_length_le_two (cfg : Cfg) (s : St) (p : Bytes) :
    (consumeSpecPk cfg s p).2.length ≤ 2 := by
  unfold consumeSpecPk
  split
  · simp
  · exact consumeSpec_length_le_two ..

def flatR : R (St × List (List Delivery)) → R (St × List Delivery)
  | .ok (s, ds) => .ok (s, ds.flatten)
  | .panic m => .panic m

theorem flatR_eq_ok {r : R (St × List (List Delivery))} {s : St} {ds : List Delivery} :
    flatR r = .ok (s, ds) ↔ ∃ dss, r = .ok (s, dss) ∧ dss.flatten = ds := by
  cases r with
  | panic m => exact ⟨nofun, fun ⟨_, h, _⟩ => nomatch h⟩
  | ok x =>
    obtain ⟨s', dss⟩ := x
    simp only [flatR, R.ok.injEq, Prod.mk.injEq]
    exact ⟨fun ⟨h1, h2⟩ => ⟨dss, ⟨h1, rfl⟩, h2⟩, fun ⟨_, ⟨h1, h2⟩, h3⟩ => ⟨h1, h2 ▸ h3⟩⟩

theorem run_flat (cfg : Cfg) (ps : List Bytes) : ∀ (s : St), (∀ p ∈ ps, p.length = 188) →
    flatR (Psi.run cfg s ps) = runPl cfg s (ps.filterMap plOf) := by
  induction ps with
  | nil => intro s _; rfl
  | cons p ps ih =>
    intro s hl
    have ih' := fun s1 => ih s1 (fun p' hp' => hl p' (List.mem_cons_of_mem _ hp'))
    rw [Psi.run, consume_eq_plOf cfg s p (hl p (List.mem_cons_self ..)), List.filterMap_cons]
    cases plOf p with
    | none =>
      simp only [R.ok_bind]
      rw [← ih' s]
      cases Psi.run cfg s ps <;> rfl
    | some q =>
      simp only [runPl]
      cases consumePayload cfg s q.us q.bytes q.off with
      | panic m => rfl
      | ok x =>
        simp only [R.ok_bind]
        rw [← ih' x.1]
        cases Psi.run cfg x.1 ps <;> rfl

end Ts.Lemmas.C03
