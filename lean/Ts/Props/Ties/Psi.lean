import Ts.Model.App
import Ts.Model.Values
import Ts.Gen.Consts
/-!
# Ties between the model's literals and constants regenerated from `/repo/src` — part `Psi`

`tools/gen_lean.py` re-extracts the numbers of `Ts/Gen/Consts.lean` from the Rust source on every run.
Each theorem of the constant ties (here, in `Packet.lean`, `Bounds.lean` and at the head of
`ExprAf/Pes/Time/Tables/Desc.lean`) restates one defining equation of the model with the regenerated
constant in the place of the model's literal and holds by unfolding; when the Rust constant changes
the theorem stops checking, which the owning property's check reports as a broken proof obligation
(and then looks for a failing input through the correspondence run).  Each file is audited with the
properties its constants concern, so that a changed constant breaks the obligations of exactly those.

Every constant of `Ts/Gen/Consts.lean` occurs in at least one theorem whose statement contains a MODEL
definition (a bare `Gen.x = literal` pin says nothing about the model).  Where the model uses a named
constant of its own (`Psi.COMMON`, `Pes.FIXED`, `Packet.SIZE`, …) the tie `Gen.x = Model.X` is in the
owning property file; these files cover the places where the model text has a bare literal.  Some use a
regenerated constant in a place where the RUST text has a bare literal as well (e.g. `data.len() - 4`
in `demultiplex.rs:388,526`, where the crate does not use `CRC_SIZE`): those theorems break when the
constant changes although the literal did not, which is the intended alarm for an inconsistency inside
the crate, not evidence of a model defect.

Audited with: C03, C04, C05 (section bounds).
-/
namespace Ts.Props.Ties
open Ts Ts.Tables Ts.Demux

/-- `CrcCheckWholeSectionSyntaxPayloadParser::section`: the minimum length is
`SectionCommonHeader::SIZE + TableSyntaxHeader::SIZE + CRC_SIZE` -/
theorem tie_crc_size (bypassCrc : Bool) (data : Bytes) :
    Psi.crcPass bypassCrc data = (do
      let b1 ← byteAt data 1
      assertR (b1 &&& 0b1000_0000 != 0) "assert!(header.section_syntax_indicator)"
      if data.length < Gen.commonHeaderSize + Gen.tableSyntaxHeaderSize + Gen.crcSize then pure false
      else if bypassCrc then pure true
      else do
        let c ← Crc.sum32 data
        pure (c == 0)) := rfl

/-- `{Section,Compact}SyntaxSectionProcessor::start_section`: each processor compares with ITS OWN
`SECTION_LIMIT`, and with the header sizes -/
theorem tie_section_limits (cfg : Psi.Cfg) (s : Psi.St) (h : Psi.Header) (data : Bytes) (off : Nat) :
    Psi.procStart cfg s h data off = (do
      if cfg.sectionSyntax then do
        if !h.syntaxInd then pure ({ s with ignoreRest := true }, [])
        else if data.length < Gen.commonHeaderSize + Gen.tableSyntaxHeaderSize then
          pure ({ s with ignoreRest := true }, [])
        else if h.sectionLength > Gen.sectionLimitSyntax then pure ({ s with ignoreRest := true }, [])
        else do
          let tb ← sliceFrom data Gen.commonHeaderSize
          assertR (tb.length ≥ Gen.tableSyntaxHeaderSize) "assert!(buf.len() >= Self::SIZE)"
          Psi.dedupStart cfg { s with ignoreRest := false } h data off
      else do
        if h.syntaxInd then pure ({ s with ignoreRest := true }, [])
        else if data.length < Gen.commonHeaderSize then pure ({ s with ignoreRest := true }, [])
        else if h.sectionLength > Gen.sectionLimitCompact then pure ({ s with ignoreRest := true }, [])
        else Psi.dedupStart cfg { s with ignoreRest := false } h data off) := rfl

/-- `SectionCommonHeader::new` / `TableSyntaxHeader::new` size assertions, `Buffer…::start_*_section`'s
`section_length + SectionCommonHeader::SIZE`, and the `TableSyntaxHeader::SIZE` literal of
`Values.tshFields` -/
theorem tie_psi_header_sizes (b : Bytes) (s : Psi.St) (h : Psi.Header) (data : Bytes) (off : Nat) :
    Psi.headerNew b = (do
      assertR (b.length == Gen.commonHeaderSize) "assert_eq!(buf.len(), Self::SIZE)"
      let b0 ← byteAt b 0; let b1 ← byteAt b 1; let b1' ← byteAt b 1; let b1'' ← byteAt b 1; let b2 ← byteAt b 2
      pure ⟨b0, b1 &&& 0b1000_0000 != 0, b1' &&& 0b0100_0000 != 0, ((b1'' &&& 0b0000_1111) <<< 8) ||| b2⟩) ∧
    Psi.tshVersion b = (do
      assertR (b.length ≥ Gen.tableSyntaxHeaderSize) "assert!(buf.len() >= Self::SIZE)"
      let b2 ← byteAt b 2
      pure ((b2 >>> 1) &&& 0b0001_1111)) ∧
    Psi.bufStart s h data off = (do
      let slwh := h.sectionLength + Gen.commonHeaderSize
      if slwh ≤ data.length then do
        let d ← sliceTo data slwh
        pure ({ s with remaining := none }, [⟨d, some off⟩])
      else do
        let toRead ← subR slwh data.length
        pure ({ s with buf := data, remaining := some toRead }, [])) ∧
    Values.tshFields b = (do
      assertR (b.length ≥ Gen.tableSyntaxHeaderSize) "assert!(buf.len() >= Self::SIZE)"
      let b0 ← byteAt b 0; let b1 ← byteAt b 1
      let id := (b0 <<< 8) ||| b1
      let b2 ← byteAt b 2
      let version := (b2 >>> 1) &&& 0b0001_1111
      let b2' ← byteAt b 2
      let cur ← Values.currentNextFrom (b2' &&& 1)
      let b3 ← byteAt b 3; let b4 ← byteAt b 4
      pure ⟨id, version, cur, b3, b4⟩) := ⟨rfl, rfl, rfl, rfl⟩

-- Otherwise `rfl` below evaluates the 8192-wide `List.range` scan inside `App.outdated`.
attribute [local irreducible] App.outdated

/-- `PatProcessor::section` (`demultiplex.rs:525-526`): `start = SectionCommonHeader::SIZE +
TableSyntaxHeader::SIZE` (named in the source); `end = data.len() - 4` (LITERAL in the source,
"remove CRC bytes"), restated with `CRC_SIZE` -/
theorem tie_pat_section_bounds (c : App.Ctx) (reg : List Nat) (data : Bytes) :
    App.patSection c reg data = (do
      let start := Gen.commonHeaderSize + Gen.tableSyntaxHeaderSize
      let end_ ← subR data.length Gen.crcSize
      let body ← sliceR data start end_
      let tableId ← byteAt data 0
      if tableId != 0 then pure (c, reg, [])
      else do
        let entries ← patProgramsAll body
        let (c1, chg) := entries.foldl (fun (acc : App.Ctx × List (Change App.Handler)) e =>
            let req := match e with
              | .program pn pid => App.Req.pmt pid pn
              | .network pid => App.Req.nit pid
            let (h, c') := App.construct acc.1 req
            (c', acc.2 ++ [Change.insert e.pid h])) (c, [])
        let seen := entries.map PatEntry.pid
        let rem ← (App.outdated (reg ++ seen) seen).mapM
          (fun p => do let q ← pidNew p; pure (Change.remove (H := App.Handler) q))
        pure (c1, seen, chg ++ rem)) := rfl

/-- `PmtProcessor::section` (`demultiplex.rs:387-388`): the same two bounds -/
theorem tie_pmt_section_bounds (c : App.Ctx) (pmtPid : Nat) (reg : List Nat) (data : Bytes) :
    App.pmtSection c pmtPid reg data = (do
      let start := Gen.commonHeaderSize + Gen.tableSyntaxHeaderSize
      let end_ ← subR data.length Gen.crcSize
      let body ← sliceR data start end_
      match ← pmtFromBytes body with
      | none => pure (c, reg, [])
      | some sect => do
        let tableId ← byteAt data 0
        if tableId != 2 then pure (c, reg, [])
        else do
          let streams ← pmtStreams sect
          let pcr ← pmtPcrPid sect
          let progDesc ← pmtDescriptorBytes sect
          if c.cfg.touch then App.touchPmt sect
          let (c1, chg) := streams.foldl (fun (acc : App.Ctx × List (Change App.Handler)) s =>
              let (h, c') := App.construct acc.1 (App.Req.stream pmtPid s.streamType s.pid pcr s.descBytes progDesc)
              (c', acc.2 ++ [Change.insert s.pid h])) (c, [])
          let seen := streams.map StreamInfo.pid
          let rem ← (App.outdated (reg ++ seen) seen).mapM
            (fun p => do let q ← pidNew p; pure (Change.remove (H := App.Handler) q))
          pure (c1, seen, chg ++ rem)) := rfl

end Ts.Props.Ties
