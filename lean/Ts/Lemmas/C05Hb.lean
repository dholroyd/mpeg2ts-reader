import Ts.Lemmas.C05H
import Ts.Props.C05
/-!
# C05 over whole histories — the simulation relation

`Sim` relates the abstract routing state (`Spec.RoutingHistory.Route`) to the dispatcher's table and the
application context (`SlotRel`, slot by slot, is in `Spec/RoutingHistory.lean`); projections of `stepRoute`.
-/
namespace Ts.Lemmas.C05H
open Ts Ts.Tables Ts.App Ts.Demux Ts.Spec Ts.Spec.TableSpec Ts.Spec.Routing Ts.Spec.RoutingHistory
open Ts.Spec.SectionMux Ts.Lemmas.C03 Ts.Lemmas.C10 Ts.Lemmas.C05 Ts.Lemmas.C05Run

theorem stepRoute_pat_slots (r : Route) (ver : Nat) (es : List PatEntry) :
    (stepRoute r (.patApplied ver es)).slots =
      applied r.slots (tagged r.reqs.length (patRequests es)) (r.patEntries.map PatEntry.pid) := rfl

theorem stepRoute_pat_pmt (r : Route) (ver : Nat) (es : List PatEntry) (p : Nat) :
    (stepRoute r (.patApplied ver es)).pmt p =
      match lastFor (tagged r.reqs.length (patRequests es)) p with
      | some (.pmt _ _, tag) => ⟨tag, none, []⟩
      | _ => r.pmt p := rfl

theorem stepRoute_pat_reqs (r : Route) (ver : Nat) (es : List PatEntry) :
    (stepRoute r (.patApplied ver es)).reqs = r.reqs ++ (patRequests es).map (·.2) := rfl

theorem stepRoute_pmt_slots (r : Route) (p ver : Nat) (body : Bytes) :
    (stepRoute r (.pmtApplied p ver body)).slots =
      applied r.slots (tagged r.reqs.length (pmtReqs p body)) ((r.pmt p).streams.map StreamInfo.pid) := rfl

theorem stepRoute_pmt_pmt (r : Route) (p ver : Nat) (body : Bytes) (q : Nat) :
    (stepRoute r (.pmtApplied p ver body)).pmt q =
      if q = p then { r.pmt p with ver := some ver, streams := streamsOf body } else r.pmt q := rfl

theorem stepRoute_pmt_reqs (r : Route) (p ver : Nat) (body : Bytes) :
    (stepRoute r (.pmtApplied p ver body)).reqs = r.reqs ++ (pmtReqs p body).map (·.2) := rfl

theorem stepRoute_es_some (r : Route) (p : Nat) (x : Req × Nat) (h : r.slots p = some x) :
    stepRoute r (.esPacket p) = r := by simp only [stepRoute, h]

theorem stepRoute_es_none (r : Route) (p : Nat) (h : r.slots p = none) :
    stepRoute r (.esPacket p) =
      { r with slots := fun q => if q = p then some (.byPid p, r.reqs.length) else r.slots q,
               reqs := r.reqs ++ [.byPid p] } := by simp only [stepRoute, h]

theorem stepRoute_es_pmt (r : Route) (p : Nat) : (stepRoute r (.esPacket p)).pmt = r.pmt := by
  cases h : r.slots p <;> simp only [stepRoute, h]

theorem stepRoute_es_patEntries (r : Route) (p : Nat) :
    (stepRoute r (.esPacket p)).patEntries = r.patEntries := by
  cases h : r.slots p <;> simp only [stepRoute, h]

theorem stepRoute_reqs (r : Route) (ev : Event) : (stepRoute r ev).reqs = r.reqs ++ eventRequests r ev := by
  cases ev with
  | patApplied ver es => rfl
  | pmtApplied p ver body => rfl
  | esPacket p =>
    simp only [stepRoute, eventRequests]
    cases r.slots p <;> simp
  | repetition p => simp [stepRoute, eventRequests]

theorem run_reqs : ∀ (evs : List Event) (r : Route), (run r evs).reqs = r.reqs ++ historyRequests r evs := by
  intro evs
  induction evs with
  | nil => intro r; simp [run, historyRequests]
  | cons ev evs ih =>
    intro r
    show (run (stepRoute r ev) evs).reqs = _
    rw [ih, stepRoute_reqs, historyRequests, List.append_assoc]

theorem run_cons (r : Route) (ev : Event) (evs : List Event) : run r (ev :: evs) = run (stepRoute r ev) evs := rfl

theorem run_append (r : Route) (a b : List Event) : run r (a ++ b) = run (run r a) b := by
  unfold run; rw [List.foldl_append]

/-- what every step preserves (for events satisfying `Q`) holds after a run -/
theorem run_ind {P : Route → Prop} {Q : Event → Prop}
    (step : ∀ r ev, P r → Q ev → P (stepRoute r ev)) :
    ∀ (evs : List Event) (r : Route), P r → (∀ ev ∈ evs, Q ev) → P (run r evs) := by
  intro evs
  induction evs with
  | nil => intro r h _; exact h
  | cons ev evs ih =>
    intro r h hQ
    exact ih _ (step r ev h (hQ ev List.mem_cons_self)) fun ev' hm => hQ ev' (List.mem_cons_of_mem _ hm)

theorem wf_append : ∀ (a b : List Event) (r : Route), WF r (a ++ b) ↔ WF r a ∧ WF (run r a) b := by
  intro a
  induction a with
  | nil => intro b r; simp [WF, run]
  | cons ev a ih =>
    intro b r
    simp only [List.cons_append, WF, ih, run_cons, and_assoc]

theorem patRouted_iff (r : Route) : patRouted r = true ↔ ∃ tag, r.slots 0 = some (.byPid 0, tag) := by
  unfold patRouted
  split
  · rename_i tag h; exact ⟨fun _ => ⟨tag, h⟩, fun _ => rfl⟩
  · rename_i h
    constructor
    · intro h'; cases h'
    · rintro ⟨tag, h'⟩; exact absurd h' (h tag)

theorem pmtRouted_iff (r : Route) (p : Nat) :
    pmtRouted r p = true ↔ ∃ prog tag, r.slots p = some (.pmt p prog, tag) := by
  unfold pmtRouted
  split
  · rename_i q prog tag h
    constructor
    · intro e
      have : q = p := by simpa using e
      subst this
      exact ⟨prog, tag, h⟩
    · rintro ⟨prog', tag', h'⟩
      rw [h] at h'
      cases h'
      simp
  · rename_i h
    constructor
    · intro h'; cases h'
    · rintro ⟨prog, tag, h'⟩; exact absurd h' (h p prog tag)

structure Sim (r : Route) (t : Tab Handler) (c : Ctx) : Prop where
  script : c.cfg.script = []
  tag : c.nextTag = r.reqs.length
  log : constructs c = r.reqs.zipIdx
  slots : ∀ p, SlotRel r p (r.slots p) (t.get p)
  pat0 : ∀ e ∈ r.patEntries, e.pid ≠ 0
  pmtSelf : ∀ p, ∀ s ∈ (r.pmt p).streams, s.pid ≠ p

/-- the relation of one slot depends on the abstract state only through the PAT instance (slot 0)
and the PMT instance of that slot -/
theorem slotRel_congr {r r' : Route} {p : Nat} {a : Option (Req × Nat)} {o : Option Handler}
    (h : SlotRel r p a o)
    (hpat : p = 0 → r'.patEntries = r.patEntries ∧ r'.patVersion = r.patVersion)
    (hpmt : r'.pmt p = r.pmt p) : SlotRel r' p a o := by
  rcases a with _ | ⟨req, tag⟩
  · exact h
  · rcases req with (_ | n) | ⟨a, b⟩ | x | ⟨pp, st, q, pcr, d1, d2⟩
    · simp only [SlotRel] at h ⊢
      obtain ⟨h0, s, hs, hi⟩ := h
      obtain ⟨e1, e2⟩ := hpat h0
      exact ⟨h0, s, by rw [e1]; exact hs, by rw [e2]; exact hi⟩
    · exact h
    · simp only [SlotRel] at h ⊢
      rw [hpmt]; exact h
    · exact h
    · exact h

theorem slotRel_fresh (r : Route) (p : Nat) (req : Req) (tag : Nat) (h0 : req ≠ .byPid 0)
    (hpmt : ∀ a b, req = .pmt a b → (r.pmt p).ver = none ∧ (r.pmt p).streams = []) :
    SlotRel r p (some (req, tag)) (some (handlerFor req tag)) := by
  rcases req with (_ | n) | ⟨a, b⟩ | x | ⟨pp, st, q, pcr, d1, d2⟩
  · exact absurd rfl h0
  · rfl
  · obtain ⟨e1, e2⟩ := hpmt a b rfl
    simp only [SlotRel, handlerFor]
    exact ⟨{}, by rw [e2]; rfl, by rw [e1]; exact ⟨rfl, rfl⟩⟩
  · rfl
  · simp only [SlotRel, handlerFor]
    by_cases hp : isPes st = true
    · simp only [hp, if_true]; exact ⟨{}, rfl⟩
    · have hp' : isPes st = false := by simpa using hp
      simp [hp']

theorem applied_untouched {α : Type} (f : Nat → Option α) (listed : List (Nat × α)) (reg : List Nat) (p : Nat)
    (h1 : p ∉ listed.map (·.1)) (h2 : p ∉ reg) : applied f listed reg p = f p := by
  rw [applied_of_not_mem f listed reg p h1, if_neg (fun h => h2 h.2.1)]

theorem applied_outdated {α : Type} (f : Nat → Option α) (listed : List (Nat × α)) (reg : List Nat) (p : Nat)
    (h1 : p ∉ listed.map (·.1)) (h2 : p ∈ reg) (h13 : p ≤ 0x1fff) : applied f listed reg p = none := by
  rw [applied_of_not_mem f listed reg p h1, if_pos ⟨by omega, h2, h1⟩]

theorem slots_after_table (r r' : Route) (t t' : Tab Handler) (n : Nat) (reqs : List (Nat × Req))
    (reg : List Nat) (q : Nat)
    (hs' : r'.slots q = applied r.slots (tagged n reqs) reg q)
    (ht' : t'.get q = applied t.get (built n reqs) reg q)
    (hold : SlotRel r q (r.slots q) (t.get q))
    (hnew : ∀ req tag, lastFor (tagged n reqs) q = some (req, tag) →
      SlotRel r' q (some (req, tag)) (some (handlerFor req tag)))
    (hkeep : lastFor (tagged n reqs) q = none → ∀ a o, SlotRel r q a o → SlotRel r' q a o) :
    SlotRel r' q (r'.slots q) (t'.get q) := by
  rw [hs', ht', built_eq_tagged]
  unfold applied
  rw [lastFor_map (fun x : Req × Nat => handlerFor x.1 x.2)]
  have hp : ((tagged n reqs).map fun x => (x.1, handlerFor x.2.1 x.2.2)).map (·.1) = (tagged n reqs).map (·.1) := by
    rw [List.map_map]; rfl
  rw [hp]
  cases hl : lastFor (tagged n reqs) q with
  | some x =>
    obtain ⟨req, tag⟩ := x
    exact hnew req tag hl
  | none =>
    simp only [Option.map_none]
    by_cases ho : Outdated reg ((tagged n reqs).map (·.1)) q
    · rw [if_pos ho, if_pos ho]; rfl
    · rw [if_neg ho, if_neg ho]; exact hkeep hl _ _ hold

/-- replacing the handler of one slot by one satisfying the same relation, in a context that made
no request -/
theorem sim_update (r : Route) (t t' : Tab Handler) (c c' : Ctx) (p : Nat) (hsim : Sim r t c)
    (hcfg : c'.cfg = c.cfg) (htag : c'.nextTag = c.nextTag) (hlog : constructs c' = constructs c)
    (hp : SlotRel r p (r.slots p) (t'.get p)) (hq : ∀ q, q ≠ p → t'.get q = t.get q) : Sim r t' c' :=
  { script := by rw [hcfg]; exact hsim.script
    tag := by rw [htag]; exact hsim.tag
    log := by rw [hlog]; exact hsim.log
    slots := fun q => by
      by_cases e : q = p
      · subst e; exact hp
      · rw [hq q e]; exact hsim.slots q
    pat0 := hsim.pat0
    pmtSelf := hsim.pmtSelf }

theorem pmtReqs_pids (p : Nat) (body : Bytes) :
    (pmtReqs p body).map (·.1) = (streamsOf body).map StreamInfo.pid := pmtRequests_pids _ _ _ _

end Ts.Lemmas.C05H
