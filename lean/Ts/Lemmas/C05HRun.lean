import Ts.Lemmas.C05H
/-!
# C05 over whole histories — the concrete histories used for non-vacuity

The generator's `F7control` / `F7` probes (`/verif/harness/target/release/harness gen probes quick 1`), i.e.
`Ts.Lemmas.C05Run.ctlBytes` / `f7Bytes`, framed into packets and cut into the events of a history.
`Realises` / `WF` / `CollisionFree` are established by kernel evaluation of the small decidable side
conditions (section well-formedness, CRC-32 by the bit-serial specification, payload views), NOT of the
whole model.
-/
namespace Ts.Lemmas.C05HRun
open Ts Ts.Tables Ts.App Ts.Demux Ts.Spec Ts.Spec.TableSpec Ts.Spec.Routing Ts.Spec.RoutingHistory
open Ts.Spec.SectionMux Ts.Lemmas.C03 Ts.Lemmas.C10 Ts.Lemmas.C05Run Ts.Lemmas.C05H

/-- PAT version 0: program 1 → 0x100 -/
def patS0 : Bytes :=
  [0x00, 0xb0, 0x0d, 0x00, 0x01, 0xc1, 0x00, 0x00, 0x00, 0x01, 0xe1, 0x00, 0xe8, 0xf9, 0x5e, 0x7d]

/-- PAT version 1: program 1 → 0x100, program 2 → 0x110 -/
def patS1 : Bytes :=
  [0x00, 0xb0, 0x11, 0x00, 0x01, 0xc3, 0x00, 0x00, 0x00, 0x01, 0xe1, 0x00, 0x00, 0x02, 0xe1, 0x10,
   0xf0, 0xeb, 0x33, 0x61]

/-- PMT version 0 (program 1): PCR PID 0x101, 0x1b on 0x101, 0x0f on 0x102 -/
def pmtS0 : Bytes :=
  [0x02, 0xb0, 0x17, 0x00, 0x01, 0xc1, 0x00, 0x00, 0xe1, 0x01, 0xf0, 0x00, 0x1b, 0xe1, 0x01, 0xf0, 0x00,
   0x0f, 0xe1, 0x02, 0xf0, 0x00, 0x9e, 0x28, 0xc6, 0xdd]

/-- PMT version 1 (program 1): only 0x1b on 0x101 -/
def pmtS1 : Bytes :=
  [0x02, 0xb0, 0x12, 0x00, 0x01, 0xc3, 0x00, 0x00, 0xe1, 0x01, 0xf0, 0x00, 0x1b, 0xe1, 0x01, 0xf0, 0x00,
   0x40, 0x29, 0xfb, 0x17]

def body0 : Bytes := [0xe1, 0x01, 0xf0, 0x00, 0x1b, 0xe1, 0x01, 0xf0, 0x00, 0x0f, 0xe1, 0x02, 0xf0, 0x00]
def body1 : Bytes := [0xe1, 0x01, 0xf0, 0x00, 0x1b, 0xe1, 0x01, 0xf0, 0x00]

theorem streams_body0 : streamsOf body0 = [⟨0x1b, 0x101, []⟩, ⟨0x0f, 0x102, []⟩] := by decide +kernel
theorem streams_body1 : streamsOf body1 = [⟨0x1b, 0x101, []⟩] := by decide +kernel

def pkPat0 : Pk := ⟨patV0, 0, 0, false, false⟩

/-- control history: PAT v0, PMT v0, PMT v1, probe on 0x102 -/
def ctlPks : List Pk :=
  [pkPat0, ⟨pmtV0, 188, 0x100, false, false⟩, ⟨pmtV1, 376, 0x100, false, false⟩,
   ⟨probe, 564, 0x102, false, false⟩]

/-- F7 history: PAT v0, PMT v0, PAT v1, PMT v1, probe on 0x102 -/
def f7Pks : List Pk :=
  [pkPat0, ⟨pmtV0, 188, 0x100, false, false⟩, ⟨Ts.Lemmas.C05Run.patV1, 376, 0, false, false⟩,
   ⟨pmtV1, 564, 0x100, false, false⟩, ⟨probe, 752, 0x102, false, false⟩]

/-- the control history with PAT v0 re-transmitted after PMT v0 -/
def repPks : List Pk :=
  [pkPat0, ⟨pmtV0, 188, 0x100, false, false⟩, ⟨patV0, 376, 0, false, false⟩,
   ⟨pmtV1, 564, 0x100, false, false⟩, ⟨probe, 752, 0x102, false, false⟩]

theorem ctl_frame : Demux.frame ctlBytes 0 = .ok ctlPks := by decide +kernel
theorem f7_frame : Demux.frame f7Bytes 0 = .ok f7Pks := by decide +kernel

def ctlHist : List Event :=
  [.patApplied 0 [.program 1 0x100], .pmtApplied 0x100 0 body0, .pmtApplied 0x100 1 body1, .esPacket 0x102]

def f7Hist : List Event :=
  [.patApplied 0 [.program 1 0x100], .pmtApplied 0x100 0 body0,
   .patApplied 1 [.program 1 0x100, .program 2 0x110], .pmtApplied 0x100 1 body1, .esPacket 0x102]

def repHist : List Event :=
  [.patApplied 0 [.program 1 0x100], .pmtApplied 0x100 0 body0, .repetition 0,
   .pmtApplied 0x100 1 body1, .esPacket 0x102]

/-- a PAT that drops its only program after the PMT was applied -/
def dropHist : List Event :=
  [.patApplied 0 [.program 1 0x100], .pmtApplied 0x100 0 body0, .patApplied 1 []]

theorem ctl_wf : WF initRoute ctlHist := by decide +kernel
theorem f7_wf : WF initRoute f7Hist := by decide +kernel
theorem rep_wf : WF initRoute repHist := by decide +kernel
theorem drop_wf : WF initRoute dropHist := by decide +kernel
theorem ctl_cf : CollisionFree ctlHist := by decide +kernel
theorem f7_cf : CollisionFree f7Hist := by decide +kernel
theorem drop_cf : CollisionFree dropHist := by decide +kernel

theorem transmits_one (pid : Nat) (S : Bytes) (pk : Pk)
    (h1 : WellFormedSection .syntax S) (h2 : 12 ≤ S.length) (h3 : Ts.CrcSpec.crc S = 0)
    (h4 : pk.pid = pid ∧ pk.flagged = false ∧ pk.bytes.length = 188)
    (h5 : WellFormedMux .syntax S (muxOf S))
    (h6 : plOf pk.bytes = some ⟨true, (muxOf S).first S, 4⟩) : Transmits pid S [pk] :=
  { wf := h1, len := h2, crc := h3
    pkts := fun pk' hm => by rw [List.mem_singleton.1 hm]; exact h4
    mux := ⟨muxOf S, 4, [], h5, by simp [h6], by simp, rfl⟩ }

/-- all the decidable side conditions of a one-packet PAT transmission at once -/
theorem re_pat_one (r : Route) (b : Bytes) (off : Nat) (S : Bytes) (ver : Nat) (es : List PatEntry)
    (h : WellFormedSection .syntax S ∧ 12 ≤ S.length ∧ Ts.CrcSpec.crc S = 0 ∧
      b.length = 188 ∧ WellFormedMux .syntax S (muxOf S) ∧
      plOf b = some ⟨true, (muxOf S).first S, 4⟩ ∧
      byteD S 0 = 0 ∧ versionOf S = ver ∧ specPat (sectionBody S) = es) :
    RealisesEv r (.patApplied ver es) [⟨b, off, 0, false, false⟩] := by
  obtain ⟨h1, h2, h3, h4, h5, h6, h7, h8, h9⟩ := h
  exact ⟨S, transmits_one 0 S _ h1 h2 h3 ⟨rfl, rfl, h4⟩ h5 h6, h7, h8, h9⟩

/-- the same for a one-packet PMT transmission -/
theorem re_pmt_one (r : Route) (p : Nat) (b : Bytes) (off : Nat) (S : Bytes) (ver : Nat) (body : Bytes)
    (h : WellFormedSection .syntax S ∧ 12 ≤ S.length ∧ Ts.CrcSpec.crc S = 0 ∧
      b.length = 188 ∧ WellFormedMux .syntax S (muxOf S) ∧
      plOf b = some ⟨true, (muxOf S).first S, 4⟩ ∧
      byteD S 0 = 2 ∧ versionOf S = ver ∧ sectionBody S = body ∧ specPmtAccept body) :
    RealisesEv r (.pmtApplied p ver body) [⟨b, off, p, false, false⟩] := by
  obtain ⟨h1, h2, h3, h4, h5, h6, h7, h8, h9, h10⟩ := h
  exact ⟨S, transmits_one p S _ h1 h2 h3 ⟨rfl, rfl, h4⟩ h5 h6, h7, h8, h9, h10⟩

/-- a one-packet transmission of a section with `version_number = v` is a repetition packet of
version `v` (C10) -/
theorem rep_of_section (v : Nat) (pk S : Bytes)
    (h : pk.length = 188 ∧ plOf pk = some ⟨true, (muxOf S).first S, 4⟩ ∧ WellFormedSection .syntax S ∧
      8 ≤ S.length ∧ versionOf S = v ∧ WellFormedMux .syntax S (muxOf S)) : RepPacket v pk := by
  obtain ⟨h1, h2, h3, h4, h5, h6⟩ := h
  refine ⟨h1, ?_⟩
  intro q hq
  rw [h2] at hq
  cases hq
  exact Or.inr ⟨S, muxOf S, h3, h4, h5, h6, rfl, rfl⟩

theorem re_es (r : Route) (p : Nat) (b : Bytes) (off : Nat) (h : b.length = 188) :
    RealisesEv r (.esPacket p) [⟨b, off, p, false, false⟩] := ⟨_, rfl, rfl, h⟩

theorem re_pat0 (r : Route) (off : Nat) :
    RealisesEv r (.patApplied 0 [.program 1 0x100]) [⟨patV0, off, 0, false, false⟩] :=
  re_pat_one r _ off patS0 0 _ (by decide +kernel)

theorem re_pat1 (r : Route) (off : Nat) :
    RealisesEv r (.patApplied 1 [.program 1 0x100, .program 2 0x110]) [⟨Ts.Lemmas.C05Run.patV1, off, 0, false, false⟩] :=
  re_pat_one r _ off patS1 1 _ (by decide +kernel)

theorem re_pmt0 (r : Route) (off : Nat) :
    RealisesEv r (.pmtApplied 0x100 0 body0) [⟨pmtV0, off, 0x100, false, false⟩] :=
  re_pmt_one r 0x100 _ off pmtS0 0 body0 (by decide +kernel)

theorem re_pmt1 (r : Route) (off : Nat) :
    RealisesEv r (.pmtApplied 0x100 1 body1) [⟨pmtV1, off, 0x100, false, false⟩] :=
  re_pmt_one r 0x100 _ off pmtS1 1 body1 (by decide +kernel)

theorem re_probe (r : Route) (off : Nat) :
    RealisesEv r (.esPacket 0x102) [⟨probe, off, 0x102, false, false⟩] :=
  re_es r 0x102 probe off (by decide +kernel)

theorem patV0_rep : RepPacket 0 patV0 := rep_of_section 0 _ patS0 (by decide +kernel)

theorem ctl_realises : Realises initRoute ctlHist ctlPks :=
  Realises.cons (re_pat0 _ 0) (Realises.cons (re_pmt0 _ 188) (Realises.cons (re_pmt1 _ 376)
    (Realises.cons (re_probe _ 564) (Realises.nil _))))

theorem f7_realises : Realises initRoute f7Hist f7Pks :=
  Realises.cons (re_pat0 _ 0) (Realises.cons (re_pmt0 _ 188) (Realises.cons (re_pat1 _ 376)
    (Realises.cons (re_pmt1 _ 564) (Realises.cons (re_probe _ 752) (Realises.nil _)))))

theorem rep_realises : Realises initRoute repHist repPks := by
  refine Realises.cons (re_pat0 _ 0) (Realises.cons (re_pmt0 _ 188)
    (Realises.cons (pks1 := [⟨patV0, 376, 0, false, false⟩]) ?_
    (Realises.cons (re_pmt1 _ 564) (Realises.cons (re_probe _ 752) (Realises.nil _)))))
  refine ⟨⟨patV0, 376, 0, false, false⟩, rfl, rfl, Or.inr ?_⟩
  have : tableVersion (stepRoute (stepRoute initRoute (.patApplied 0 [.program 1 0x100]))
      (.pmtApplied 0x100 0 body0)) 0 = some 0 := by decide +kernel
  rw [this]
  exact patV0_rep

/-- control: 0x102 was un-routed by PMT v1 (same instance) and re-offered `ByPid` (tag 5) -/
theorem ctl_slots :
    (run initRoute ctlHist).slots 0 = some (.byPid 0, 0) ∧
    (run initRoute ctlHist).slots 0x100 = some (.pmt 0x100 1, 1) ∧
    (run initRoute ctlHist).slots 0x101 = some (.stream 0x100 0x1b 0x101 0x101 [] [], 4) ∧
    (run initRoute ctlHist).slots 0x102 = some (.byPid 0x102, 5) ∧
    (run initRoute ctlHist).slots 0x110 = none ∧
    (run initRoute ctlHist).patVersion = some 0 ∧
    ((run initRoute ctlHist).pmt 0x100).ver = some 1 ∧
    ((run initRoute ctlHist).pmt 0x100).gen = 1 ∧
    ((run initRoute ctlHist).pmt 0x100).streams = [⟨0x1b, 0x101, []⟩] := by decide +kernel

theorem ctl_requests : historyRequests initRoute ctlHist =
    [.pmt 0x100 1, .stream 0x100 0x1b 0x101 0x101 [] [], .stream 0x100 0x0f 0x102 0x101 [] [],
     .stream 0x100 0x1b 0x101 0x101 [] [], .byPid 0x102] := by decide +kernel

/-- F7: 0x102 is still routed by the stream request of PMT v0 (tag 3) after PMT v1 dropped it -/
theorem f7_slots :
    (run initRoute f7Hist).slots 0x100 = some (.pmt 0x100 1, 4) ∧
    (run initRoute f7Hist).slots 0x101 = some (.stream 0x100 0x1b 0x101 0x101 [] [], 6) ∧
    (run initRoute f7Hist).slots 0x102 = some (.stream 0x100 0x0f 0x102 0x101 [] [], 3) ∧
    (run initRoute f7Hist).slots 0x110 = some (.pmt 0x110 2, 5) ∧
    ((run initRoute f7Hist).pmt 0x100).gen = 4 ∧
    ((run initRoute f7Hist).pmt 0x100).streams = [⟨0x1b, 0x101, []⟩] := by decide +kernel

theorem f7_requests : historyRequests initRoute f7Hist =
    [.pmt 0x100 1, .stream 0x100 0x1b 0x101 0x101 [] [], .stream 0x100 0x0f 0x102 0x101 [] [],
     .pmt 0x100 1, .pmt 0x110 2, .stream 0x100 0x1b 0x101 0x101 [] []] := by decide +kernel

/-- a PAT dropping program 1 un-routes the PMT PID but not the program's elementary streams -/
theorem drop_slots :
    (run initRoute dropHist).slots 0x100 = none ∧
    (run initRoute dropHist).slots 0x101 = some (.stream 0x100 0x1b 0x101 0x101 [] [], 2) ∧
    (run initRoute dropHist).slots 0x102 = some (.stream 0x100 0x0f 0x102 0x101 [] [], 3) := by
  decide +kernel

end Ts.Lemmas.C05HRun
