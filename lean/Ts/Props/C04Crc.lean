import Ts.Model.Crc
import Ts.Spec.CrcSpec
import Ts.Lemmas.C04
/-!
# C04 (checksum half) — `sum32` is exactly the CRC-32 of ISO/IEC 13818-1 Annex A

For **every** byte string the model of `mpegts_crc::sum32` (table driven, table and constants
regenerated from the Rust source) returns — without panicking — the value of the Annex A bit-serial
shift register `CrcSpec.crc` (polynomial `0x04C11DB7`, preset all ones, MSB first, no final xor,
no reflection).  Consequently a section followed by its CRC sums to zero, and a corruption
`xorBytes m e` of any message `m` of any length changes the checksum whenever the error pattern `e`
is a single bit, a burst confined to 32 consecutive bit positions, or two bits less than `2^16`
positions apart.

Bit positions: bit `i` of a byte string is bit `7 - i % 8` of byte `i / 8` (`CrcSpec.bitAt`),
i.e. transmission order.

Not claimed (and false for any 32-bit CRC): detection of two flipped bits arbitrarily far apart
(`x` has order `2^32 - 1` modulo the generator).
-/
namespace Ts.Props.C04
open Ts Ts.CrcSpec

/-! ### ties to `/repo/src/mpegts_crc.rs` (regenerated `Ts/Gen/CrcTable.lean`) -/

theorem tie_init : Ts.Gen.crcInit = 0xFFFFFFFF := by decide
theorem tie_idx_shift : Ts.Gen.crcIdxShift = 24 := by decide
theorem tie_idx_mask : Ts.Gen.crcIdxMask = 0xFF := by decide
theorem tie_upd_shift : Ts.Gen.crcUpdShift = 8 := by decide
theorem tie_table_size : Ts.Gen.crcTable.size = 256 := by decide +kernel
theorem tie_init_preset : Ts.Gen.crcInit = preset := by decide
theorem tie_modulus : Ts.Crc.M = 2^32 := by decide

/-- every row `i` of the source's `CRC_TABLE` is the bit-serial register after clocking the 8 bits
of byte `i` (MSB first) into a zero register -/
theorem table_ok : ∀ i : Fin 256, Ts.Gen.crcTable[i.val]? = some (run 0 (byteBits i.val)) := by
  -- one comparison of the 256 rows as a list; an index-by-index sweep walks the array literal anew
  -- for every row
  have h : Ts.Gen.crcTable.toList = (List.range 256).map (fun i => run 0 (byteBits i)) := by
    decide +kernel
  intro i
  rw [← Array.getElem?_toList, h, List.getElem?_map, List.getElem?_range i.isLt]
  rfl

/-- the same, phrased with the public spec function on a one-byte message -/
theorem table_ok_crc0 (i : Fin 256) : Ts.Gen.crcTable[i.val]? = some (crc0 [UInt8.ofNat i.val]) := by
  rw [table_ok i]
  have : (UInt8.ofNat i.val).toNat = i.val := by
    rw [UInt8.toNat_ofNat']; exact Nat.mod_eq_of_lt i.isLt
  unfold crc0 crcFrom
  rw [bits_cons, bits_nil, List.append_nil, this]

/-- **`sum32` = Annex A**, for every byte string, with panic freedom -/
theorem sum32_eq_bitserial (d : Bytes) : Ts.Crc.sum32 d = .ok (crc d) := by
  unfold Ts.Crc.sum32 crc
  rw [tie_init_preset]
  exact model_sum32From d preset (by decide) tie_idx_shift tie_idx_mask tie_upd_shift table_ok

theorem sum32_never_panics (d : Bytes) : (Ts.Crc.sum32 d).isOk = true := by
  rw [sum32_eq_bitserial]; rfl

theorem crc_lt (d : Bytes) : crc d < 2^32 := by
  have := crcFrom_lt preset d (by decide)
  rw [M_eq] at this; exact this

/-- transport between the model and the spec for the "sums to zero" test used by the section gate -/
theorem sum32_zero_iff (d : Bytes) : Ts.Crc.sum32 d = .ok 0 ↔ crc d = 0 := by
  rw [sum32_eq_bitserial]
  constructor
  · intro h; injection h
  · intro h; rw [h]

theorem sum32_append_self (m : Bytes) : crc (m ++ be32 (crc m)) = 0 := by
  unfold crc
  rw [crcFrom_append]
  exact crcFrom_be32_self _ (crcFrom_lt preset m (by decide))

theorem sum32_append_self_model (m : Bytes) (v : Nat) (h : Ts.Crc.sum32 m = .ok v) :
    Ts.Crc.sum32 (m ++ be32 v) = .ok 0 := by
  rw [sum32_eq_bitserial] at h
  injection h with h
  subst h
  rw [sum32_eq_bitserial, sum32_append_self]

/-- the checksum is affine: corrupting `m` by the pattern `e` xors the checksum with the
zero-preset register of `e` -/
theorem crc_affine (m e : Bytes) (hl : e.length = m.length) :
    crc (xorBytes m e) = crc m ^^^ crc0 e := by
  have := crcFrom_xor m e preset 0 hl (by decide) (by decide)
  rw [Nat.xor_zero] at this
  exact this

/-- core: a nonzero pattern whose set bits lie in a window of 32 bit positions is never a
codeword of the linear part -/
theorem crc0_burst_ne_zero (e : Bytes) (s : Nat) (hne : ∃ i, bitAt e i = 1)
    (hwin : ∀ i, bitAt e i = 1 → s ≤ i ∧ i < s + 32) : crc0 e ≠ 0 := by
  unfold crc0 crcFrom
  apply burst_run (bits e) (bits_allBits e) s
  · obtain ⟨i, hi⟩ := hne; exact ⟨i, by rw [bits_getD]; exact hi⟩
  · intro i hi; rw [bits_getD] at hi; exact hwin i hi

/-- **burst errors up to 32 bits change the checksum** (any message, any length, any position) -/
theorem detect_burst_le_32_any (m e : Bytes) (s : Nat) (hl : e.length = m.length)
    (hne : ∃ b ∈ e, b ≠ 0) (hwin : ∀ i, bitAt e i = 1 → s ≤ i ∧ i < s + 32) :
    crc (xorBytes m e) ≠ crc m := by
  rw [crc_affine m e hl]
  exact xor_ne_self _ _ (crc0_burst_ne_zero e s (exists_bit_of_nonzero e hne) hwin)

/-- **a valid section (residue 0) hit by a burst of at most 32 bits no longer sums to zero** -/
theorem detect_burst_le_32 (m e : Bytes) (s : Nat) (hl : e.length = m.length) (hm : crc m = 0)
    (hne : ∃ b ∈ e, b ≠ 0) (hwin : ∀ i, bitAt e i = 1 → s ≤ i ∧ i < s + 32) :
    crc (xorBytes m e) ≠ 0 := by
  have := detect_burst_le_32_any m e s hl hne hwin
  rw [hm] at this; exact this

theorem sum32_detect_burst_le_32 (m e : Bytes) (s : Nat) (hl : e.length = m.length)
    (hm : Ts.Crc.sum32 m = .ok 0)
    (hne : ∃ b ∈ e, b ≠ 0) (hwin : ∀ i, bitAt e i = 1 → s ≤ i ∧ i < s + 32) :
    Ts.Crc.sum32 (xorBytes m e) ≠ .ok 0 := by
  rw [sum32_eq_bitserial] at hm ⊢
  injection hm with hm
  intro h; injection h with h
  exact detect_burst_le_32 m e s hl hm hne hwin h

/-- **single-bit errors**: `e` has exactly one set bit, at position `p` -/
theorem detect_single_bit (m e : Bytes) (p : Nat) (hl : e.length = m.length) (hm : crc m = 0)
    (hp : bitAt e p = 1) (honly : ∀ i, bitAt e i = 1 → i = p) : crc (xorBytes m e) ≠ 0 := by
  have h0 : crc0 e ≠ 0 :=
    crc0_burst_ne_zero e p ⟨p, hp⟩ (fun i hi => by have := honly i hi; omega)
  rw [crc_affine m e hl, hm, Nat.zero_xor]; exact h0

/-- single-bit errors, concretely: inverting any one bit of any message changes the checksum -/
theorem detect_single_bit_flip_any (m : Bytes) (p : Nat) (hp : p < 8 * m.length) :
    crc (flipBit m p) ≠ crc m := by
  unfold flipBit
  rw [crc_affine m _ (singleBit_length _ _)]
  apply xor_ne_self
  apply crc0_burst_ne_zero _ p
  · exact ⟨p, by rw [bitAt_singleBit _ _ _ hp]; simp⟩
  · intro i hi
    rw [bitAt_singleBit _ _ _ hp] at hi
    by_cases h : i = p
    · omega
    · simp [h] at hi

theorem detect_single_bit_flip (m : Bytes) (p : Nat) (hp : p < 8 * m.length) (hm : crc m = 0) :
    crc (flipBit m p) ≠ 0 := by
  have := detect_single_bit_flip_any m p hp
  rw [hm] at this; exact this

theorem crc0_double_ne_zero (e : Bytes) (p q : Nat) (hpq : p < q) (hd : q - p < 65536)
    (hp : bitAt e p = 1) (hq : bitAt e q = 1) (honly : ∀ i, bitAt e i = 1 → i = p ∨ i = q) :
    crc0 e ≠ 0 := by
  unfold crc0 crcFrom
  apply double_run (bits e) (bits_allBits e) p q hpq
  · rw [bits_getD]; exact hp
  · rw [bits_getD]; exact hq
  · intro i hi; rw [bits_getD] at hi; exact honly i hi
  · exact order_gt_2_16 (q - p) (by omega) hd

/-- **double-bit errors**: `e` has exactly two set bits, at positions `p < q` less than `2^16`
bit positions apart (this covers every pair inside a maximum-size 4096-byte section:
`detect_double_bit_section` discharges `hd` from `S.length ≤ 4096`) -/
theorem detect_double_bit (m e : Bytes) (p q : Nat) (hl : e.length = m.length) (hm : crc m = 0)
    (hpq : p < q) (hd : q - p < 65536)
    (hp : bitAt e p = 1) (hq : bitAt e q = 1) (honly : ∀ i, bitAt e i = 1 → i = p ∨ i = q) :
    crc (xorBytes m e) ≠ 0 := by
  rw [crc_affine m e hl, hm, Nat.zero_xor]
  exact crc0_double_ne_zero e p q hpq hd hp hq honly

/-- double-bit errors, concretely: inverting any two distinct bits less than `2^16` positions apart
changes the checksum of any message -/
theorem detect_double_bit_flip_any (m : Bytes) (p q : Nat) (hpq : p < q) (hq : q < 8 * m.length)
    (hd : q - p < 65536) : crc (flipBit (flipBit m p) q) ≠ crc m := by
  have hlen : (flipBit m p).length = m.length := xorBytes_length _ _ (singleBit_length _ _)
  unfold flipBit at hlen ⊢
  rw [crc_affine _ _ (by rw [singleBit_length]), crc_affine m _ (singleBit_length _ _), hlen,
    Nat.xor_assoc]
  apply xor_ne_self
  -- the two single-bit registers add up to the register of the two-bit pattern
  have hx := crcFrom_xor (singleBit m.length p) (singleBit m.length q) 0 0
    (by rw [singleBit_length, singleBit_length]) (by decide) (by decide)
  rw [Nat.xor_zero] at hx
  unfold crc0
  rw [← hx]
  have hb : ∀ i, bitAt (xorBytes (singleBit m.length p) (singleBit m.length q)) i
      = (if i = p then 1 else 0) ^^^ (if i = q then 1 else 0) := by
    intro i
    rw [bitAt_xorBytes _ _ (by rw [singleBit_length, singleBit_length]),
      bitAt_singleBit _ _ _ (by omega), bitAt_singleBit _ _ _ hq]
  apply crc0_double_ne_zero _ p q hpq hd
  · rw [hb]; have : ¬ p = q := by omega
    simp [this]
  · rw [hb]; have : ¬ q = p := by omega
    simp [this]
  · intro i hi
    rw [hb] at hi
    by_cases h1 : i = p
    · exact Or.inl h1
    · by_cases h2 : i = q
      · exact Or.inr h2
      · simp [h1, h2] at hi

theorem detect_double_bit_flip (m : Bytes) (p q : Nat) (hpq : p < q) (hq : q < 8 * m.length)
    (hd : q - p < 65536) (hm : crc m = 0) : crc (flipBit (flipBit m p) q) ≠ 0 := by
  have := detect_double_bit_flip_any m p q hpq hq hd
  rw [hm] at this; exact this

/-- a PAT section body (program 1 → PMT PID 0x1e0) and its CRC_32 -/
def patBody : Bytes := [0x00, 0xb0, 0x0d, 0x00, 0x01, 0xc1, 0x00, 0x00, 0x00, 0x01, 0xe1, 0xe0]
def patSection : Bytes := patBody ++ [0x2d, 0x50, 0x78, 0x04]

theorem crc_patBody : crc patBody = 0x2d507804 := by decide +kernel
theorem crc_patSection : crc patSection = 0 := by decide +kernel

example : crc patBody = 0x2d507804 := crc_patBody
example : Ts.Crc.sum32 patBody = .ok 0x2d507804 := by
  rw [sum32_eq_bitserial, crc_patBody]
example : be32 0x2d507804 = [0x2d, 0x50, 0x78, 0x04] := by decide
example : crc patSection = 0 := crc_patSection
example : patSection.length = 16 := by decide
/-- the empty message has the preset as checksum; the check value of "123456789" is 0x0376E6E7 -/
example : crc [] = 0xFFFFFFFF := by decide +kernel
example : crc [0x31, 0x32, 0x33, 0x34, 0x35, 0x36, 0x37, 0x38, 0x39] = 0x0376E6E7 := by decide +kernel
/-- a concrete single-bit corruption (bit 37 = bit 2 of byte 4) of the 16-byte section -/
example : flipBit patSection 37 =
    [0x00, 0xb0, 0x0d, 0x00, 0x05, 0xc1, 0x00, 0x00, 0x00, 0x01, 0xe1, 0xe0, 0x2d, 0x50, 0x78, 0x04] := by
  decide +kernel
example : crc (flipBit patSection 37) ≠ 0 := by decide +kernel
example : crc (flipBit patSection 37) ≠ 0 :=
  detect_single_bit_flip patSection 37 (by decide) crc_patSection
/-- a 32-bit burst (pattern `ff 00 00 81` over bytes 3..6) and a double-bit error -/
example : crc (xorBytes patSection [0, 0, 0, 0xff, 0, 0, 0x81, 0, 0, 0, 0, 0, 0, 0, 0, 0]) ≠ 0 := by
  decide +kernel
example : crc (flipBit (flipBit patSection 0) 127) ≠ 0 :=
  detect_double_bit_flip patSection 0 127 (by decide) (by decide) (by decide) crc_patSection
/-- the bound 32 is sharp: the generator itself, a 33-bit pattern, is undetected -/
example : crc0 [0x82, 0x60, 0x8e, 0xdb, 0x80] = 0 := by decide +kernel
/-- the window hypothesis is satisfiable: `singleBit 16 37` has exactly one set bit -/
example : bitAt (singleBit 16 37) 37 = 1 ∧ bitAt (singleBit 16 37) 36 = 0 := by decide +kernel

end Ts.Props.C04
