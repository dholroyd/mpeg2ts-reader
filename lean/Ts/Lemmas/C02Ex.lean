import Ts.Lemmas.C02d
import Ts.Lemmas.AppEval
/-!
# The example state after PAT and PMT, and runs continued from it

`exState_eq` evaluates the set-up run once; what the examples of `Props/C02.lean` and
`Props/C02Trace.lean` need of a run continued from `(exTab0, exCtx0)` follows from it: success from
C01 (`run_ok`), a run from `Demultiplex::new` from its tail (`runApp_split`).
-/
namespace Ts.Lemmas.C02
open Ts Ts.Demux Ts.App Ts.Lemmas.Proj

/-- pushing `a ++ b` from `Demultiplex::new`, `a` a whole number of packets, is pushing `b` in the
state `a` leaves -/
theorem runApp_split (cfg : Cfg) (a b : Bytes) (ha : a.length % 188 = 0) :
    runApp cfg [a ++ b] = (runApp cfg [a] >>= fun tc => push App.sem tc b a.length) := by
  unfold runApp
  rw [Ts.Props.C07.pushAll_single, Ts.Props.C07.pushAll_single,
    Ts.Props.C07.push_append _ _ _ _ 0 ha, Nat.zero_add]

theorem exState_eq : exState = .ok (exTab0, exCtx0) := by
  eval_app [exState]

/-- the table after PAT and PMT satisfies C01's invariant, being reached by a run -/
theorem exTab0_tabInv : Ts.Lemmas.C01.TabInv exTab0 := by
  obtain ⟨t, c, h, ht⟩ := Ts.Props.C01.no_panic_inv { bypassCrc := true } [exPat ++ exPmt2]
  rw [show runApp _ _ = exState from rfl, exState_eq] at h
  cases h
  exact ht

/-- C01 from the table after PAT and PMT: any 188-byte packets are processed without panic -/
theorem run_ok (c : Ctx) (pks : List Pk) (h188 : ∀ pk ∈ pks, pk.bytes.length = 188) :
    ∃ t' c', pushSpec App.sem (exTab0, c) pks = .ok (t', c') := by
  obtain ⟨t', c', h, _⟩ := Ts.Lemmas.C01.pushSpec_totalG App.sem _ Ts.Lemmas.C01.sem_construct_total
    Ts.Lemmas.C01.app_hS pks exTab0 c exTab0_tabInv h188
  exact ⟨t', c', h⟩

theorem exPks_len : ∀ pk ∈ exPks, pk.bytes.length = 188 := by decide +kernel

theorem exPksRep_len : ∀ pk ∈ exPksRep, pk.bytes.length = 188 := by decide +kernel

theorem frame_exEs : frame exEs 376 = .ok exPks := by decide +kernel

theorem exPks_pes : ∀ pk ∈ exPks, ∃ σ g, exTab0.get pk.pid = some (.pes σ g) := by
  have h : ∀ pk ∈ exPks, pk.pid = 0x21 ∨ pk.pid = 0x22 := by decide +kernel
  intro pk hm
  rcases h pk hm with e | e
  · exact ⟨_, _, by rw [e]; exact exTab0_21⟩
  · exact ⟨_, _, by rw [e]; exact exTab0_22⟩

end Ts.Lemmas.C02
