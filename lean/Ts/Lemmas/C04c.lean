import Ts.Lemmas.C04b
import Ts.Lemmas.C01c
/-!
# C04 helper lemmas, part 3: the gate along a whole run (any number of pushes, any chunking)

`framedAll` turns successive pushes into one fold over packets; `FromVerifiedDelivery` is the
request-level reading of `StepEv`; reachable tables satisfy `C01.HInv`; `BlockedRun` is a stretch of
packets that complete no section passing the CRC layer.
-/
namespace Ts.Lemmas.C04c
open Ts Ts.Psi Ts.Demux Ts.App Ts.Lemmas.Proj Ts.Lemmas.C04b

/-- the packets that the successive calls `push(b₀), push(b₁), …` iterate over, in order; `base` =
number of bytes pushed before `b₀`.  Each buffer is framed on its own (`frame`: `chunks_exact(188)`
+ `try_new`), so an incomplete tail of a buffer is dropped, exactly as in `pushAll`.
(`frame` never panics: `frame_eq_pure`; the `.panic` arm is dead.) -/
def framedAll : List Bytes → Nat → List Pk
  | [], _ => []
  | b :: bs, base =>
    (match frame b base with
      | .ok pks => pks
      | .panic _ => []) ++ framedAll bs (base + b.length)

theorem framedAll_cons (b : Bytes) (bs : List Bytes) (base : Nat) :
    framedAll (b :: bs) base = framePure (chunks b) base ++ framedAll bs (base + b.length) := by
  show (match frame b base with | .ok pks => pks | .panic _ => []) ++ _ = _
  rw [frame_eq_pure]

theorem framedAll_single (buf : Bytes) (pks : List Pk) (h : frame buf 0 = .ok pks) :
    framedAll [buf] 0 = pks := by
  show (match frame buf 0 with | .ok pks => pks | .panic _ => []) ++ [] = _
  rw [h, List.append_nil]

theorem framedAll_len : ∀ (bufs : List Bytes) (base : Nat), ∀ pk ∈ framedAll bufs base,
    pk.bytes.length = 188 := by
  intro bufs
  induction bufs with
  | nil => intro base pk hm; cases hm
  | cons b bs ih =>
    intro base pk hm
    rw [framedAll_cons] at hm
    rcases List.mem_append.1 hm with e | e
    · obtain ⟨_, _, _, _, hl, _⟩ := Props.C07.frame_mem b base _ (frame_eq_pure b base) pk e
      exact hl
    · exact ih _ pk e

/-- successive `push` calls compute the packet-at-a-time fold over all framed packets, for any
handler semantics -/
theorem pushAll_eq_pushSpec {H C : Type} (sem : Sem H C) : ∀ (bufs : List Bytes) (tc : Tab H × C)
    (base : Nat), pushAll sem tc bufs base = pushSpec sem tc (framedAll bufs base) := by
  intro bufs
  induction bufs with
  | nil => intro tc base; rfl
  | cons b bs ih =>
    intro tc base
    rw [framedAll_cons, pushSpec_append_aux, pushAll_cons, push_of_frame sem tc (frame_eq_pure b base)]
    exact bind_congr fun tc1 => ih tc1 _

/-- the request `req` is one of the requests computed from a section `d.bytes` that the
reassembler of the PAT / PMT handler serving `pk.pid` in state `(t, c)` delivers ON THE PACKET `pk`
(`d ∈ ds`, `Psi.consume Psi.table s pk.bytes = .ok (s', ds)`, `s` the handler's reassembly state
found in `t`) and that satisfies `Verified`.  "Serving": the handler registered for `pk.pid` in `t`,
or, if the slot is empty, the one `construct` returns for the `ByPid(pk.pid)` request. -/
def FromVerifiedDelivery (t : Tab Handler) (c : Ctx) (pk : Pk) (req : Req) : Prop :=
  ∃ h0, (t.get pk.pid = some h0 ∨ (t.get pk.pid = none ∧ h0 = (construct c (.byPid pk.pid)).1)) ∧
    ((∃ s reg s' ds d, h0 = .pat s reg ∧ Psi.consume Psi.table s pk.bytes = .ok (s', ds) ∧ d ∈ ds
        ∧ Verified d.bytes ∧ req ∈ patRequests d.bytes) ∨
     (∃ pid prog s reg s' ds d, h0 = .pmt pid prog s reg
        ∧ Psi.consume Psi.table s pk.bytes = .ok (s', ds) ∧ d ∈ ds
        ∧ Verified d.bytes ∧ req ∈ pmtRequests pid d.bytes))

theorem fromVerifiedDelivery_of_stepEv (t : Tab Handler) (c : Ctx) (pk : Pk) (req : Req) (tag : Nat)
    (h : StepEv t c pk (Ev.construct req tag)) :
    req = Req.byPid pk.pid ∨ FromVerifiedDelivery t c pk req := by
  rcases h with ⟨tag', he⟩ | ⟨h0, hserv, hg⟩
  · injection he with he _
    exact Or.inl he
  · refine Or.inr ⟨h0, hserv, ?_⟩
    cases h0 with
    | pat s reg =>
      obtain ⟨s', ds, d, hP, hd, hv, r, tg, hr, hm⟩ := hg
      injection hr with hr _; subst hr
      exact Or.inl ⟨s, reg, s', ds, d, rfl, hP, hd, hv, hm⟩
    | pmt pid prog s reg =>
      obtain ⟨s', ds, d, hP, hd, hv, r, tg, hr, hm⟩ := hg
      injection hr with hr _; subst hr
      exact Or.inr ⟨pid, prog, s, reg, s', ds, d, rfl, hP, hd, hv, hm⟩
    | pes σ f => exact absurd rfl (hg req tag)
    | recorder σ => exact absurd rfl (hg req tag)

theorem fromVerifiedDelivery_weaken (t : Tab Handler) (c : Ctx) (pk : Pk) (req : Req)
    (h : FromVerifiedDelivery t c pk req) :
    ∃ S, Verified S ∧ (req ∈ patRequests S ∨ ∃ pid, req ∈ pmtRequests pid S) := by
  obtain ⟨_, _, h | h⟩ := h
  · obtain ⟨_, _, _, _, d, _, _, _, hv, hm⟩ := h
    exact ⟨d.bytes, hv, Or.inl hm⟩
  · obtain ⟨pid, _, _, _, _, _, d, _, _, _, hv, hm⟩ := h
    exact ⟨d.bytes, hv, Or.inr ⟨pid, hm⟩⟩

/-! The table invariant is the one under which the run is total (`C01.TabInvG C01.HInv`); it is kept
by every step that returns, and `C01.HInv` of a PAT / PMT handler contains `GateInv` of its
reassembly state. -/

theorem specStep_tabInv (t : Tab Handler) (c : Ctx) (pk : Pk) (tc' : Tab Handler × Ctx)
    (hl : pk.bytes.length = 188) (ht : C01.TabInvG C01.HInv t)
    (h : specStep App.sem (t, c) pk = .ok tc') : C01.TabInvG C01.HInv tc'.1 := by
  obtain ⟨t', c', h', ht'⟩ :=
    C01.specStep_totalG App.sem C01.HInv C01.sem_construct_total C01.app_hS t c pk ht hl
  rw [h'] at h; cases h; exact ht'

theorem reachable_tabInv (cfg : App.Cfg) (pushes : List Bytes) (pre post : List Pk)
    (hsplit : framedAll pushes 0 = pre ++ post) (t1 : Tab Handler) (c1 : Ctx)
    (hpre : pushSpec App.sem (App.init cfg) pre = .ok (t1, c1)) : C01.TabInvG C01.HInv t1 :=
  pushSpec_invariant App.sem (fun x => C01.TabInvG C01.HInv x.1) (fun pk => pk.bytes.length = 188)
    (fun tc pk tc' hi hp hs => specStep_tabInv tc.1 tc.2 pk tc' hp hi hs) pre _ _ (C01.init_inv cfg)
    (fun pk hm => framedAll_len pushes 0 pk (by rw [hsplit]; exact List.mem_append_left _ hm)) hpre

def tableSt : Handler → Option Psi.St
  | .pat s _ => some s
  | .pmt _ _ s _ => some s
  | .pes _ _ => none
  | .recorder _ => none

def withSt : Handler → Psi.St → Handler
  | .pat _ reg, s' => .pat s' reg
  | .pmt pid prog _ reg, s' => .pmt pid prog s' reg
  | .pes tag f, _ => .pes tag f
  | .recorder tag, _ => .recorder tag

/-- the handler with its section-reassembly state forgotten: kind, PMT PID / program number and
the registered set (`filters_registered`) are kept; PES filters and recorders are kept whole -/
def forgetSt : Handler → Handler
  | .pat _ reg => .pat {} reg
  | .pmt pid prog _ reg => .pmt pid prog {} reg
  | .pes tag f => .pes tag f
  | .recorder tag => .recorder tag

theorem forgetSt_withSt (h : Handler) (s' : Psi.St) : forgetSt (withSt h s') = forgetSt h := by
  cases h <;> rfl

/-- `pks` is a list of unflagged packets each of which, in the table as it stands when the packet
is reached (starting from `t`, advancing only the reassembly state of the serving handler), is
served by a PAT / PMT handler whose reassembler returns on it and completes only sections
satisfying `bad` -/
def BlockedRun (bad : Bytes → Prop) : Tab Handler → List Pk → Prop
  | _, [] => True
  | t, pk :: rest => pk.flagged = false ∧ ∃ h s s' ds, t.get pk.pid = some h ∧ tableSt h = some s
      ∧ Psi.consume Psi.table s pk.bytes = .ok (s', ds) ∧ (∀ d ∈ ds, bad d.bytes)
      ∧ BlockedRun bad (t.insert pk.pid (withSt h s')) rest

theorem pushSpec_blocked (bad : Bytes → Prop)
    (hstep : ∀ (t : Tab Handler) (c : Ctx) (pk : Pk) (h : Handler) (s s' : Psi.St)
      (ds : List Psi.Delivery), c.cfg.bypassCrc = false → t.get pk.pid = some h → tableSt h = some s →
      GateInv s → pk.flagged = false → pk.bytes.length = 188 →
      Psi.consume Psi.table s pk.bytes = .ok (s', ds) → (∀ d ∈ ds, bad d.bytes) →
      specStep App.sem (t, c) pk = .ok (t.insert pk.pid (withSt h s'), c)) :
    ∀ (pks : List Pk) (t : Tab Handler) (c : Ctx), c.cfg.bypassCrc = false → C01.TabInvG C01.HInv t →
      (∀ pk ∈ pks, pk.bytes.length = 188) → BlockedRun bad t pks →
      ∃ t2, pushSpec App.sem (t, c) pks = .ok (t2, c)
        ∧ (∀ q, (t2.get q).map forgetSt = (t.get q).map forgetSt)
        ∧ (∀ q, (∀ pk ∈ pks, pk.pid ≠ q) → t2.get q = t.get q) := by
  intro pks
  induction pks with
  | nil => intro t c _ _ _ _; exact ⟨t, rfl, fun _ => rfl, fun _ _ => rfl⟩
  | cons pk pks ih =>
    intro t c hb ht hl hr
    obtain ⟨hf, h, s, s', ds, hg, hs, hP, hbad, hrest⟩ := hr
    have hgi : GateInv s := by
      have := ht _ _ hg
      cases h with
      | pat s0 reg => cases hs; exact ⟨this.1.1, this.2⟩
      | pmt pid prog s0 reg => cases hs; exact ⟨this.1.1, this.2⟩
      | pes _ _ => cases hs
      | recorder _ => cases hs
    have hl0 := hl pk List.mem_cons_self
    have h1 := hstep t c pk h s s' ds hb hg hs hgi hf hl0 hP hbad
    have ht1 := specStep_tabInv t c pk _ hl0 ht h1
    obtain ⟨t2, h2, k1, k2⟩ := ih _ c hb ht1 (fun x hx => hl x (List.mem_cons_of_mem _ hx)) hrest
    refine ⟨t2, by rw [pushSpec_cons, h1]; exact h2, ?_, ?_⟩
    · intro q
      rw [k1 q, Tab.get_insert]
      split
      · rename_i e
        rw [e, hg]
        show some (forgetSt (withSt h s')) = some (forgetSt h)
        rw [forgetSt_withSt]
      · rfl
    · intro q hq
      rw [k2 q (fun x hx => hq x (List.mem_cons_of_mem _ hx)),
        Tab.get_insert_ne _ _ _ _ (fun e => hq pk List.mem_cons_self e.symm)]

end Ts.Lemmas.C04c
