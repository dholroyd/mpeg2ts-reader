import Ts.Props.C12
import Ts.Spec.SectionMux
import Ts.Lemmas.C03d
import Ts.Gen.Consts
/-!
# C03 — PSI section reassembly is exact

Observation point: the whole-section consumer directly below the buffer layer
(`Psi.rawSection` = `SectionSyntaxSectionProcessor<BufferSectionSyntaxParser<_>>`,
`Psi.rawCompact` = `CompactSyntaxSectionProcessor<BufferCompactSyntaxParser<_>>`).
-/
namespace Ts.Props.C03
open Ts Ts.Psi Ts.Packet Ts.Spec Ts.Spec.SectionMux Ts.Lemmas.C03 Ts.Props.C12

/-! ### ties to the constants regenerated from `/repo/src/psi/mod.rs` -/
theorem tie_limit_syntax : Ts.Gen.sectionLimitSyntax = Psi.SECTION_LIMIT := by decide
theorem tie_limit_compact : Ts.Gen.sectionLimitCompact = Psi.SECTION_LIMIT := by decide
theorem tie_limit_1021 : Psi.SECTION_LIMIT = 1021 := by decide
theorem tie_limit_spec : Psi.SECTION_LIMIT = maxSectionLength := by decide
theorem tie_common_header : Ts.Gen.commonHeaderSize = Psi.COMMON := by decide
theorem tie_table_syntax_header : Ts.Gen.tableSyntaxHeaderSize = Psi.TSH := by decide
theorem tie_min_header :
    minHeader .syntax = Psi.COMMON + Psi.TSH ∧ minHeader .compact = Psi.COMMON := by decide

/-- the header fields the model decodes with masks and shifts are the standard's bit fields -/
theorem header_exact (d : Bytes) (h : 3 ≤ d.length) :
    ∃ hd, Psi.headerNew (d.take 3) = .ok hd ∧ hd.sectionLength = sectionLength d
      ∧ hd.syntaxInd = (syntaxBit d == 1) ∧ hd.tableId = readBits d 0 8 := by
  refine ⟨hdrOf d, headerNew_eq d h, (sectionLength_eq d).symm, ?_, ?_⟩
  · simp only [hdrOf, hdrSyn, syntaxBit_eq]
  · have := readBits_byte d 0
    simp only [Nat.mul_zero] at this
    simp only [hdrOf, this]

/-! ### from packets to payloads (via C12) -/

theorem consume_payload (cfg : Cfg) (s : St) (p : Bytes) (h : p.length = 188) :
    Psi.consume cfg s p =
      match (splitSpec (hasAf (byteD p 3)) (hasPayload (byteD p 3)) (byteD p 4)).2 with
      | none => .ok (s, [])
      | some r => consumePayload cfg s (readBits p 9 1 == 1) (rangeBytes p r) r.1 := by
  rw [consume_eq_plOf cfg s p h]
  unfold plOf
  cases (splitSpec (hasAf (byteD p 3)) (hasPayload (byteD p 3)) (byteD p 4)).2 <;> rfl

/-- `plOf p` packages (pusi, payload bytes, payload offset); a payload has 1..184 bytes and ends
at the packet's last byte -/
theorem payload_view_size (p : Bytes) (h : p.length = 188) (q : Pl) (hq : plOf p = some q) :
    1 ≤ q.bytes.length ∧ q.bytes.length ≤ 184 ∧ q.off + q.bytes.length = 188 ∧ 4 ≤ q.off :=
  plOf_size p h q hq

/-- the model run over packets, deliveries concatenated, is the run over their payloads -/
theorem run_payloads (cfg : Cfg) (s : St) (ps : List Bytes) (h : ∀ p ∈ ps, p.length = 188) :
    flatR (Psi.run cfg s ps) = runPl cfg s (ps.filterMap plOf) :=
  run_flat cfg ps s h

/-! ### invariant, totality -/

theorem psiInv_init (kind : Kind) : PsiInv kind {} := psiInv_of_none kind {} rfl
theorem psiInvFull_init (kind : Kind) : PsiInvFull kind {} := psiInvFull_of_none kind {} rfl

theorem psiInv_iff (kind : Kind) (s : St) :
    PsiInv kind s ↔ ∀ n, s.remaining = some n →
      0 < n ∧ minHeader kind ≤ s.buf.length ∧ s.buf.length + n ≤ 1024 := Iff.rfl

theorem psiInvFull_iff (kind : Kind) (s : St) :
    PsiInvFull kind s ↔ PsiInv kind s ∧ ∀ n, s.remaining = some n →
      s.buf.length + n = 3 + sectionLength s.buf := by
  unfold PsiInvFull
  simp only [sectionLength_eq]

/-- payload level: `consumePayload` never panics and equals the pure `consumeSpec` -/
theorem consumePayload_total (cfg : Cfg) (hc : CfgOk cfg) (s : St) (hs : PsiInv (kindOf cfg) s)
    (us : Bool) (pk : Bytes) (off : Nat) (hpk : 1 ≤ pk.length) :
    consumePayload cfg s us pk off = .ok (consumeSpec cfg s us pk off)
      ∧ PsiInv (kindOf cfg) (consumeSpec cfg s us pk off).1 :=
  ⟨consumePayload_eq cfg hc s us pk off hpk hs, consumeSpec_inv cfg s us pk off hs⟩

/-- for EVERY 188-byte packet and every state satisfying the invariant: no panic, invariant kept.
`CfgOk` covers `rawSection`, `rawCompact` and `table`. -/
theorem consume_total_inv (cfg : Cfg) (hc : CfgOk cfg) (s : St) (hs : PsiInv (kindOf cfg) s)
    (p : Bytes) (hp : p.length = 188) :
    ∃ s' ds, Psi.consume cfg s p = .ok (s', ds) ∧ PsiInv (kindOf cfg) s' :=
  ⟨_, _, consume_eq_spec cfg hc s hs p hp, (consumeSpecPk_rule (bufRule_inv cfg) s p hs).1⟩

theorem consume_total_inv_raw (kind : Kind) (s : St) (hs : PsiInv kind s) (p : Bytes) (hp : p.length = 188) :
    ∃ s' ds, Psi.consume (cfgOf kind) s p = .ok (s', ds) ∧ PsiInv kind s' := by
  have := consume_total_inv (cfgOf kind) (cfgOk_cfgOf kind) s (by rw [kindOf_cfgOf]; exact hs) p hp
  rw [kindOf_cfgOf] at this
  exact this

theorem consume_total_inv_rawSection (s : St) (hs : PsiInv .syntax s) (p : Bytes) (hp : p.length = 188) :
    ∃ s' ds, Psi.consume Psi.rawSection s p = .ok (s', ds) ∧ PsiInv .syntax s' :=
  consume_total_inv_raw .syntax s hs p hp

theorem consume_total_inv_rawCompact (s : St) (hs : PsiInv .compact s) (p : Bytes) (hp : p.length = 188) :
    ∃ s' ds, Psi.consume Psi.rawCompact s p = .ok (s', ds) ∧ PsiInv .compact s' :=
  consume_total_inv_raw .compact s hs p hp

theorem consume_total_inv_table (s : St) (hs : PsiInv .syntax s) (p : Bytes) (hp : p.length = 188) :
    ∃ s' ds, Psi.consume Psi.table s p = .ok (s', ds) ∧ PsiInv .syntax s' :=
  consume_total_inv Psi.table cfgOk_table s hs p hp

theorem consume_total_invFull (cfg : Cfg) (hc : CfgOk cfg) (s : St) (hs : PsiInvFull (kindOf cfg) s)
    (p : Bytes) (hp : p.length = 188) :
    ∃ s' ds, Psi.consume cfg s p = .ok (s', ds) ∧ PsiInvFull (kindOf cfg) s'
      ∧ ds.length ≤ 2
      ∧ ∀ d ∈ ds, d.bytes.length = 3 + sectionLength d.bytes ∧ d.bytes.length ≤ 1024 := by
  have hr := consumeSpecPk_rule (bufRule_invFull cfg) s p hs
  refine ⟨_, _, consume_eq_spec cfg hc s hs.1 p hp, hr.1, consumeSpecPk_length_le_two cfg s p, ?_⟩
  intro d hd
  rw [sectionLength_eq]
  exact ⟨(hr.2 d hd).2, (hr.2 d hd).1⟩

/-- any single `consume` yields at most two whole-section callbacks; each has exactly the length
announced by its own `section_length` field and at most 1024 bytes.  (`PsiInvFull` holds in every
reachable state: `psiInvFull_init`, `consume_total_invFull`, `run_total_inv`.) -/
theorem at_most_two_per_packet (cfg : Cfg) (hc : CfgOk cfg) (s : St) (hs : PsiInvFull (kindOf cfg) s)
    (p : Bytes) (hp : p.length = 188) (s' : St) (ds : List Delivery)
    (h : Psi.consume cfg s p = .ok (s', ds)) :
    ds.length ≤ 2 ∧ ∀ d ∈ ds, d.bytes.length = 3 + sectionLength d.bytes ∧ d.bytes.length ≤ 1024 := by
  obtain ⟨s'', ds', h', _, h2, h3⟩ := consume_total_invFull cfg hc s hs p hp
  rw [h] at h'
  cases h'
  exact ⟨h2, h3⟩

/-- with the plain `PsiInv` only the count and the 1024-byte bound follow
(`length_equation_needs_full` shows why) -/
theorem at_most_two_per_packet_partial (cfg : Cfg) (hc : CfgOk cfg) (s : St) (hs : PsiInv (kindOf cfg) s)
    (p : Bytes) (hp : p.length = 188) (s' : St) (ds : List Delivery)
    (h : Psi.consume cfg s p = .ok (s', ds)) :
    ds.length ≤ 2 ∧ ∀ d ∈ ds, d.bytes.length ≤ 1024 := by
  rw [consume_eq_spec cfg hc s hs p hp] at h
  have e : (consumeSpecPk cfg s p).2 = ds := congrArg Prod.snd (R.ok.inj h)
  rw [← e]
  exact ⟨consumeSpecPk_length_le_two cfg s p, (consumeSpecPk_rule (bufRule_inv cfg) s p hs).2⟩

/-- `PsiInv` alone admits (unreachable) states whose buffered header disagrees with the
number of bytes owed: here 8 zero bytes (`section_length = 0`) with 1 byte owed give a 9-byte
delivery.  This is why `at_most_two_per_packet` assumes `PsiInvFull`. -/
theorem length_equation_needs_full :
    ∃ (s : St) (p : Bytes), PsiInv .syntax s ∧ p.length = 188 ∧
      ∃ s' d, Psi.consume Psi.rawSection s p = .ok (s', [d]) ∧ d.bytes.length = 9
        ∧ sectionLength d.bytes = 0 := by
  refine ⟨{ buf := List.replicate 8 0, remaining := some 1 },
    [0x47, 0x00, 0x00, 0x30, 182] ++ List.replicate 183 0, ?_, by decide +kernel, ?_⟩
  · decide
  · have hl : ([0x47, 0x00, 0x00, 0x30, 182] ++ List.replicate 183 0 : Bytes).length = 188 := by
      decide +kernel
    have hq : plOf ([0x47, 0x00, 0x00, 0x30, 182] ++ List.replicate 183 0) = some ⟨false, [0], 187⟩ := by
      decide +kernel
    rw [consume_eq_plOf _ _ _ hl, hq]
    exact ⟨{ buf := List.replicate 9 0, remaining := none }, ⟨List.replicate 9 0, none⟩,
      by rfl, by decide, by decide⟩

/-- `at_most_two_per_packet` over whole runs, from any state satisfying `PsiInvFull` (the initial
one in particular) -/
theorem run_total_inv (cfg : Cfg) (hc : CfgOk cfg) (ps : List Bytes) :
    ∀ (s : St), PsiInvFull (kindOf cfg) s → (∀ p ∈ ps, p.length = 188) →
    ∃ s' dss, Psi.run cfg s ps = .ok (s', dss) ∧ PsiInvFull (kindOf cfg) s' ∧ dss.length = ps.length
      ∧ ∀ ds ∈ dss, ds.length ≤ 2
          ∧ ∀ d ∈ ds, d.bytes.length = 3 + sectionLength d.bytes ∧ d.bytes.length ≤ 1024 := by
  induction ps with
  | nil => intro s hs _; exact ⟨s, [], rfl, hs, rfl, by simp⟩
  | cons p ps ih =>
    intro s hs hl
    obtain ⟨s1, d1, h1, hs1, hc1, hd1⟩ :=
      consume_total_invFull cfg hc s hs p (hl p (List.mem_cons_self ..))
    obtain ⟨s2, d2, h2, hs2, hl2, hd2⟩ := ih s1 hs1 (fun p' hp' => hl p' (List.mem_cons_of_mem _ hp'))
    refine ⟨s2, d1 :: d2, ?_, hs2, by simp [hl2], ?_⟩
    · simp only [Psi.run, h1, R.ok_bind, h2]; rfl
    · intro ds hds
      rcases List.mem_cons.1 hds with e | e
      · subst e; exact ⟨hc1, hd1⟩
      · exact hd2 ds e

/-! ### what the `pointer_field` remainder does to the previous section -/

theorem preSpec_nil (cfg : Cfg) (st : St) : preSpec cfg st [] = (st, []) := rfl

/-- for `pre ≠ []`, `preSpec` is exactly what `procContinue st pre` returns -/
theorem preSpec_is_procContinue (kind : Kind) (st : St) (hst : PsiInv kind st) (pre : Bytes)
    (hpre : pre ≠ []) :
    Psi.procContinue (cfgOf kind) st pre = .ok (preSpec (cfgOf kind) st pre) := by
  have := procContinue_eq (cfgOf kind) st pre (by rw [kindOf_cfgOf]; exact hst)
  rw [this]; unfold preSpec; simp [hpre]

/-- closed form of the deliveries caused by `pre`: the previous section, iff one was being
buffered (and not ignored) and `pre` holds all the bytes it was still owed -/
theorem preSpec_deliveries (kind : Kind) (st : St) (pre : Bytes) :
    (preSpec (cfgOf kind) st pre).2 =
      if pre = [] ∨ st.ignoreRest = true then []
      else match st.remaining with
        | none => []
        | some n => if n ≤ pre.length then [⟨st.buf ++ pre.take n, none⟩] else [] := by
  have hdd : (cfgOf kind).dedup = false := by cases kind <;> rfl
  unfold preSpec contSpec bufContSpec
  by_cases h1 : pre = []
  · simp [h1]
  · by_cases h2 : st.ignoreRest = true
    · simp [h1, h2]
    · simp only [h1, if_false, h2, hdd, Bool.false_and, Bool.false_eq_true, or_self]
      cases st.remaining with
      | none => rfl
      | some n => by_cases h3 : n ≤ pre.length <;> simp [h3]

theorem preSpec_at_most_one (kind : Kind) (st : St) (pre : Bytes) :
    (preSpec (cfgOf kind) st pre).2.length ≤ 1 := by
  rw [preSpec_deliveries]
  split
  · simp
  · split
    · simp
    · split <;> simp

/-- **C03.** Every well-formed section `S` of either kind (`section_length ≤ 1021`), in every
well-formed packetisation `m` (pointer_field = `m.pre.length`, first share `m.k` with at least the
fixed header's worth of bytes present, continuation payloads `m.conts` carrying the rest in any
split, then any stuffing payloads `m.extra`), from every prior state `st` satisfying the invariant
(idle, mid-section, abandoned, ignoring), with the payloads at arbitrary offsets: the model does not
panic, the deliveries are exactly those caused by `pre` on the previous section (at most one)
followed by `S` exactly once with exactly its bytes; `S` is delivered in place iff it ends in the
first payload (then at offset `off + 1 + pre.length`), otherwise from the buffer; the final state
is `Complete` and not ignoring. -/
theorem section_reassembled (kind : Kind) (S : Bytes) (hS : WellFormedSection kind S)
    (m : Mux) (hm : WellFormedMux kind S m)
    (st : St) (hst : PsiInv kind st)
    (off : Nat) (rest : List Pl) (hus : ∀ q ∈ rest, q.us = false)
    (hrest : rest.map (·.bytes) = m.rest) :
    ∃ sfin,
      runPl (cfgOf kind) st (⟨true, m.first S, off⟩ :: rest)
        = .ok (sfin, (preSpec (cfgOf kind) st m.pre).2
                      ++ [⟨S, if m.k = S.length then some (off + 1 + m.pre.length) else none⟩])
      ∧ sfin.remaining = none ∧ sfin.ignoreRest = false := by
  have hd : (cfgOf kind).dedup = false := by cases kind <;> rfl
  rw [← kindOf_cfgOf kind] at hS hm hst
  obtain ⟨sfin, h1, h2, h3, _⟩ := section_delivered (cfgOf kind) (cfgOk_cfgOf kind) S hS m hm st hst _ rfl
    (by rw [hd]; exact nofun) off rest hus hrest
  exact ⟨sfin, h1, h2, h3⟩

/-- the same at the level of 188-byte packets: if the payload views (C12) of the packets `pkts`
are the start payload followed by continuation payloads with the bytes of `m.rest`, the model's
run over the packets delivers, in total, the `pre` deliveries and then `S` exactly once -/
theorem section_reassembled_packets (kind : Kind) (S : Bytes) (hS : WellFormedSection kind S)
    (m : Mux) (hm : WellFormedMux kind S m)
    (st : St) (hst : PsiInv kind st)
    (pkts : List Bytes) (hlen : ∀ p ∈ pkts, p.length = 188)
    (off : Nat) (rest : List Pl)
    (hview : pkts.filterMap plOf = ⟨true, m.first S, off⟩ :: rest)
    (hus : ∀ q ∈ rest, q.us = false) (hrest : rest.map (·.bytes) = m.rest) :
    ∃ sfin dss,
      Psi.run (cfgOf kind) st pkts = .ok (sfin, dss)
      ∧ dss.flatten = (preSpec (cfgOf kind) st m.pre).2
                      ++ [⟨S, if m.k = S.length then some (off + 1 + m.pre.length) else none⟩]
      ∧ sfin.remaining = none ∧ sfin.ignoreRest = false := by
  obtain ⟨sfin, h1, h2, h3⟩ := section_reassembled kind S hS m hm st hst off rest hus hrest
  have hr := run_flat (cfgOf kind) pkts st hlen
  rw [hview, h1] at hr
  obtain ⟨dss, e1, e2⟩ := flatR_eq_ok.1 hr
  exact ⟨sfin, dss, e1, e2, h2, h3⟩

/-! ### rejected starts: over-limit sections, header straddling a packet boundary -/

/-- Any unit-start payload whose new section (3 or more bytes `D` after the `pointer_field` bytes)
is rejected by the processor's three checks (`startOk = false`: wrong syntax bit, fewer than the
fixed header's bytes present, or `section_length > 1021`) delivers nothing from that start — only
what `pre` completed of the previous section —, sets `ignore_rest`, and every following
continuation payload, whatever its bytes, delivers nothing and leaves the state unchanged. -/
theorem rejected_start_ignored (cfg : Cfg) (hc : CfgOk cfg) (st : St) (hst : PsiInv (kindOf cfg) st)
    (pre D : Bytes) (hD : 3 ≤ D.length) (hrej : startOk cfg D = false)
    (hsz : 1 + pre.length + D.length ≤ 184)
    (off : Nat) (rest : List Pl) (hus : ∀ q ∈ rest, q.us = false)
    (hne : ∀ q ∈ rest, 1 ≤ q.bytes.length) :
    ∃ sfin,
      consumePayload cfg st true (UInt8.ofNat pre.length :: (pre ++ D)) off
        = .ok (sfin, (preSpec cfg st pre).2)
      ∧ sfin.ignoreRest = true
      ∧ runPl cfg sfin rest = .ok (sfin, [])
      ∧ runPl cfg st (⟨true, UInt8.ofNat pre.length :: (pre ++ D), off⟩ :: rest)
          = .ok (sfin, (preSpec cfg st pre).2) := by
  have hf := consumeSpec_first cfg st pre D off (by omega) hD
  have hstart : ∀ s o, startSpec cfg s D o = ({ s with ignoreRest := true }, []) := by
    intro s o; unfold startSpec; simp [hrej]
  rw [hstart] at hf
  have h1 : consumePayload cfg st true (UInt8.ofNat pre.length :: (pre ++ D)) off
      = .ok ({ (preSpec cfg st pre).1 with ignoreRest := true }, (preSpec cfg st pre).2) := by
    rw [consumePayload_eq cfg hc st true _ off (by simp) hst, hf]
    simp
  have hinv : PsiInv (kindOf cfg) { (preSpec cfg st pre).1 with ignoreRest := true } :=
    psiInv_congr _ _ _ rfl rfl (preSpec_inv cfg _ st pre hst)
  have h2 := runPl_conts_idle cfg hc _ hinv (Or.inr rfl) rest hus hne
  refine ⟨_, h1, rfl, h2, ?_⟩
  rw [runPl_cons, h1, R.ok_bind, h2]
  simp

/-- A unit-start payload whose section header (any 3 or more bytes `D` after the `pointer_field`
bytes, whatever the syntax bit and however many bytes are present) declares
`section_length > 1021` delivers nothing from that start, sets `ignore_rest`, and every following
continuation payload, whatever its bytes, delivers nothing, until the next unit start.
Holds for every configuration incl. `Psi.table`. -/
theorem overlimit_never_delivered (cfg : Cfg) (hc : CfgOk cfg) (st : St) (hst : PsiInv (kindOf cfg) st)
    (pre D : Bytes) (hD : 3 ≤ D.length) (hover : sectionLength D > maxSectionLength)
    (hsz : 1 + pre.length + D.length ≤ 184)
    (off : Nat) (rest : List Pl) (hus : ∀ q ∈ rest, q.us = false)
    (hne : ∀ q ∈ rest, 1 ≤ q.bytes.length) :
    ∃ sfin,
      consumePayload cfg st true (UInt8.ofNat pre.length :: (pre ++ D)) off
        = .ok (sfin, (preSpec cfg st pre).2)
      ∧ sfin.ignoreRest = true
      ∧ runPl cfg sfin rest = .ok (sfin, [])
      ∧ runPl cfg st (⟨true, UInt8.ofNat pre.length :: (pre ++ D), off⟩ :: rest)
          = .ok (sfin, (preSpec cfg st pre).2) := by
  have hnok : startOk cfg D = false := by
    apply Bool.eq_false_iff.2
    intro h
    have := ((startOk_iff cfg D).1 h).2.2
    rw [sectionLength_eq] at hover
    simp only [maxSectionLength] at hover
    omega
  exact rejected_start_ignored cfg hc st hst pre D hD hnok hsz off rest hus hne

/-- the same for the well-formedness vocabulary of the spec: a would-be section whose header
announces more than 1021 bytes is never delivered, for both kinds -/
theorem overlimit_never_delivered_raw (kind : Kind) (st : St) (hst : PsiInv kind st)
    (pre D : Bytes) (hD : minHeader kind ≤ D.length) (hover : sectionLength D > maxSectionLength)
    (hsz : 1 + pre.length + D.length ≤ 184)
    (off : Nat) (rest : List Pl) (hus : ∀ q ∈ rest, q.us = false)
    (hne : ∀ q ∈ rest, 1 ≤ q.bytes.length) :
    ∃ sfin,
      runPl (cfgOf kind) st (⟨true, UInt8.ofNat pre.length :: (pre ++ D), off⟩ :: rest)
          = .ok (sfin, (preSpec (cfgOf kind) st pre).2)
      ∧ sfin.ignoreRest = true := by
  have hmh := minHeader_ge kind
  obtain ⟨sfin, _, h2, _, h4⟩ := overlimit_never_delivered (cfgOf kind) (cfgOk_cfgOf kind) st
    (by rw [kindOf_cfgOf]; exact hst) pre D (by omega) hover hsz off rest hus hne
  exact ⟨sfin, h4, h2⟩

/-- The hypothesis "the starting packet carries at least the fixed header" of
`section_reassembled` is necessary (documented `TODO: implement buffering` in the source):
a well-formed section-syntax section whose first share is 3..7 bytes at the end of the
payload is NOT delivered — the start is rejected and the continuations are ignored. -/
theorem header_straddling_dropped (S : Bytes) (_hS : WellFormedSection .syntax S)
    (st : St) (hst : PsiInv .syntax st) (pre : Bytes) (k : Nat) (hk3 : 3 ≤ k) (hk8 : k < 8)
    (hkS : k ≤ S.length) (hsz : 1 + pre.length + k ≤ 184)
    (off : Nat) (rest : List Pl) (hus : ∀ q ∈ rest, q.us = false)
    (hne : ∀ q ∈ rest, 1 ≤ q.bytes.length) :
    ∃ sfin,
      runPl Psi.rawSection st (⟨true, UInt8.ofNat pre.length :: (pre ++ S.take k), off⟩ :: rest)
          = .ok (sfin, (preSpec Psi.rawSection st pre).2)
      ∧ sfin.ignoreRest = true := by
  have hl : (S.take k).length = k := by simp; omega
  have hnok : startOk Psi.rawSection (S.take k) = false := by
    apply Bool.eq_false_iff.2
    intro h
    have := ((startOk_iff Psi.rawSection (S.take k)).1 h).2.1
    rw [hl] at this
    have e : minHeader (kindOf Psi.rawSection) = 8 := rfl
    omega
  obtain ⟨sfin, _, h2, _, h4⟩ := rejected_start_ignored Psi.rawSection (cfgOk_cfgOf .syntax) st hst
    pre (S.take k) (by omega) hnok (by omega) off rest hus hne
  exact ⟨sfin, h4, h2⟩

/-- consequence of `at_most_two_per_packet`: no delivery ever announces more than 1021 bytes -/
theorem delivered_within_limit (cfg : Cfg) (hc : CfgOk cfg) (s : St) (hs : PsiInvFull (kindOf cfg) s)
    (p : Bytes) (hp : p.length = 188) (s' : St) (ds : List Delivery)
    (h : Psi.consume cfg s p = .ok (s', ds)) :
    ∀ d ∈ ds, sectionLength d.bytes ≤ maxSectionLength := by
  intro d hd
  have := (at_most_two_per_packet cfg hc s hs p hp s' ds h).2 d hd
  simp only [maxSectionLength]
  omega

/-! ### non-vacuity -/

/-- a 12-byte section-syntax section (`section_length = 9`) -/
example : WellFormedSection .syntax [0x00, 0xB0, 0x09, 1, 2, 3, 4, 5, 6, 7, 8, 9] := by decide

/-- that section in one payload, pointer_field 0, two stuffing bytes behind it: delivered in place
at payload offset + 1 -/
example : ∃ sfin, runPl Psi.rawSection {}
      [⟨true, [0x00, 0x00, 0xB0, 0x09, 1, 2, 3, 4, 5, 6, 7, 8, 9, 0xFF, 0xFF], 4⟩]
    = .ok (sfin, [⟨[0x00, 0xB0, 0x09, 1, 2, 3, 4, 5, 6, 7, 8, 9], some 5⟩]) := by
  have h := section_reassembled .syntax [0x00, 0xB0, 0x09, 1, 2, 3, 4, 5, 6, 7, 8, 9] (by decide)
    ⟨[], 12, [0xFF, 0xFF], [], []⟩ (by decide) {} (psiInv_init _) 4 [] (by simp) rfl
  obtain ⟨sfin, h1, _⟩ := h
  exact ⟨sfin, h1⟩

/-- a section split over 3 payloads (8 + 1 + 3 bytes, the last payload with trailing stuffing),
then one more stuffing payload, arriving while a previous (abandoned) section was being buffered:
delivered once, from the buffer -/
example : ∃ sfin, runPl Psi.rawSection { buf := List.replicate 8 0, remaining := some 100 }
      [⟨true, [0x00, 0x00, 0xB0, 0x09, 10, 11, 12, 13, 14], 183 - 4⟩,
       ⟨false, [15], 187⟩,
       ⟨false, [16, 17, 18, 0xFF, 0xFF], 183⟩,
       ⟨false, [0xFF], 187⟩]
    = .ok (sfin, [⟨[0x00, 0xB0, 0x09, 10, 11, 12, 13, 14, 15, 16, 17, 18], none⟩]) := by
  have hinv : PsiInv .syntax { buf := List.replicate 8 0, remaining := some 100 } := by decide
  have h := section_reassembled .syntax [0x00, 0xB0, 0x09, 10, 11, 12, 13, 14, 15, 16, 17, 18] (by decide)
    ⟨[], 8, [], [[15], [16, 17, 18, 0xFF, 0xFF]], [[0xFF]]⟩ (by decide) _ hinv (183 - 4)
    [⟨false, [15], 187⟩, ⟨false, [16, 17, 18, 0xFF, 0xFF], 183⟩, ⟨false, [0xFF], 187⟩] (by decide) rfl
  obtain ⟨sfin, h1, _⟩ := h
  exact ⟨sfin, h1⟩

/-- compact syntax, with a `pointer_field` of 2 whose bytes complete the previous section: two
deliveries, the previous section from the buffer, then the new one in place -/
example : ∃ sfin, runPl Psi.rawCompact { buf := [0x70, 0x00, 0x03, 0xAA], remaining := some 2 }
      [⟨true, [0x02, 0xBB, 0xCC, 0x71, 0x00, 0x01, 0xDD], 4⟩]
    = .ok (sfin, [⟨[0x70, 0x00, 0x03, 0xAA, 0xBB, 0xCC], none⟩, ⟨[0x71, 0x00, 0x01, 0xDD], some 7⟩]) := by
  have hinv : PsiInv .compact { buf := [0x70, 0x00, 0x03, 0xAA], remaining := some 2 } := by decide
  have h := section_reassembled .compact [0x71, 0x00, 0x01, 0xDD] (by decide)
    ⟨[0xBB, 0xCC], 4, [], [], []⟩ (by decide) _ hinv 4 [] (by simp) rfl
  obtain ⟨sfin, h1, _⟩ := h
  exact ⟨sfin, h1⟩

/-- every section has packetisations of every first-share size: the encoder `chop` produces
continuation payloads that `Carries` accepts -/
example (S : Bytes) (k n : Nat) : Carries (S.drop k) (chop n (S.drop k)) := carries_chop n _

/-- invariant instances: idle; buffering a section-syntax section -/
example : PsiInv .syntax {} := psiInv_init _
example : PsiInvFull .compact {} := psiInvFull_init _
example : PsiInv .syntax { buf := [0x00, 0xB0, 0x09, 1, 2, 3, 4, 5], remaining := some 4 } := by
  decide

/-- an over-limit header (`section_length = 0x3FE = 1022`) exists -/
example : sectionLength [0x00, 0xB3, 0xFE] > maxSectionLength := by decide

end Ts.Props.C03
