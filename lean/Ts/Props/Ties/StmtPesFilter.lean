import Ts.Gen.PesFilterGen
import Ts.Lemmas.C08
/-!
# Statement-level tie — the PES packet filter (audited with C08 and C09)

`Ts.Gen.PesFilterGen.consume` / `is_continuous` are `PesPacketFilter::consume` / `is_continuous` of
`/repo/src/pes.rs` as they read NOW, translated statement by statement by `tools/gen_stmts.py`
(assignments to `self.state` / `self.ccounter`, consumer callbacks appended to a list, `if`,
`if let`, `match self.state`), over an abstract record of the observations the code makes of the
packet.  `tie_stmt_consume` proves that, for EVERY filter state, stored counter and packet
observation, the translated function computes exactly what the model's `stepPure` computes — the
function `Ts.Lemmas.C08.consume_eq` shows the model's `consume` to be on every 188-byte packet —
and `code_consume` composes the two: the model's `consume` IS the translated source function applied
to the packet's decoded observations.  The proof is a case split over the finite observation space
followed by evaluation, so it does not depend on how the source arranges its `if`s.
-/
namespace Ts.Props.Ties.Stmt
open Ts Ts.PesFilter Ts.Lemmas.C08 Ts.Gen

def stOf : PesFilterGen.PesState → St
  | .Begin => .begin
  | .Started => .started
  | .IgnoreRest => .ignoreRest

def stTo : St → PesFilterGen.PesState
  | .begin => .Begin
  | .started => .Started
  | .ignoreRest => .IgnoreRest

theorem stOf_stTo (s : St) : stOf (stTo s) = s := by cases s <;> rfl

/-- consumer callbacks as the model's events; the slice argument is a range of the packet -/
def evOf : PesFilterGen.Call (Nat × Nat) → Ev
  | .continuity_error => .ccErr
  | .end_packet => .endPkt
  | .start_stream => .start
  | .begin_packet r => .beginPkt r.1 r.2
  | .continue_packet r => .cont r.1 r.2

/-- the observations `consume` makes of a packet, from the decoded inputs of `stepPure`:
`payload()` is the range `pay`, `is_empty()` is "length 0", `PesHeader::from_bytes(payload)` wraps the
same slice when it accepts it, `continuity_counter().follows(c)` is the model's `follows` -/
def pkOf (us hp : Bool) (n : Nat) (pay : Option (Nat × Nat)) (hdr : Bool) : PesFilterGen.Packet (Nat × Nat) :=
  { has_payload := hp, cc_follows := fun c => Packet.follows n c, cc_count := n, pusi := us,
    payload := pay, payload_is_empty := fun r => r.2 == 0,
    header_of := fun r => if hdr then some r else none }

def outOf (s : PesFilterGen.Self (Nat × Nat)) : F × List Ev :=
  (⟨s.ccounter, stOf s.state⟩, s.calls.map evOf)

theorem tie_stmt_is_continuous (st : St) (fc : Option Nat) (us hp : Bool) (n : Nat)
    (pay : Option (Nat × Nat)) (hdr : Bool) :
    PesFilterGen.is_continuous ⟨stTo st, fc, []⟩ (pkOf us hp n pay hdr) = continuous fc hp n := by
  cases fc <;> cases hp <;> rfl

theorem tie_stmt_consume (st : St) (fc : Option Nat) (us hp : Bool) (n : Nat)
    (pay : Option (Nat × Nat)) (hdr : Bool) :
    outOf (PesFilterGen.consume ⟨stTo st, fc, []⟩ (pkOf us hp n pay hdr))
      = stepPure ⟨fc, st⟩ us hp n pay hdr := by
  have hc := tie_stmt_is_continuous st fc us hp n pay hdr
  unfold PesFilterGen.consume stepPure
  rw [hc]
  generalize continuous fc hp n = c
  cases st <;> cases c <;> cases us <;> cases hdr <;> rcases pay with _ | ⟨o, l⟩ <;>
    first
      | rfl
      | (by_cases hl : l = 0 <;> simp [outOf, pkOf, stTo, stOf, evOf, hl])

/-- the model's `consume`, on every 188-byte packet and from every filter state, IS the translated
source function applied to the packet's decoded observations -/
theorem code_consume (f : F) (p : Bytes) (h : p.length = 188) :
    consume f p = .ok (outOf (PesFilterGen.consume ⟨stTo f.st, f.cc, []⟩
      (pkOf (usOf p) (hpOf p) (ccOf p) (payOf p) (hdrOf p)))) := by
  rw [tie_stmt_consume]
  exact consume_eq f p h

/-- `PesPacketFilter::new`: no stored counter, state `Begin`, nothing called -/
theorem tie_stmt_new : outOf (PesFilterGen.new : PesFilterGen.Self (Nat × Nat)) = (({} : F), []) := rfl

/-- the translated function folded over the packets' observations (it never clears `calls`) -/
def genRun (s : PesFilterGen.Self (Nat × Nat)) : List Bytes → PesFilterGen.Self (Nat × Nat)
  | [] => s
  | p :: ps => genRun (PesFilterGen.consume s (pkOf (usOf p) (hpOf p) (ccOf p) (payOf p) (hdrOf p))) ps

/-- non-vacuity / evaluation: unit start with a recognisable header, a continuation, a counter
break, a fresh unit start — `start, begin, cont, ccErr, begin` (no `end` after the error closed the
packet) -/
example :
    let pk (us hp : Bool) (n : Nat) (hdr : Bool) := pkOf us hp n (some (4, 184)) hdr
    let s0 : PesFilterGen.Self (Nat × Nat) := PesFilterGen.new
    let s1 := PesFilterGen.consume s0 (pk true true 3 true)
    let s2 := PesFilterGen.consume s1 (pk false true 4 true)
    let s3 := PesFilterGen.consume s2 (pk false true 9 true)
    let s4 := PesFilterGen.consume s3 (pk true true 10 true)
    s4.calls.map evOf = [.start, .beginPkt 4 184, .cont 4 184, .ccErr, .beginPkt 4 184] := by decide

end Ts.Props.Ties.Stmt
