import Ts.Model.Pes
import Ts.Spec.Bits
import Ts.Spec.PesSpec
import Ts.Lemmas.C14c
import Ts.Gen.Consts
import Ts.Gen.Tables
import Ts.Lemmas.RevC
import Ts.Spec.TimeSpec
/-!
# C14 — PES packet header fields are bit-exact, and rejection is exact

For every byte string offered as the start of a PES packet: `PesHeader::from_bytes`,
`stream_id`, `pes_packet_length`, `contents`, `PesParsedContents::from_bytes` and every accessor
of `PesParsedContents` (the model `Ts/Model/Pes.lean`, transcribed from `pes.rs:280-853`: byte
masks, shifts, and an offset chain recomputed from the flag byte by each accessor) equal the
outcome of the *sequential cursor parser* of `Ts/Spec/PesSpec.lean`, which reads the syntax table
of ISO/IEC 13818-1 2.4.3.7 top to bottom with `uimsbf` bit fields (`readBits`).
All results are `R.ok`: none of the evaluated operations panics (indexing, slicing, the `usize`
subtractions inside the `warn!` arguments, `pts_dts_end`'s and `from_id`'s panic arms,
`ClockRef::from_parts`' and `EsRate::new`'s assertions).  The spec's outcomes are mapped to the
code's result types by the translations of `Ts/Lemmas/C14.lean` (`resOf`, `tsRes`, `ptsDtsConv`,
`escrConv`, `trickConv`, `copyInfoRes`).

Two deviations are kept visible:
* **F5 (known finding)** `copyright()` has the inverted polarity: `copyright_inverted`.
* `pes_extension()` and `payload()` panic on some receivers that `from_bytes` rejects
  (`pesExtension_panics_unaccepted`, `payloadOffset_panics_unaccepted`); such receivers cannot be
  constructed through the public API.

Readings (section "readings" below, text in `Ts/Spec/PesSpec.lean`): where the crate checks or
exposes less than Table 2-21 defines, `parse` follows the crate; none is treated as a defect.
* trick mode, reserved control codes 5..7: `DsmTrickMode::Reserved` carries the control code only
  (`trick_reserved_exposes_control`, `trick_byte_data_unobservable`, `trickAt_eq_exposed`).
* PTS/DTS 4-bit prefix: not examined by `pts_dts()` (`pts_dts_ignores_prefix`), whereas
  `Timestamp::from_pts_bytes` rejects the `'0011'` PTS of a pair
  (`from_pts_bytes_rejects_pair_prefix`).
* ESCR and ES_rate marker bits: not examined (`escr_ignores_markers`, `es_rate_ignores_markers`).
* Boolean-encoded enums: `polarity_pinned` says which bit value the model's `true` stands for;
  that `true` maps to the right Rust variant is established by the differential harness only.
* PES extension: the crate's `PesExtension` is "TODO: not yet implemented" and `pes_extension()`
  returns ALL bytes between the end of the six flag-implied fields and the end of the header,
  the extension's own flag byte unread (`ext_flag_zero_bytes_accepted`,
  `extension_absorbs_stuffing`).
Not modelled: error payloads (`NotEnoughData { requested, available }`).  The field sizes 1, 1, 2
(trick mode, copy info, CRC), the `ES_rate` bound and the `×50` factor are tied to the regenerated
constants in `Ts/Props/Ties/ExprPes.lean`.
-/
namespace Ts.Props.C14
open Ts Ts.Spec Ts.Spec.PesSpec Ts.Lemmas.C14 Ts.Lemmas.RevC Ts.Spec.TimeSpec

/-! ### ties to the constants regenerated from `/repo/src/pes.rs`

Each of the first five names a constant of the MODEL (`Pes.HDR_FIXED`, …) that the model's
definitions use by name.  The equations of the model with the regenerated constants in place are
`Ts.Props.Ties.tie_pes_header_size`, `tie_pes_offset_chain`, `tie_es_rate_assert`. -/
theorem tie_fixed_header : Ts.Gen.pesFixedHeaderSize = 6 ∧ Pes.HDR_FIXED = 6 := by decide
theorem tie_parsed_fixed : Ts.Gen.pesParsedFixed = 3 ∧ Pes.FIXED = 3 := by decide
theorem tie_timestamp_size : Ts.Gen.pesTimestampSize = 5 ∧ Pes.TIMESTAMP_SIZE = 5 := by decide
theorem tie_escr_size : Ts.Gen.pesEscrSize = 6 ∧ Pes.ESCR_SIZE = 6 := by decide
theorem tie_es_rate_size : Ts.Gen.pesEsRateSize = 3 ∧ Pes.ES_RATE_SIZE = 3 := by decide
/-- fixes the regenerated number only; the tie that mentions `Pes.esRate` is
`Ts.Props.Ties.tie_es_rate_assert` -/
theorem tie_es_rate_bound : Ts.Gen.esRateBound = 2 ^ 22 ∧ (1 <<< 22 : Nat) = 2 ^ 22 := by decide

/-! ### the 6-byte packet header -/

/-- `PesHeader::from_bytes` never panics and accepts exactly the byte strings of at least six
bytes that start with `packet_start_code_prefix = 0x000001` -/
theorem header_accept_iff (buf : Bytes) :
    Pes.headerFromBytes buf =
      .ok (if 6 ≤ buf.length ∧ readBits buf 0 24 = 1 then some buf else none) :=
  headerFromBytes_eq buf

theorem stream_id_exact (buf : Bytes) (h : 6 ≤ buf.length) :
    Pes.streamId buf = .ok (readBits buf 24 8) := by
  unfold Pes.streamId
  rw [byteAt_ok buf 3 (by omega), rb_byte buf 24 3 rfl]

theorem packet_length_exact (buf : Bytes) (h : 6 ≤ buf.length) :
    Pes.pesPacketLength buf = .ok (readBits buf 32 16) := by
  unfold Pes.pesPacketLength
  rw [byteAt_ok buf 4 (by omega), byteAt_ok buf 5 (by omega)]
  exact congrArg R.ok (crc_val buf 4)

/-- `StreamId::is_parsed` against the standard's list of stream ids without optional header -/
theorem isParsed_table : ∀ sid, sid < 256 → Pes.isParsed sid = !(noHeaderIds.contains sid) :=
  Ts.Lemmas.C14.isParsed_table

/-- `PesHeader::contents` (for any header `from_bytes` accepts; only the length is used): raw
payload exactly for the stream ids that carry no optional header, otherwise the result of
`PesParsedContents::from_bytes` on the bytes after the packet header -/
theorem contents_kind (buf : Bytes) (h : 6 ≤ buf.length) :
    Pes.contents buf =
      .ok (if readBits buf 24 8 ∈ noHeaderIds then .payload (buf.drop 6)
           else .parsed (if parsedAccepted (buf.drop 6) then some (buf.drop 6) else none)) := by
  unfold Pes.contents Pes.streamId Pes.HDR_FIXED
  rw [sliceFrom_ok buf 6 h, byteAt_ok buf 3 (by omega), rb_byte buf 24 3 rfl]
  simp only [R.ok_bind, Ts.Lemmas.C14.isParsed_table _ (byteD_lt buf 3), parsedFromBytes_eq]
  by_cases hm : byteD buf 3 ∈ noHeaderIds
  · simp [hm]
  · simp [hm]

/-! ### acceptance of the optional header -/

theorem parsedAccepted_def (c : Bytes) : parsedAccepted c ↔
    (3 ≤ c.length ∧ readBits c 0 2 = 2 ∧ 3 + readBits c 16 8 ≤ c.length
      ∧ fixedFieldsEnd (flagsOf c) ≤ 3 + readBits c 16 8) := Iff.rfl

/-- `PesParsedContents::from_bytes` never panics (in particular the subtractions evaluated for the
`warn!` messages never underflow and `pts_dts_end` never reaches its panic arm) and rejects
exactly when the three fixed bytes are missing, the `'10'` marker is wrong, the declared header
length exceeds the bytes available, or the flag-implied fixed-size fields exceed the declared
header length -/
theorem parsed_accept_iff (c : Bytes) :
    Pes.parsedFromBytes c = .ok (if parsedAccepted c then some c else none) :=
  parsedFromBytes_eq c

theorem fixedEnd_consistent (c : Bytes) : (parse c).fixedEnd = fixedFieldsEnd (flagsOf c) := by
  rw [parse_fixedEnd, fixedFieldsEnd_eq]

/-! ### field exactness -/

/-- Every accessor equals the outcome of the sequential parser, on EVERY receiver of at least
three bytes (accepted by `from_bytes` or not), except `copyright` (finding F5, below).
`pes_extension` and `payload` need the side conditions shown, which acceptance implies
(`pes_fields_exact_accepted`). -/
theorem pes_fields_exact_partial (c : Bytes) (h3 : 3 ≤ c.length) :
    Pes.pesPriority c = .ok (parse c).priority ∧
    Pes.dataAlignment c = .ok (parse c).dataAlignment ∧
    Pes.original c = .ok (parse c).original ∧
    Pes.ptsDts c = .ok (resOf ptsDtsConv (parse c).ptsDts) ∧
    Pes.escr c = .ok (resOf escrConv (parse c).escr) ∧
    Pes.esRate c = .ok (resOf id (parse c).esRate) ∧
    Pes.dsmTrickMode c = .ok (resOf trickConv (parse c).trick) ∧
    Pes.additionalCopyInfo c = .ok (copyInfoRes (parse c).copyInfo) ∧
    Pes.previousCrc c = .ok (resOf id (parse c).prevCrc) ∧
    (fixedFieldsEnd (flagsOf c) ≤ 3 + hdl c ∨ c.length < 3 + hdl c →
      Pes.pesExtension c = .ok (resOf id (parse c).extension)) ∧
    (3 + hdl c ≤ c.length → Pes.payloadOffset c = .ok (parse c).payloadOffset) :=
  ⟨pesPriority_exact c h3, dataAlignment_exact c h3, original_exact c h3, ptsDts_exact c h3,
   escr_exact c h3, esRate_exact c h3, dsmTrickMode_exact c h3, additionalCopyInfo_exact c h3,
   previousCrc_exact c h3, pesExtension_exact c h3, payloadOffset_exact c h3⟩

/-- for receivers `from_bytes` accepts, the extension is never truncated and starts where the
fixed-size fields end, and the payload starts at `3 + PES_header_data_length` -/
theorem pes_fields_exact_accepted (c : Bytes) (h : Pes.parsedFromBytes c = .ok (some c)) :
    parsedAccepted c ∧
    Pes.pesExtension c = .ok (resOf id (parse c).extension) ∧
    (parse c).extension = (if (flagsOf c).ext then
        .present (fixedFieldsEnd (flagsOf c), 3 + hdl c - fixedFieldsEnd (flagsOf c)) else .absent) ∧
    Pes.payloadOffset c = .ok (3 + hdl c) ∧ 3 + hdl c ≤ c.length := by
  have hacc : parsedAccepted c := by
    rw [parsed_accept_iff] at h
    by_cases hp : parsedAccepted c
    · exact hp
    · rw [if_neg hp] at h; cases h
  obtain ⟨h3, _, hh, hf⟩ := hacc
  have hacc : parsedAccepted c := ⟨h3, by assumption, hh, hf⟩
  refine ⟨hacc, pesExtension_exact c h3 (Or.inl hf), ?_, ?_, hh⟩
  · rw [parse_extension, ← fixedFieldsEnd_eq]
    cases (flagsOf c).ext
    · rfl
    · simp [hf, hh]
  · rw [payloadOffset_exact c h3 hh, parse_payloadOffset]

/-- `pes_extension()` is not total on receivers `from_bytes` rejects: here the flag-implied end
(8) lies after the declared header end (3), and `&buf[8..3]` panics.  (`from_bytes` returns
`None` for these bytes, so the receiver cannot be constructed through the public API.) -/
theorem pesExtension_panics_unaccepted :
    Pes.pesExtension [0x80, 0x81, 0x00] = .panic "slice index starts after end" ∧
    Pes.parsedFromBytes [0x80, 0x81, 0x00] = .ok none := ⟨rfl, rfl⟩

theorem payloadOffset_panics_unaccepted :
    Pes.payloadOffset [0x80, 0x00, 0x05] = .panic "range start index out of range" ∧
    Pes.parsedFromBytes [0x80, 0x00, 0x05] = .ok none := ⟨rfl, rfl⟩

/-! ### READING: the PES extension is an opaque "rest of the header" slice -/

/-- **PES_extension_flag = 1 with zero extension bytes is accepted.**  Table 2-21 puts at least one
byte (the extension's own flags) behind a set PES_extension_flag; the crate does not count it among
the flag-implied sizes.  The probe `00 00 01 e0 00 00 | 80 01 00 | 01` (flag set,
PES_header_data_length = 0, one payload byte) is accepted by `PesHeader::contents`, and
`pes_extension()` answers `Ok` with the EMPTY range `(3, 0)`.  A reading, not a defect:
`PesExtension` is "TODO: not yet implemented" (`pes.rs:476`) and exposes nothing. -/
theorem ext_flag_zero_bytes_accepted :
    parsedAccepted [0x80, 0x01, 0x00] ∧
    (flagsOf [0x80, 0x01, 0x00]).ext = true ∧
    (parse [0x80, 0x01, 0x00]).extension = .present (3, 0) ∧
    Pes.parsedFromBytes [0x80, 0x01, 0x00] = .ok (some [0x80, 0x01, 0x00]) ∧
    Pes.pesExtension [0x80, 0x01, 0x00] = .ok (.ok (3, 0)) ∧
    -- the whole probe, through `PesHeader::from_bytes` / `contents`
    Pes.headerFromBytes [0x00, 0x00, 0x01, 0xE0, 0x00, 0x00, 0x80, 0x01, 0x00, 0x01]
      = .ok (some [0x00, 0x00, 0x01, 0xE0, 0x00, 0x00, 0x80, 0x01, 0x00, 0x01]) ∧
    (∃ c, Pes.contents [0x00, 0x00, 0x01, 0xE0, 0x00, 0x00, 0x80, 0x01, 0x00, 0x01] = .ok (.parsed (some c))
      ∧ c = [0x80, 0x01, 0x00, 0x01] ∧ Pes.pesExtension c = .ok (.ok (3, 0))
      ∧ Pes.payloadOffset c = .ok 3) :=
  ⟨by decide +kernel, by decide +kernel, by decide +kernel, rfl, rfl, rfl, ⟨_, rfl, rfl, rfl, rfl⟩⟩

/-- **The extension range runs to the end of the header, stuffing included.**  For an accepted
receiver with PES_extension_flag set, `pes_extension()` is `Ok` with the range from `fixedFieldsEnd`
(the code's `pes_crc_end`) to where the payload starts.  So however those bytes split into `n`
bytes of extension fields and `k` stuffing bytes (0xFF, Table 2-21 `stuffing_byte`), the range has
length `n + k`: the stuffing is reported as part of the extension. -/
theorem extension_absorbs_stuffing (c : Bytes) (h : Pes.parsedFromBytes c = .ok (some c))
    (hext : (flagsOf c).ext = true) :
    Pes.pesExtension c =
      .ok (.ok (fixedFieldsEnd (flagsOf c), 3 + hdl c - fixedFieldsEnd (flagsOf c))) ∧
    fixedFieldsEnd (flagsOf c) + (3 + hdl c - fixedFieldsEnd (flagsOf c)) = 3 + hdl c ∧
    Pes.payloadOffset c = .ok (3 + hdl c) ∧
    (∀ n k, 3 + hdl c = fixedFieldsEnd (flagsOf c) + n + k →
      Pes.pesExtension c = .ok (.ok (fixedFieldsEnd (flagsOf c), n + k))) := by
  obtain ⟨hacc, hx, hp, hpo, _⟩ := pes_fields_exact_accepted c h
  have hf : fixedFieldsEnd (flagsOf c) ≤ 3 + hdl c := hacc.2.2.2
  rw [hext, if_pos rfl] at hp
  have e : Pes.pesExtension c =
      .ok (.ok (fixedFieldsEnd (flagsOf c), 3 + hdl c - fixedFieldsEnd (flagsOf c))) := by
    rw [hx, hp]; rfl
  refine ⟨e, by omega, hpo, ?_⟩
  intro n k hs
  rw [e]
  have : 3 + hdl c - fixedFieldsEnd (flagsOf c) = n + k := by omega
  rw [this]

/-- instance: a one-byte extension `0x0E` followed by two stuffing bytes `0xFF 0xFF` and one payload
byte; `n = 1`, `k = 2`, and the reported range `(3, 3)` covers all three -/
theorem extension_absorbs_stuffing_instance :
    Pes.parsedFromBytes [0x80, 0x01, 0x03, 0x0E, 0xFF, 0xFF, 0x42]
      = .ok (some [0x80, 0x01, 0x03, 0x0E, 0xFF, 0xFF, 0x42]) ∧
    (flagsOf [0x80, 0x01, 0x03, 0x0E, 0xFF, 0xFF, 0x42]).ext = true ∧
    3 + hdl [0x80, 0x01, 0x03, 0x0E, 0xFF, 0xFF, 0x42]
      = fixedFieldsEnd (flagsOf [0x80, 0x01, 0x03, 0x0E, 0xFF, 0xFF, 0x42]) + 1 + 2 ∧
    Pes.pesExtension [0x80, 0x01, 0x03, 0x0E, 0xFF, 0xFF, 0x42] = .ok (.ok (3, 3)) ∧
    (([0x80, 0x01, 0x03, 0x0E, 0xFF, 0xFF, 0x42] : Bytes).drop 3).take 3 = [0x0E, 0xFF, 0xFF] :=
  ⟨rfl, by decide +kernel, by decide +kernel, rfl, rfl⟩

/-- the same behind a PTS (5 bytes) and a previous_PES_packet_CRC (2 bytes): the range `(10, 3)`
starts at `pes_crc_end` = 10 -/
example : Pes.parsedFromBytes [0x80, 0x83, 0x0A, 0x21, 0x00, 0x01, 0x00, 0x01, 0x12, 0x34, 0x0E, 0xFF, 0xFF, 0x42]
      = .ok (some [0x80, 0x83, 0x0A, 0x21, 0x00, 0x01, 0x00, 0x01, 0x12, 0x34, 0x0E, 0xFF, 0xFF, 0x42]) ∧
    fixedFieldsEnd (flagsOf [0x80, 0x83, 0x0A, 0x21, 0x00, 0x01, 0x00, 0x01, 0x12, 0x34, 0x0E, 0xFF, 0xFF, 0x42]) = 10 ∧
    Pes.pesExtension [0x80, 0x83, 0x0A, 0x21, 0x00, 0x01, 0x00, 0x01, 0x12, 0x34, 0x0E, 0xFF, 0xFF, 0x42]
      = .ok (.ok (10, 3)) := ⟨rfl, by decide +kernel, rfl⟩

/-- `escr` never trips `ClockRef::from_parts`' assertions, `es_rate` never trips
`assert!(es_rate < 1 << 22)`, `dsm_trick_mode` never reaches `from_id`'s panic arm -/
theorem accessors_never_panic (c : Bytes) (h3 : 3 ≤ c.length) :
    (Pes.ptsDts c).isOk ∧ (Pes.escr c).isOk ∧ (Pes.esRate c).isOk ∧ (Pes.dsmTrickMode c).isOk ∧
    (Pes.additionalCopyInfo c).isOk ∧ (Pes.previousCrc c).isOk := by
  obtain ⟨_, _, _, a, b, d, e, f, g, _⟩ := pes_fields_exact_partial c h3
  rw [a, b, d, e, f, g]; exact ⟨rfl, rfl, rfl, rfl, rfl, rfl⟩

/-- every ES_rate the model yields satisfies the `EsRate` invariant -/
theorem esRate_lt (c : Bytes) (p : Nat) : esRateAt c p < Ts.Gen.esRateBound := by
  have := readBits_lt c (8 * p + 1) 22
  unfold esRateAt Ts.Gen.esRateBound; omega

/-! ### KNOWN FINDING F5: `copyright()` polarity -/

/-- `copyright()` answers `Copyright::Undefined` (`true`) exactly when the copyright bit is 1 -/
theorem copyright_pinned (c : Bytes) (h3 : 3 ≤ c.length) :
    Pes.copyrightUndefined c = .ok (readBits c 6 1 == 1) :=
  Ts.Lemmas.C14.copyright_pinned c h3

/-- ISO/IEC 13818-1 2.4.3.7: *copyright = 1: the material is protected by copyright; 0: not
defined whether it is protected*.  The spec's `(parse c).copyright` is `true` for "protected", so
the standard-conforming answer for "undefined" would be its NEGATION; the code returns it
un-negated: "Undefined" is reported exactly when the standard says "protected". -/
theorem copyright_inverted (c : Bytes) (h3 : 3 ≤ c.length) :
    Pes.copyrightUndefined c = .ok (parse c).copyright := by
  rw [(parse_bits c).2.2.1]; exact Ts.Lemmas.C14.copyright_pinned c h3

theorem copyright_exact_false :
    ¬ ∀ c : Bytes, 3 ≤ c.length → Pes.copyrightUndefined c = .ok (!(parse c).copyright) := by
  intro h
  have h1 := h [0x80, 0x00, 0x00] (by decide)
  rw [copyright_inverted _ (by decide)] at h1
  have h2 : (parse [0x80, 0x00, 0x00]).copyright = false := by decide +kernel
  rw [h2] at h1
  cases h1

/-! ### readings

#### trick mode -/

theorem trickAt_eq_exposed (c : Bytes) (p : Nat) : trickAt c p = (trickStdAt c p).exposed :=
  trickAt_exposed c p

theorem exposed_injective_off_reserved (a b : TrickStd) (h : a.exposed = b.exposed)
    (ha : ∀ k d, a ≠ .reserved k d) : a = b := by
  cases a <;> cases b <;> simp only [TrickStd.exposed] at h <;> try cases h
  all_goals first | rfl | exact absurd rfl (ha _ _)

theorem exposed_forgets_reserved_data (k d d' : Nat) :
    (TrickStd.reserved k d).exposed = (TrickStd.reserved k d').exposed := rfl

theorem trick_byte_reserved (b : Nat) (hb : b < 256) (h : 5 ≤ b / 32) :
    Pes.trickOfByte b = .ok (.reserved (b / 32)) :=
  ok_of_okVal (tbl_trick_reserved ⟨b, hb⟩ h)

theorem trick_byte_data_unobservable (b b' : Nat) (hb : b < 256) (hb' : b' < 256) (h : 5 ≤ b / 32)
    (he : b / 32 = b' / 32) : Pes.trickOfByte b = Pes.trickOfByte b' := by
  rw [trick_byte_reserved b hb h, trick_byte_reserved b' hb' (by omega), he]

/-- **Reserved trick-mode control codes expose the control code.**  When DSM_trick_mode_flag is
set, the trick-mode byte (at `trickPos`) lies inside the header and its `trick_mode_control` is
≥ 5, `dsm_trick_mode()` returns `Reserved` carrying that 3-bit code; bits 3..8 of the byte do not
appear in the result. -/
theorem trick_reserved_exposes_control (c : Bytes) (h3 : 3 ≤ c.length)
    (hflag : (flagsOf c).trick = true)
    (hfit : trickPos (flagsOf c) + 1 ≤ limit c)
    (hres : 5 ≤ readBits c (8 * trickPos (flagsOf c)) 3) :
    Pes.dsmTrickMode c = .ok (.ok (.reserved (readBits c (8 * trickPos (flagsOf c)) 3))) := by
  rw [dsmTrickMode_exact c h3, parse_trick, ← trickPos_eq]
  unfold fieldAt
  simp only [hflag, Bool.not_true, Bool.false_eq_true, if_false, hfit, if_true, resOf]
  rw [trickAt_reserved c _ hres]; rfl

theorem trick_reserved_data_unobservable (c c' : Bytes) (h3 : 3 ≤ c.length) (h3' : 3 ≤ c'.length)
    (hflag : (flagsOf c).trick = true) (hflag' : (flagsOf c').trick = true)
    (hfit : trickPos (flagsOf c) + 1 ≤ limit c) (hfit' : trickPos (flagsOf c') + 1 ≤ limit c')
    (hres : 5 ≤ readBits c (8 * trickPos (flagsOf c)) 3)
    (heq : readBits c (8 * trickPos (flagsOf c)) 3 = readBits c' (8 * trickPos (flagsOf c')) 3) :
    Pes.dsmTrickMode c = Pes.dsmTrickMode c' := by
  rw [trick_reserved_exposes_control c h3 hflag hfit hres,
    trick_reserved_exposes_control c' h3' hflag' hfit' (by omega), heq]

/-- for every control code the accessor returns the exposed part of the standard's full reading
(for codes 0..4 that is all eight bits) -/
theorem trick_exposes_std_reading (c : Bytes) (h3 : 3 ≤ c.length)
    (hflag : (flagsOf c).trick = true)
    (hfit : trickPos (flagsOf c) + 1 ≤ limit c) :
    Pes.dsmTrickMode c = .ok (.ok (trickConv (trickStdAt c (trickPos (flagsOf c))).exposed)) := by
  rw [dsmTrickMode_exact c h3, parse_trick, ← trickPos_eq]
  unfold fieldAt
  simp only [hflag, Bool.not_true, Bool.false_eq_true, if_false, hfit, if_true, resOf]
  rw [trickAt_exposed]


/-! #### PTS / DTS prefix -/

theorem timestampAt_encode (c : Bytes) (a pfx v : Nat) (h : a + 5 ≤ c.length)
    (hw : (c.drop a).take 5 = encodeTs pfx v) (hp : pfx < 16) (hv : v < 2 ^ 33) :
    tsRes (timestampAt c a) = .ok v := by
  have t := ts_at c a 5 h (Nat.le_refl 5)
  have e := Ts.Lemmas.C15.fromBytes_encode pfx v [] hp hv
  rw [List.append_nil] at e
  rw [hw, e] at t
  exact (R.ok.inj t).symm

/-- **`pts_dts()` ignores the 4-bit prefix.**  A header with PTS_DTS_flags `'10'` followed by the
5-byte time stamp structure carrying ANY prefix `pfx < 16` and any 33-bit value `v` (`encodeTs`
of `Ts/Spec/TimeSpec.lean`, markers set) yields `PtsOnly(Ok(v))`. -/
theorem pts_dts_ignores_prefix (pfx v : Nat) (hp : pfx < 16) (hv : v < 2 ^ 33) :
    Pes.ptsDts ([0x80, 0x80, 0x05] ++ encodeTs pfx v) = .ok (.ok (.ptsOnly (.ok v))) := by
  have t := timestampAt_encode ([0x80, 0x80, 0x05] ++ encodeTs pfx v) 3 pfx v (by exact Nat.le_refl 8) rfl hp hv
  have hl : limit ([0x80, 0x80, 0x05] ++ encodeTs pfx v) = 8 := by unfold limit; rw [hdl_eq]; rfl
  rw [ptsDts_exact _ (by exact (by decide : 3 ≤ 8)), parse_ptsDts, flagsOf_eq,
    show byteD ([0x80, 0x80, 0x05] ++ encodeTs pfx v) 1 = 0x80 from rfl]
  show R.ok (resOf ptsDtsConv (fieldAt _ true 5 _ 3)) = _
  unfold fieldAt
  rw [hl]
  show R.ok (Except.ok (Pes.PtsDts.ptsOnly (tsRes _))) = _
  rw [t]

theorem pts_dts_ignores_prefix_both (p1 p2 v1 v2 : Nat) (hp1 : p1 < 16) (hp2 : p2 < 16)
    (hv1 : v1 < 2 ^ 33) (hv2 : v2 < 2 ^ 33) :
    Pes.ptsDts ([0x80, 0xC0, 0x0A] ++ encodeTs p1 v1 ++ encodeTs p2 v2)
      = .ok (.ok (.both (.ok v1) (.ok v2))) := by
  have t1 := timestampAt_encode ([0x80, 0xC0, 0x0A] ++ encodeTs p1 v1 ++ encodeTs p2 v2) 3 p1 v1
    (by exact (by decide : 8 ≤ 13)) rfl hp1 hv1
  have t2 := timestampAt_encode ([0x80, 0xC0, 0x0A] ++ encodeTs p1 v1 ++ encodeTs p2 v2) 8 p2 v2
    (by exact Nat.le_refl 13) rfl hp2 hv2
  have hl : limit ([0x80, 0xC0, 0x0A] ++ encodeTs p1 v1 ++ encodeTs p2 v2) = 13 := by
    unfold limit; rw [hdl_eq]; rfl
  rw [ptsDts_exact _ (by exact (by decide : 3 ≤ 13)), parse_ptsDts, flagsOf_eq,
    show byteD ([0x80, 0xC0, 0x0A] ++ encodeTs p1 v1 ++ encodeTs p2 v2) 1 = 0xC0 from rfl]
  show R.ok (resOf ptsDtsConv (fieldAt _ true 10 _ 3)) = _
  unfold fieldAt
  rw [hl]
  show R.ok (Except.ok (Pes.PtsDts.both (tsRes _) (tsRes _))) = _
  rw [t1, t2]

/-- a header `from_bytes` accepts whose PTS carries the prefix `'1111'` (the standard demands
`'0010'`): `pts_dts()` returns the value without complaint -/
theorem pts_dts_prefix_not_checked :
    parsedAccepted [0x80, 0x80, 0x05, 0xF1, 0x00, 0x01, 0x00, 0x01] ∧
    ¬ ptsDtsPrefixStd [0x80, 0x80, 0x05, 0xF1, 0x00, 0x01, 0x00, 0x01] ∧
    Pes.ptsDts [0x80, 0x80, 0x05, 0xF1, 0x00, 0x01, 0x00, 0x01] = .ok (.ok (.ptsOnly (.ok 0))) :=
  ⟨by decide +kernel, by decide +kernel, rfl⟩

/-- the public helper `Timestamp::from_pts_bytes` refuses the standard-conforming `'0011'` PTS of a
PTS+DTS pair (any 33-bit value), while `pts_dts()` on a header carrying that very pair succeeds -/
theorem from_pts_bytes_rejects_pair_prefix (v w : Nat) (hv : v < 2 ^ 33) (hw : w < 2 ^ 33) :
    Time.fromPtsBytes (encodeTs 3 v) = .ok (.error (.incorrectPrefix 2 3)) ∧
    Time.fromDtsBytes (encodeTs 1 w) = .ok (.ok w) ∧
    Pes.ptsDts ([0x80, 0xC0, 0x0A] ++ encodeTs 3 v ++ encodeTs 1 w) = .ok (.ok (.both (.ok v) (.ok w))) := by
  refine ⟨?_, ?_, pts_dts_ignores_prefix_both 3 1 v w (by omega) (by omega) hv hw⟩
  · obtain ⟨_, _, _, hp, _⟩ := Ts.Lemmas.C15.encodeTs_fields 3 v [] (by omega) hv
    rw [List.append_nil] at hp
    rw [Ts.Lemmas.C15.fromPts_unfold _ (by rw [Ts.Lemmas.C15.encodeTs_length]; omega), hp,
      if_neg (by decide)]
  · have := Ts.Lemmas.C15.fromDts_encode w [] hw
    rwa [List.append_nil] at this

/-! #### ESCR / ES_rate marker bits -/

/-- **ESCR marker bits are not inputs of the value.**  Forcing the four marker bits to 1 (bytes 0,
2, 4 mask `0x04` = bit offsets 5, 21, 37; byte 5 mask `0x01` = bit offset 47) changes neither base
nor extension of the code's expressions, and no error is ever reported for a cleared marker. -/
theorem escr_ignores_markers (s0 s1 s2 s3 s4 s5 : Nat) (h0 : s0 < 256) (h2 : s2 < 256) (h4 : s4 < 256)
    (h5 : s5 < 256) :
    Pes.escrBase (s0 ||| 4) s1 (s2 ||| 4) s3 (s4 ||| 4) = Pes.escrBase s0 s1 s2 s3 s4 ∧
    Pes.escrExt (s4 ||| 4) (s5 ||| 1) = Pes.escrExt s4 s5 :=
  escr_markers_masked s0 s1 s2 s3 s4 s5 h0 h2 h4 h5

/-- **ES_rate marker bits are not inputs of the value** (byte 0 mask `0x80` = bit 0, byte 2 mask
`0x01` = bit 23) -/
theorem es_rate_ignores_markers (s0 s1 s2 : Nat) (h0 : s0 < 256) (h2 : s2 < 256) :
    Pes.esRateVal (s0 ||| 0x80) s1 (s2 ||| 1) = Pes.esRateVal s0 s1 s2 :=
  esRate_markers_masked s0 s1 s2 h0 h2

theorem escr_markers_not_checked :
    parsedAccepted [0x80, 0x20, 0x06, 0x08, 0x00, 0x08, 0x00, 0x08, 0x02] ∧
    ¬ escrMarkersStd [0x80, 0x20, 0x06, 0x08, 0x00, 0x08, 0x00, 0x08, 0x02] 3 ∧
    Pes.escr [0x80, 0x20, 0x06, 0x08, 0x00, 0x08, 0x00, 0x08, 0x02] = .ok (.ok ⟨1073774593, 1⟩) ∧
    escrMarkersStd [0x80, 0x20, 0x06, 0x0C, 0x00, 0x0C, 0x00, 0x0C, 0x03] 3 ∧
    Pes.escr [0x80, 0x20, 0x06, 0x0C, 0x00, 0x0C, 0x00, 0x0C, 0x03] = .ok (.ok ⟨1073774593, 1⟩) :=
  ⟨by decide +kernel, by decide +kernel, rfl, by decide +kernel, rfl⟩

theorem es_rate_markers_not_checked :
    parsedAccepted [0x80, 0x10, 0x03, 0x00, 0x00, 0x02] ∧
    ¬ esRateMarkersStd [0x80, 0x10, 0x03, 0x00, 0x00, 0x02] 3 ∧
    Pes.esRate [0x80, 0x10, 0x03, 0x00, 0x00, 0x02] = .ok (.ok 1) ∧
    esRateMarkersStd [0x80, 0x10, 0x03, 0x80, 0x00, 0x03] 3 ∧
    Pes.esRate [0x80, 0x10, 0x03, 0x80, 0x00, 0x03] = .ok (.ok 1) :=
  ⟨by decide +kernel, by decide +kernel, rfl, by decide +kernel, rfl⟩

/-! #### Boolean-encoded enums -/

/-- What the model's Booleans stand for (bit numbers within the first byte of the optional header):
* `dataAlignment = true`  ⇔ data_alignment_indicator (bit 5) = 1   — Rust `DataAlignment::Aligned`
* `copyrightUndefined = true` ⇔ copyright (bit 6) = 1 — Rust `Copyright::Undefined` (F5: inverted)
* `original = true`       ⇔ original_or_copy (bit 7) = 1           — Rust `OriginalOrCopy::Original`
* `pesPriority`           = PES_priority (bit 4) as 0/1.
The Rust variant names are the harness's mapping; an arm swap in the Rust source would be caught by
the differential harness, not by these theorems. -/
theorem polarity_pinned (c : Bytes) (h3 : 3 ≤ c.length) :
    Pes.dataAlignment c = .ok (readBits c 5 1 == 1) ∧
    Pes.copyrightUndefined c = .ok (readBits c 6 1 == 1) ∧
    Pes.original c = .ok (readBits c 7 1 == 1) ∧
    Pes.pesPriority c = .ok (readBits c 4 1) := by
  obtain ⟨a, b, d, _⟩ := pes_fields_exact_partial c h3
  obtain ⟨p1, p2, _, p4⟩ := parse_bits c
  rw [a, b, d, p1, p2, p4]
  exact ⟨rfl, copyright_pinned c h3, rfl, rfl⟩

/-! ### non-vacuity -/

/-- '10', priority 1, aligned, copyright 0, original; all flags set (PTS_DTS '11');
PES_header_data_length 25 = 10 + 6 + 3 + 1 + 1 + 2 + 2 extension bytes; then 3 payload bytes -/
def exC : Bytes :=
  [0x8D, 0xFF, 0x19,
   0x31, 0x23, 0x45, 0x67, 0x89,  0x11, 0x23, 0x45, 0x67, 0x01,
   0x2C, 0x00, 0x0C, 0x00, 0x0E, 0x55,
   0x80, 0x00, 0x03,
   0x17, 0xAA, 0x12, 0x34, 0xDE, 0xAD,
   0x00, 0x00, 0x01]

/-- a video PES packet (stream_id 0xE0, unbounded length) carrying `exC` -/
def exBuf : Bytes := [0x00, 0x00, 0x01, 0xE0, 0x00, 0x00] ++ exC

example : parsedAccepted exC := by decide +kernel
example : Pes.parsedFromBytes exC = .ok (some exC) := by
  rw [parsed_accept_iff, if_pos (by decide +kernel)]
example : (parse exC).ptsDts = .present (.both (.value 147928004) (.value 147927936)) := by decide +kernel
example : (parse exC).escr = .present ⟨5368741889, 298⟩ := by decide +kernel
example : (parse exC).esRate = .present 1 := by decide +kernel
example : (parse exC).trick = .present (.fastForward 2 true 3) := by decide +kernel
example : (parse exC).copyInfo = .present (.value 42) := by decide +kernel
example : (parse exC).prevCrc = .present 0x1234 := by decide +kernel
example : (parse exC).extension = .present (26, 2) := by decide +kernel
example : (parse exC).payloadOffset = 28 ∧ (parse exC).fixedEnd = 26 := by decide +kernel
example : (parse exC).priority = 1 ∧ (parse exC).dataAlignment = true ∧ (parse exC).original = true := by
  decide +kernel
example : Pes.escr exC = .ok (.ok ⟨5368741889, 298⟩) := rfl
example : Pes.ptsDts exC = .ok (.ok (.both (.ok 147928004) (.ok 147927936))) := rfl
example : Pes.dsmTrickMode exC = .ok (.ok (.fastForward 2 true 3)) := rfl
example : Pes.pesExtension exC = .ok (.ok (26, 2)) := rfl
example : Pes.payloadOffset exC = .ok 28 := rfl

example : Pes.headerFromBytes exBuf = .ok (some exBuf) := by
  rw [header_accept_iff, if_pos (by decide +kernel)]
example : readBits exBuf 24 8 = 0xE0 ∧ readBits exBuf 32 16 = 0 := by decide +kernel
example : Pes.contents exBuf = .ok (.parsed (some exC)) := by
  rw [contents_kind exBuf (by decide), if_neg (by decide +kernel)]
  show R.ok (Pes.Contents.parsed (if parsedAccepted exC then some exC else none)) = _
  rw [if_pos (by decide +kernel)]
/-- padding_stream: raw payload, whatever follows -/
example : Pes.contents [0x00, 0x00, 0x01, 0xBE, 0x00, 0x02, 0xFF, 0xFF] = .ok (.payload [0xFF, 0xFF]) := by
  rw [contents_kind _ (by decide), if_pos (by decide +kernel)]; rfl

-- rejected packet headers: too short; wrong start code
example : Pes.headerFromBytes [0x00, 0x00, 0x01, 0xE0, 0x00] = .ok none := by
  rw [header_accept_iff, if_neg (by decide +kernel)]
example : Pes.headerFromBytes [0x00, 0x00, 0x02, 0xE0, 0x00, 0x00] = .ok none := by
  rw [header_accept_iff, if_neg (by decide +kernel)]
-- rejected optional headers, one per reason:
-- fewer than three bytes
example : ¬ parsedAccepted [0x80, 0x00] ∧ Pes.parsedFromBytes [0x80, 0x00] = .ok none :=
  ⟨by decide +kernel, by rw [parsed_accept_iff, if_neg (by decide +kernel)]⟩
-- '10' marker wrong
example : ¬ parsedAccepted [0x40, 0x00, 0x00] ∧ Pes.parsedFromBytes [0x40, 0x00, 0x00] = .ok none :=
  ⟨by decide +kernel, by rw [parsed_accept_iff, if_neg (by decide +kernel)]⟩
-- declared header length 5 exceeds the 2 bytes available
example : ¬ parsedAccepted [0x80, 0x00, 0x05, 0xFF, 0xFF] ∧
    Pes.parsedFromBytes [0x80, 0x00, 0x05, 0xFF, 0xFF] = .ok none :=
  ⟨by decide +kernel, by rw [parsed_accept_iff, if_neg (by decide +kernel)]⟩
-- flag-implied size (PTS: 5 bytes) exceeds the declared header length 2
example : ¬ parsedAccepted [0x80, 0x80, 0x02, 0x21, 0x00, 0x01] ∧
    Pes.parsedFromBytes [0x80, 0x80, 0x02, 0x21, 0x00, 0x01] = .ok none :=
  ⟨by decide +kernel, by rw [parsed_accept_iff, if_neg (by decide +kernel)]⟩
-- the other field outcomes occur: absent, forbidden, truncated, cleared marker
example : (parse [0x80, 0x00, 0x00]).ptsDts = .absent := by decide +kernel
example : (parse [0x80, 0x40, 0x00]).ptsDts = .forbidden ∧
    Pes.ptsDts [0x80, 0x40, 0x00] = .ok (.error .ptsDtsFlagsInvalid) := ⟨by decide +kernel, rfl⟩
example : (parse [0x80, 0x80, 0x02, 0x21, 0x00, 0x01]).ptsDts = .truncated ∧
    Pes.ptsDts [0x80, 0x80, 0x02, 0x21, 0x00, 0x01] = .ok (.error .notEnoughData) :=
  ⟨by decide +kernel, rfl⟩
example : (parse [0x80, 0x80, 0x05, 0x21, 0x00, 0x00, 0x00, 0x01]).ptsDts
    = .present (.ptsOnly (.markerCleared 23)) := by decide +kernel
example : (parse [0x80, 0x04, 0x01, 0x2A]).copyInfo = .present .markerCleared ∧
    Pes.additionalCopyInfo [0x80, 0x04, 0x01, 0x2A] = .ok (.error .markerBitNotSet) :=
  ⟨by decide +kernel, rfl⟩

/-! #### examples for the readings -/
/-- trick-mode bytes 0xA0 and 0xBF: control 5, data bits 00000 resp. 11111 — same API value -/
example : Pes.dsmTrickMode [0x80, 0x08, 0x01, 0xA0] = .ok (.ok (.reserved 5))
    ∧ Pes.dsmTrickMode [0x80, 0x08, 0x01, 0xBF] = .ok (.ok (.reserved 5)) := ⟨rfl, rfl⟩
example : trickStdAt [0x80, 0x08, 0x01, 0xA0] 3 = .reserved 5 0
    ∧ trickStdAt [0x80, 0x08, 0x01, 0xBF] 3 = .reserved 5 31 := by decide +kernel
example : (flagsOf [0x80, 0x08, 0x01, 0xBF]).trick = true
    ∧ trickPos (flagsOf [0x80, 0x08, 0x01, 0xBF]) + 1 ≤ limit [0x80, 0x08, 0x01, 0xBF]
    ∧ readBits [0x80, 0x08, 0x01, 0xBF] (8 * trickPos (flagsOf [0x80, 0x08, 0x01, 0xBF])) 3 = 5 := by
  decide +kernel
/-- control 7 (0xE5) is `Reserved { 7 }`; control 4 (0x9F) exposes all five data bits -/
example : Pes.dsmTrickMode [0x80, 0x08, 0x01, 0xE5] = .ok (.ok (.reserved 7))
    ∧ Pes.dsmTrickMode [0x80, 0x08, 0x01, 0x9F] = .ok (.ok (.slowReverse 31)) := ⟨rfl, rfl⟩
/-- `exC` (control 0, fast_forward): `trick_exposes_std_reading` applies, all eight bits exposed -/
example : (flagsOf exC).trick = true ∧ trickPos (flagsOf exC) + 1 ≤ limit exC
    ∧ (trickStdAt exC (trickPos (flagsOf exC))).exposed = .fastForward 2 true 3 := by decide +kernel
example : trickPos (flagsOf exC) = 22 ∧ (encodeTs 3 0x123456789).length = 5 := by decide +kernel
example : Pes.ptsDts ([0x80, 0x80, 0x05] ++ encodeTs 15 0x123456789) = .ok (.ok (.ptsOnly (.ok 0x123456789))) :=
  pts_dts_ignores_prefix 15 _ (by decide) (by decide)
example : ptsDtsPrefixStd ([0x80, 0xC0, 0x0A] ++ encodeTs 3 7 ++ encodeTs 1 5) := by decide +kernel


/-! ### tie to the value table regenerated from `StreamId::is_parsed` in `/repo/src/pes.rs` -/
/-- the stream ids the SOURCE lists as carrying no optional header are exactly those of the model
(and, by `isParsed_table`, those of ISO/IEC 13818-1 2.4.3.7) -/
theorem tie_no_header_ids : ∀ sid : Fin 256,
    Ts.Pes.isParsed sid.val = !(Ts.Gen.noHeaderIds.contains sid.val) := by decide +kernel
theorem tie_no_header_ids_count : Ts.Gen.noHeaderIds.length = 8 := by decide

end Ts.Props.C14
