import Ts.Lemmas.Demux
import Ts.Lemmas.C08
import Ts.Model.App
/-!
# Helper lemmas for C02: the dispatcher frame (packets of other PIDs leave a slot alone)

One step with a hypothesis on the handler that actually consumes the packet; `QuietAlong`: the same
hypothesis along a whole run.
-/
namespace Ts.Lemmas.C02
open Ts Ts.Demux Ts.Lemmas.C08

variable {H C : Type}

/-- "whatever handler consumes `pk`, in whatever context, none of the changes it queues names PID `p`".

WARNING: this quantifies over ALL handlers `h` and ALL contexts `c0`, not over the handler that is
actually registered for `pk.pid` in a run.  For the application semantics `App.sem` it is FALSE for
every `p` and every `pk` (`Ts.Props.C02.queuesNothingFor_unsat`: a `.recorder` handler whose context
carries the script `[(pk.off / 188, [.ins p])]` queues an insertion for `p`).  It is here only so
that this fact can be stated; no theorem has it as a hypothesis.  The run-relative notion is
`QuietAlong`. -/
def QueuesNothingFor (sem : Sem H C) (p : Nat) (pk : Pk) : Prop :=
  ∀ h c0 h' c1 chg, sem.consume h c0 pk = .ok (h', c1, chg) → ∀ ch ∈ chg, ch.pid ≠ p

/-- RUN-RELATIVE quietness: along the ACTUAL run of the dispatcher spec from `tc` over `xs`, every
unflagged packet of a PID other than `p` is consumed by a handler — THE handler registered for its
PID at that point of the run, after lookup-or-construct — that queues no change naming `p`.
Nothing is said about handlers that do not take part in the run, nor about steps after a panic. -/
def QuietAlong (sem : Sem H C) (p : Nat) : Tab H × C → List Pk → Prop
  | _, [] => True
  | tc, pk :: pks =>
    (pk.pid ≠ p → pk.flagged = false →
      ∀ t1 c1 h h' c2 chg, ensure sem tc.1 tc.2 pk.pid = .ok (t1, c1) → t1.get pk.pid = some h →
        sem.consume h c1 pk = .ok (h', c2, chg) → ∀ ch ∈ chg, ch.pid ≠ p)
    ∧ ∀ tc', specStep sem tc pk = .ok tc' → QuietAlong sem p tc' pks

theorem quietAlong_nil (sem : Sem H C) (p : Nat) (tc : Tab H × C) : QuietAlong sem p tc [] := trivial

theorem quietAlong_cons (sem : Sem H C) (p : Nat) (tc : Tab H × C) (pk : Pk) (pks : List Pk) :
    QuietAlong sem p tc (pk :: pks) ↔
      (pk.pid ≠ p → pk.flagged = false →
        ∀ t1 c1 h h' c2 chg, ensure sem tc.1 tc.2 pk.pid = .ok (t1, c1) → t1.get pk.pid = some h →
          sem.consume h c1 pk = .ok (h', c2, chg) → ∀ ch ∈ chg, ch.pid ≠ p)
      ∧ ∀ tc', specStep sem tc pk = .ok tc' → QuietAlong sem p tc' pks := Iff.rfl

theorem specStep_frame' (sem : Sem H C) (t : Tab H) (c : C) (pk : Pk) (t' : Tab H) (c' : C) (p : Nat)
    (hne : pk.pid ≠ p) (hstep : specStep sem (t, c) pk = .ok (t', c'))
    (hN : pk.flagged = false → ∀ t1 c1 h h' c2 chg, ensure sem t c pk.pid = .ok (t1, c1) →
      t1.get pk.pid = some h → sem.consume h c1 pk = .ok (h', c2, chg) → ∀ ch ∈ chg, ch.pid ≠ p) :
    t'.get p = t.get p := by
  obtain ⟨t1, c1, hE, hcase⟩ := specStep_ok_cases sem hstep
  have hget : t1.get p = t.get p := ensure_get_ne sem t c pk.pid t1 c1 hE p (Ne.symm hne)
  rcases hcase with ⟨_, e⟩ | ⟨hf, h, h', c2, chg, hg, hk, e⟩
  · cases e
    exact hget
  · cases e
    rw [get_applyChanges_untouched chg _ p (hN hf t1 c1 h h' c' chg hE hg hk),
      Tab.get_insert_ne _ _ _ _ (Ne.symm hne), hget]

theorem specStep_pes (t : Tab App.Handler) (c : App.Ctx) (pk : Pk) (tag : Nat) (f : PesFilter.F)
    (hg : t.get pk.pid = some (.pes tag f)) (hf : pk.flagged = false) (h188 : pk.bytes.length = 188) :
    specStep App.sem (t, c) pk =
      (App.esEvents c.cfg.touch tag pk.bytes pk.off c (stepOf f pk.bytes).2 >>= fun c' =>
        R.ok (t.insert pk.pid (.pes tag (stepOf f pk.bytes).1), c')) := by
  have hc : t.contains pk.pid = true := (Tab.contains_eq_true_iff _ _).2 ⟨_, hg⟩
  rw [specStep_consume_of_contains App.sem t c pk _ hc hf hg]
  show (App.consume (.pes tag f) c pk >>= _) = _
  unfold App.consume
  simp only [consume_eq f pk.bytes h188, R.ok_bind]
  cases App.esEvents c.cfg.touch tag pk.bytes pk.off c (stepOf f pk.bytes).2 with
  | panic s => rfl
  | ok c' => rfl

/-- packets of other PIDs, and flagged packets, are invisible to the slot of a PES handler over a
quiet run; its state evolves as `runPure` over the unflagged packets of PID `p`, in order -/
theorem pushSpec_pes_slot (p tag : Nat) : ∀ (xs : List Pk) (t : Tab App.Handler) (c : App.Ctx)
    (f : PesFilter.F) (t' : Tab App.Handler) (c' : App.Ctx),
    t.get p = some (.pes tag f) →
    (∀ pk ∈ xs, pk.pid = p → pk.bytes.length = 188) →
    QuietAlong App.sem p (t, c) xs →
    pushSpec App.sem (t, c) xs = .ok (t', c') →
    t'.get p = some (.pes tag
      (runPure f ((xs.filter (fun pk => pk.pid == p && !pk.flagged)).map (·.bytes))).1) := by
  intro xs
  induction xs with
  | nil =>
    intro t c f t' c' hg _ _ hrun
    cases hrun
    exact hg
  | cons pk xs ih =>
    intro t c f t' c' hg h188 hN hrun
    rw [pushSpec_cons] at hrun
    obtain ⟨⟨t1, c1⟩, hstep, hrun⟩ := R.bind_eq_ok hrun
    have h188' : ∀ q ∈ xs, q.pid = p → q.bytes.length = 188 :=
      fun q hq => h188 q (List.mem_cons_of_mem _ hq)
    have hN' : QuietAlong App.sem p (t1, c1) xs := hN.2 (t1, c1) hstep
    by_cases hp : pk.pid = p
    · cases hf : pk.flagged with
      | true =>
        have hc : t.contains pk.pid = true := (Tab.contains_eq_true_iff _ _).2 ⟨_, hp ▸ hg⟩
        rw [specStep_flagged_of_contains App.sem t c pk hc hf] at hstep
        cases hstep
        have := ih t c f t' c' hg h188' hN' hrun
        simpa [List.filter_cons, hp, hf] using this
      | false =>
        have hb := h188 pk List.mem_cons_self hp
        rw [specStep_pes t c pk tag f (hp ▸ hg) hf hb] at hstep
        obtain ⟨c2, _, hstep⟩ := R.bind_eq_ok hstep
        cases hstep
        have hg1 : (t.insert pk.pid (.pes tag (stepOf f pk.bytes).1)).get p
            = some (.pes tag (stepOf f pk.bytes).1) := by
          rw [hp]; exact Tab.get_insert_self _ _ _
        have := ih _ c1 _ t' c' hg1 h188' hN' hrun
        simpa [List.filter_cons, hp, hf, runPure] using this
    · have hg1 : t1.get p = some (.pes tag f) := by
        rw [specStep_frame' App.sem t c pk t1 c1 p hp hstep (fun hf => hN.1 hp hf)]
        exact hg
      have := ih t1 c1 f t' c' hg1 h188' hN' hrun
      simpa [List.filter_cons, hp] using this

end Ts.Lemmas.C02
