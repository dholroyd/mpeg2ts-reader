import Ts.Model.App
import Ts.Lemmas.AppEval
import Ts.Props.C07
/-!
# C05 / F7 — the concrete histories of `removal_counterexample`, evaluated by the kernel

The packets are the ones printed by `/verif/harness/target/release/harness gen probes quick 1`
(lines `F7 demux b0t0 …` = `f7Bytes`, `F7control demux b0t0 …` = `ctlBytes`; 0xff stuffing and the
0x55 probe payload written with `List.replicate`).  The whole model (`App.runApp`) is evaluated on
these bytes in the kernel, each history once: the state after the tables is observed and then
carried on through the probe packet (`observe_cut`).
-/
namespace Ts.Lemmas.C05Run
open Ts Ts.App Ts.Demux

/-- PAT version 0: program 1 → PMT PID 0x100 -/
def patV0 : Bytes :=
  [0x47, 0x40, 0x00, 0x10, 0x00, 0x00, 0xb0, 0x0d, 0x00, 0x01, 0xc1, 0x00, 0x00, 0x00, 0x01, 0xe1, 0x00, 0xe8, 0xf9, 0x5e, 0x7d] ++ List.replicate 167 0xff

/-- PMT version 0 on PID 0x100: PCR PID 0x101, H.264 (0x1b) on 0x101, AAC (0x0f) on 0x102 -/
def pmtV0 : Bytes :=
  [0x47, 0x41, 0x00, 0x10, 0x00, 0x02, 0xb0, 0x17, 0x00, 0x01, 0xc1, 0x00, 0x00, 0xe1, 0x01, 0xf0, 0x00, 0x1b, 0xe1, 0x01, 0xf0, 0x00, 0x0f, 0xe1, 0x02, 0xf0, 0x00, 0x9e, 0x28, 0xc6, 0xdd] ++ List.replicate 157 0xff

/-- PAT version 1: program 1 → 0x100 (unchanged), program 2 → 0x110 (new) -/
def patV1 : Bytes :=
  [0x47, 0x40, 0x00, 0x11, 0x00, 0x00, 0xb0, 0x11, 0x00, 0x01, 0xc3, 0x00, 0x00, 0x00, 0x01, 0xe1, 0x00, 0x00, 0x02, 0xe1, 0x10, 0xf0, 0xeb, 0x33, 0x61] ++ List.replicate 163 0xff

/-- PMT version 1 on PID 0x100: only H.264 on 0x101 — PID 0x102 is dropped -/
def pmtV1 : Bytes :=
  [0x47, 0x41, 0x00, 0x11, 0x00, 0x02, 0xb0, 0x12, 0x00, 0x01, 0xc3, 0x00, 0x00, 0xe1, 0x01, 0xf0, 0x00, 0x1b, 0xe1, 0x01, 0xf0, 0x00, 0x40, 0x29, 0xfb, 0x17] ++ List.replicate 162 0xff

/-- a payload-only packet on PID 0x102 -/
def probe : Bytes :=
  [0x47, 0x01, 0x02, 0x10] ++ List.replicate 184 0x55

def f7Bytes : Bytes := patV0 ++ pmtV0 ++ patV1 ++ pmtV1 ++ probe
/-- control history: the same without the PAT version bump -/
def ctlBytes : Bytes := patV0 ++ pmtV0 ++ pmtV1 ++ probe

/-! ### observers with decidable equality -/

/-- the `construct` callbacks, oldest first -/
def constructs (c : Ctx) : List (Req × Nat) :=
  c.trace.reverse.filterMap fun e => match e with | .construct r t => some (r, t) | _ => none

/-- the packets seen by recorders, oldest first: (tag, byte offset) -/
def pkts (c : Ctx) : List (Nat × Nat) :=
  c.trace.reverse.filterMap fun e => match e with | .pkt t o => some (t, o) | _ => none

inductive Slot where
  | empty
  | pat (reg : List Nat)
  | pmt (pid prog : Nat) (reg : List Nat)
  | pes (tag : Nat)
  | recorder (tag : Nat)
  deriving DecidableEq, Repr

def slotOf : Option Handler → Slot
  | none => .empty
  | some (.pat _ reg) => .pat reg
  | some (.pmt pid prog _ reg) => .pmt pid prog reg
  | some (.pes t _) => .pes t
  | some (.recorder t) => .recorder t

structure Obs where
  constructs : List (Req × Nat)
  pkts : List (Nat × Nat)
  slot100 : Slot
  slot101 : Slot
  slot102 : Slot
  slot110 : Slot
  deriving DecidableEq, Repr

def observe : R (Tab Handler × Ctx) → Option Obs
  | .ok (t, c) => some ⟨constructs c, pkts c, slotOf (t.get 0x100), slotOf (t.get 0x101),
      slotOf (t.get 0x102), slotOf (t.get 0x110)⟩
  | .panic _ => none

/-- the `construct` callbacks up to and including PMT v0 (both histories) -/
def constructsV0 : List (Req × Nat) :=
  [(.byPid 0, 0), (.pmt 0x100 1, 1), (.stream 0x100 0x1b 0x101 0x101 [] [], 2),
   (.stream 0x100 0x0f 0x102 0x101 [] [], 3)]

/-- A run cut at a packet boundary, in one evaluation: what is observed at the cut, and at the end
when the run is carried on from the state reached there (C07: two pushes, the first one aligned, are
one push of the concatenation). -/
theorem observe_cut (a b : Bytes) (n : Nat) (o1 o2 : Obs)
    (h : (match runApp {} [a] with
      | .ok s => some (observe (.ok s), observe (push sem s b n))
      | .panic _ => none) = some (some o1, some o2))
    (hn : a.length = n) (ha : n % 188 = 0) :
    observe (runApp {} [a]) = some o1 ∧ observe (runApp {} [a ++ b]) = some o2 := by
  have single : ∀ x : Bytes, runApp {} [x] = push sem (init {}) x 0 :=
    fun x => Props.C07.pushAll_single sem _ x 0
  subst hn
  rw [single (a ++ b), Props.C07.push_append sem _ a b 0 ha, ← single a, Nat.zero_add]
  cases hr : runApp {} [a] with
  | panic m => rw [hr] at h; cases h
  | ok s =>
    rw [hr] at h
    simp only [Option.some.injEq, Prod.mk.injEq] at h
    exact h

theorem f7_eval :
    (match runApp {} [patV0 ++ pmtV0 ++ patV1 ++ pmtV1] with
      | .ok s => some (observe (.ok s), observe (push sem s probe 752))
      | .panic _ => none) = some
    (some { constructs := constructsV0 ++
              [(.pmt 0x100 1, 4), (.pmt 0x110 2, 5), (.stream 0x100 0x1b 0x101 0x101 [] [], 6)],
            pkts := [],
            slot100 := .pmt 0x100 1 [0x101], slot101 := .pes 6, slot102 := .pes 3,
            slot110 := .pmt 0x110 2 [] },
     some { constructs := constructsV0 ++
              [(.pmt 0x100 1, 4), (.pmt 0x110 2, 5), (.stream 0x100 0x1b 0x101 0x101 [] [], 6)],
            pkts := [],
            slot100 := .pmt 0x100 1 [0x101], slot101 := .pes 6, slot102 := .pes 3,
            slot110 := .pmt 0x110 2 [] }) := by
  eval_app

/-- after the four tables, BEFORE the probe packet: PMT v1 was applied by the PMT filter that PAT v1
built (tag 4, nothing registered), so no `remove 0x102` was queued: slot 0x102 still holds the PES
handler with tag 3 that PMT v0 installed -/
theorem f7_tables : observe (runApp {} [patV0 ++ pmtV0 ++ patV1 ++ pmtV1]) = some
    { constructs := constructsV0 ++ [(.pmt 0x100 1, 4), (.pmt 0x110 2, 5), (.stream 0x100 0x1b 0x101 0x101 [] [], 6)],
      pkts := [],
      slot100 := .pmt 0x100 1 [0x101], slot101 := .pes 6, slot102 := .pes 3, slot110 := .pmt 0x110 2 [] } :=
  (observe_cut (patV0 ++ pmtV0 ++ patV1 ++ pmtV1) probe 752 _ _ f7_eval (by decide +kernel) (by decide)).1

/-- … and the probe packet on 0x102 is consumed by that stale handler: no `construct` at all -/
theorem f7_run : observe (runApp {} [f7Bytes]) = some
    { constructs := constructsV0 ++ [(.pmt 0x100 1, 4), (.pmt 0x110 2, 5), (.stream 0x100 0x1b 0x101 0x101 [] [], 6)],
      pkts := [],
      slot100 := .pmt 0x100 1 [0x101], slot101 := .pes 6, slot102 := .pes 3, slot110 := .pmt 0x110 2 [] } :=
  (observe_cut (patV0 ++ pmtV0 ++ patV1 ++ pmtV1) probe 752 _ _ f7_eval (by decide +kernel) (by decide)).2

theorem ctl_eval :
    (match runApp {} [patV0 ++ pmtV0 ++ pmtV1] with
      | .ok s => some (observe (.ok s), observe (push sem s probe 564))
      | .panic _ => none) = some
    (some { constructs := constructsV0 ++ [(.stream 0x100 0x1b 0x101 0x101 [] [], 4)],
            pkts := [],
            slot100 := .pmt 0x100 1 [0x101], slot101 := .pes 4, slot102 := .empty, slot110 := .empty },
     some { constructs := constructsV0 ++ [(.stream 0x100 0x1b 0x101 0x101 [] [], 4), (.byPid 0x102, 5)],
            pkts := [(5, 564)],
            slot100 := .pmt 0x100 1 [0x101], slot101 := .pes 4, slot102 := .recorder 5,
            slot110 := .empty }) := by
  eval_app

/-- after the three tables: the PMT filter that applied v0 (registered {0x101, 0x102}) applies v1
and queues `remove 0x102`: the slot is empty -/
theorem ctl_tables : observe (runApp {} [patV0 ++ pmtV0 ++ pmtV1]) = some
    { constructs := constructsV0 ++ [(.stream 0x100 0x1b 0x101 0x101 [] [], 4)],
      pkts := [],
      slot100 := .pmt 0x100 1 [0x101], slot101 := .pes 4, slot102 := .empty, slot110 := .empty } :=
  (observe_cut (patV0 ++ pmtV0 ++ pmtV1) probe 564 _ _ ctl_eval (by decide +kernel) (by decide)).1

/-- … and the probe packet is offered to the application again (`ByPid 0x102`, tag 5) and recorded
by the new handler (packet at byte offset 564) -/
theorem ctl_run : observe (runApp {} [ctlBytes]) = some
    { constructs := constructsV0 ++ [(.stream 0x100 0x1b 0x101 0x101 [] [], 4), (.byPid 0x102, 5)],
      pkts := [(5, 564)],
      slot100 := .pmt 0x100 1 [0x101], slot101 := .pes 4, slot102 := .recorder 5, slot110 := .empty } :=
  (observe_cut (patV0 ++ pmtV0 ++ pmtV1) probe 564 _ _ ctl_eval (by decide +kernel) (by decide)).2

theorem observe_some (r : R (Tab Handler × Ctx)) (o : Obs) (h : observe r = some o) :
    ∃ t c, r = .ok (t, c) ∧ constructs c = o.constructs ∧ pkts c = o.pkts ∧
      slotOf (t.get 0x100) = o.slot100 ∧ slotOf (t.get 0x101) = o.slot101 ∧
      slotOf (t.get 0x102) = o.slot102 ∧ slotOf (t.get 0x110) = o.slot110 := by
  cases r with
  | panic s => cases h
  | ok tc =>
    obtain ⟨t, c⟩ := tc
    simp only [observe, Option.some.injEq] at h
    subst h
    exact ⟨t, c, rfl, rfl, rfl, rfl, rfl, rfl, rfl⟩

theorem mem_constructs (c : Ctx) (r : Req) (tag : Nat) :
    (r, tag) ∈ constructs c ↔ Ev.construct r tag ∈ c.trace := by
  unfold constructs
  rw [List.mem_filterMap]
  constructor
  · rintro ⟨e, he, hm⟩
    rw [List.mem_reverse] at he
    cases e <;> simp at hm
    obtain ⟨rfl, rfl⟩ := hm
    exact he
  · intro h
    exact ⟨_, List.mem_reverse.2 h, rfl⟩

theorem slot_pes (o : Option Handler) (tag : Nat) (h : slotOf o = .pes tag) : ∃ f, o = some (.pes tag f) := by
  cases o with
  | none => cases h
  | some hd =>
    cases hd <;> simp [slotOf] at h
    subst h
    exact ⟨_, rfl⟩

theorem slot_recorder (o : Option Handler) (tag : Nat) (h : slotOf o = .recorder tag) :
    o = some (.recorder tag) := by
  cases o with
  | none => cases h
  | some hd =>
    cases hd <;> simp [slotOf] at h
    subst h
    rfl

theorem slot_empty (o : Option Handler) (h : slotOf o = .empty) : o = none := by
  cases o with
  | none => rfl
  | some hd => cases hd <;> simp [slotOf] at h

theorem slot_pmt (o : Option Handler) (pid prog : Nat) (reg : List Nat) (h : slotOf o = .pmt pid prog reg) :
    ∃ s, o = some (.pmt pid prog s reg) := by
  cases o with
  | none => cases h
  | some hd =>
    cases hd <;> simp [slotOf] at h
    obtain ⟨rfl, rfl, rfl⟩ := h
    exact ⟨_, rfl⟩

end Ts.Lemmas.C05Run
