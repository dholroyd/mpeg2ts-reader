import Ts.Lemmas.BitOps
import Ts.Spec.CrcSpec
import Ts.Model.Crc
/-!
# Lemmas for C04 (checksum half)

GF(2)-linearity of the Annex A shift register on `Nat` with `^^^`, the "feed = pre-xor then
zero-feed" lemma for up to 32 bits, injectivity of the zero-input clock, and the list plumbing
needed to state error patterns by bit position.
-/
namespace Ts.CrcSpec
open Ts

theorem M_eq : M = 2^32 := by decide

theorem bit_mul_xor (u v : Nat) (hu : u ≤ 1) (hv : v ≤ 1) :
    (u ^^^ v) * poly = (u * poly) ^^^ (v * poly) := by
  have : u = 0 ∨ u = 1 := by omega
  have : v = 0 ∨ v = 1 := by omega
  rcases ‹u = 0 ∨ u = 1› with rfl | rfl <;> rcases ‹v = 0 ∨ v = 1› with rfl | rfl <;> simp

theorem shr31_le (c : Nat) (h : c < M) : c >>> 31 ≤ 1 := by
  rw [Nat.shiftRight_eq_div_pow]; unfold M at h; omega

theorem shl31_lt (b : Nat) (hb : b ≤ 1) : b <<< 31 < M := by
  rw [Nat.shiftLeft_eq]; unfold M; omega

theorem xor_lt_M (a b : Nat) (ha : a < M) (hb : b < M) : a ^^^ b < M := by
  rw [M_eq] at *; exact Nat.xor_lt_two_pow ha hb

theorem xor_le_one (u v : Nat) (hu : u ≤ 1) (hv : v ≤ 1) : u ^^^ v ≤ 1 := by
  have : u = 0 ∨ u = 1 := by omega
  have : v = 0 ∨ v = 1 := by omega
  rcases ‹u = 0 ∨ u = 1› with rfl | rfl <;> rcases ‹v = 0 ∨ v = 1› with rfl | rfl <;> simp

theorem step_lin (c1 c2 b1 b2 : Nat) (h1 : c1 < M) (h2 : c2 < M) (hb1 : b1 ≤ 1) (hb2 : b2 ≤ 1) :
    step (c1 ^^^ c2) (b1 ^^^ b2) = step c1 b1 ^^^ step c2 b2 := by
  unfold step
  rw [Nat.shiftLeft_xor_distrib, M_eq, Nat.xor_mod_two_pow, Nat.shiftRight_xor_distrib]
  have e : (c1 >>> 31 ^^^ c2 >>> 31) ^^^ (b1 ^^^ b2) = (c1 >>> 31 ^^^ b1) ^^^ (c2 >>> 31 ^^^ b2) := by
    ac_rfl
  rw [e, bit_mul_xor _ _ (xor_le_one _ _ (shr31_le _ h1) hb1) (xor_le_one _ _ (shr31_le _ h2) hb2)]
  ac_rfl

theorem step_lt (c b : Nat) (hb : b ≤ 1) (hc : c < M) : step c b < M := by
  unfold step
  rw [M_eq]
  apply Nat.xor_lt_two_pow
  · exact Nat.mod_lt _ (by decide)
  · have := xor_le_one _ _ (shr31_le _ hc) hb
    have : (c >>> 31 ^^^ b) = 0 ∨ (c >>> 31 ^^^ b) = 1 := by omega
    rcases this with h | h <;> rw [h] <;> decide

theorem step_zero : step 0 0 = 0 := by decide

/-- below `2^31` the zero-input clock is a plain shift: no feedback -/
theorem step_low (c : Nat) (h : c < 2^31) : step c 0 = c * 2 := by
  unfold step
  have : c >>> 31 = 0 := by rw [Nat.shiftRight_eq_div_pow]; omega
  rw [this]; simp [Nat.shiftLeft_eq]; unfold M; omega

theorem xor_eq_add (k x y : Nat) (hy : y < 2^k) : (2^k * x) ^^^ y = 2^k * x + y := by
  apply Nat.eq_of_testBit_eq
  intro i
  rw [Nat.testBit_xor, Nat.testBit_two_pow_mul_add x hy i]
  have h0 : (2^k * x).testBit i = if i < k then false else x.testBit (i - k) := by
    have := Nat.testBit_two_pow_mul_add x (Nat.two_pow_pos k) i
    simpa using this
  rw [h0]
  by_cases h : i < k
  · simp [h]
  · simp only [h, if_false]
    have : y.testBit i = false :=
      Nat.testBit_lt_two_pow (Nat.lt_of_lt_of_le hy (Nat.pow_le_pow_right (by decide) (by omega)))
    simp [this]

/-- feeding bit `b` = xoring `b` into the top stage, then clocking with input 0 -/
theorem step_top (c b : Nat) (hc : c < M) (hb : b ≤ 1) : step c b = step (c ^^^ (b <<< 31)) 0 := by
  have l := step_lin c (b <<< 31) 0 0 hc (shl31_lt b hb) (by omega) (by omega)
  rw [Nat.xor_zero] at l
  have e1 : step (b <<< 31) 0 = step 0 b := by
    have : b = 0 ∨ b = 1 := by omega
    rcases this with rfl | rfl <;> decide
  have l2 := step_lin c 0 0 b hc (by unfold M; omega) (by omega) hb
  rw [Nat.xor_zero, Nat.zero_xor] at l2
  rw [l, e1, l2]

def AllBits (bs : List Nat) : Prop := ∀ x ∈ bs, x ≤ 1

theorem AllBits.tail {b : Nat} {bs : List Nat} (h : AllBits (b :: bs)) : AllBits bs :=
  fun x hx => h x (List.mem_cons_of_mem _ hx)
theorem AllBits.head {b : Nat} {bs : List Nat} (h : AllBits (b :: bs)) : b ≤ 1 :=
  h b List.mem_cons_self
theorem AllBits.append {a b : List Nat} (ha : AllBits a) (hb : AllBits b) : AllBits (a ++ b) := by
  intro x hx
  rcases List.mem_append.1 hx with h | h
  · exact ha x h
  · exact hb x h
theorem AllBits.take {a : List Nat} (ha : AllBits a) (n : Nat) : AllBits (a.take n) :=
  fun x hx => ha x (List.mem_of_mem_take hx)
theorem AllBits.drop {a : List Nat} (ha : AllBits a) (n : Nat) : AllBits (a.drop n) :=
  fun x hx => ha x (List.mem_of_mem_drop hx)

@[simp] theorem run_nil (c : Nat) : run c [] = c := rfl
@[simp] theorem run_cons (c b : Nat) (bs : List Nat) : run c (b :: bs) = run (step c b) bs := rfl
theorem run_append (c : Nat) (a b : List Nat) : run c (a ++ b) = run (run c a) b := by
  unfold run; rw [List.foldl_append]

theorem run_lt (c : Nat) (bs : List Nat) (hc : c < M) (hb : AllBits bs) : run c bs < M := by
  induction bs generalizing c with
  | nil => exact hc
  | cons b bs ih => exact ih _ (step_lt _ _ hb.head hc) hb.tail

def iter0 : Nat → Nat → Nat
  | 0, c => c
  | n+1, c => iter0 n (step c 0)

theorem iter0_lt (n c : Nat) (hc : c < M) : iter0 n c < M := by
  induction n generalizing c with
  | zero => exact hc
  | succ n ih => exact ih _ (step_lt _ _ (by omega) hc)

theorem iter0_zero (n : Nat) : iter0 n 0 = 0 := by
  induction n with
  | zero => rfl
  | succ n ih => rw [iter0, step_zero, ih]

theorem iter0_succ' (n c : Nat) : iter0 (n+1) c = step (iter0 n c) 0 := by
  induction n generalizing c with
  | zero => rfl
  | succ n ih => rw [iter0, ih]; rfl

theorem iter0_add (a b c : Nat) : iter0 (a + b) c = iter0 b (iter0 a c) := by
  induction a generalizing c with
  | zero => simp [iter0]
  | succ a ih => rw [Nat.succ_add, iter0, ih]; rfl

theorem iter0_lin (n c1 c2 : Nat) (h1 : c1 < M) (h2 : c2 < M) :
    iter0 n (c1 ^^^ c2) = iter0 n c1 ^^^ iter0 n c2 := by
  induction n generalizing c1 c2 with
  | zero => rfl
  | succ n ih =>
    rw [iter0, iter0, iter0]
    have := step_lin c1 c2 0 0 h1 h2 (by omega) (by omega)
    rw [Nat.xor_zero] at this
    rw [this]
    exact ih _ _ (step_lt _ _ (by omega) h1) (step_lt _ _ (by omega) h2)

theorem iter0_low (n c : Nat) (h : c * 2^n < M) : iter0 n c = c * 2^n := by
  induction n generalizing c with
  | zero => simp [iter0]
  | succ n ih =>
    rw [Nat.pow_succ] at h
    have h2 : 0 < 2^n := Nat.two_pow_pos n
    have hc : c < 2^31 := by
      have : c * 2 ≤ c * (2^n * 2) := Nat.mul_le_mul_left _ (by omega)
      unfold M at h; omega
    rw [iter0, step_low c hc, ih]
    · rw [Nat.pow_succ, Nat.mul_assoc, Nat.mul_comm 2]
    · rw [Nat.mul_assoc, Nat.mul_comm 2]; exact h

/-- the number spelled by a bit list, most significant first -/
def val : List Nat → Nat
  | [] => 0
  | b :: bs => b * 2^bs.length + val bs

theorem val_lt (bs : List Nat) (h : AllBits bs) : val bs < 2^bs.length := by
  induction bs with
  | nil => simp [val]
  | cons b bs ih =>
    have := ih h.tail
    have hb := h.head
    simp only [val, List.length_cons, Nat.pow_succ]
    have : b * 2^bs.length ≤ 1 * 2^bs.length := Nat.mul_le_mul_right _ hb
    omega

theorem val_shl_lt (w : List Nat) (hw : AllBits w) (k : Nat) (h : w.length ≤ k) :
    val w <<< (k - w.length) < 2^k := by
  rw [Nat.shiftLeft_eq]
  have : val w * 2^(k - w.length) < 2^w.length * 2^(k - w.length) :=
    Nat.mul_lt_mul_of_pos_right (val_lt w hw) (Nat.two_pow_pos _)
  rwa [← Nat.pow_add, show w.length + (k - w.length) = k by omega] at this

theorem val_append (a b : List Nat) : val (a ++ b) = val a * 2^b.length + val b := by
  induction a with
  | nil => simp [val]
  | cons x a ih =>
    simp only [List.cons_append, val, ih, List.length_append, Nat.pow_add, Nat.add_mul]
    rw [Nat.mul_assoc]; omega

theorem val_ne_zero (bs : List Nat) (j : Nat) (h : bs.getD j 0 = 1) : val bs ≠ 0 := by
  induction bs generalizing j with
  | nil => simp at h
  | cons b bs ih =>
    cases j with
    | zero =>
      simp only [List.getD_cons_zero] at h
      subst h
      simp only [val]
      have := Nat.two_pow_pos bs.length
      omega
    | succ j =>
      simp only [List.getD_cons_succ] at h
      have := ih j h
      simp only [val]; omega

/-- **feed lemma**: clocking in up to 32 bits `w` equals xoring them into the top of the register
and clocking in as many zeros -/
theorem run_feed (w : List Nat) (c : Nat) (hw : AllBits w) (hl : w.length ≤ 32) (hc : c < M) :
    run c w = iter0 w.length (c ^^^ (val w <<< (32 - w.length))) := by
  induction w generalizing c with
  | nil => simp [val, iter0]
  | cons b w ih =>
    have hb := hw.head
    simp only [List.length_cons] at hl
    rw [run_cons, ih _ hw.tail (by omega) (step_lt _ _ hb hc), List.length_cons, iter0]
    congr 1
    -- step c b ^^^ (val w <<< (32-k)) = step (c ^^^ (val (b::w) <<< (31-k))) 0
    have hk : 32 - w.length = (31 - w.length) + 1 := by omega
    have hlow : val w <<< (31 - w.length) < 2^31 := val_shl_lt w hw.tail 31 (by omega)
    have e1 : val w <<< (32 - w.length) = step (val w <<< (31 - w.length)) 0 := by
      rw [step_low _ hlow, hk, Nat.shiftLeft_succ, Nat.mul_comm]
    have e2 : val (b :: w) <<< (32 - (w.length + 1)) = (b <<< 31) ^^^ (val w <<< (31 - w.length)) := by
      have e3 : 32 - (w.length + 1) = 31 - w.length := by omega
      rw [e3]
      simp only [val, Nat.shiftLeft_eq]
      rw [Nat.add_mul, Nat.mul_assoc, ← Nat.pow_add]
      have e : w.length + (31 - w.length) = 31 := by omega
      rw [e, Nat.mul_comm b, xor_eq_add 31 b _ (by simpa [Nat.shiftLeft_eq] using hlow)]
    have hcb : c ^^^ (b <<< 31) < M := xor_lt_M _ _ hc (shl31_lt b hb)
    rw [e2, ← Nat.xor_assoc]
    have l := step_lin (c ^^^ (b <<< 31)) (val w <<< (31 - w.length)) 0 0 hcb
      (by unfold M; omega) (by omega) (by omega)
    rw [Nat.xor_zero] at l
    rw [l, ← step_top c b hc hb, e1]

/-! ### the zero-input clock is injective (the polynomial has constant term 1) -/

/-- inverse of the zero-input clock on `[0, 2^32)` -/
def unstep (r : Nat) : Nat := ((r ^^^ ((r % 2) * poly)) / 2) + (r % 2) * 2^31

theorem unstep_step (c : Nat) (hc : c < M) : unstep (step c 0) = c := by
  have hdec : c = 2^31 * (c >>> 31) + c % 2^31 := by
    rw [Nat.shiftRight_eq_div_pow]; omega
  have ht := shr31_le c hc
  have hlo : c % 2^31 < 2^31 := Nat.mod_lt _ (by decide)
  have hs : step c 0 = ((c % 2^31) * 2) ^^^ ((c >>> 31) * poly) := by
    unfold step
    rw [Nat.xor_zero, Nat.shiftLeft_eq]
    congr 1
    unfold M; omega
  rw [hs]
  have : c >>> 31 = 0 ∨ c >>> 31 = 1 := by omega
  rcases this with h | h
  · rw [h] at hdec ⊢
    simp only [Nat.zero_mul, Nat.xor_zero, unstep]
    have : (c % 2^31 * 2) % 2 = 0 := by omega
    rw [this]; simp; omega
  · rw [h] at hdec ⊢
    simp only [Nat.one_mul, unstep]
    have hodd : ((c % 2^31 * 2) ^^^ poly) % 2 = 1 := by
      have := Nat.xor_mod_two_pow (a := c % 2^31 * 2) (b := poly) (n := 1)
      simp only [Nat.pow_one] at this
      rw [this]
      have e1 : (c % 2^31 * 2) % 2 = 0 := by omega
      have e2 : poly % 2 = 1 := by decide
      rw [e1, e2]; rfl
    rw [hodd, Nat.one_mul, Nat.xor_assoc, Nat.xor_self, Nat.xor_zero]
    omega

theorem step0_inj (c1 c2 : Nat) (h1 : c1 < M) (h2 : c2 < M) (h : step c1 0 = step c2 0) : c1 = c2 := by
  rw [← unstep_step c1 h1, ← unstep_step c2 h2, h]

theorem iter0_inj (n c1 c2 : Nat) (h1 : c1 < M) (h2 : c2 < M) (h : iter0 n c1 = iter0 n c2) :
    c1 = c2 := by
  induction n generalizing c1 c2 with
  | zero => exact h
  | succ n ih =>
    rw [iter0, iter0] at h
    exact step0_inj _ _ h1 h2 (ih _ _ (step_lt _ _ (by omega) h1) (step_lt _ _ (by omega) h2) h)

theorem iter0_ne_zero (n c : Nat) (hc : c < M) (h : c ≠ 0) : iter0 n c ≠ 0 := by
  intro h0
  rw [← iter0_zero n] at h0
  exact h (iter0_inj n c 0 hc (by unfold M; omega) h0)

theorem xor_xor_cancel (a b : Nat) : a ^^^ (a ^^^ b) = b := by
  rw [← Nat.xor_assoc, Nat.xor_self, Nat.zero_xor]

theorem eq_of_xor_eq_zero (a b : Nat) (h : a ^^^ b = 0) : a = b := by
  have := xor_xor_cancel a b
  rwa [h, Nat.xor_zero] at this

theorem xor_ne_self (a b : Nat) (hb : b ≠ 0) : a ^^^ b ≠ a := by
  intro h
  have := xor_xor_cancel a b
  rw [h, Nat.xor_self] at this
  exact hb this.symm

theorem byteBits_length (d : Nat) : (byteBits d).length = 8 := by simp [byteBits]

theorem byteBits_allBits (d : Nat) : AllBits (byteBits d) := by
  intro x hx
  simp only [byteBits, List.mem_map] at hx
  obtain ⟨k, _, rfl⟩ := hx
  omega

theorem val_byteBits_fin : ∀ d : Fin 256, val (byteBits d.val) = d.val := by decide +kernel
theorem val_byteBits (d : Nat) (h : d < 256) : val (byteBits d) = d := val_byteBits_fin ⟨d, h⟩

theorem byteBits_getD (d i : Nat) (h : i < 8) : (byteBits d).getD i 0 = (d >>> (7 - i)) % 2 := by
  simp [byteBits, List.getD_eq_getElem?_getD, List.getElem?_range h]

@[simp] theorem bits_nil : bits [] = [] := rfl
@[simp] theorem bits_cons (a : UInt8) (m : Bytes) : bits (a :: m) = byteBits a.toNat ++ bits m := by
  simp [bits]
theorem bits_append (a b : Bytes) : bits (a ++ b) = bits a ++ bits b := by
  simp [bits]

theorem bits_length (m : Bytes) : (bits m).length = 8 * m.length := by
  induction m with
  | nil => rfl
  | cons a m ih => rw [bits_cons, List.length_append, byteBits_length, ih, List.length_cons]; omega

theorem bits_allBits (m : Bytes) : AllBits (bits m) := by
  induction m with
  | nil => intro x hx; simp at hx
  | cons a m ih => rw [bits_cons]; exact (byteBits_allBits _).append ih

theorem crcFrom_nil (c : Nat) : crcFrom c [] = c := rfl
theorem crcFrom_cons (c : Nat) (a : UInt8) (m : Bytes) :
    crcFrom c (a :: m) = crcFrom (run c (byteBits a.toNat)) m := by
  unfold crcFrom; rw [bits_cons, run_append]
theorem crcFrom_append (c : Nat) (a b : Bytes) : crcFrom c (a ++ b) = crcFrom (crcFrom c a) b := by
  unfold crcFrom; rw [bits_append, run_append]
theorem crcFrom_lt (c : Nat) (m : Bytes) (hc : c < M) : crcFrom c m < M :=
  run_lt c _ hc (bits_allBits m)

theorem shl24_lt (x : Nat) (h : x < 256) : x <<< 24 < M := by
  rw [Nat.shiftLeft_eq]; unfold M; omega

/-- one byte, table-free: xor it into the top byte, clock 8 zeros -/
theorem run_byte (c d : Nat) (hc : c < M) (hd : d < 256) :
    run c (byteBits d) = iter0 8 (c ^^^ (d <<< 24)) := by
  have := run_feed (byteBits d) c (byteBits_allBits d) (by rw [byteBits_length]; omega) hc
  rw [byteBits_length, val_byteBits d hd] at this
  exact this

theorem run_byte_lin (c1 c2 d1 d2 : Nat) (h1 : c1 < M) (h2 : c2 < M) (hd1 : d1 < 256) (hd2 : d2 < 256) :
    run (c1 ^^^ c2) (byteBits (d1 ^^^ d2)) = run c1 (byteBits d1) ^^^ run c2 (byteBits d2) := by
  have hx : d1 ^^^ d2 < 256 := Nat.xor_lt_two_pow (n := 8) hd1 hd2
  have hc : c1 ^^^ c2 < M := xor_lt_M _ _ h1 h2
  have a1 : c1 ^^^ (d1 <<< 24) < M := xor_lt_M _ _ h1 (shl24_lt d1 hd1)
  have a2 : c2 ^^^ (d2 <<< 24) < M := xor_lt_M _ _ h2 (shl24_lt d2 hd2)
  rw [run_byte _ _ hc hx, run_byte _ _ h1 hd1, run_byte _ _ h2 hd2, ← iter0_lin 8 _ _ a1 a2,
    Nat.shiftLeft_xor_distrib]
  generalize d1 <<< 24 = x1
  generalize d2 <<< 24 = x2
  congr 1
  ac_rfl

theorem crcFrom_xor (m e : Bytes) (c1 c2 : Nat) (hl : e.length = m.length) (h1 : c1 < M) (h2 : c2 < M) :
    crcFrom (c1 ^^^ c2) (xorBytes m e) = crcFrom c1 m ^^^ crcFrom c2 e := by
  induction m generalizing e c1 c2 with
  | nil =>
    cases e with
    | nil => rfl
    | cons _ _ => simp at hl
  | cons a m ih =>
    cases e with
    | nil => simp at hl
    | cons b e =>
      simp only [List.length_cons, Nat.add_right_cancel_iff] at hl
      have : xorBytes (a :: m) (b :: e) = (a ^^^ b) :: xorBytes m e := rfl
      rw [this, crcFrom_cons, crcFrom_cons, crcFrom_cons, UInt8.toNat_xor,
        run_byte_lin _ _ _ _ h1 h2 (UInt8.toNat_lt a) (UInt8.toNat_lt b)]
      exact ih e _ _ hl (run_lt _ _ h1 (byteBits_allBits _)) (run_lt _ _ h2 (byteBits_allBits _))

theorem model_step (c d : Nat) (hc : c < M) (hd : d < 256)
    (hS : Ts.Gen.crcIdxShift = 24) (hK : Ts.Gen.crcIdxMask = 0xFF) (hU : Ts.Gen.crcUpdShift = 8)
    (htab : ∀ i : Fin 256, Ts.Gen.crcTable[i.val]? = some (run 0 (byteBits i.val))) :
    Ts.Crc.step c d = .ok (run c (byteBits d)) := by
  have hhi : c >>> 24 < 256 := by rw [Nat.shiftRight_eq_div_pow]; unfold M at hc; omega
  have hx : (c >>> 24) ^^^ d < 256 := Nat.xor_lt_two_pow (n := 8) hhi hd
  have hlo : c % 2^24 < 2^24 := Nat.mod_lt _ (by decide)
  have hmask : ((c >>> 24) ^^^ d) &&& 255 = (c >>> 24) ^^^ d := by
    have := Nat.and_two_pow_sub_one_eq_mod ((c >>> 24) ^^^ d) 8
    rw [show (2^8 - 1 : Nat) = 255 from rfl] at this
    rw [this]; exact Nat.mod_eq_of_lt hx
  have ht : Ts.Crc.tableAt ((c >>> 24) ^^^ d) = .ok (run 0 (byteBits ((c >>> 24) ^^^ d))) := by
    unfold Ts.Crc.tableAt; rw [htab ⟨_, hx⟩]
  have e8 : (c <<< 8) % Ts.Crc.M = iter0 8 (c % 2^24) := by
    rw [iter0_low 8 _ (by unfold M; omega), Nat.shiftLeft_eq]
    unfold Ts.Crc.M; omega
  have hdec : c = ((c >>> 24) <<< 24) ^^^ (c % 2^24) := by
    rw [Nat.shiftLeft_eq, Nat.mul_comm, xor_eq_add 24 _ _ hlo, Nat.shiftRight_eq_div_pow]; omega
  have hmodel : Ts.Crc.step c d = .ok (((c <<< 8) % Ts.Crc.M) ^^^ run 0 (byteBits ((c >>> 24) ^^^ d))) := by
    unfold Ts.Crc.step
    rw [hS, hK, hU]
    show (Ts.Crc.tableAt (((c >>> 24) ^^^ d) &&& 255) >>= fun t => pure (((c <<< 8) % Ts.Crc.M) ^^^ t)) = _
    rw [hmask, ht]
    rfl
  have key : iter0 8 (c % 2^24) ^^^ run 0 (byteBits ((c >>> 24) ^^^ d)) = run c (byteBits d) := by
    rw [run_byte 0 _ (by unfold M; omega) hx, Nat.zero_xor, run_byte c d hc hd,
      ← iter0_lin 8 _ _ (by unfold M; omega) (shl24_lt _ hx), Nat.shiftLeft_xor_distrib]
    generalize hA : (c >>> 24) <<< 24 = A at hdec ⊢
    generalize d <<< 24 = D
    generalize c % 2^24 = L at hdec ⊢
    rw [hdec]
    apply congrArg (iter0 8)
    ac_rfl
  rw [hmodel, e8, key]

attribute [local irreducible] Ts.Crc.step in
theorem sum32From_cons (c : Nat) (a : UInt8) (m : Bytes) :
    Ts.Crc.sum32From c (a :: m) = (Ts.Crc.step c a.toNat >>= fun c' => Ts.Crc.sum32From c' m) := rfl

theorem model_sum32From (data : Bytes) (c : Nat) (hc : c < M)
    (hS : Ts.Gen.crcIdxShift = 24) (hK : Ts.Gen.crcIdxMask = 0xFF) (hU : Ts.Gen.crcUpdShift = 8)
    (htab : ∀ i : Fin 256, Ts.Gen.crcTable[i.val]? = some (run 0 (byteBits i.val))) :
    Ts.Crc.sum32From c data = .ok (crcFrom c data) := by
  induction data generalizing c with
  | nil => rfl
  | cons a m ih =>
    rw [sum32From_cons, model_step c a.toNat hc (UInt8.toNat_lt a) hS hK hU htab, crcFrom_cons, R.ok_bind]
    exact ih _ (run_lt _ _ hc (byteBits_allBits _))

theorem bits_be32 (v : Nat) (hv : v < M) :
    (bits (be32 v)).length = 32 ∧ val (bits (be32 v)) = v := by
  constructor
  · rw [bits_length]; rfl
  · simp only [be32, bits_cons, bits_nil, List.append_nil, val_append, List.length_append,
      byteBits_length, UInt8.toNat_ofNat']
    rw [val_byteBits _ (Nat.mod_lt _ (by decide)), val_byteBits _ (Nat.mod_lt _ (by decide)),
      val_byteBits _ (Nat.mod_lt _ (by decide)), val_byteBits _ (Nat.mod_lt _ (by decide))]
    simp only [Nat.shiftRight_eq_div_pow]
    unfold M at hv
    omega

theorem crcFrom_be32_self (c : Nat) (hc : c < M) : crcFrom c (be32 c) = 0 := by
  obtain ⟨hl, hv⟩ := bits_be32 c hc
  unfold crcFrom
  rw [run_feed _ c (bits_allBits _) (by omega) hc, hl, hv]
  simp [iter0_zero]

theorem getD_drop (L : List Nat) (n j : Nat) : (L.drop n).getD j 0 = L.getD (n + j) 0 := by
  simp [List.getD_eq_getElem?_getD, List.getElem?_drop]
theorem getD_take_lt (L : List Nat) (n j : Nat) (h : j < n) : (L.take n).getD j 0 = L.getD j 0 := by
  simp [List.getD_eq_getElem?_getD, h]
theorem getD_take_ge (L : List Nat) (n j : Nat) (h : n ≤ j) : (L.take n).getD j 0 = 0 := by
  have : ¬ j < n := by omega
  simp [List.getD_eq_getElem?_getD, List.getElem?_take, this]
theorem getD_ge (L : List Nat) (j : Nat) (h : L.length ≤ j) : L.getD j 0 = 0 := by
  simp [List.getD_eq_getElem?_getD, List.getElem?_eq_none h]
theorem getD_append_lt (A B : List Nat) (j : Nat) (h : j < A.length) : (A ++ B).getD j 0 = A.getD j 0 := by
  simp [List.getD_eq_getElem?_getD, List.getElem?_append_left h]
theorem getD_append_ge (A B : List Nat) (j : Nat) (h : A.length ≤ j) :
    (A ++ B).getD j 0 = B.getD (j - A.length) 0 := by
  simp [List.getD_eq_getElem?_getD, List.getElem?_append_right h]

theorem getD_le_one (L : List Nat) (hL : AllBits L) (j : Nat) : L.getD j 0 ≤ 1 := by
  by_cases h : j < L.length
  · have : L.getD j 0 = L[j] := by simp [List.getD_eq_getElem?_getD, h]
    rw [this]; exact hL _ (List.getElem_mem h)
  · rw [getD_ge L j (by omega)]; omega

theorem getD_zero_of_ne_one (L : List Nat) (hL : AllBits L) (j : Nat) (h : L.getD j 0 ≠ 1) :
    L.getD j 0 = 0 := by
  have := getD_le_one L hL j; omega

theorem getD_lt_of_eq_one (L : List Nat) (i : Nat) (h : L.getD i 0 = 1) : i < L.length := by
  apply Classical.byContradiction; intro hn
  rw [getD_ge L i (by omega)] at h; omega

theorem drop_eq_getD_cons (L : List Nat) (p : Nat) (h : p < L.length) :
    L.drop p = L.getD p 0 :: L.drop (p + 1) := by
  rw [List.drop_eq_getElem_cons h]; simp [List.getD_eq_getElem?_getD, h]

theorem byteD_nil (k : Nat) : byteD [] k = 0 := by simp [byteD]

/-- element `i` of the bit list is bit `7 - i%8` of byte `i/8` -/
theorem bits_getD (e : Bytes) (i : Nat) : (bits e).getD i 0 = bitAt e i := by
  induction e generalizing i with
  | nil => simp [bitAt, byteD_nil]
  | cons a e ih =>
    rw [bits_cons]
    by_cases h : i < 8
    · rw [getD_append_lt _ _ _ (by rw [byteBits_length]; exact h), byteBits_getD _ _ h]
      unfold bitAt
      have e1 : i / 8 = 0 := by omega
      have e2 : i % 8 = i := by omega
      rw [e1, e2, byteD_cons_zero]
    · rw [getD_append_ge _ _ _ (by rw [byteBits_length]; omega), byteBits_length, ih]
      unfold bitAt
      have e1 : i / 8 = (i - 8) / 8 + 1 := by omega
      have e2 : i % 8 = (i - 8) % 8 := by omega
      rw [e1, e2, byteD_cons_succ]

theorem run_skip (L : List Nat) (n c : Nat) (hn : n ≤ L.length) (hz : ∀ j, j < n → L.getD j 0 = 0) :
    run c L = run (iter0 n c) (L.drop n) := by
  induction n generalizing L c with
  | zero => rfl
  | succ n ih =>
    cases L with
    | nil => simp at hn
    | cons x L =>
      have hx : x = 0 := by simpa using hz 0 (by omega)
      subst hx
      rw [run_cons, List.drop_succ_cons, iter0]
      exact ih L _ (by simpa using hn) (fun j hj => by simpa using hz (j+1) (by omega))

theorem run0_skip (L : List Nat) (n : Nat) (hn : n ≤ L.length) (hz : ∀ j, j < n → L.getD j 0 = 0) :
    run 0 L = run 0 (L.drop n) := by
  rw [run_skip L n 0 hn hz, iter0_zero]

theorem run_zeros (c : Nat) (zs : List Nat) (hz : ∀ j, zs.getD j 0 = 0) :
    run c zs = iter0 zs.length c := by
  rw [run_skip zs zs.length c (Nat.le_refl _) (fun j _ => hz j), List.drop_length, run_nil]

/-- a nonzero error pattern confined to a window of 32 bit positions leaves a nonzero register -/
theorem burst_run (L : List Nat) (hL : AllBits L) (s : Nat) (hne : ∃ i, L.getD i 0 = 1)
    (hwin : ∀ i, L.getD i 0 = 1 → s ≤ i ∧ i < s + 32) : run 0 L ≠ 0 := by
  obtain ⟨i, hi⟩ := hne
  have hzero : ∀ j, ¬ (s ≤ j ∧ j < s + 32) → L.getD j 0 = 0 := fun j hj =>
    getD_zero_of_ne_one L hL j (fun h => hj (hwin j h))
  obtain ⟨hi1, hi2⟩ := hwin i hi
  have hil := getD_lt_of_eq_one L i hi
  rw [run0_skip L s (by omega) (fun j hj => hzero j (by omega))]
  have hsplit := List.take_append_drop 32 (L.drop s)
  rw [← hsplit, run_append]
  have hWl : ((L.drop s).take 32).length ≤ 32 := List.length_take_le _ _
  have hWb : AllBits ((L.drop s).take 32) := (hL.drop s).take 32
  rw [run_feed _ 0 hWb hWl (by unfold M; omega), Nat.zero_xor]
  have hv0 : val ((L.drop s).take 32) ≠ 0 := by
    apply val_ne_zero _ (i - s)
    rw [getD_take_lt _ _ _ (by omega), getD_drop]
    have : s + (i - s) = i := by omega
    rw [this]; exact hi
  generalize hW : (L.drop s).take 32 = W at *
  have hc1 : val W <<< (32 - W.length) < M := by rw [M_eq]; exact val_shl_lt W hWb 32 hWl
  have hc0 : val W <<< (32 - W.length) ≠ 0 := by
    rw [Nat.shiftLeft_eq]
    have := Nat.two_pow_pos (32 - W.length)
    exact Nat.mul_ne_zero hv0 (by omega)
  have hr := iter0_ne_zero W.length _ hc1 hc0
  have hrl := iter0_lt W.length _ hc1
  rw [run_zeros _ ((L.drop s).drop 32)]
  · exact iter0_ne_zero _ _ hrl hr
  · intro j
    rw [getD_drop, getD_drop]
    exact hzero _ (by omega)

def T31 : Nat := 2147483648

def step0 (c : Nat) : Nat :=
  Nat.xor (Nat.mod (Nat.shiftLeft c 1) M) (Nat.mul (Nat.shiftRight c 31) poly)

theorem step0_eq (c : Nat) : step0 c = step c 0 := by
  unfold step; rw [Nat.xor_zero]; rfl

/-- `ordLoop n c`: none of the next `n` zero-input clockings of `c` hits `2^31`.  Spelled with the
recursor and with `step0` (the `Nat` operations themselves, not their notation): the kernel unfolds
this some four times cheaper than the equation compiler's `brecOn` form over `step`, and
`ordLoop_ok` unfolds it 65535 times. -/
def ordLoop (n : Nat) : Nat → Bool :=
  Nat.rec (fun _ => true) (fun _ ih c => !(Nat.beq (step0 c) T31) && ih (step0 c)) n

theorem ordLoop_succ (n c : Nat) :
    ordLoop (n+1) c = (!(Nat.beq (step0 c) T31) && ordLoop n (step0 c)) := rfl

theorem ordLoop_sound (n c : Nat) (h : ordLoop n c = true) :
    ∀ k, 1 ≤ k → k ≤ n → iter0 k c ≠ T31 := by
  induction n generalizing c with
  | zero => intro k h1 h2; omega
  | succ n ih =>
    intro k h1 h2
    rw [ordLoop_succ, step0_eq, Bool.and_eq_true, Bool.not_eq_true'] at h
    obtain ⟨k', rfl⟩ : ∃ k', k = k' + 1 := ⟨k - 1, by omega⟩
    rw [iter0]
    cases k' with
    | zero => exact Nat.ne_of_beq_eq_false h.1
    | succ k'' => exact ih _ h.2 (k''+1) (by omega) (by omega)

theorem step_T31 : step T31 0 = poly := by decide
theorem step_zero_one : step 0 1 = poly := by decide

/-- exactly two set bits `k = q - p` positions apart: nonzero register provided `x^k ≠ 1 (mod g)`,
here in the form "`k` zero-input clocks do not map `2^31` to itself" -/
theorem double_run (L : List Nat) (hL : AllBits L) (p q : Nat) (hpq : p < q)
    (hp : L.getD p 0 = 1) (hq : L.getD q 0 = 1) (honly : ∀ i, L.getD i 0 = 1 → i = p ∨ i = q)
    (hord : iter0 (q - p) T31 ≠ T31) : run 0 L ≠ 0 := by
  have hzero : ∀ j, j ≠ p → j ≠ q → L.getD j 0 = 0 := fun j h1 h2 =>
    getD_zero_of_ne_one L hL j (fun h => by rcases honly j h with h | h <;> contradiction)
  have hqlen := getD_lt_of_eq_one L q hq
  have hlt : iter0 (q - p) T31 < M := iter0_lt _ _ (by decide)
  -- zeros, the bit at `p`, `q - p - 1` zeros, the bit at `q`, zeros
  rw [run0_skip L p (by omega) (fun j hj => hzero j (by omega) (by omega)),
    drop_eq_getD_cons L p (by omega), hp, run_cons, step_zero_one, ← step_T31,
    run_skip (L.drop (p + 1)) (q - p - 1) _ (by rw [List.length_drop]; omega)
      (fun j hj => by rw [getD_drop]; exact hzero _ (by omega) (by omega)),
    ← iter0, show (q - p - 1).succ = q - p by omega, List.drop_drop,
    show p + 1 + (q - p - 1) = q by omega, drop_eq_getD_cons L q hqlen, hq, run_cons,
    run_zeros _ _ (fun j => by rw [getD_drop]; exact hzero _ (by omega) (by omega)),
    step_top _ 1 hlt (by omega)]
  exact iter0_ne_zero _ _ (step_lt _ _ (by omega) (xor_lt_M _ _ hlt (by decide)))
    (iter0_ne_zero 1 _ (xor_lt_M _ _ hlt (by decide)) (fun h => hord (eq_of_xor_eq_zero _ _ h)))

theorem xorBytes_length (m e : Bytes) (hl : e.length = m.length) : (xorBytes m e).length = m.length := by
  simp [xorBytes, List.length_zipWith, hl]

theorem singleBit_length (n p : Nat) : (singleBit n p).length = n := by simp [singleBit]

/-! `flipBit` on a concatenation acts on the part that holds the bit -/

theorem xorBytes_zeros (m : Bytes) : ∀ n, m.length ≤ n → xorBytes m (List.replicate n 0) = m := by
  induction m with
  | nil => intro n _; simp [xorBytes]
  | cons x m ih =>
    intro n hn
    obtain ⟨k, rfl⟩ : ∃ k, n = k + 1 := ⟨n - 1, by simp at hn; omega⟩
    show (x ^^^ 0) :: xorBytes m (List.replicate k 0) = _
    rw [ih k (by simpa using hn), UInt8.xor_zero]

theorem singleBit_succ_add (n p : Nat) : singleBit (n + 1) (p + 8) = 0 :: singleBit n p := by
  unfold singleBit
  rw [List.range_succ_eq_map, List.map_cons, List.map_map]
  have e1 : (p + 8) / 8 = p / 8 + 1 := by omega
  have e2 : (p + 8) % 8 = p % 8 := by omega
  rw [e1, e2, if_neg (by omega)]
  congr 1
  apply List.map_congr_left
  intro i _
  simp

theorem singleBit_succ_lt (n p : Nat) (hp : p < 8) :
    singleBit (n + 1) p = UInt8.ofNat (128 >>> p) :: List.replicate n 0 := by
  unfold singleBit
  rw [List.range_succ_eq_map, List.map_cons, List.map_map]
  have e1 : p / 8 = 0 := by omega
  have e2 : p % 8 = p := by omega
  rw [e1, e2, if_pos rfl]
  congr 1
  rw [List.eq_replicate_iff]
  simp

theorem flipBit_append_right (a m : Bytes) (p : Nat) :
    flipBit (a ++ m) (8 * a.length + p) = a ++ flipBit m p := by
  induction a with
  | nil => simp
  | cons x a ih =>
    have e : 8 * (x :: a).length + p = (8 * a.length + p) + 8 := by simp; omega
    rw [e]
    show xorBytes (x :: (a ++ m)) (singleBit ((a ++ m).length + 1) _) = _
    rw [singleBit_succ_add]
    show (x ^^^ 0) :: flipBit (a ++ m) _ = _
    rw [ih, UInt8.xor_zero]; rfl

theorem flipBit_append_left (x b : Bytes) (q : Nat) (hq : q < 8 * x.length) :
    flipBit (x ++ b) q = flipBit x q ++ b := by
  induction x generalizing q with
  | nil => simp at hq
  | cons y x ih =>
    show xorBytes (y :: (x ++ b)) (singleBit ((x ++ b).length + 1) q) =
      xorBytes (y :: x) (singleBit (x.length + 1) q) ++ b
    by_cases h8 : q < 8
    · rw [singleBit_succ_lt _ _ h8, singleBit_succ_lt _ _ h8]
      show (y ^^^ _) :: xorBytes (x ++ b) _ = (y ^^^ _) :: xorBytes x _ ++ b
      rw [xorBytes_zeros _ _ (Nat.le_refl _), xorBytes_zeros _ _ (Nat.le_refl _)]; rfl
    · obtain ⟨q', rfl⟩ : ∃ q', q = q' + 8 := ⟨q - 8, by omega⟩
      rw [singleBit_succ_add, singleBit_succ_add]
      show (y ^^^ 0) :: flipBit (x ++ b) q' = ((y ^^^ 0) :: flipBit x q') ++ b
      rw [ih q' (by simp at hq; omega)]; rfl

theorem flipBit_mid (a x b : Bytes) (n q : Nat) (hn : a.length = n) (hq : q < 8 * x.length) :
    flipBit (a ++ (x ++ b)) (8 * n + q) = a ++ (flipBit x q ++ b) := by
  subst hn; rw [flipBit_append_right, flipBit_append_left _ _ _ hq]

theorem byteD_singleBit (n p k : Nat) :
    byteD (singleBit n p) k = if k < n ∧ k = p / 8 then (128 >>> (p % 8)) % 256 else 0 := by
  unfold byteD singleBit
  rw [List.getD_eq_getElem?_getD, List.getElem?_map]
  by_cases hk : k < n
  · rw [List.getElem?_range hk]
    by_cases h2 : k = p / 8
    · have hc : k < n ∧ k = p / 8 := ⟨hk, h2⟩
      rw [if_pos hc]; simp [h2]
    · have hc : ¬ (k < n ∧ k = p / 8) := fun hh => h2 hh.2
      rw [if_neg hc]; simp [h2]
  · rw [List.getElem?_eq_none (by simpa using hk)]
    simp [hk]

theorem bit_of_mask_fin : ∀ a b : Fin 8,
    ((((128 >>> a.val) % 256) >>> (7 - b.val)) % 2) = if a = b then 1 else 0 := by decide

theorem bitAt_singleBit (n p i : Nat) (hp : p < 8 * n) :
    bitAt (singleBit n p) i = if i = p then 1 else 0 := by
  unfold bitAt
  rw [byteD_singleBit]
  by_cases h : i / 8 = p / 8
  · have h1 : i / 8 < n ∧ i / 8 = p / 8 := ⟨by omega, h⟩
    rw [if_pos h1]
    have := bit_of_mask_fin ⟨p % 8, Nat.mod_lt _ (by decide)⟩ ⟨i % 8, Nat.mod_lt _ (by decide)⟩
    simp only [Fin.mk.injEq] at this
    rw [this]
    by_cases h2 : i = p
    · subst h2; simp
    · have : ¬ p % 8 = i % 8 := by omega
      simp [h2, this]
  · have h1 : ¬ (i / 8 < n ∧ i / 8 = p / 8) := fun hh => h hh.2
    have h2 : ¬ i = p := fun hh => h (by rw [hh])
    rw [if_neg h1, if_neg h2]
    simp

theorem bitAt_le_one (e : Bytes) (i : Nat) : bitAt e i ≤ 1 := by unfold bitAt; omega

theorem byteD_xorBytes (a b : Bytes) (hl : b.length = a.length) (k : Nat) :
    byteD (xorBytes a b) k = byteD a k ^^^ byteD b k := by
  induction a generalizing b k with
  | nil =>
    cases b with
    | nil => simp [xorBytes, byteD_nil]
    | cons _ _ => simp at hl
  | cons x a ih =>
    cases b with
    | nil => simp at hl
    | cons y b =>
      have : xorBytes (x :: a) (y :: b) = (x ^^^ y) :: xorBytes a b := rfl
      rw [this]
      cases k with
      | zero => simp [byteD_cons_zero]
      | succ k =>
        rw [byteD_cons_succ, byteD_cons_succ, byteD_cons_succ]
        exact ih b (by simpa using hl) k

theorem bitAt_xorBytes (a b : Bytes) (hl : b.length = a.length) (i : Nat) :
    bitAt (xorBytes a b) i = bitAt a i ^^^ bitAt b i := by
  unfold bitAt
  rw [byteD_xorBytes a b hl, Nat.shiftRight_xor_distrib]
  have := Nat.xor_mod_two_pow (a := byteD a (i / 8) >>> (7 - i % 8)) (b := byteD b (i / 8) >>> (7 - i % 8)) (n := 1)
  simpa using this

theorem byte_has_bit_fin : ∀ b : Fin 256, b.val ≠ 0 → ∃ j : Fin 8, (b.val >>> (7 - j.val)) % 2 = 1 := by
  decide +kernel

theorem bitAt_cons_lt (a : UInt8) (e : Bytes) (j : Nat) (h : j < 8) :
    bitAt (a :: e) j = (a.toNat >>> (7 - j)) % 2 := by
  unfold bitAt
  have e1 : j / 8 = 0 := by omega
  have e2 : j % 8 = j := by omega
  rw [e1, e2, byteD_cons_zero]

theorem bitAt_cons_add (a : UInt8) (e : Bytes) (i : Nat) : bitAt (a :: e) (i + 8) = bitAt e i := by
  unfold bitAt
  have e1 : (i + 8) / 8 = i / 8 + 1 := by omega
  have e2 : (i + 8) % 8 = i % 8 := by omega
  rw [e1, e2, byteD_cons_succ]

theorem exists_bit_of_nonzero (e : Bytes) (h : ∃ b ∈ e, b ≠ 0) : ∃ i, bitAt e i = 1 := by
  induction e with
  | nil => obtain ⟨b, hb, _⟩ := h; simp at hb
  | cons a e ih =>
    by_cases ha : a = 0
    · obtain ⟨b, hb, hb0⟩ := h
      rcases List.mem_cons.1 hb with rfl | hb
      · exact absurd ha hb0
      · obtain ⟨i, hi⟩ := ih ⟨b, hb, hb0⟩
        exact ⟨i + 8, by rw [bitAt_cons_add]; exact hi⟩
    · have hne : a.toNat ≠ 0 := by
        intro h0; apply ha
        exact UInt8.toNat_inj.1 (by simpa using h0)
      obtain ⟨j, hj⟩ := byte_has_bit_fin ⟨a.toNat, UInt8.toNat_lt a⟩ hne
      exact ⟨j.val, by rw [bitAt_cons_lt _ _ _ j.isLt]; exact hj⟩

/-! ### the finite order obligation: `x^k ≢ 1 (mod g)` for `1 ≤ k < 2^16` -/

theorem ordLoop_ok : ordLoop 65535 T31 = true := by decide +kernel

theorem order_gt_2_16 (k : Nat) (h1 : 1 ≤ k) (h2 : k < 65536) : iter0 k T31 ≠ T31 :=
  ordLoop_sound 65535 T31 ordLoop_ok k h1 (by omega)

end Ts.CrcSpec
