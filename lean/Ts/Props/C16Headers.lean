import Ts.Model.Values
import Ts.Spec.Bits
import Ts.Lemmas.C16
/-!
# C16 (headers) and C12 (value types): section header field extraction, `Pid` / `ContinuityCounter`

`SectionCommonHeader::new` and the `TableSyntaxHeader` accessors equal the `uimsbf` fields of
ISO/IEC 13818-1 2.4.4.11 (table_id 8, section_syntax_indicator 1, private_indicator 1, reserved 2,
section_length 12; table_id_extension 16, reserved 2, version_number 5, current_next_indicator 1,
section_number 8, last_section_number 8); the constructors' assertions fire exactly on the
documented conditions and `CurrentNext::from` never reaches its panic arm.
-/
namespace Ts.Props.C16Headers
open Ts Ts.Spec Ts.Values Ts.Lemmas.C16

/-- `SectionCommonHeader::new` is total exactly on 3-byte slices (it asserts the length) and
extracts the four fields -/
theorem common_header_exact (b : Bytes) (h : b.length = 3) :
    Psi.headerNew b = .ok ⟨readBits b 0 8, readBits b 8 1 == 1, readBits b 9 1 == 1, readBits b 12 12⟩ := by
  unfold Psi.headerNew
  rw [assertR_ok _ _ (by simp [h, Psi.COMMON])]
  simp (disch := omega) only [byteAt_ok, R.ok_bind, R.pure_eq]
  rw [mask12 _ _ (byteD_lt b 1) (byteD_lt b 2), show readBits b 0 8 = _ from readBits_byte b 0,
    show (readBits b 8 1 == 1) = _ from bit_eq_mask b 1 0 (by omega),
    show (readBits b 9 1 == 1) = _ from bit_eq_mask b 1 1 (by omega),
    show readBits b 12 12 = _ from field_4_12 b 1]

theorem common_header_wrong_length_panics (b : Bytes) (h : b.length ≠ 3) :
    (Psi.headerNew b).isOk = false := by
  unfold Psi.headerNew
  have hl : (b.length == Psi.COMMON) = false := by simp [Psi.COMMON, h]
  simp [assertR, hl, R.isOk]

theorem section_length_lt (b : Bytes) : readBits b 12 12 < 4096 := readBits_lt b 12 12

/-- `current_next_indicator`: the panic arm of `CurrentNext::from` is unreachable for a 1-bit value -/
theorem current_next_total (v : Nat) (h : v < 2) : currentNextFrom v = .ok (v == 1) := by
  have : v = 0 ∨ v = 1 := by omega
  rcases this with rfl | rfl <;> rfl

/-- `TableSyntaxHeader::new` + all accessors: total on every slice of at least 5 bytes, fields by
`uimsbf` -/
theorem table_syntax_header_exact (b : Bytes) (h : 5 ≤ b.length) :
    tshFields b = .ok ⟨readBits b 0 16, readBits b 18 5, readBits b 23 1 == 1, readBits b 24 8, readBits b 32 8⟩ := by
  unfold tshFields
  rw [assertR_ok _ _ (by simpa using h)]
  simp (disch := omega) only [byteAt_ok, R.ok_bind]
  rw [Nat.and_one_is_mod, current_next_total _ (Nat.mod_lt _ (by decide)), shl8_or _ _ (byteD_lt b 1),
    Nat.shiftRight_eq_div_pow, Nat.and_two_pow_sub_one_eq_mod _ 5,
    show readBits b 0 16 = _ from field_0_16 b 0, show readBits b 18 5 = _ from readBits_sub b 2 2 5 (by omega),
    show readBits b 23 1 = _ from readBits_sub b 2 7 1 (by omega),
    show readBits b 24 8 = _ from readBits_byte b 3, show readBits b 32 8 = _ from readBits_byte b 4]
  simp only [R.ok_bind, R.pure_eq, Nat.reduceSub, Nat.pow_zero, Nat.div_one, Nat.pow_one]

theorem table_syntax_header_short_panics (b : Bytes) (h : b.length < 5) : (tshFields b).isOk = false := by
  unfold tshFields
  have hl : decide (b.length ≥ 5) = false := by simp; omega
  simp [assertR, hl, R.isOk]

theorem version_lt_32 (b : Bytes) : readBits b 18 5 < 32 := readBits_lt b 18 5

/-! ### `Pid` and `ContinuityCounter` (anchors of C12) -/

theorem pid_try_from_iff (v : Nat) : (pidTryFrom v).isSome = true ↔ v ≤ 0x1fff := by
  unfold pidTryFrom; split <;> simp_all

theorem pid_try_from_value (v : Nat) (h : v ≤ 0x1fff) : pidTryFrom v = some v := by
  unfold pidTryFrom; simp [h]

theorem pid_new_refuses_iff (v : Nat) : (pidNew v).isOk = true ↔ v ≤ 0x1fff := by
  unfold pidNew assertR
  by_cases h : v ≤ 0x1fff <;> simp [h, R.isOk]

theorem cc_new_refuses_iff (v : Nat) : (ccNew v).isOk = true ↔ v < 16 := by
  unfold ccNew assertR
  by_cases h : v < 0b10000 <;> simp [h, R.isOk] <;> omega

/-! ### non-vacuity -/
example : Psi.headerNew [0x02, 0xb0, 0x17] = .ok ⟨2, true, false, 23⟩ := by rfl
example : tshFields [0x00, 0x01, 0xc1, 0x00, 0x00] = .ok ⟨1, 0, true, 0, 0⟩ := by rfl
example : tshFields [0xab, 0xcd, 0x3e, 0x05, 0x09] = .ok ⟨0xabcd, 31, false, 5, 9⟩ := by rfl
example : (pidNew 0x2000).isOk = false ∧ (pidNew 0x1fff).isOk = true := by decide
example : (ccNew 16).isOk = false ∧ (ccNew 15).isOk = true := by decide

end Ts.Props.C16Headers
