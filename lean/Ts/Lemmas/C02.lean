import Ts.Spec.PesMux
import Ts.Lemmas.C08
import Ts.Lemmas.C15
import Ts.Props.C14
import Ts.Props.C15
import Ts.Model.App
import Ts.Lemmas.C01
/-!
# Helper lemmas for C02 (PES payload conservation): plans, `encodePes`, what the decoder reads

The plan's view of a transport packet (`Ts/Spec/PesMux.lean`) is the packet summary of C08, so
`PesFilter.consume` on a plan packet is `stepOf` with known inputs; what the decoder reads from
`encodePes` comes from C14 and C15 (`ts_roundtrip`).
-/
namespace Ts.Lemmas.C02
open Ts Ts.Packet Ts.PesFilter Ts.Spec Ts.Spec.PesMux Ts.Lemmas.C08 Ts.Props.C12

/-! ### the plan's view of a transport packet = the packet summary of C08 -/

theorem tpPusi_eq (p : Bytes) : tpPusi p = usOf p := rfl
theorem tpCc_eq (p : Bytes) : tpCc p = ccOf p := rfl
theorem tpPayloadFlag_eq (p : Bytes) : tpPayloadFlag p = hpOf p := (hpOf_eq p).symm

theorem tpPayload_eq (p : Bytes) : tpPayload p = payOf p := by
  unfold tpPayload payOf tpAfFlag tpPayloadFlag tpAfLen
  have h : readBits p 32 8 = byteD p 4 := readBits_byte p 4
  rw [(afc_exact p).1, (afc_exact p).2, h]

theorem payOf_some_hp {p : Bytes} {r : Nat × Nat} (h : payOf p = some r) : hpOf p = true := by
  unfold payOf at h; unfold hpOf
  cases h1 : hasAf (byteD p 3) <;> cases h2 : hasPayload (byteD p 3) <;> simp [h1, h2, splitSpec] at h ⊢

theorem payOf_none_of_hp {p : Bytes} (h : hpOf p = false) : payOf p = none := by
  unfold hpOf at h; unfold payOf
  cases h1 : hasAf (byteD p 3) <;> simp [h, splitSpec]

theorem continuous_first (fc : Option Nat) (n : Nat) (h : ∀ c ∈ fc, n = (c + 1) % 16) :
    continuous fc true n = true := by
  cases fc with
  | none => rfl
  | some c =>
    simp only [continuous, if_true]
    exact (follows_iff n c).mpr (h c rfl)

theorem stepOf_first (f : F) (p : Bytes) (o l : Nat)
    (hus : usOf p = true) (hpay : payOf p = some (o, l)) (hhdr : hdrOk (rangeBytes p (o, l)) = true)
    (hcc : ∀ c ∈ f.cc, ccOf p = (c + 1) % 16) :
    stepOf f p = (⟨some (ccOf p), .started⟩, openEvs f.st ++ [Ev.beginPkt o l]) := by
  have hhp := payOf_some_hp hpay
  have hcont := continuous_first f.cc (ccOf p) hcc
  have hdr : hdrOf p = true := by unfold hdrOf; rw [hpay]; exact hhdr
  rcases f with ⟨fc, st⟩
  unfold stepOf stepPure
  simp only [hhp, hcont, hus, hpay, hdr]
  cases st <;> rfl

theorem stepOf_cont_payload (c : Nat) (p : Bytes) (o l : Nat)
    (hus : usOf p = false) (hpay : payOf p = some (o, l)) (hcc : ccOf p = (c + 1) % 16) :
    stepOf ⟨some c, .started⟩ p = (⟨some (ccOf p), .started⟩, [Ev.cont o l]) := by
  have hhp := payOf_some_hp hpay
  have hcont := continuous_first (some c) (ccOf p) (fun c' h => by cases h; exact hcc)
  have hl : (l != 0) = true := by have := (payOf_sound hpay).1; simp; omega
  unfold stepOf stepPure
  simp only [hhp, hcont, hus, hpay, hl]
  rfl

theorem stepOf_cont_nopayload (c : Nat) (p : Bytes)
    (hus : usOf p = false) (hhp : hpOf p = false) (hcc : ccOf p = c) :
    stepOf ⟨some c, .started⟩ p = (⟨some c, .started⟩, []) := by
  subst hcc
  have hpay := payOf_none_of_hp hhp
  have hcont : continuous (some (ccOf p)) false (ccOf p) = true := by simp [continuous]
  unfold stepOf stepPure
  simp only [hhp, hcont, hus, hpay]
  rfl
/-! ### the continuation packets -/

/-- counter of the last packet of a list, `c` if there is none -/
def lastCcL (c : Nat) : List Bytes → Nat
  | [] => c
  | p :: ps => lastCcL (tpCc p) ps

theorem getLast_cc (ps : List Bytes) : ∀ (a : Bytes) (h : a :: ps ≠ []),
    tpCc ((a :: ps).getLast h) = lastCcL (tpCc a) ps := by
  induction ps with
  | nil => intro a h; rfl
  | cons q qs ih =>
    intro a h
    simp only [List.getLast_cons_cons, lastCcL]
    exact ih q _

theorem lastCc_eq (pl : Plan) : pl.lastCc = lastCcL (tpCc pl.first) pl.conts :=
  getLast_cc pl.conts pl.first _

theorem tpPayloadBytes_of_some {p : Bytes} {r : Nat × Nat} (h : tpPayload p = some r) :
    tpPayloadBytes p = rangeBytes p r := by
  unfold tpPayloadBytes; rw [h]

theorem tpPayloadBytes_of_none {p : Bytes} (h : tpPayload p = none) : tpPayloadBytes p = [] := by
  unfold tpPayloadBytes; rw [h]

theorem contEvs_bytes (p : Bytes) : ((contEvs p).map (evBytes p)).flatten = tpPayloadBytes p := by
  unfold contEvs tpPayloadBytes
  rcases tpPayload p with _ | ⟨o, l⟩ <;> simp [evBytes]

theorem delivered_conts (ps : List Bytes) :
    delivered ps (ps.map contEvs) = (ps.map tpPayloadBytes).flatten := by
  induction ps with
  | nil => rfl
  | cons p ps ih => simp only [List.map_cons, delivered, contEvs_bytes, ih, List.flatten_cons]

theorem conts_run (ps : List Bytes) : ∀ (rest : Bytes) (c : Nat), Conts rest c ps →
    runPure ⟨some c, .started⟩ ps = (⟨some (lastCcL c ps), .started⟩, ps.map contEvs)
    ∧ (ps.map tpPayloadBytes).flatten = rest ∧ (∀ p ∈ ps, p.length = 188) := by
  induction ps with
  | nil =>
    intro rest c h
    simp only [Conts] at h
    subst h
    exact ⟨rfl, rfl, by simp⟩
  | cons p ps ih =>
    intro rest c h
    simp only [Conts] at h
    obtain ⟨h188, hus, hcase⟩ := h
    rw [tpPusi_eq] at hus
    rcases hcase with ⟨hsome, hsl, hcc, hrest⟩ | ⟨hpf, _, hcc, hrest⟩
    · obtain ⟨⟨o, l⟩, hr⟩ := Option.isSome_iff_exists.1 hsome
      have hpay : payOf p = some (o, l) := by rw [← tpPayload_eq]; exact hr
      obtain ⟨ih1, ih2, ih3⟩ := ih _ _ hrest
      have hstep := stepOf_cont_payload c p o l hus hpay hcc
      refine ⟨?_, ?_, ?_⟩
      · simp only [runPure, hstep, List.map_cons, lastCcL]
        rw [← tpCc_eq, ih1]
        simp only [contEvs, hr]
      · simp only [List.map_cons, List.flatten_cons, ih2]
        have e := List.take_append_drop (tpPayloadBytes p).length rest
        rw [← hsl] at e
        exact e
      · exact List.forall_mem_cons.2 ⟨h188, ih3⟩
    · rw [tpPayloadFlag_eq] at hpf
      have hpay : tpPayload p = none := by rw [tpPayload_eq]; exact payOf_none_of_hp hpf
      obtain ⟨ih1, ih2, ih3⟩ := ih _ _ hrest
      have hstep := stepOf_cont_nopayload c p hus hpf hcc
      refine ⟨?_, ?_, ?_⟩
      · simp only [runPure, hstep, List.map_cons, lastCcL]
        rw [hcc, ih1]
        simp only [contEvs, hpay]
      · simp only [List.map_cons, List.flatten_cons, ih2, tpPayloadBytes_of_none hpay, List.nil_append]
      · exact List.forall_mem_cons.2 ⟨h188, ih3⟩
/-! ### the shape of `encodePes` -/

theorem fixed6_length (pk : PesPkt) : pk.fixed6.length = 6 := rfl

theorem encodePes_length (pk : PesPkt) :
    (encodePes pk).length = headerLen pk + pk.payload.length := by
  unfold encodePes headerLen
  simp only [List.length_append, fixed6_length]
  omega

theorem take_encode (pk : PesPkt) (k : Nat) (hk : headerLen pk ≤ k) :
    (encodePes pk).take k = pk.fixed6 ++ (pk.optHeader ++ pk.payload.take (k - headerLen pk)) := by
  unfold encodePes headerLen at *
  rw [List.take_append, List.take_of_length_le (by rw [fixed6_length]; omega),
    List.take_append, List.take_of_length_le (by rw [fixed6_length]; omega), fixed6_length,
    Nat.sub_sub]

theorem drop_encode (pk : PesPkt) (k : Nat) (hk : headerLen pk ≤ k) :
    (encodePes pk).drop k = pk.payload.drop (k - headerLen pk) := by
  unfold encodePes headerLen at *
  rw [List.drop_append, List.drop_of_length_le (by rw [fixed6_length]; omega),
    List.drop_append, List.drop_of_length_le (by rw [fixed6_length]; omega), fixed6_length,
    Nat.sub_sub]
  rfl

theorem hdrOk_fixed6 (pk : PesPkt) (x : Bytes) : hdrOk (pk.fixed6 ++ x) = true := by
  rw [hdrOk_iff]
  refine ⟨by simp [fixed6_length], ?_, ?_, ?_⟩
  · exact byteD_cons_zero _ _
  · show byteD (_ :: _ :: _) 1 = 0
    rw [byteD_cons_succ, byteD_cons_zero]; rfl
  · show byteD (_ :: _ :: _ :: _) 2 = 1
    rw [byteD_cons_succ, byteD_cons_succ, byteD_cons_zero]; rfl

/-! ### one plan -/

theorem first_facts (pes : PesPkt) (pl : Plan) (h : WellFormedPlan pes pl) :
    ∃ o l, tpPayload pl.first = some (o, l) ∧ payOf pl.first = some (o, l) ∧ pl.k = l
      ∧ o + l = 188 ∧ rangeBytes pl.first (o, l) = (encodePes pes).take l ∧ headerLen pes ≤ l
      ∧ l ≤ (encodePes pes).length := by
  obtain ⟨h188, _, hsome, hbytes, hk, _⟩ := h
  obtain ⟨⟨o, l⟩, hr⟩ := Option.isSome_iff_exists.1 hsome
  have hpay : payOf pl.first = some (o, l) := by rw [← tpPayload_eq]; exact hr
  have hs := payOf_sound hpay
  have hb : tpPayloadBytes pl.first = rangeBytes pl.first (o, l) := tpPayloadBytes_of_some hr
  have hlen : (rangeBytes pl.first (o, l)).length = l := by
    simp only [rangeBytes, List.length_take, List.length_drop]; omega
  have hkl : pl.k = l := by unfold Plan.k; rw [hb, hlen]
  rw [hkl] at hk hbytes
  rw [hb] at hbytes
  refine ⟨o, l, hr, hpay, hkl, hs.2.1, hbytes, hk, ?_⟩
  have := congrArg List.length hbytes
  rw [hlen, List.length_take] at this
  omega

theorem plan_runPure (pes : PesPkt) (pl : Plan) (f : F) (h : WellFormedPlan pes pl)
    (hcc : ∀ c ∈ f.cc, tpCc pl.first = (c + 1) % 16) :
    runPure f pl.packets = (⟨some pl.lastCc, .started⟩, planEvs f.st pl)
    ∧ (∀ p ∈ pl.packets, p.length = 188)
    ∧ delivered pl.packets (planEvs f.st pl) = encodePes pes := by
  obtain ⟨o, l, hr, hpay, hkl, hol, hbytes, hk, hle⟩ := first_facts pes pl h
  obtain ⟨h188, hus, _, _, _, hconts⟩ := h
  rw [hkl] at hconts
  rw [tpPusi_eq] at hus
  have hhdr : hdrOk (rangeBytes pl.first (o, l)) = true := by
    rw [hbytes, take_encode pes l hk]; exact hdrOk_fixed6 _ _
  have hstep := stepOf_first f pl.first o l hus hpay hhdr hcc
  obtain ⟨c1, c2, c3⟩ := conts_run pl.conts _ _ hconts
  have hfe : firstEvs f.st pl.first = openEvs f.st ++ [Ev.beginPkt o l] := by
    unfold firstEvs; rw [hr]
  refine ⟨?_, ?_, ?_⟩
  · simp only [Plan.packets, runPure, hstep, planEvs, hfe]
    rw [← tpCc_eq, c1, lastCc_eq]
  · exact List.forall_mem_cons.2 ⟨h188, c3⟩
  · simp only [Plan.packets, planEvs, delivered, hfe, delivered_conts, c2]
    have : ((openEvs f.st ++ [Ev.beginPkt o l]).map (evBytes pl.first)).flatten
        = rangeBytes pl.first (o, l) := by
      cases f.st <;> simp [openEvs, evBytes]
    rw [this, hbytes]
    exact List.take_append_drop _ _
/-! ### the optional header, as the decoder sees it -/

open Ts.Lemmas.C14 (ptsDtsSize curExt flagsOfByte)
open Ts.Spec.PesSpec (parsedAccepted)
open Ts.Spec.TimeSpec (encodeTs)

theorem ofNat_toNat (n : Nat) (h : n < 256) : (UInt8.ofNat n).toNat = n := by
  rw [UInt8.toNat_ofNat']; omega

/-- where the fixed-size optional fields end, for every flags byte the encoder can produce -/
theorem tbl_curExt : ∀ pd : Fin 4, ∀ fl : Fin 64,
    curExt (flagsOfByte (pd.val * 64 + fl.val)) = 3 + ptsDtsSize pd.val + optFieldsLen fl.val := by
  decide +kernel

theorem tsBytes_length (pk : PesPkt) : pk.tsBytes.length = ptsDtsSize pk.ptsDtsFlags := by
  unfold PesPkt.tsBytes PesPkt.ptsDtsFlags
  rcases pk.pts with _ | p <;> rcases pk.dts with _ | d <;> rfl

theorem ptsDtsFlags_lt (pk : PesPkt) : pk.ptsDtsFlags < 4 := by
  unfold PesPkt.ptsDtsFlags
  rcases pk.pts with _ | p <;> rcases pk.dts with _ | d <;> simp

def optC (pk : PesPkt) (y : Bytes) : Bytes :=
  UInt8.ofNat (0x80 + pk.low6) :: UInt8.ofNat (pk.ptsDtsFlags * 64 + pk.flags6) :: UInt8.ofNat pk.hdl
    :: (pk.tsBytes ++ (pk.optExtra ++ y))

theorem optHeader_append (pk : PesPkt) (hn : ¬ pk.noHeader) (y : Bytes) :
    pk.optHeader ++ y = optC pk y := by
  unfold PesPkt.optHeader optC
  simp only [hn, if_false, List.cons_append, List.nil_append, List.append_assoc]

theorem optHeader_length (pk : PesPkt) (hn : ¬ pk.noHeader) : pk.optHeader.length = 3 + pk.hdl := by
  unfold PesPkt.optHeader PesPkt.hdl
  simp only [hn, if_false, List.length_append, List.length_cons, List.length_nil]

theorem optC_length (pk : PesPkt) (y : Bytes) : (optC pk y).length = 3 + pk.hdl + y.length := by
  unfold optC PesPkt.hdl
  simp only [List.length_cons, List.length_append]; omega

theorem optC_drop3 (pk : PesPkt) (y : Bytes) :
    (optC pk y).drop 3 = pk.tsBytes ++ (pk.optExtra ++ y) := rfl

section
variable (pk : PesPkt) (hw : pk.WF) (y : Bytes)
include hw

theorem optC_b0 : byteD (optC pk y) 0 = 0x80 + pk.low6 := by
  obtain ⟨_, _, h3, _⟩ := hw
  unfold optC; rw [byteD_cons_zero, ofNat_toNat _ (by omega)]

theorem optC_b1 : byteD (optC pk y) 1 = pk.ptsDtsFlags * 64 + pk.flags6 := by
  obtain ⟨_, _, _, h4, _⟩ := hw
  have := ptsDtsFlags_lt pk
  unfold optC; rw [byteD_cons_succ, byteD_cons_zero, ofNat_toNat _ (by omega)]

theorem optC_b2 : byteD (optC pk y) 2 = pk.hdl := by
  obtain ⟨_, _, _, _, _, _, _, h8, _⟩ := hw
  unfold optC; rw [byteD_cons_succ, byteD_cons_succ, byteD_cons_zero, ofNat_toNat _ h8]

theorem optC_accepted : parsedAccepted (optC pk y) := by
  rw [Ts.Lemmas.C14.parsedAccepted_iff, optC_b0 pk hw, optC_b1 pk hw, optC_b2 pk hw, optC_length pk]
  obtain ⟨_, _, h3, h4, _, _, _, _, h9, _⟩ := hw
  have ht := tbl_curExt ⟨pk.ptsDtsFlags, ptsDtsFlags_lt pk⟩ ⟨pk.flags6, h4⟩
  simp only at ht
  rw [ht, ← tsBytes_length]
  unfold PesPkt.hdl
  refine ⟨by omega, by omega, by omega, by omega⟩

theorem optC_payloadOffset : Pes.payloadOffset (optC pk y) = .ok (3 + pk.hdl) := by
  have hacc := optC_accepted pk hw y
  have h := (Ts.Props.C14.pes_fields_exact_accepted (optC pk y)
    (by rw [Ts.Props.C14.parsed_accept_iff, if_pos hacc])).2.2.2.1
  rw [h, Ts.Lemmas.C14.hdl_eq, optC_b2 pk hw]

theorem optC_flags : Pes.ptsDtsFlags (byteD (optC pk y) 1) = pk.ptsDtsFlags := by
  rw [optC_b1 pk hw]
  obtain ⟨_, _, _, h4, _⟩ := hw
  unfold Pes.ptsDtsFlags
  rw [Nat.shiftRight_eq_div_pow]; omega

theorem optC_limit : Ts.Spec.PesSpec.limit (optC pk y) = 3 + pk.hdl := by
  unfold Ts.Spec.PesSpec.limit
  rw [Ts.Lemmas.C14.hdl_eq, optC_b2 pk hw, optC_length pk]
  omega

end
/-- what `begin_packet`'s header reports as PTS/DTS for a header-bearing PES packet -/
def expectedPtsDts (pk : PesPkt) : Pes.Res Pes.PtsDts :=
  match pk.pts, pk.dts with
  | some p, some d => .ok (.both (.ok p) (.ok d))
  | some p, none => .ok (.ptsOnly (.ok p))
  | none, _ => .error .fieldNotPresent

/-! `Pes.ptsDts` on abstract bytes whose time-stamp fields are the encoder's -/

theorem ptsDts_none (c : Bytes) (h3 : 3 ≤ c.length) (hfl : Pes.ptsDtsFlags (byteD c 1) = 0) :
    Pes.ptsDts c = .ok (.error .fieldNotPresent) := by
  unfold Pes.ptsDts Pes.flagsByte
  rw [byteAt_ok _ 1 (by omega)]
  simp only [R.ok_bind, hfl]
  rfl

theorem ptsDts_ptsOnly (c z : Bytes) (p : Nat) (hp : p < 2 ^ 33) (h3 : 3 ≤ c.length)
    (hfl : Pes.ptsDtsFlags (byteD c 1) = 2) (hlim : 3 + 5 ≤ Ts.Spec.PesSpec.limit c)
    (hd : c.drop 3 = encodeTs 2 p ++ z) :
    Pes.ptsDts c = .ok (.ok (.ptsOnly (.ok p))) := by
  unfold Pes.ptsDts Pes.flagsByte Pes.ptsDtsEnd
  rw [byteAt_ok _ 1 (by omega)]
  simp only [R.ok_bind, hfl]
  have hs := Ts.Lemmas.C14.headerSlice_eq c h3 3 5
  simp only [Pes.FIXED, Pes.TIMESTAMP_SIZE]
  rw [hs, if_pos hlim]
  simp only [R.ok_bind]
  rw [hd, List.take_left' (Ts.Lemmas.C15.encodeTs_length 2 p),
    (Ts.Props.C15.ts_roundtrip p hp).1 2 (by omega)]
  rfl

theorem ptsDts_both_aux (c z a b : Bytes) (ra rb : Time.TsRes) (h3 : 3 ≤ c.length)
    (hfl : Pes.ptsDtsFlags (byteD c 1) = 3) (hlim : 3 + 10 ≤ Ts.Spec.PesSpec.limit c)
    (hd : c.drop 3 = (a ++ b) ++ z) (hla : a.length = 5) (hlb : b.length = 5)
    (ha : Time.fromBytes a = .ok ra) (hb : Time.fromBytes b = .ok rb) :
    Pes.ptsDts c = .ok (.ok (.both ra rb)) := by
  unfold Pes.ptsDts Pes.flagsByte Pes.ptsDtsEnd
  rw [byteAt_ok _ 1 (by omega)]
  simp only [R.ok_bind, hfl]
  have hs := Ts.Lemmas.C14.headerSlice_eq c h3 3 10
  simp only [Pes.FIXED, Pes.TIMESTAMP_SIZE]
  rw [hs, if_pos hlim]
  simp only [R.ok_bind]
  have hl10 : (a ++ b).length = 10 := by rw [List.length_append, hla, hlb]
  rw [hd, List.take_left' hl10, sliceTo_ok _ 5 (by rw [hl10]; omega), sliceFrom_ok _ 5 (by rw [hl10]; omega)]
  simp only [R.ok_bind]
  rw [List.take_left' hla, List.drop_left' hla, ha, hb]
  rfl

theorem ptsDts_both (c z : Bytes) (p d : Nat) (hp : p < 2 ^ 33) (hdv : d < 2 ^ 33) (h3 : 3 ≤ c.length)
    (hfl : Pes.ptsDtsFlags (byteD c 1) = 3) (hlim : 3 + 10 ≤ Ts.Spec.PesSpec.limit c)
    (hd : c.drop 3 = (encodeTs 3 p ++ encodeTs 1 d) ++ z) :
    Pes.ptsDts c = .ok (.ok (.both (.ok p) (.ok d))) :=
  ptsDts_both_aux c z _ _ _ _ h3 hfl hlim hd (Ts.Lemmas.C15.encodeTs_length 3 p)
    (Ts.Lemmas.C15.encodeTs_length 1 d) ((Ts.Props.C15.ts_roundtrip p hp).1 3 (by omega))
    ((Ts.Props.C15.ts_roundtrip d hdv).1 1 (by omega))

theorem optC_ptsDts (pk : PesPkt) (hw : pk.WF) (y : Bytes) :
    Pes.ptsDts (optC pk y) = .ok (expectedPtsDts pk) := by
  have hlen := optC_length pk y
  have h3 : 3 ≤ (optC pk y).length := by omega
  have hfl := optC_flags pk hw y
  have hlim := optC_limit pk hw y
  have hd3 := optC_drop3 pk y
  obtain ⟨_, _, _, _, hp, hd, hdp, _⟩ := hw
  generalize optC pk y = c at *
  unfold expectedPtsDts
  unfold PesPkt.ptsDtsFlags at hfl
  unfold PesPkt.hdl at hlim
  unfold PesPkt.tsBytes at hlim hd3
  rcases hpts : pk.pts with _ | p
  · rcases hdts : pk.dts with _ | d
    · rw [hpts] at hfl
      exact ptsDts_none c h3 hfl
    · rw [hpts, hdts] at hdp; simp at hdp
  · have hpv : p < 2 ^ 33 := hp p (by rw [hpts]; rfl)
    rcases hdts : pk.dts with _ | d
    · rw [hpts, hdts] at hfl hlim hd3
      exact ptsDts_ptsOnly c _ p hpv h3 hfl
        (by rw [hlim, Ts.Lemmas.C15.encodeTs_length]; omega) hd3
    · have hdv : d < 2 ^ 33 := hd d (by rw [hdts]; rfl)
      rw [hpts, hdts] at hfl hlim hd3
      have hl10 : (encodeTs 3 p ++ encodeTs 1 d).length = 10 := rfl
      exact ptsDts_both c _ p d hpv hdv h3 hfl (by rw [hlim, hl10]; omega) hd3
/-! ### `begin_packet`: what the header reports -/

theorem byteD_fixed6_3 (pk : PesPkt) (hs : pk.sid < 256) (x : Bytes) : byteD (pk.fixed6 ++ x) 3 = pk.sid := by
  show byteD (_ :: _ :: _ :: _ :: _) 3 = _
  rw [byteD_cons_succ, byteD_cons_succ, byteD_cons_succ, byteD_cons_zero, ofNat_toNat _ hs]

theorem byteD_fixed6_4 (pk : PesPkt) (x : Bytes) : byteD (pk.fixed6 ++ x) 4 = pk.len / 256 % 256 := by
  show byteD (_ :: _ :: _ :: _ :: _ :: _) 4 = _
  rw [byteD_cons_succ, byteD_cons_succ, byteD_cons_succ, byteD_cons_succ, byteD_cons_zero,
    UInt8.toNat_ofNat']

theorem byteD_fixed6_5 (pk : PesPkt) (x : Bytes) : byteD (pk.fixed6 ++ x) 5 = pk.len % 256 % 256 := by
  show byteD (_ :: _ :: _ :: _ :: _ :: _ :: _) 5 = _
  rw [byteD_cons_succ, byteD_cons_succ, byteD_cons_succ, byteD_cons_succ, byteD_cons_succ,
    byteD_cons_zero, UInt8.toNat_ofNat']

/-- the report expected from `begin_packet` for the PES packet `pk` whose first `l` bytes are at
offset `o` of the transport packet that is at offset `base` of the stream -/
def expectedBegin (pk : PesPkt) (base o l : Nat) : App.BeginInfo :=
  { sid := pk.sid, len := pk.len
    kind := if pk.noHeader then 0 else 1
    ptsDts := if pk.noHeader then none else some (expectedPtsDts pk)
    pl := some (base + o + headerLen pk, l - headerLen pk) }

theorem beginInfo_of_header (pk : PesPkt) (hw : pk.WF) (p : Bytes) (base o l : Nat) (y : Bytes)
    (hl : l = headerLen pk + y.length)
    (hh : rangeBytes p (o, l) = pk.fixed6 ++ (pk.optHeader ++ y)) :
    App.beginInfo p base o l = .ok (expectedBegin pk base o l) := by
  have hlen : (pk.fixed6 ++ (pk.optHeader ++ y)).length = l := by
    rw [hl]; unfold headerLen; simp only [List.length_append, fixed6_length]; omega
  have h6 : 6 ≤ (pk.fixed6 ++ (pk.optHeader ++ y)).length := by
    rw [List.length_append, fixed6_length]; omega
  unfold App.beginInfo
  simp only [hh]
  have hsid : Pes.streamId (pk.fixed6 ++ (pk.optHeader ++ y)) = .ok pk.sid := by
    unfold Pes.streamId; rw [byteAt_ok _ 3 (by omega), byteD_fixed6_3 pk hw.1]
  have hplen : Pes.pesPacketLength (pk.fixed6 ++ (pk.optHeader ++ y)) = .ok pk.len := by
    rw [Ts.Props.C14.packet_length_exact _ h6, Ts.Lemmas.C14.rb_8_8 _ 32 4 rfl, byteD_fixed6_4, byteD_fixed6_5]
    have := hw.2.1
    congr 1; omega
  rw [hsid, hplen, Ts.Props.C14.contents_kind _ h6, Ts.Lemmas.C14.rb_byte _ 24 3 rfl,
    byteD_fixed6_3 pk hw.1, List.drop_left' (fixed6_length pk)]
  simp only [R.ok_bind]
  unfold expectedBegin
  by_cases hn : pk.noHeader
  · have hn' : pk.sid ∈ PesSpec.noHeaderIds := hn
    have hoh : pk.optHeader = [] := by unfold PesPkt.optHeader; simp only [hn, if_true]
    have hhl : headerLen pk = 6 := by unfold headerLen; rw [hoh]; rfl
    simp only [hn, hn', if_true, hoh, List.nil_append, R.pure_eq, Pes.HDR_FIXED, hhl]
    congr 4; omega
  · have hn' : ¬ pk.sid ∈ PesSpec.noHeaderIds := hn
    have hhl : headerLen pk = 6 + (3 + pk.hdl) := by unfold headerLen; rw [optHeader_length pk hn]
    simp only [hn, hn', if_false]
    rw [optHeader_append pk hn y, if_pos (optC_accepted pk hw y)]
    simp only [optC_ptsDts pk hw y, optC_payloadOffset pk hw y, R.ok_bind, R.pure_eq, Pes.HDR_FIXED,
      optC_length pk y, hhl]
    congr 4
    · omega
    · omega

theorem beginInfo_of_take (pk : PesPkt) (hw : pk.WF) (p : Bytes) (base o l : Nat)
    (hk : headerLen pk ≤ l) (hle : l ≤ (encodePes pk).length)
    (hh : rangeBytes p (o, l) = (encodePes pk).take l) :
    App.beginInfo p base o l = .ok (expectedBegin pk base o l) := by
  rw [take_encode pk l hk] at hh
  refine beginInfo_of_header pk hw p base o l _ ?_ hh
  rw [encodePes_length] at hle
  rw [List.length_take]; omega

theorem exposed_bytes (p : Bytes) (o l h : Nat) :
    rangeBytes p (o + h, l - h) = (rangeBytes p (o, l)).drop h := by
  simp only [rangeBytes, List.drop_take, List.drop_drop]

theorem exposed_of_take (pk : PesPkt) (p : Bytes) (o l : Nat) (hk : headerLen pk ≤ l)
    (hh : rangeBytes p (o, l) = (encodePes pk).take l) :
    rangeBytes p (o + headerLen pk, l - headerLen pk) = pk.payload.take (l - headerLen pk) := by
  rw [exposed_bytes, hh, take_encode pk l hk, ← List.append_assoc]
  exact List.drop_left' (by unfold headerLen; rw [List.length_append, fixed6_length])
/-! ### the application's events for one packet -/

open Ts.App in
/-- the application events for what precedes a `begin_packet` -/
def esOpen (tag : Nat) : St → List App.Ev
  | .begin => [.esStart tag]
  | .started => [.esEnd tag]
  | .ignoreRest => []

/-! ### a stream of PES packets -/

theorem delivered_append (a b : List Bytes) (ea eb : List (List Ev)) (h : a.length = ea.length) :
    delivered (a ++ b) (ea ++ eb) = delivered a ea ++ delivered b eb := by
  induction a generalizing ea with
  | nil =>
    cases ea with
    | nil => rfl
    | cons e es => simp at h
  | cons p ps ih =>
    cases ea with
    | nil => simp at h
    | cons e es =>
      simp only [List.cons_append, delivered, List.append_assoc]
      rw [ih es (by simpa using h)]

theorem planEvs_length (st : St) (pl : Plan) : (planEvs st pl).length = pl.packets.length := by
  simp [planEvs, Plan.packets]

def streamPackets (s : List (PesPkt × Plan)) : List Bytes := s.flatMap (fun x => x.2.packets)

/-- the filter state after a stream: unchanged if the stream is empty, otherwise `started` with
the counter of the very last packet -/
def streamFinal : F → List (PesPkt × Plan) → F
  | f, [] => f
  | _, (_, pl) :: rest => streamFinal ⟨some pl.lastCc, .started⟩ rest

theorem stream_runPure (s : List (PesPkt × Plan)) : ∀ (f : F), PesStream f.cc s →
    runPure f (streamPackets s) = (streamFinal f s, streamEvs f.st (s.map (·.2)))
    ∧ (∀ p ∈ streamPackets s, p.length = 188)
    ∧ delivered (streamPackets s) (streamEvs f.st (s.map (·.2))) = (s.map (fun x => encodePes x.1)).flatten := by
  induction s with
  | nil => intro f _; exact ⟨rfl, by simp [streamPackets], rfl⟩
  | cons x rest ih =>
    intro f h
    obtain ⟨pes, pl⟩ := x
    simp only [PesStream] at h
    obtain ⟨_, hwf, hcc, hrest⟩ := h
    obtain ⟨r1, r2, r3⟩ := plan_runPure pes pl f hwf hcc
    obtain ⟨i1, i2, i3⟩ := ih ⟨some pl.lastCc, .started⟩ hrest
    have hsp : streamPackets ((pes, pl) :: rest) = pl.packets ++ streamPackets rest := by
      simp [streamPackets]
    refine ⟨?_, ?_, ?_⟩
    · rw [hsp, runPure_append, r1]
      simp only [i1, List.map_cons, streamEvs, streamFinal]
    · intro p hp
      rw [hsp] at hp
      rcases List.mem_append.1 hp with e | e
      · exact r2 p e
      · exact i2 p e
    · rw [hsp]
      simp only [List.map_cons, streamEvs, List.flatten_cons]
      rw [delivered_append _ _ _ _ (planEvs_length f.st pl).symm, r3, i3]

end Ts.Lemmas.C02
