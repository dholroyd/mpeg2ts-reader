import Ts.Lemmas.R
import Ts.Model.Demux
/-!
# Lemmas about the dispatcher model (`Ts/Model/Demux.lean`)

The table algebra, `ensure` and `specStep` forwards and inverted, the two labelled loops of
`Demultiplex::push` equal to the one-packet-at-a-time fold `pushSpec` (in the panic monad `R`), and
step invariants carried along `pushSpec` / `push` / `pushAll`.
-/
namespace Ts.Demux
open Ts

variable {H C : Type}

/-! ### table lemmas -/

theorem Tab.get_eq (t : Tab H) (p : Nat) : t.get p = (t[p]?).getD none := by
  unfold Tab.get
  split
  · rename_i h
    rw [List.getElem?_eq_none (by omega)]; rfl
  · cases t[p]? <;> rfl

theorem Tab.get_of_ge (t : Tab H) (p : Nat) (h : t.length ≤ p) : t.get p = none := by
  rw [Tab.get_eq, List.getElem?_eq_none h]; rfl

theorem Tab.lt_of_get_some (t : Tab H) (p : Nat) (h : H) (hg : t.get p = some h) : p < t.length := by
  apply Classical.byContradiction
  intro hn
  rw [Tab.get_of_ge t p (by omega)] at hg
  cases hg

theorem Tab.contains_iff_get (t : Tab H) (p : Nat) : t.contains p = (t.get p).isSome := by
  rw [Tab.get_eq]
  unfold Tab.contains
  by_cases hp : p < t.length
  · rw [List.getElem?_eq_getElem hp]
    cases t[p] <;> simp [hp]
  · rw [List.getElem?_eq_none (by omega)]
    simp [hp]

theorem Tab.contains_eq_true_iff (t : Tab H) (p : Nat) : t.contains p = true ↔ ∃ h, t.get p = some h := by
  rw [Tab.contains_iff_get, Option.isSome_iff_exists]

theorem Tab.contains_eq_false_iff (t : Tab H) (p : Nat) : t.contains p = false ↔ t.get p = none := by
  rw [Tab.contains_iff_get]
  cases t.get p <;> simp

/-- `Filters::insert` grows the vector to `pid+1` if needed and never shrinks it -/
theorem Tab.length_insert (t : Tab H) (p : Nat) (h : H) :
    (t.insert p h).length = max t.length (p + 1) := by
  unfold Tab.insert
  by_cases hp : p ≥ t.length
  · simp only [hp, if_true, List.length_set, List.length_append, List.length_replicate]; omega
  · simp only [hp, if_false, List.length_set]; omega

theorem Tab.insert_eq_set (t : Tab H) (p : Nat) (h : H) (hp : p < t.length) :
    t.insert p h = t.set p (some h) := by
  unfold Tab.insert
  have : ¬ p ≥ t.length := by omega
  simp only [this, if_false]

theorem Tab.length_remove (t : Tab H) (p : Nat) : (t.remove p).length = t.length := by
  unfold Tab.remove
  split <;> simp

theorem Tab.remove_of_ge (t : Tab H) (p : Nat) (hp : t.length ≤ p) : t.remove p = t := by
  unfold Tab.remove
  have : ¬ p < t.length := by omega
  simp only [this, if_false]

theorem Tab.get_insert (t : Tab H) (p q : Nat) (h : H) :
    (t.insert p h).get q = if q = p then some h else t.get q := by
  rw [Tab.get_eq, Tab.get_eq]
  unfold Tab.insert
  by_cases hp : p ≥ t.length
  · simp only [hp, if_true]
    rw [List.getElem?_set]
    by_cases hq : q = p
    · subst hq
      have : q < List.length t + (q - List.length t + 1) := by omega
      simp [this]
    · have hq' : ¬ p = q := fun e => hq e.symm
      simp only [hq', if_false, hq]
      rw [List.getElem?_append]
      by_cases hql : q < t.length
      · simp [hql]
      · simp only [hql, if_false]
        rw [List.getElem?_eq_none (l := t) (by omega)]
        rw [List.getElem?_replicate]
        split <;> rfl
  · simp only [hp, if_false]
    rw [List.getElem?_set]
    by_cases hq : q = p
    · subst hq
      have : q < t.length := by omega
      simp [this]
    · have hq' : ¬ p = q := fun e => hq e.symm
      simp only [hq', if_false, hq]

theorem Tab.get_insert_self (t : Tab H) (p : Nat) (h : H) : (t.insert p h).get p = some h := by
  rw [Tab.get_insert]; simp

theorem Tab.get_insert_ne (t : Tab H) (p q : Nat) (h : H) (hq : q ≠ p) :
    (t.insert p h).get q = t.get q := by
  rw [Tab.get_insert]; simp [hq]

theorem Tab.get_remove (t : Tab H) (p q : Nat) :
    (t.remove p).get q = if q = p then none else t.get q := by
  rw [Tab.get_eq, Tab.get_eq]
  unfold Tab.remove
  by_cases hp : p < t.length
  · simp only [hp, if_true]
    rw [List.getElem?_set]
    by_cases hq : q = p
    · subst hq; simp [hp]
    · have hq' : ¬ p = q := fun e => hq e.symm
      simp only [hq', if_false, hq]
  · simp only [hp, if_false]
    by_cases hq : q = p
    · subst hq
      rw [List.getElem?_eq_none (by omega)]; simp
    · simp only [hq, if_false]

theorem Tab.get_remove_self (t : Tab H) (p : Nat) : (t.remove p).get p = none := by
  rw [Tab.get_remove]; simp

theorem Tab.get_remove_ne (t : Tab H) (p q : Nat) (hq : q ≠ p) : (t.remove p).get q = t.get q := by
  rw [Tab.get_remove]; simp [hq]

theorem Tab.contains_insert_self (t : Tab H) (p : Nat) (h : H) : (t.insert p h).contains p = true := by
  rw [Tab.contains_iff_get, Tab.get_insert_self]; rfl

theorem Tab.remove_of_get_none (t : Tab H) (p : Nat) (hg : t.get p = none) : t.remove p = t := by
  unfold Tab.remove
  split
  · next hp =>
    rw [Tab.get_eq, List.getElem?_eq_getElem hp, Option.getD_some] at hg
    rw [← hg]
    exact List.set_getElem_self hp
  · rfl

/-! ### `applyChanges` -/

theorem applyChanges_nil (t : Tab H) : applyChanges t [] = t := rfl

theorem applyChanges_cons (t : Tab H) (a : Change H) (cs : List (Change H)) :
    applyChanges t (a :: cs) = applyChanges (applyChange t a) cs := rfl

theorem applyChanges_append (t : Tab H) (a b : List (Change H)) :
    applyChanges t (a ++ b) = applyChanges (applyChanges t a) b := by
  unfold applyChanges; rw [List.foldl_append]

theorem applyChanges_of_isEmpty (t : Tab H) (cs : List (Change H)) (h : cs.isEmpty = true) :
    applyChanges t cs = t := by
  cases cs with
  | nil => rfl
  | cons a cs => simp at h

/-- the PID a queued change is about -/
def Change.pid : Change H → Nat
  | .insert p _ => p
  | .remove p => p

/-- the value a queued change leaves in its slot -/
def Change.val : Change H → Option H
  | .insert _ h => some h
  | .remove _ => none

theorem get_applyChange (t : Tab H) (ch : Change H) (q : Nat) :
    (applyChange t ch).get q = if q = ch.pid then ch.val else t.get q := by
  cases ch with
  | insert p h => exact Tab.get_insert t p q h
  | remove p => exact Tab.get_remove t p q

theorem get_applyChanges_untouched (cs : List (Change H)) (t : Tab H) (q : Nat)
    (hq : ∀ ch ∈ cs, ch.pid ≠ q) : (applyChanges t cs).get q = t.get q := by
  induction cs generalizing t with
  | nil => rfl
  | cons a cs ih =>
    rw [applyChanges_cons, ih _ (fun ch hch => hq ch (List.mem_cons_of_mem _ hch))]
    rw [get_applyChange]
    have : ¬ q = a.pid := fun e => hq a (List.mem_cons_self) e.symm
    simp only [this, if_false]

theorem get_applyChanges_last (t : Tab H) (pre post : List (Change H)) (ch : Change H)
    (hpost : ∀ x ∈ post, x.pid ≠ ch.pid) :
    (applyChanges t (pre ++ ch :: post)).get ch.pid = ch.val := by
  rw [applyChanges_append, applyChanges_cons, get_applyChanges_untouched post _ _ hpost,
    get_applyChange]
  simp

theorem get_applyChanges_congr (cs : List (Change H)) : ∀ (t t' : Tab H) (p : Nat),
    t.get p = t'.get p → (applyChanges t cs).get p = (applyChanges t' cs).get p := by
  induction cs with
  | nil => intro t t' p h; exact h
  | cons a cs ih =>
    intro t t' p h
    rw [applyChanges_cons, applyChanges_cons]
    apply ih
    rw [get_applyChange, get_applyChange, h]

/-! ### `ensure` -/

theorem ensure_of_contains (sem : Sem H C) (t : Tab H) (c : C) (pid : Nat)
    (h : t.contains pid = true) : ensure sem t c pid = .ok (t, c) := by
  unfold ensure; simp only [h, if_true]

theorem ensure_of_absent (sem : Sem H C) (t : Tab H) (c : C) (pid : Nat)
    (h : t.contains pid = false) :
    ensure sem t c pid = (sem.construct c pid >>= fun r => R.ok (t.insert pid r.1, r.2)) := by
  unfold ensure; simp only [h, Bool.false_eq_true, if_false]; rfl

theorem ensure_ok_cases (sem : Sem H C) {t : Tab H} {c : C} {pid : Nat} {t1 : Tab H} {c1 : C}
    (h : ensure sem t c pid = .ok (t1, c1)) :
    (t.contains pid = true ∧ t1 = t ∧ c1 = c) ∨
    (t.contains pid = false ∧ ∃ hd, sem.construct c pid = .ok (hd, c1) ∧ t1 = t.insert pid hd) := by
  cases hc : t.contains pid with
  | true =>
    rw [ensure_of_contains sem t c pid hc] at h
    cases h
    exact .inl ⟨rfl, rfl, rfl⟩
  | false =>
    rw [ensure_of_absent sem t c pid hc] at h
    obtain ⟨⟨hd, c'⟩, hk, h⟩ := R.bind_eq_ok h
    cases h
    exact .inr ⟨rfl, hd, hk, rfl⟩

theorem ensure_contains (sem : Sem H C) (t : Tab H) (c : C) (pid : Nat) (t' : Tab H) (c' : C)
    (h : ensure sem t c pid = .ok (t', c')) : t'.contains pid = true := by
  rcases ensure_ok_cases sem h with ⟨hc, rfl, _⟩ | ⟨_, hd, _, rfl⟩
  · exact hc
  · exact Tab.contains_insert_self _ _ _

theorem ensure_get_ne (sem : Sem H C) (t : Tab H) (c : C) (pid : Nat) (t' : Tab H) (c' : C)
    (h : ensure sem t c pid = .ok (t', c')) (q : Nat) (hq : q ≠ pid) : t'.get q = t.get q := by
  rcases ensure_ok_cases sem h with ⟨_, rfl, _⟩ | ⟨_, hd, _, rfl⟩
  · rfl
  · exact Tab.get_insert_ne _ _ _ _ hq

/-! ### `specStep`, `pushSpec` -/

theorem pushSpec_cons (sem : Sem H C) (tc : Tab H × C) (pk : Pk) (rest : List Pk) :
    pushSpec sem tc (pk :: rest) = (specStep sem tc pk >>= fun tc' => pushSpec sem tc' rest) := rfl

theorem pushSpec_nil (sem : Sem H C) (tc : Tab H × C) : pushSpec sem tc [] = .ok tc := rfl

theorem specStep_eq (sem : Sem H C) (t : Tab H) (c : C) (pk : Pk) :
    specStep sem (t, c) pk =
      (ensure sem t c pk.pid >>= fun r =>
        if pk.flagged then R.ok (r.1, r.2)
        else match r.1.get pk.pid with
          | none => R.panic "called `Option::unwrap()` on a `None` value"
          | some h => sem.consume h r.2 pk >>= fun x =>
              R.ok (applyChanges (r.1.insert pk.pid x.1) x.2.2, x.2.1)) := rfl

theorem specStep_flagged_of_contains (sem : Sem H C) (t : Tab H) (c : C) (pk : Pk)
    (hc : t.contains pk.pid = true) (hf : pk.flagged = true) :
    specStep sem (t, c) pk = .ok (t, c) := by
  rw [specStep_eq, ensure_of_contains sem t c pk.pid hc]
  simp only [R.ok_bind, hf, if_true]

theorem specStep_consume_of_contains (sem : Sem H C) (t : Tab H) (c : C) (pk : Pk) (h : H)
    (hc : t.contains pk.pid = true) (hf : pk.flagged = false) (hg : t.get pk.pid = some h) :
    specStep sem (t, c) pk =
      (sem.consume h c pk >>= fun x => R.ok (applyChanges (t.insert pk.pid x.1) x.2.2, x.2.1)) := by
  rw [specStep_eq, ensure_of_contains sem t c pk.pid hc]
  simp only [R.ok_bind, hf, Bool.false_eq_true, if_false, hg]

theorem specStep_of_consume (sem : Sem H C) {t : Tab H} {c : C} {pk : Pk} {h h' : H} {c' : C}
    {chg : List (Change H)} (hg : t.get pk.pid = some h) (hf : pk.flagged = false)
    (hc : sem.consume h c pk = .ok (h', c', chg)) :
    specStep sem (t, c) pk = .ok (applyChanges (t.insert pk.pid h') chg, c') := by
  rw [specStep_consume_of_contains sem t c pk h ((Tab.contains_eq_true_iff t pk.pid).2 ⟨h, hg⟩) hf hg,
    hc]
  rfl

/-- re-running `ensure` right after it succeeded is the identity, so the `ensure` done by `outer`
is the one done by `specStep` for the first packet of the run -/
theorem specStep_after_ensure (sem : Sem H C) (t : Tab H) (c : C) (pk : Pk) (t1 : Tab H) (c1 : C)
    (hE : ensure sem t c pk.pid = .ok (t1, c1)) :
    specStep sem (t1, c1) pk = specStep sem (t, c) pk := by
  have hc := ensure_contains sem t c pk.pid t1 c1 hE
  rw [specStep_eq sem t c, hE, specStep_eq sem t1 c1, ensure_of_contains sem t1 c1 pk.pid hc]

theorem specStep_ok_cases (sem : Sem H C) {t : Tab H} {c : C} {pk : Pk} {tc' : Tab H × C}
    (h : specStep sem (t, c) pk = .ok tc') :
    ∃ t1 c1, ensure sem t c pk.pid = .ok (t1, c1) ∧
      ((pk.flagged = true ∧ tc' = (t1, c1)) ∨
       (pk.flagged = false ∧ ∃ hd h' c' chg, t1.get pk.pid = some hd ∧
          sem.consume hd c1 pk = .ok (h', c', chg) ∧
          tc' = (applyChanges (t1.insert pk.pid h') chg, c'))) := by
  rw [specStep_eq] at h
  obtain ⟨⟨t1, c1⟩, hE, h⟩ := R.bind_eq_ok h
  refine ⟨t1, c1, hE, ?_⟩
  cases hf : pk.flagged with
  | true =>
    simp only [hf, if_true] at h
    cases h
    exact .inl ⟨rfl, rfl⟩
  | false =>
    simp only [hf, Bool.false_eq_true, if_false] at h
    cases hg : t1.get pk.pid with
    | none => rw [hg] at h; cases h
    | some hd =>
      rw [hg] at h
      obtain ⟨⟨h', c', chg⟩, hk, h⟩ := R.bind_eq_ok h
      cases h
      exact .inr ⟨rfl, hd, h', c', chg, rfl, hk, rfl⟩

/-- a property kept by every successful step on a packet satisfying `P` is kept by every successful
run over such packets -/
theorem pushSpec_invariant (sem : Sem H C) (I : Tab H × C → Prop) (P : Pk → Prop)
    (hstep : ∀ tc pk tc', I tc → P pk → specStep sem tc pk = .ok tc' → I tc') :
    ∀ (pks : List Pk) (tc tc' : Tab H × C), I tc → (∀ pk ∈ pks, P pk) →
      pushSpec sem tc pks = .ok tc' → I tc' := by
  intro pks
  induction pks with
  | nil => intro tc tc' hi _ h; cases h; exact hi
  | cons pk pks ih =>
    intro tc tc' hi hp h
    rw [pushSpec_cons] at h
    obtain ⟨tc1, hs, h⟩ := R.bind_eq_ok h
    exact ih tc1 tc' (hstep tc pk tc1 hi (hp pk List.mem_cons_self) hs)
      (fun q hq => hp q (List.mem_cons_of_mem _ hq)) h

/-! ### refinement: the labelled loops compute the fold -/

/-- `inner` = spec, given the slot invariant (`thisPid = pk.pid`, slot occupied) -/
theorem inner_eq (sem : Sem H C) (fuelO : Nat)
    (ihO : ∀ t c pk rest, rest.length < fuelO →
      outer sem fuelO t c pk rest = pushSpec sem (t, c) (pk :: rest)) :
    ∀ (fuel : Nat) (t : Tab H) (c : C) (pk : Pk) (rest : List Pk),
      rest.length < fuel → rest.length ≤ fuelO → t.contains pk.pid = true →
      inner sem pk.pid t c pk rest (outer sem fuelO) fuel = pushSpec sem (t, c) (pk :: rest) := by
  intro fuel
  induction fuel with
  | zero => intro t c pk rest h; omega
  | succ fuel ih =>
    intro t c pk rest hf hfo hs
    -- falling out of `'inner` (`continue 'outer`) with the next packet
    have leave : ∀ (t' : Tab H) (c' : C),
        (match (generalizing := false) rest with
         | [] => R.ok (t', c')
         | p :: rest' => outer sem fuelO t' c' p rest') = pushSpec sem (t', c') rest := by
      intro t' c'
      cases rest with
      | nil => rfl
      | cons p rest' => exact ihO t' c' p rest' (by simp only [List.length_cons] at hfo; omega)
    -- going round `'inner` again if the next packet has the same PID, from a state whose slot is occupied
    have next : ∀ (t' : Tab H) (c' : C), t'.contains pk.pid = true →
        (match (generalizing := false) rest with
         | [] => R.ok (t', c')
         | p :: rest' =>
           if p.pid != pk.pid then outer sem fuelO t' c' p rest'
           else inner sem pk.pid t' c' p rest' (outer sem fuelO) fuel) = pushSpec sem (t', c') rest := by
      intro t' c' hs'
      cases rest with
      | nil => rfl
      | cons p rest' =>
        simp only [List.length_cons] at hf hfo
        by_cases hp : p.pid = pk.pid
        · have hb : ¬ ((p.pid != pk.pid) = true) := by simp [hp]
          show (if (p.pid != pk.pid) = true then _ else _) = _
          rw [if_neg hb, ← hp]
          exact ih t' c' p rest' (by omega) (by omega) (by rw [hp]; exact hs')
        · have hb : (p.pid != pk.pid) = true := by simp [hp]
          show (if (p.pid != pk.pid) = true then _ else _) = _
          rw [if_pos hb]
          exact ihO t' c' p rest' (by omega)
    unfold inner
    rw [pushSpec_cons]
    cases hfl : pk.flagged with
    | true =>
      simp only [if_true]
      rw [specStep_flagged_of_contains sem t c pk hs hfl, R.ok_bind]
      exact next t c hs
    | false =>
      simp only [Bool.false_eq_true, if_false]
      obtain ⟨h, hh⟩ := (Tab.contains_eq_true_iff t pk.pid).1 hs
      rw [specStep_consume_of_contains sem t c pk h hs hfl hh]
      simp only [hh]
      cases sem.consume h c pk with
      | panic s => rfl
      | ok x =>
        obtain ⟨h', c', chg⟩ := x
        simp only [R.ok_bind]
        cases hchg : chg.isEmpty with
        | true =>
          simp only [if_true]
          rw [applyChanges_of_isEmpty _ chg hchg]
          exact next _ c' (Tab.contains_insert_self _ _ _)
        | false =>
          simp only [Bool.false_eq_true, if_false]
          exact leave _ c'

theorem outer_eq (sem : Sem H C) : ∀ (fuel : Nat) (t : Tab H) (c : C) (pk : Pk) (rest : List Pk),
    rest.length < fuel → outer sem fuel t c pk rest = pushSpec sem (t, c) (pk :: rest) := by
  intro fuel
  induction fuel with
  | zero => intro t c pk rest h; omega
  | succ fuel ih =>
    intro t c pk rest hf
    unfold outer
    rw [pushSpec_cons]
    cases hE : ensure sem t c pk.pid with
    | panic s =>
      rw [specStep_eq, hE]; rfl
    | ok r =>
      obtain ⟨t1, c1⟩ := r
      have hs := ensure_contains sem t c pk.pid t1 c1 hE
      show inner sem pk.pid t1 c1 pk rest (outer sem fuel) (fuel+1) = _
      rw [inner_eq sem fuel ih (fuel+1) t1 c1 pk rest (by omega) (by omega) hs, pushSpec_cons,
        specStep_after_ensure sem t c pk t1 c1 hE]

theorem pushModel_eq_pushSpec (sem : Sem H C) (tc : Tab H × C) (pks : List Pk) :
    pushModel sem tc pks = pushSpec sem tc pks := by
  cases pks with
  | nil => rfl
  | cons pk rest => exact outer_eq sem _ tc.1 tc.2 pk rest (by simp)

theorem pushModel_cons (sem : Sem H C) (tc : Tab H × C) (pk : Pk) (rest : List Pk) :
    pushModel sem tc (pk :: rest) = (specStep sem tc pk >>= fun tc' => pushModel sem tc' rest) := by
  rw [pushModel_eq_pushSpec, pushSpec_cons]
  exact bind_congr fun tc' => (pushModel_eq_pushSpec sem tc' rest).symm

theorem pushSpec_append_aux (sem : Sem H C) (a b : List Pk) : ∀ (tc : Tab H × C),
    pushSpec sem tc (a ++ b) = (pushSpec sem tc a >>= fun tc' => pushSpec sem tc' b) := by
  induction a with
  | nil => intro tc; rfl
  | cons pk a ih =>
    intro tc
    rw [List.cons_append, pushSpec_cons, pushSpec_cons, bind_assoc]
    exact bind_congr ih

/-! ### `push`, `pushAll` -/

theorem push_of_frame (sem : Sem H C) (tc : Tab H × C) {buf : Bytes} {base : Nat} {pks : List Pk}
    (hf : frame buf base = .ok pks) : push sem tc buf base = pushSpec sem tc pks := by
  unfold push
  rw [hf, R.ok_bind, pushModel_eq_pushSpec]

theorem pushAll_nil (sem : Sem H C) (tc : Tab H × C) (base : Nat) : pushAll sem tc [] base = .ok tc :=
  rfl

theorem pushAll_cons (sem : Sem H C) (tc : Tab H × C) (b : Bytes) (bs : List Bytes) (base : Nat) :
    pushAll sem tc (b :: bs) base =
      (push sem tc b base >>= fun tc' => pushAll sem tc' bs (base + b.length)) := rfl

/-- successive pushes of `a ++ b`: those of `a`, then those of `b` at the offset `a` has reached -/
theorem pushAll_append_bufs (sem : Sem H C) (a b : List Bytes) : ∀ (tc : Tab H × C) (base : Nat),
    pushAll sem tc (a ++ b) base =
      (pushAll sem tc a base >>= fun tc' => pushAll sem tc' b (base + (a.map List.length).sum)) := by
  induction a with
  | nil => intro tc base; rfl
  | cons x a ih =>
    intro tc base
    rw [List.cons_append, pushAll_cons, pushAll_cons, bind_assoc, List.map_cons, List.sum_cons,
      ← Nat.add_assoc]
    exact bind_congr fun tc1 => ih tc1 (base + x.length)

theorem push_invariant (sem : Sem H C) (I : Tab H × C → Prop) (P : Pk → Prop)
    (hstep : ∀ tc pk tc', I tc → P pk → specStep sem tc pk = .ok tc' → I tc')
    (tc tc' : Tab H × C) (buf : Bytes) (base : Nat) (hi : I tc)
    (hP : ∀ pks, frame buf base = .ok pks → ∀ pk ∈ pks, P pk)
    (h : push sem tc buf base = .ok tc') : I tc' := by
  unfold push at h
  obtain ⟨pks, hf, h⟩ := R.bind_eq_ok h
  rw [pushModel_eq_pushSpec] at h
  exact pushSpec_invariant sem I P hstep pks tc tc' hi (hP pks hf) h

theorem pushAll_invariant (sem : Sem H C) (I : Tab H × C → Prop) (P : Pk → Prop)
    (hstep : ∀ tc pk tc', I tc → P pk → specStep sem tc pk = .ok tc' → I tc')
    (hP : ∀ buf base pks, frame buf base = .ok pks → ∀ pk ∈ pks, P pk) :
    ∀ (bufs : List Bytes) (tc tc' : Tab H × C) (base : Nat), I tc →
      pushAll sem tc bufs base = .ok tc' → I tc' := by
  intro bufs
  induction bufs with
  | nil => intro tc tc' base hi h; cases h; exact hi
  | cons b bs ih =>
    intro tc tc' base hi h
    rw [pushAll_cons] at h
    obtain ⟨tc1, h1, h⟩ := R.bind_eq_ok h
    exact ih tc1 tc' _ (push_invariant sem I P hstep tc tc1 b base hi (hP b base) h1) h

end Ts.Demux
