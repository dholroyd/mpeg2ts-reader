import Ts.Lemmas.C19
import Ts.Lemmas.C19b
import Ts.Lemmas.C19c
import Ts.Lemmas.C19d
import Ts.Props.C03
import Ts.Props.C06
/-!
# C19 — zero-copy delivery, bounded retained state, allocation-free steady state (model level)

The library's only heap-backed state is `Filters::filters_by_pid` (model: `Tab`), each PSI filter's
reassembly `Vec<u8>` (model: `Psi.St.buf`), the `FilterChangeset` (model: the change list returned
by `consume`, applied and dropped after each packet) and the two fixed-size `FixedBitSet`s of each
PAT/PMT processor.  §1–2: delivered slices are windows of the pushed buffer; §3: the retained state
is bounded for arbitrary input; §4–5: a steady push performs no allocation-relevant operation;
§6: the definitions restated; §7: the steady state over INPUTS (known finding F14).

Two readings to keep in mind.  "Every section that fits in one transport packet" is proved for
sections that LIE WHOLLY IN THE PACKET THAT STARTS THEM; for "every section of at most 183 bytes" it
is false of code and model (`section_split_over_two_packets_is_copied`).  The steady-state theorems
of §4–5 assume the STATE-level hypothesis `Steady`; over inputs ("any packetisation, any repetition
pattern") the property is false (`C19_steady_full_false`), and §7 says what is proved instead.

NOT proved here: addresses and the allocator.  `inplace`, event ranges and "no buffer write" are
properties of the MODEL; that the Rust code copies nothing and allocates only where the model has one
of the operations of §5 is observed by the harness (slice-address check, counting
`#[global_allocator]`).
-/
namespace Ts.Props.C19
open Ts Ts.Demux Ts.Lemmas.C19
open Ts.Lemmas.C03 (PsiInv CfgOk kindOf plOf hdrLen startOk cfgOf preSpec runPl cfgOk_cfgOf cfgOk_table)
open Ts.Spec.SectionMux (Kind WellFormedSection WellFormedMux Mux)

/-! ## 1. elementary-stream payloads are sub-slices of the pushed buffer -/

theorem frame_packets_in_buffer (buf : Bytes) (base : Nat) (pks : List Pk)
    (h : frame buf base = .ok pks) :
    ∀ pk ∈ pks, base ≤ pk.off ∧ pk.off + 188 ≤ base + buf.length ∧ (pk.off - base) % 188 = 0
      ∧ pk.bytes = (buf.drop (pk.off - base)).take 188 ∧ pk.bytes.length = 188
      ∧ pk.pid ≤ 0x1fff :=
  fun pk hpk =>
    let r := frame_pk_props buf base pks h pk hpk
    ⟨r.1, r.2.1, r.2.2.1, r.2.2.2.1, r.2.2.2.2.1, r.2.2.2.2.2.1⟩

/-- For a `.pes` handler and every 188-byte packet: every event `App.consume` appends to the trace
is an elementary-stream event of this handler whose exposed range lies in the packet
(`EvInPacket`); no change is queued, nothing is constructed. -/
theorem es_payload_in_packet (tag : Nat) (f : PesFilter.F) (c : App.Ctx) (pk : Pk)
    (h' : App.Handler) (c' : App.Ctx) (chg : List (Change App.Handler))
    (hlen : pk.bytes.length = 188)
    (h : App.consume (.pes tag f) c pk = .ok (h', c', chg)) :
    ∃ out, c'.trace = out ++ c.trace ∧ (∀ e ∈ out, EvInPacket tag pk.off e) ∧ chg = []
      ∧ c'.nextTag = c.nextTag := by
  obtain ⟨out, _, _, e2, e3, e4, e5, _⟩ := pes_consume_events tag f c pk h' c' chg hlen h
  exact ⟨out, e3, e4, e2, e5⟩

theorem evInPacket_cont (tag pkoff t off len : Nat) :
    EvInPacket tag pkoff (.esCont t off len) ↔
      (t = tag ∧ pkoff + 4 ≤ off ∧ off + len = pkoff + 188 ∧ 0 < len) := Iff.rfl

theorem evInPacket_begin (tag pkoff t : Nat) (bi : App.BeginInfo) :
    EvInPacket tag pkoff (.esBegin t bi) ↔
      (t = tag ∧ ∀ o l, bi.pl = some (o, l) → pkoff + 4 ≤ o ∧ o + l ≤ pkoff + 188) := Iff.rfl

theorem evInPacket_kinds (tag pkoff : Nat) (e : App.Ev) (h : EvInPacket tag pkoff e) :
    e = .esStart tag ∨ e = .esEnd tag ∨ e = .esCcErr tag ∨ (∃ off len, e = .esCont tag off len)
      ∨ (∃ bi, e = .esBegin tag bi) := by
  cases e with
  | esStart t => simp only [EvInPacket] at h; subst h; exact Or.inl rfl
  | esEnd t => simp only [EvInPacket] at h; subst h; exact Or.inr (Or.inl rfl)
  | esCcErr t => simp only [EvInPacket] at h; subst h; exact Or.inr (Or.inr (Or.inl rfl))
  | esCont t off len =>
    simp only [EvInPacket] at h; obtain ⟨h, _⟩ := h; subst h
    exact Or.inr (Or.inr (Or.inr (Or.inl ⟨_, _, rfl⟩)))
  | esBegin t bi =>
    simp only [EvInPacket] at h; obtain ⟨h, _⟩ := h; subst h
    exact Or.inr (Or.inr (Or.inr (Or.inr ⟨_, rfl⟩)))
  | construct _ _ => exact absurd h id
  | scriptIns _ _ => exact absurd h id
  | scriptRem _ => exact absurd h id
  | pkt _ _ => exact absurd h id

theorem evRange_in_packet (tag pkoff : Nat) (e : App.Ev) (h : EvInPacket tag pkoff e) (o l : Nat)
    (hr : evRange e = some (o, l)) : pkoff + 4 ≤ o ∧ o + l ≤ pkoff + 188 := by
  cases e with
  | esCont t off len =>
    simp only [evRange, Option.some.injEq, Prod.mk.injEq] at hr
    simp only [EvInPacket] at h
    omega
  | esBegin t bi => exact h.2 o l hr
  | esStart _ => cases hr
  | esEnd _ => cases hr
  | esCcErr _ => cases hr
  | construct _ _ => cases hr
  | scriptIns _ _ => cases hr
  | scriptRem _ => cases hr
  | pkt _ _ => cases hr

/-- **C19 (a).** For every packet `pk` of `push(buf)` consumed by a `.pes` handler: every slice
`(o, l)` an appended event exposes (`evRange`) is a sub-slice of the buffer the caller passed to
`push`, with the same bytes whether read from the packet or from the caller's buffer.

SCOPE.  The model's `esCont` / `esBegin` events carry ranges computed from `pk.off`; it has no
"copied" alternative for an ES payload (unlike `Psi.Delivery.inplace` for sections), so a Rust
change that copies the payload before calling the consumer would leave this theorem unchanged.  It is
range arithmetic; the zero-copy clause itself is carried by the harness's slice-address check. -/
theorem es_payload_in_buffer (buf : Bytes) (base : Nat) (pks : List Pk)
    (hf : frame buf base = .ok pks) (pk : Pk) (hpk : pk ∈ pks)
    (tag : Nat) (f : PesFilter.F) (c : App.Ctx) (h' : App.Handler) (c' : App.Ctx)
    (chg : List (Change App.Handler))
    (h : App.consume (.pes tag f) c pk = .ok (h', c', chg)) :
    ∃ out, c'.trace = out ++ c.trace ∧ ∀ e ∈ out, EvInPacket tag pk.off e ∧
      ∀ o l, evRange e = some (o, l) →
        base ≤ pk.off ∧ pk.off + 188 ≤ base + buf.length
        ∧ pk.off + 4 ≤ o ∧ o + l ≤ pk.off + 188
        ∧ base ≤ o ∧ o + l ≤ base + buf.length
        ∧ (pk.bytes.drop (o - pk.off)).take l = (buf.drop (o - base)).take l := by
  obtain ⟨h1, h2, _, h4, h5, _⟩ := frame_pk_props buf base pks hf pk hpk
  obtain ⟨out, e1, e2, _⟩ := es_payload_in_packet tag f c pk h' c' chg h5 h
  refine ⟨out, e1, fun e he => ⟨e2 e he, ?_⟩⟩
  intro o l hr
  obtain ⟨a1, a2⟩ := evRange_in_packet tag pk.off e (e2 e he) o l hr
  refine ⟨h1, h2, a1, a2, by omega, by omega, ?_⟩
  rw [h4, window_of_window buf (pk.off - base) (o - pk.off) l (by omega)]
  congr 2
  omega

/-! ## 2. single-packet sections are delivered in place -/

/-- **C19 (b).** READING: "fits in one transport packet" is proved as "lies wholly in the packet that
starts it"; a section of ≤ 183 bytes that is split over two packets falls under the second
alternative (`section_split_over_two_packets_is_copied`).
For the whole-section chains (`CfgOk`), every 188-byte packet `p`, every state satisfying the C03
invariant, each delivery `d` of `Psi.consume` is either
* produced by the section START in this packet (`StartedHere`); then `d.inplace = some off` with
  `off = payload offset + 1 + pointer_field` and `d.bytes = (p.drop off).take d.bytes.length`: the
  delivered section IS a sub-slice of the packet, not a copy; or
* completed by continuation bytes of a section being reassembled (`CompletedBy`); then
  `d.inplace = none` (delivered from `St.buf`). -/
theorem single_packet_section_in_place (cfg : Psi.Cfg) (hc : CfgOk cfg) (s : Psi.St)
    (hs : PsiInv (kindOf cfg) s) (p : Bytes) (hp : p.length = 188) (s' : Psi.St)
    (ds : List Psi.Delivery) (h : Psi.consume cfg s p = .ok (s', ds)) :
    ∀ d ∈ ds, ∃ q, plOf p = some q ∧
      ((q.us = true ∧ StartedHere cfg q.bytes q.off d
          ∧ d.inplace = some (q.off + 1 + byteD q.bytes 0)
          ∧ d.bytes = (p.drop (q.off + 1 + byteD q.bytes 0)).take d.bytes.length
          ∧ q.off + 1 + byteD q.bytes 0 + d.bytes.length ≤ 188
          ∧ d.bytes.length = 3 + hdrLen d.bytes)
       ∨ (CompletedBy s (contBytes q.us q.bytes) d ∧ d.inplace = none)) := by
  rw [Lemmas.C03.consume_eq_plOf cfg s p hp] at h
  cases hq : plOf p with
  | none =>
    rw [hq] at h
    have := R.ok_inj h
    simp only [Prod.mk.injEq] at this
    rw [← this.2]
    intro d hd; cases hd
  | some q =>
    rw [hq] at h
    have hsz := Lemmas.C03.plOf_size p hp q hq
    change Lemmas.C03.consumePayload cfg s q.us q.bytes q.off = _ at h
    rw [Lemmas.C03.consumePayload_eq cfg hc s q.us q.bytes q.off hsz.1 hs] at h
    have := R.ok_inj h
    have e : ds = (Lemmas.C03.consumeSpec cfg s q.us q.bytes q.off).2 := by rw [this]
    intro d hd
    rw [e] at hd
    refine ⟨q, rfl, ?_⟩
    rcases consumeSpec_origin cfg s q.us q.bytes q.off d hd with ⟨hus, hst⟩ | hcb
    · obtain ⟨a1, a2, a3, a4⟩ := startedHere_window cfg p hp q hq d hst
      exact Or.inl ⟨hus, hst, a1, a2, a3, a4⟩
    · have ⟨n, _, _, hd'⟩ := hcb
      exact Or.inr ⟨hcb, by rw [hd']⟩

theorem inplace_iff_started_here (cfg : Psi.Cfg) (hc : CfgOk cfg) (s : Psi.St)
    (hs : PsiInv (kindOf cfg) s) (p : Bytes) (hp : p.length = 188) (s' : Psi.St)
    (ds : List Psi.Delivery) (h : Psi.consume cfg s p = .ok (s', ds)) (d : Psi.Delivery) (hd : d ∈ ds) :
    d.inplace.isSome = true ↔ ∃ q, plOf p = some q ∧ q.us = true ∧ StartedHere cfg q.bytes q.off d := by
  obtain ⟨q, hq, hcase⟩ := single_packet_section_in_place cfg hc s hs p hp s' ds h d hd
  constructor
  · intro hi
    rcases hcase with ⟨hus, hst, _⟩ | ⟨_, hn⟩
    · exact ⟨q, hq, hus, hst⟩
    · rw [hn] at hi; cases hi
  · rintro ⟨q', _, _, _, _, hd'⟩
    rw [hd']; rfl

/-- (under the C03 invariant the buffered part is at least the fixed header, so not empty) -/
theorem buffered_iff_completed (cfg : Psi.Cfg) (hc : CfgOk cfg) (s : Psi.St)
    (hs : PsiInv (kindOf cfg) s) (p : Bytes) (hp : p.length = 188) (s' : Psi.St)
    (ds : List Psi.Delivery) (h : Psi.consume cfg s p = .ok (s', ds)) (d : Psi.Delivery) (hd : d ∈ ds) :
    d.inplace = none ↔
      ∃ q, plOf p = some q ∧ CompletedBy s (contBytes q.us q.bytes) d ∧ 3 ≤ s.buf.length := by
  obtain ⟨q, hq, hcase⟩ := single_packet_section_in_place cfg hc s hs p hp s' ds h d hd
  constructor
  · intro hi
    rcases hcase with ⟨_, _, hsome, _⟩ | ⟨hcb, _⟩
    · rw [hsome] at hi; cases hi
    · have ⟨n, hn, _⟩ := hcb
      have := (hs n hn).2.1
      have := Lemmas.C03.minHeader_ge (kindOf cfg)
      exact ⟨q, hq, hcb, by omega⟩
  · rintro ⟨q', _, ⟨n, _, _, hd'⟩, _⟩
    rw [hd']

/-- so `single_packet_section_in_place` applies to each of the crate's three chains -/
theorem chains_cfgOk :
    (CfgOk Psi.rawSection ∧ kindOf Psi.rawSection = .syntax)
    ∧ (CfgOk Psi.rawCompact ∧ kindOf Psi.rawCompact = .compact)
    ∧ (CfgOk Psi.table ∧ kindOf Psi.table = .syntax) :=
  ⟨⟨cfgOk_cfgOf .syntax, rfl⟩, ⟨cfgOk_cfgOf .compact, rfl⟩, ⟨cfgOk_table, rfl⟩⟩

/-- Converse: a unit-start packet whose section start passes the processor's checks (`startOk`)
and has all `3 + section_length` bytes present IS delivered in place, as the window of the packet
at `payload offset + 1 + pointer_field` — unless the dedup layer (only in `Psi.table`) recognises
the current version. -/
theorem section_fitting_first_packet_delivered_in_place (cfg : Psi.Cfg) (hc : CfgOk cfg) (s : Psi.St)
    (hs : PsiInv (kindOf cfg) s) (p : Bytes) (hp : p.length = 188) (q : Lemmas.C03.Pl)
    (hq : plOf p = some q) (hus : q.us = true)
    (hok : startOk cfg ((q.bytes.drop 1).drop (byteD q.bytes 0)) = true)
    (hfit : 3 + hdrLen ((q.bytes.drop 1).drop (byteD q.bytes 0))
      ≤ ((q.bytes.drop 1).drop (byteD q.bytes 0)).length)
    (hdd : cfg.dedup = true →
      s.lastVersion ≠ some (versionOf ((q.bytes.drop 1).drop (byteD q.bytes 0)))) :
    ∃ s' ds d, Psi.consume cfg s p = .ok (s', ds) ∧ d ∈ ds
      ∧ d.inplace = some (q.off + 1 + byteD q.bytes 0)
      ∧ d.bytes = (p.drop (q.off + 1 + byteD q.bytes 0)).take (3 + hdrLen (p.drop (q.off + 1 + byteD q.bytes 0)))
      ∧ d.bytes.length = 3 + hdrLen (p.drop (q.off + 1 + byteD q.bytes 0)) := by
  have hsz := Lemmas.C03.plOf_size p hp q hq
  have hmem := consumeSpec_started_delivered cfg s q.bytes q.off hok hfit hdd
  have hb := plOf_bytes p hp q hq
  have hns : (q.bytes.drop 1).drop (byteD q.bytes 0) = p.drop (q.off + 1 + byteD q.bytes 0) := by
    rw [hb, List.drop_drop, List.drop_drop, Nat.add_assoc]
  refine ⟨(Lemmas.C03.consumeSpec cfg s true q.bytes q.off).1,
    (Lemmas.C03.consumeSpec cfg s true q.bytes q.off).2, _, ?_, hmem, rfl, ?_, ?_⟩
  · rw [Lemmas.C03.consume_eq_plOf cfg s p hp, hq]
    show Lemmas.C03.consumePayload cfg s q.us q.bytes q.off = _
    rw [Lemmas.C03.consumePayload_eq cfg hc s q.us q.bytes q.off hsz.1 hs, hus]
  · show List.take _ _ = _
    rw [hns]
  · show (List.take _ _).length = _
    rw [hns] at hfit ⊢
    rw [List.length_take]
    omega

/-- Instantiating C03 `section_reassembled`: a well-formed section `S` in a well-formed
packetisation `m` is delivered exactly once, and in place iff the packet that starts it carries ALL of
it (`m.k = S.length`); otherwise (the multiplexer cut it, however short `S` is) it comes from the
buffer.  Instances of both cases on the same 16-byte PAT: `pat_in_place_instance`,
`pat_split_instance`. -/
theorem wellformed_in_place_iff_fits_first (kind : Kind) (S : Bytes) (hS : WellFormedSection kind S)
    (m : Mux) (hm : WellFormedMux kind S m) (st : Psi.St) (hst : PsiInv kind st)
    (off : Nat) (rest : List Lemmas.C03.Pl) (hus : ∀ q ∈ rest, q.us = false)
    (hrest : rest.map (·.bytes) = m.rest) :
    ∃ sfin d,
      runPl (cfgOf kind) st (⟨true, m.first S, off⟩ :: rest)
        = .ok (sfin, (preSpec (cfgOf kind) st m.pre).2 ++ [d])
      ∧ d.bytes = S
      ∧ (d.inplace = some (off + 1 + m.pre.length) ↔ m.k = S.length)
      ∧ (d.inplace = none ↔ m.k < S.length) := by
  obtain ⟨sfin, h1, _⟩ := Props.C03.section_reassembled kind S hS m hm st hst off rest hus hrest
  have hk : m.k ≤ S.length := hm.1
  refine ⟨sfin, _, h1, rfl, ?_, ?_⟩
  · by_cases e : m.k = S.length
    · simp [e]
    · simp [e]
  · by_cases e : m.k = S.length
    · simp [e]
    · simp only [e, if_false, true_iff]; omega

/-- **C19 (b), lifted to the pushed buffer.**  For every packet `pk` that `push(buf)` iterates over
(`pk.off = base + 188 * k`), every whole-section chain, every state satisfying the C03 invariant:
each delivery flagged in place (`d.inplace = some o`) lies inside the packet, has
`3 + section_length` bytes, and its bytes ARE the window of the caller's buffer at `188 * k + o`. -/
theorem section_in_pushed_buffer (buf : Bytes) (base : Nat) (pks : List Pk)
    (hf : frame buf base = .ok pks) (pk : Pk) (hpk : pk ∈ pks)
    (cfg : Psi.Cfg) (hc : CfgOk cfg) (s : Psi.St) (hs : PsiInv (kindOf cfg) s)
    (s' : Psi.St) (ds : List Psi.Delivery) (h : Psi.consume cfg s pk.bytes = .ok (s', ds)) :
    ∀ d ∈ ds, ∀ o, d.inplace = some o →
      ∃ k, pk.off = base + 188 * k
        ∧ 5 ≤ o ∧ o + d.bytes.length ≤ 188 ∧ d.bytes.length = 3 + hdrLen d.bytes
        ∧ base ≤ pk.off + o ∧ pk.off + o + d.bytes.length ≤ base + buf.length
        ∧ d.bytes = (pk.bytes.drop o).take d.bytes.length
        ∧ d.bytes = (buf.drop (188 * k + o)).take d.bytes.length := by
  obtain ⟨h1, h2, h3, h4, h5, _⟩ := frame_pk_props buf base pks hf pk hpk
  intro d hd o ho
  obtain ⟨q, hq, hcase⟩ := single_packet_section_in_place cfg hc s hs pk.bytes h5 s' ds h d hd
  have hsz := Lemmas.C03.plOf_size pk.bytes h5 q hq
  rcases hcase with ⟨_, _, hin, hb, hle, hlen⟩ | ⟨_, hn⟩
  · rw [hin] at ho
    injection ho with ho
    subst ho
    refine ⟨(pk.off - base) / 188, by omega, by omega, hle, hlen, by omega, by omega, hb, ?_⟩
    have e : 188 * ((pk.off - base) / 188) = pk.off - base := by omega
    rw [e]
    have hb' := hb
    rw [h4, window_of_window buf (pk.off - base) _ _ hle] at hb'
    exact hb'
  · rw [hn] at ho; cases ho

/-- The converse, lifted the same way: a unit-start packet of `push(buf)` whose section start passes
the processor's checks, is wholly present and is not suppressed by the dedup layer yields a delivery
whose bytes are the window of the caller's buffer at
`188 * k + payload offset + 1 + pointer_field`. -/
theorem section_fitting_first_packet_in_pushed_buffer (buf : Bytes) (base : Nat) (pks : List Pk)
    (hf : frame buf base = .ok pks) (pk : Pk) (hpk : pk ∈ pks)
    (cfg : Psi.Cfg) (hc : CfgOk cfg) (s : Psi.St) (hs : PsiInv (kindOf cfg) s)
    (q : Lemmas.C03.Pl) (hq : plOf pk.bytes = some q) (hus : q.us = true)
    (hok : startOk cfg ((q.bytes.drop 1).drop (byteD q.bytes 0)) = true)
    (hfit : 3 + hdrLen ((q.bytes.drop 1).drop (byteD q.bytes 0))
      ≤ ((q.bytes.drop 1).drop (byteD q.bytes 0)).length)
    (hdd : cfg.dedup = true →
      s.lastVersion ≠ some (versionOf ((q.bytes.drop 1).drop (byteD q.bytes 0)))) :
    ∃ s' ds d k, Psi.consume cfg s pk.bytes = .ok (s', ds) ∧ d ∈ ds
      ∧ pk.off = base + 188 * k
      ∧ d.inplace = some (q.off + 1 + byteD q.bytes 0)
      ∧ base ≤ pk.off + (q.off + 1 + byteD q.bytes 0)
      ∧ pk.off + (q.off + 1 + byteD q.bytes 0) + d.bytes.length ≤ base + buf.length
      ∧ d.bytes = (buf.drop (188 * k + (q.off + 1 + byteD q.bytes 0))).take d.bytes.length := by
  obtain ⟨_, _, _, _, h5, _⟩ := frame_pk_props buf base pks hf pk hpk
  obtain ⟨s', ds, d, h1, h2, h3, _, _⟩ :=
    section_fitting_first_packet_delivered_in_place cfg hc s hs pk.bytes h5 q hq hus hok hfit hdd
  obtain ⟨k, k1, _, _, _, k5, k6, _, k8⟩ :=
    section_in_pushed_buffer buf base pks hf pk hpk cfg hc s hs s' ds h1 d h2 _ h3
  exact ⟨s', ds, d, k, h1, h2, k1, h3, k5, k6, k8⟩

/-! ## 3. retained state is bounded for arbitrary hostile input -/

theorem bounded_iff (t : Tab App.Handler) :
    Bounded t ↔ t.length ≤ 8192 ∧ ∀ p h, t.get p = some h →
      (∀ s reg, h = .pat s reg → PsiInv .syntax s ∧ s.buf.length ≤ 1024) ∧
      (∀ pid prog s reg, h = .pmt pid prog s reg → PsiInv .syntax s ∧ s.buf.length ≤ 1024) := by
  unfold Bounded HOk
  constructor
  · rintro ⟨h1, h2⟩
    refine ⟨h1, fun p h hg => ⟨?_, ?_⟩⟩
    · intro s reg e; subst e; exact h2 p _ hg s rfl
    · intro pid prog s reg e; subst e; exact h2 p _ hg s rfl
  · rintro ⟨h1, h2⟩
    refine ⟨h1, fun p h hg s hs => ?_⟩
    cases h with
    | pat s0 reg => injection hs with hs; subst hs; exact (h2 p _ hg).1 _ _ rfl
    | pmt a b s0 reg => injection hs with hs; subst hs; exact (h2 p _ hg).2 _ _ _ _ rfl
    | pes _ _ => cases hs
    | recorder _ => cases hs

theorem scriptOk_iff (cfg : App.Cfg) :
    ScriptOk cfg ↔ ∀ k ops, (k, ops) ∈ cfg.script → ∀ op ∈ ops,
      (match op with | .ins p => p | .rem p => p) < 8192 := by
  unfold ScriptOk
  constructor
  · intro h k ops hm op ho
    have := h k ops hm op ho
    cases op <;> exact this
  · intro h k ops hm op ho
    have := h k ops hm op ho
    cases op <;> exact this

theorem bounded_init (cfg : App.Cfg) (h : ScriptOk cfg) : Bounded (App.init cfg).1 :=
  (init_inv cfg h).1

theorem bounded_push (t : Tab App.Handler) (c : App.Ctx) (buf : Bytes) (base : Nat)
    (t' : Tab App.Handler) (c' : App.Ctx) (hb : Bounded t) (hs : ScriptOk c.cfg)
    (h : push App.sem (t, c) buf base = .ok (t', c')) : Bounded t' ∧ ScriptOk c'.cfg :=
  push_inv (t, c) buf base (t', c') ⟨hb, hs⟩ h

theorem bounded_step (t : Tab App.Handler) (c : App.Ctx) (pk : Pk) (t' : Tab App.Handler) (c' : App.Ctx)
    (hb : Bounded t) (hs : ScriptOk c.cfg) (hlen : pk.bytes.length = 188) (hpid : pk.pid ≤ 0x1fff)
    (h : specStep App.sem (t, c) pk = .ok (t', c')) : Bounded t' ∧ ScriptOk c'.cfg :=
  specStep_inv (t, c) pk (t', c') ⟨hb, hs⟩ ⟨hlen, by omega⟩ h

theorem retained_le_const (t : Tab App.Handler) (hb : Bounded t) : retained t ≤ RETAINED_MAX :=
  retained_le t hb

theorem retained_max_value : RETAINED_MAX = 8192 * (1 + 1024 + 2 * 1024) ∧ RETAINED_MAX = 25174016 :=
  ⟨rfl, by decide⟩

/-- **C19 (c).** For every configuration whose recorder scripts name only 13-bit PIDs and EVERY
sequence of pushed byte strings (any number, any lengths, any contents): if the run completes,
the filter table has at most 8192 slots, every reassembly buffer holds at most 1024 bytes, and the
retained-memory measure (slots + buffer bytes + 2 KiB of fixed bitsets per PAT/PMT handler) is at
most the constant `RETAINED_MAX`, independent of the input.  The measure `retained` OMITS the
`FilterChangeset`: its `Vec` is empty between packets but keeps its capacity; see
`retained'_bounded` below for the measure that includes it. -/
theorem retained_bounded (cfg : App.Cfg) (pushes : List Bytes) (t : Tab App.Handler) (c : App.Ctx)
    (hs : ScriptOk cfg) (h : App.runApp cfg pushes = .ok (t, c)) :
    Bounded t ∧ retained t ≤ RETAINED_MAX := by
  have hi := pushAll_inv pushes (App.init cfg) 0 (t, c) (init_inv cfg hs) h
  exact ⟨hi.1, retained_le t hi.1⟩

/-- the bound holds BETWEEN pushes: after every prefix of the pushes -/
theorem retained_bounded_between_pushes (cfg : App.Cfg) (pushes : List Bytes)
    (t : Tab App.Handler) (c : App.Ctx) (hs : ScriptOk cfg)
    (h : App.runApp cfg pushes = .ok (t, c)) (buf : Bytes) (base : Nat) (t' : Tab App.Handler)
    (c' : App.Ctx) (h' : push App.sem (t, c) buf base = .ok (t', c')) :
    retained t ≤ RETAINED_MAX ∧ retained t' ≤ RETAINED_MAX := by
  have hi := pushAll_inv pushes (App.init cfg) 0 (t, c) (init_inv cfg hs) h
  have hi' := push_inv (t, c) buf base (t', c') hi h'
  exact ⟨retained_le t hi.1, retained_le t' hi'.1⟩

/-! ### 3b. the `FilterChangeset`

`retained` above leaves out the `FilterChangeset` (`Vec<FilterChange>`; `apply` drains it but keeps
its capacity).  The model has no capacity; what it has is the LENGTH of the change list each packet
queues (`stepChg`).  We bound that length for every packet of every run and add the resulting
high-water mark to the measure. -/

theorem stepChg_eq (tc : Tab App.Handler × App.Ctx) (pk : Pk) :
    stepChg tc pk =
      (ensure App.sem tc.1 tc.2 pk.pid >>= fun r =>
        if pk.flagged then R.ok []
        else match r.1.get pk.pid with
          | none => R.panic "called `Option::unwrap()` on a `None` value"
          | some h => App.consume h r.2 pk >>= fun x => R.ok x.2.2) := by
  -- by `rw`, not `rfl`: as a rewrite rule with a proof term `simp` can use it in front of `eval_app`
  -- (see `Eval.sem_eq`)
  rw [stepChg]; rfl

theorem chg_max_value : MAX_ENTRIES = 253 ∧ CHG_MAX = 2 * (2 * MAX_ENTRIES) ∧ CHG_MAX = 1012 :=
  ⟨rfl, rfl, rfl⟩

theorem regInv_iff (t : Tab App.Handler) :
    RegInv t ↔ ∀ p h, t.get p = some h →
      (∀ s reg, h = .pat s reg → reg.length ≤ 253) ∧
      (∀ pid prog s reg, h = .pmt pid prog s reg → reg.length ≤ 253) := by
  unfold RegInv RegOk MAX_ENTRIES
  constructor
  · intro h p hd hg
    refine ⟨?_, ?_⟩
    · intro s reg e; subst e; exact h p _ hg
    · intro pid prog s reg e; subst e; exact h p _ hg
  · intro h p hd hg
    cases hd with
    | pat s reg => exact (h p _ hg).1 s reg rfl
    | pmt a b s reg => exact (h p _ hg).2 a b s reg rfl
    | pes _ _ => exact Nat.zero_le _
    | recorder _ => exact Nat.zero_le _

theorem scriptLenOk_iff (cfg : App.Cfg) :
    ScriptLenOk cfg ↔ ∀ k ops, (k, ops) ∈ cfg.script → ops.length ≤ 1012 := Iff.rfl

/-- one section of at most 1024 bytes handed to `PatProcessor::section` queues at most
`253 + reg.length` changes (at most `(1024 - 12) / 4 = 253` inserts, at most one removal per
previously registered PID) and leaves at most 253 PIDs registered (or `reg` unchanged) -/
theorem pat_section_changes (c : App.Ctx) (reg : List Nat) (data : Bytes) (c' : App.Ctx)
    (reg' : List Nat) (chg : List (Change App.Handler)) (hd : data.length ≤ 1024)
    (h : App.patSection c reg data = .ok (c', reg', chg)) :
    chg.length ≤ 253 + reg.length ∧ (reg' = reg ∨ reg'.length ≤ 253) :=
  let r := patSection_len c reg data c' reg' chg hd h
  ⟨r.1, r.2.1⟩

/-- the same for `PmtProcessor::section` (a PMT in fact carries at most `(1024 - 16) / 5 = 201`
streams; the uniform constant 253 is used) -/
theorem pmt_section_changes (c : App.Ctx) (pmtPid : Nat) (reg : List Nat) (data : Bytes) (c' : App.Ctx)
    (reg' : List Nat) (chg : List (Change App.Handler)) (hd : data.length ≤ 1024)
    (h : App.pmtSection c pmtPid reg data = .ok (c', reg', chg)) :
    chg.length ≤ 253 + reg.length ∧ (reg' = reg ∨ reg'.length ≤ 253) :=
  let r := pmtSection_len c pmtPid reg data c' reg' chg hd h
  ⟨r.1, r.2.1⟩

/-- **Changeset bound, one step.**  From a state satisfying `Bounded`, `RegInv`, `ScriptOk` and
`ScriptLenOk`, the handler of a framed packet (188 bytes, 13-bit PID) queues at most
`CHG_MAX = 1012` changes (at most two whole sections per packet, each at most 253 inserts and 253
removals).  The bound is not claimed tight: the second section of a packet is delivered in place,
hence shorter than 184 bytes (at most 42 entries), so about 800 is the true maximum. -/
theorem changes_per_step_bounded (t : Tab App.Handler) (c : App.Ctx) (pk : Pk)
    (chg : List (Change App.Handler)) (hb : Bounded t) (hr : RegInv t) (hs : ScriptOk c.cfg)
    (hl : ScriptLenOk c.cfg) (hlen : pk.bytes.length = 188) (hpid : pk.pid ≤ 0x1fff)
    (h : stepChg (t, c) pk = .ok chg) : chg.length ≤ CHG_MAX :=
  stepChg_le (t, c) pk chg ⟨⟨hb, hs⟩, hr, hl⟩ ⟨hlen, by omega⟩ h

theorem regInv_reachable (cfg : App.Cfg) (pushes : List Bytes) (t : Tab App.Handler) (c : App.Ctx)
    (hs : ScriptOk cfg) (hl : ScriptLenOk cfg) (h : App.runApp cfg pushes = .ok (t, c)) :
    Bounded t ∧ RegInv t ∧ ScriptOk c.cfg ∧ ScriptLenOk c.cfg :=
  let r := pushAll_inv2 pushes (App.init cfg) 0 (t, c) (init_inv2 cfg hs hl) h
  ⟨r.1.1, r.2.1, r.1.2, r.2.2⟩

theorem changes_per_packet_bounded (cfg : App.Cfg) (pushes : List Bytes) (t : Tab App.Handler)
    (c : App.Ctx) (hs : ScriptOk cfg) (hl : ScriptLenOk cfg)
    (h : App.runApp cfg pushes = .ok (t, c)) (pk : Pk) (chg : List (Change App.Handler))
    (hlen : pk.bytes.length = 188) (hpid : pk.pid ≤ 0x1fff) (hc : stepChg (t, c) pk = .ok chg) :
    chg.length ≤ CHG_MAX :=
  let r := regInv_reachable cfg pushes t c hs hl h
  changes_per_step_bounded t c pk chg r.1 r.2.1 r.2.2.1 r.2.2.2 hlen hpid hc

theorem chgHigh_nil (tc : Tab App.Handler × App.Ctx) : chgHigh tc [] = 0 := rfl

theorem chgHigh_cons (tc : Tab App.Handler × App.Ctx) (pk : Pk) (rest : List Pk) :
    chgHigh tc (pk :: rest) =
      max (match stepChg tc pk with | .ok chg => chg.length | .panic _ => 0)
        (match specStep App.sem tc pk with | .ok tc' => chgHigh tc' rest | .panic _ => 0) := by
  rw [chgHigh, stepChgLen]; rfl

theorem chgHighAll_nil (tc : Tab App.Handler × App.Ctx) (base : Nat) : chgHighAll tc [] base = 0 := rfl

theorem chgHighAll_cons (tc : Tab App.Handler × App.Ctx) (b : Bytes) (bs : List Bytes) (base : Nat) :
    chgHighAll tc (b :: bs) base =
      max (match frame b base with | .ok pks => chgHigh tc pks | .panic _ => 0)
        (match push App.sem tc b base with
         | .ok tc' => chgHighAll tc' bs (base + b.length)
         | .panic _ => 0) := rfl

/-- **Changeset bound, whole run.**  For EVERY sequence of pushed byte strings the high-water mark
of the changeset length over all packets of all pushes is at most `CHG_MAX`. -/
theorem chg_high_water_bounded (cfg : App.Cfg) (pushes : List Bytes) (hs : ScriptOk cfg)
    (hl : ScriptLenOk cfg) : chgHighAll (App.init cfg) pushes 0 ≤ CHG_MAX :=
  chgHighAll_le pushes (App.init cfg) 0 (init_inv2 cfg hs hl)

/-- `retained` (which omits the `FilterChangeset`) plus `hw` entries of the changeset `Vec`:
`hw` is to be read as the high-water mark of its length.  One unit of `t.length` / `hw` stands for
one table slot / one queued `FilterChange`; buffer and bitset contributions are bytes, as in
`retained`.  The `Vec`'s CAPACITY is within the allocator's growth policy of the high-water mark
of its length; that policy is outside the model. -/
def retained' (t : Tab App.Handler) (hw : Nat) : Nat := retained t + hw

theorem retained'_eq (t : Tab App.Handler) (hw : Nat) :
    retained' t hw = t.length + (t.map slotBytes).sum + hw := rfl

/-- **C19 (c'), with the changeset.**  For every configuration whose recorder scripts name only
13-bit PIDs and queue at most `CHG_MAX` changes per packet, and EVERY sequence of pushed byte
strings: if the run completes in `(t, c)`, the measure `retained'` taken with the changeset
high-water mark of the whole run is at most `RETAINED_MAX + CHG_MAX`, independent of the input. -/
theorem retained'_bounded (cfg : App.Cfg) (pushes : List Bytes) (t : Tab App.Handler) (c : App.Ctx)
    (hs : ScriptOk cfg) (hl : ScriptLenOk cfg) (h : App.runApp cfg pushes = .ok (t, c)) :
    retained' t (chgHighAll (App.init cfg) pushes 0) ≤ RETAINED_MAX + CHG_MAX
      ∧ RETAINED_MAX + CHG_MAX = 25175028 := by
  have h1 := (retained_bounded cfg pushes t c hs h).2
  have h2 := chg_high_water_bounded cfg pushes hs hl
  refine ⟨?_, by decide⟩
  unfold retained'
  omega

/-! ## 4. steady state performs no allocation-relevant operation -/

theorem quiescent_step (s : Psi.St) (v : Nat) (p : Bytes) (hp : p.length = 188)
    (hq : s.lastVersion = some v ∧ s.remaining = none) (hr : RepeatPkt v p) :
    ∃ s', Psi.consume Psi.table s p = .ok (s', []) ∧ s'.buf = s.buf ∧ s'.remaining = s.remaining
      ∧ s'.lastVersion = s.lastVersion :=
  Lemmas.C19.quiescent_step s v p hp hq hr

theorem quiescent_step_spec (s : Psi.St) (v : Nat) (q : Lemmas.C03.Pl)
    (hq : s.lastVersion = some v ∧ s.remaining = none) (hr : RepeatPayload v q) :
    (Lemmas.C03.consumeSpec Psi.table s q.us q.bytes q.off).2 = []
      ∧ (Lemmas.C03.consumeSpec Psi.table s q.us q.bytes q.off).1.buf = s.buf
      ∧ (Lemmas.C03.consumeSpec Psi.table s q.us q.bytes q.off).1.remaining = s.remaining
      ∧ (Lemmas.C03.consumeSpec Psi.table s q.us q.bytes q.off).1.lastVersion = s.lastVersion :=
  quiescent_spec s v q hq hr

/-- `stepAllocFree` is a statement about the STATE before and after the step plus the change list,
not an operation trace: an operation that leaves these unchanged (re-writing identical bytes into
`buf`, a `FixedBitSet::with_capacity` that is dropped again) would not falsify it.  The
operation-level statement is `mayAlloc` (§5); transient allocations of the real code are observed
only by the harness's counting allocator. -/
theorem stepAllocFree_iff (tc : Tab App.Handler × App.Ctx) (pk : Pk) (tc' : Tab App.Handler × App.Ctx) :
    stepAllocFree tc pk tc' ↔
      (tc'.1.length = tc.1.length ∧ tc'.2.nextTag = tc.2.nextTag
        ∧ (∀ p, psiBuf tc'.1 p = psiBuf tc.1 p) ∧ stepChg tc pk = .ok []) := Iff.rfl

theorem repeatPkt_iff (v : Nat) (p : Bytes) :
    RepeatPkt v p ↔ ∀ q, plOf p = some q →
      (q.us = false ∨
        (byteD q.bytes 0 + 9 ≤ q.bytes.length ∧
          Lemmas.C03.hdrSyn ((q.bytes.drop 1).drop (byteD q.bytes 0)) = true ∧
          hdrLen ((q.bytes.drop 1).drop (byteD q.bytes 0)) ≤ 1021 ∧
          versionOf ((q.bytes.drop 1).drop (byteD q.bytes 0)) = v)) := Iff.rfl

theorem steadyPk_iff (t : Tab App.Handler) (pk : Pk) :
    SteadyPk t pk ↔
      (pk.bytes.length = 188 ∧ t.contains pk.pid = true ∧
        ∀ h s, t.get pk.pid = some h → psiOf h = some s →
          ∃ v, (s.lastVersion = some v ∧ s.remaining = none) ∧ RepeatPkt v pk.bytes) := Iff.rfl

theorem steady_step_alloc_free (t : Tab App.Handler) (c : App.Ctx) (pk : Pk)
    (tc' : Tab App.Handler × App.Ctx) (hsc : c.cfg.script = []) (hst : SteadyPk t pk)
    (h : specStep App.sem (t, c) pk = .ok tc') :
    stepAllocFree (t, c) pk tc' ∧ (∀ p, slotKey tc'.1 p = slotKey t p) ∧ tc'.2.cfg = c.cfg :=
  steady_step t c pk tc' hsc hst h

/-- steady state is a property of the slots' keys only, hence preserved by steady steps -/
theorem steady_preserved (t t' : Tab App.Handler) (pks : List Pk)
    (h : ∀ p, slotKey t' p = slotKey t p) (hs : Steady t pks) : Steady t' pks :=
  fun pk hpk => steadyPk_congr t t' pk h (hs pk hpk)

/-- **C19 (d).** Steady state (every packet's PID has a handler; every packet routed to a PAT/PMT
handler is a repetition packet for a quiescent handler; no recorder script): over a whole `push`
every step is `stepAllocFree` — same table length, `nextTag` unchanged (no handler constructed), every
slot's PSI buffer contents and `Buffering` state unchanged, change list `[]` — and the table is again
in the same steady state (`slotKey`).  This is a state-shape equality, see `stepAllocFree_iff`; that
no step even REACHES an allocating operation of the model is `steady_state_no_mayAlloc` (§5).
PARTIAL: `Steady` is a state-level hypothesis, not "tables are stable, any packetisation"; see
`steady_state_no_alloc_partial` and §7 (`C19_steady_full_false`, known finding F14). -/
theorem steady_state_no_alloc (t : Tab App.Handler) (c : App.Ctx) (buf : Bytes) (base : Nat)
    (pks : List Pk) (tcf : Tab App.Handler × App.Ctx) (hsc : c.cfg.script = [])
    (hf : frame buf base = .ok pks) (hst : Steady t pks)
    (h : push App.sem (t, c) buf base = .ok tcf) :
    runAllocFree (t, c) pks ∧ tcf.1.length = t.length ∧ tcf.2.nextTag = c.nextTag
      ∧ (∀ p, psiBuf tcf.1 p = psiBuf t p) ∧ (∀ p, slotKey tcf.1 p = slotKey t p)
      ∧ Steady tcf.1 pks ∧ tcf.2.cfg.script = [] := by
  unfold push at h
  rw [hf] at h
  have h : pushModel App.sem (t, c) pks = .ok tcf := h
  rw [C06.push_refines_spec] at h
  obtain ⟨a1, a2, a3, a4, a5⟩ := steady_run pks t c tcf hsc hst h
  refine ⟨a1, a3, a4, ?_, a2, steady_preserved t tcf.1 pks a2 hst, by rw [a5]; exact hsc⟩
  intro p; unfold psiBuf; rw [a2 p]

/-- the same over any number of successive pushes whose packets are all steady for `t` -/
theorem steady_state_all_pushes : ∀ (bufs : List Bytes) (t : Tab App.Handler) (c : App.Ctx)
    (base : Nat) (tcf : Tab App.Handler × App.Ctx), c.cfg.script = [] →
    (∀ b ∈ bufs, ∀ bs pks, frame b bs = .ok pks → Steady t pks) →
    pushAll App.sem (t, c) bufs base = .ok tcf →
    tcf.1.length = t.length ∧ tcf.2.nextTag = c.nextTag ∧ (∀ p, slotKey tcf.1 p = slotKey t p)
      ∧ (∀ p, psiBuf tcf.1 p = psiBuf t p) := by
  intro bufs
  induction bufs with
  | nil =>
    intro t c base tcf _ _ h
    have := R.ok_inj h
    subst this
    exact ⟨rfl, rfl, fun _ => rfl, fun _ => rfl⟩
  | cons b bs ih =>
    intro t c base tcf hsc hst h
    unfold pushAll at h
    obtain ⟨tc1, h1, h⟩ := R.bind_eq_ok h
    obtain ⟨pks, hf⟩ : ∃ pks, frame b base = .ok pks := ⟨_, frame_eq_pure b base⟩
    obtain ⟨_, a2, a3, _, a5, _, a7⟩ :=
      steady_state_no_alloc t c b base pks tc1 hsc hf (hst b List.mem_cons_self _ _ hf) h1
    obtain ⟨t1, c1⟩ := tc1
    have hst1 : ∀ b' ∈ bs, ∀ bs' pks', frame b' bs' = .ok pks' → Steady t1 pks' :=
      fun b' hb' bs' pks' hf' =>
        steady_preserved t t1 pks' a5 (hst b' (List.mem_cons_of_mem _ hb') bs' pks' hf')
    obtain ⟨b1, b2, b3, _⟩ := ih t1 c1 _ tcf a7 hst1 h
    refine ⟨by rw [b1]; exact a2, by rw [b2]; exact a3, fun p => by rw [b3 p]; exact a5 p, ?_⟩
    intro p; unfold psiBuf; rw [b3 p, a5 p]

/-! ## 5. operation level: no step of a steady push reaches an allocating operation

`mayAlloc tc pk : Bool` is a function of the INPUTS of a dispatcher step (table, context, packet),
not of its result.  It over-approximates "the step executes one of the model's operations behind
which the Rust code allocates":
(i) `add_pid_filter` (`construct` + `Filters::insert`) — the PID has no handler;
(ii) a recorder with a script entry for this packet (queues changes; harness only);
(iii) bytes reach the buffer layer of a PAT/PMT section consumer: continuation bytes while it is
`Buffering` (`extend_from_slice`), or a section start that passes the processor and dedup layers
(`start_*_section`: in-place delivery, or `clear` + `extend_from_slice`);
(iv) a whole section is delivered to `PatProcessor/PmtProcessor::section`
(`FixedBitSet::with_capacity`, `construct`, `FilterChangeset::insert/remove`) — every delivery
passes through (iii), so (iii) covers it.
`mayAlloc_false_step` says what `mayAlloc = false` means in the model; `steady_state_no_mayAlloc`
that it is `false` on every step of a steady push. -/

theorem mayAlloc_eq (t : Tab App.Handler) (c : App.Ctx) (pk : Pk) :
    mayAlloc (t, c) pk =
      (!t.contains pk.pid ||
        (!pk.flagged &&
          match t.get pk.pid with
          | some (.pat s _) => psiMayAlloc s pk.bytes
          | some (.pmt _ _ s _) => psiMayAlloc s pk.bytes
          | some (.pes _ _) => false
          | some (.recorder _) => (c.cfg.script.lookup (pk.off / 188)).isSome
          | none => false)) := by
  unfold mayAlloc
  cases hg : t.get pk.pid with
  | none => rfl
  | some h => cases h <;> rfl

theorem psiMayAlloc_eq (s : Psi.St) (p : Bytes) :
    psiMayAlloc s p = (match plOf p with | none => false | some q => psiTouches s q) := rfl

theorem contReaches_eq (s : Psi.St) :
    contReaches s = (!s.ignoreRest && !s.dedupIgnore && s.remaining.isSome) := rfl

theorem psiTouches_eq (s : Psi.St) (q : Lemmas.C03.Pl) :
    psiTouches s q =
      (if q.us then
        if 0 < byteD q.bytes 0 ∧ (q.bytes.drop 1).length ≤ byteD q.bytes 0 then false
        else
          (decide (0 < byteD q.bytes 0) && contReaches s)
          || (decide (3 ≤ ((q.bytes.drop 1).drop (byteD q.bytes 0)).length)
              && startOk Psi.table ((q.bytes.drop 1).drop (byteD q.bytes 0))
              && (s.lastVersion != some (versionOf ((q.bytes.drop 1).drop (byteD q.bytes 0)))))
      else contReaches s) := rfl

theorem psiQuiet_iff (s s' : Psi.St) :
    PsiQuiet s s' ↔
      ((s'.buf = s.buf ∧ s'.remaining = s.remaining ∧ s'.lastVersion = s.lastVersion)
        ∨ (s'.buf = [] ∧ s'.remaining = none ∧ s'.lastVersion = none)) := Iff.rfl

/-- `psiMayAlloc = false` for a PAT/PMT section consumer: `consume` does not panic and delivers NO
section — so `PatProcessor/PmtProcessor::section`, the only place where a `FixedBitSet` is built,
handlers are constructed and changes are queued, is not called — and the consumer is `PsiQuiet`:
unchanged, or reset (`Vec::clear`) -/
theorem psiMayAlloc_false_consume (s : Psi.St) (p : Bytes) (hs : PsiInv .syntax s)
    (hp : p.length = 188) (h : psiMayAlloc s p = false) :
    ∃ s', Psi.consume Psi.table s p = .ok (s', []) ∧ PsiQuiet s s' :=
  psi_quiet_consume s p hs hp h

theorem stepQuiet_iff (tc : Tab App.Handler × App.Ctx) (pk : Pk) (tc' : Tab App.Handler × App.Ctx) :
    StepQuiet tc pk tc' ↔
      (tc.1.contains pk.pid = true ∧ stepChg tc pk = .ok [] ∧ tc'.2.nextTag = tc.2.nextTag
        ∧ tc'.2.cfg = tc.2.cfg ∧ tc'.1.length = tc.1.length
        ∧ ((pk.flagged = true ∧ tc' = tc) ∨
           (pk.flagged = false ∧ ∃ h h', tc.1.get pk.pid = some h ∧ tc'.1 = tc.1.insert pk.pid h'
              ∧ HandlerQuiet pk h h'))) := Iff.rfl

theorem handlerQuiet_iff (pk : Pk) (h h' : App.Handler) :
    HandlerQuiet pk h h' ↔
      (match h with
       | .pat s reg =>
         ∃ s', h' = .pat s' reg ∧ Psi.consume Psi.table s pk.bytes = .ok (s', []) ∧ PsiQuiet s s'
       | .pmt pid prog s reg =>
         ∃ s', h' = .pmt pid prog s' reg ∧ Psi.consume Psi.table s pk.bytes = .ok (s', [])
           ∧ PsiQuiet s s'
       | .pes tag _ => ∃ f', h' = .pes tag f'
       | .recorder tag => h' = .recorder tag) := by
  cases h <;> exact Iff.rfl

/-- **Meaning of `mayAlloc = false`.**  From a `Bounded` table, on a 188-byte packet, a successful
step with `mayAlloc = false`: the PID already had a handler (no `construct`, no table growth);
the change list is `[]`; no tag was handed out; a flagged packet leaves the state untouched;
otherwise only the slot of `pk.pid` is rewritten, with a handler of the same kind and parameters
whose section consumer (PAT/PMT) delivered no section and is `PsiQuiet`. -/
theorem mayAlloc_false_step (t : Tab App.Handler) (c : App.Ctx) (pk : Pk)
    (tc' : Tab App.Handler × App.Ctx) (hb : Bounded t) (hlen : pk.bytes.length = 188)
    (hm : mayAlloc (t, c) pk = false) (h : specStep App.sem (t, c) pk = .ok tc') :
    StepQuiet (t, c) pk tc' :=
  Lemmas.C19.mayAlloc_false_step t c pk tc' hb hlen hm h

theorem runMayAlloc_nil (tc : Tab App.Handler × App.Ctx) : runMayAlloc tc [] = false := rfl

theorem runMayAlloc_cons (tc : Tab App.Handler × App.Ctx) (pk : Pk) (rest : List Pk) :
    runMayAlloc tc (pk :: rest) =
      (mayAlloc tc pk ||
        (match specStep App.sem tc pk with
         | .ok tc' => runMayAlloc tc' rest
         | .panic _ => false)) := rfl

theorem steady_step_no_mayAlloc (t : Tab App.Handler) (c : App.Ctx) (pk : Pk)
    (hsc : c.cfg.script = []) (hst : SteadyPk t pk) : mayAlloc (t, c) pk = false :=
  steady_mayAlloc_false t c pk hsc hst

/-- **C19 (d), operation level.**  Steady state as in `steady_state_no_alloc`: NO step has `mayAlloc`
— no step constructs a handler, is a scripted recorder, hands bytes to a `Buffering` buffer, lets a
section start through to the buffer layer, or delivers a section to a table processor.  `mayAlloc` is
a predicate on the model's operations; that the Rust code allocates nowhere else is the harness's
observation, not a theorem. -/
theorem steady_state_no_mayAlloc (t : Tab App.Handler) (c : App.Ctx) (buf : Bytes) (base : Nat)
    (pks : List Pk) (hsc : c.cfg.script = []) (_hf : frame buf base = .ok pks)
    (hst : Steady t pks) : runMayAlloc (t, c) pks = false :=
  steady_run_mayAlloc_false pks t c hsc hst

/-! ## 6. the definitions a reader has to trust, restated

Each predicate of `Ts/Lemmas/C19*.lean` used above is restated as a plain statement (`*_iff`, `*_eq`). -/

theorem slotBytes_eq :
    slotBytes none = 0
    ∧ (∀ s reg, slotBytes (some (.pat s reg)) = s.buf.length + 2 * 1024)
    ∧ (∀ pid prog s reg, slotBytes (some (.pmt pid prog s reg)) = s.buf.length + 2 * 1024)
    ∧ (∀ tag f, slotBytes (some (.pes tag f)) = 0)
    ∧ (∀ tag, slotBytes (some (.recorder tag)) = 0) :=
  ⟨rfl, fun _ _ => rfl, fun _ _ _ _ => rfl, fun _ _ => rfl, fun _ => rfl⟩

theorem retained_eq (t : Tab App.Handler) : retained t = t.length + (t.map slotBytes).sum := rfl

theorem steady_iff (t : Tab App.Handler) (pks : List Pk) :
    Steady t pks ↔ ∀ pk ∈ pks, SteadyPk t pk := Iff.rfl

theorem quiescent_iff (s : Psi.St) (v : Nat) :
    Quiescent s v ↔ (s.lastVersion = some v ∧ s.remaining = none) := Iff.rfl

theorem versionOf_eq (ns : Bytes) : versionOf ns = (byteD ns 5 >>> 1) &&& 0b0001_1111 := rfl

theorem startedHere_iff (cfg : Psi.Cfg) (pk : Bytes) (off : Nat) (d : Psi.Delivery) :
    StartedHere cfg pk off d ↔
      (startOk cfg ((pk.drop 1).drop (byteD pk 0)) = true
        ∧ 3 + hdrLen ((pk.drop 1).drop (byteD pk 0)) ≤ ((pk.drop 1).drop (byteD pk 0)).length
        ∧ d = ⟨((pk.drop 1).drop (byteD pk 0)).take (3 + hdrLen ((pk.drop 1).drop (byteD pk 0))),
               some (off + 1 + byteD pk 0)⟩) := Iff.rfl

theorem completedBy_iff (s : Psi.St) (data : Bytes) (d : Psi.Delivery) :
    CompletedBy s data d ↔
      ∃ n, s.remaining = some n ∧ n ≤ data.length ∧ d = ⟨s.buf ++ data.take n, none⟩ := Iff.rfl

theorem contBytes_eq (us : Bool) (pk : Bytes) :
    contBytes us pk = if us then (pk.drop 1).take (byteD pk 0) else pk := rfl

theorem evRange_eq :
    (∀ t bi, evRange (.esBegin t bi) = bi.pl) ∧ (∀ t off len, evRange (.esCont t off len) = some (off, len))
    ∧ (∀ t, evRange (.esStart t) = none) ∧ (∀ t, evRange (.esEnd t) = none)
    ∧ (∀ t, evRange (.esCcErr t) = none) :=
  ⟨fun _ _ => rfl, fun _ _ _ => rfl, fun _ => rfl, fun _ => rfl, fun _ => rfl⟩

theorem slotKey_eq (t : Tab App.Handler) (p : Nat) :
    slotKey t p = (t.get p).map fun h => (psiOf h).map fun s => (s.buf, s.remaining, s.lastVersion) := rfl

theorem psiBuf_eq (t : Tab App.Handler) (p : Nat) :
    psiBuf t p = (t.get p).map fun h => (psiOf h).map fun s => (s.buf, s.remaining) := by
  unfold psiBuf slotKey psiKey
  cases t.get p with
  | none => rfl
  | some h =>
    cases hp : psiOf h with
    | none => simp [hp]
    | some s => simp [hp]

theorem psiOf_eq :
    (∀ s reg, psiOf (.pat s reg) = some s) ∧ (∀ pid prog s reg, psiOf (.pmt pid prog s reg) = some s)
    ∧ (∀ tag f, psiOf (.pes tag f) = none) ∧ (∀ tag, psiOf (.recorder tag) = none) :=
  ⟨fun _ _ => rfl, fun _ _ _ _ => rfl, fun _ _ => rfl, fun _ => rfl⟩

theorem runAllocFree_nil (tc : Tab App.Handler × App.Ctx) : runAllocFree tc [] ↔ True := Iff.rfl

theorem runAllocFree_cons (tc : Tab App.Handler × App.Ctx) (pk : Pk) (rest : List Pk) :
    runAllocFree tc (pk :: rest) ↔
      ∃ tc', specStep App.sem tc pk = .ok tc' ∧ stepAllocFree tc pk tc' ∧ runAllocFree tc' rest :=
  Iff.rfl

/-! ### relation to the C10 vocabulary

C10 (`Ts/Lemmas/C10.lean`, `Ts/Props/C10.lean`) states its repetition hypotheses through the
specification of a section transmission; C19's `RepeatPkt` only constrains the bytes the dedup
layer reads.  The two `Quiescent` are the same predicate (argument order swapped), the two
`versionOf` the same number, and every C10 repetition packet is a C19 repetition packet — so the
steady-state theorems above apply to all traffic C10 speaks about.  (The converse fails in
general: `RepeatPkt` does not ask for a complete well-formed transmission.) -/

theorem quiescent_iff_c10 (s : Psi.St) (v : Nat) : Quiescent s v ↔ Lemmas.C10.Quiescent v s :=
  Iff.rfl

theorem versionOf_eq_c10 (ns : Bytes) : versionOf ns = Lemmas.C10.versionOf ns :=
  Lemmas.C19.versionOf_eq_c10 ns

theorem repeatPkt_of_c10 (v : Nat) (p : Bytes) (h : Lemmas.C10.RepPacket v p) : RepeatPkt v p :=
  Lemmas.C19.repeatPkt_of_c10 v p h

theorem steadyPk_of_c10 (t : Tab App.Handler) (pk : Pk) (v : Nat) (h : App.Handler)
    (hg : t.get pk.pid = some h) (hq : Lemmas.C10.QuiescentH v h)
    (hp : Lemmas.C10.RepPacket v pk.bytes) : SteadyPk t pk :=
  Lemmas.C19.steadyPk_of_c10 t pk v h hg hq hp

/-! ## non-vacuity -/

example : ScriptOk {} := by intro k ops h; cases h

example : Bounded (App.init {}).1 := bounded_init {} (by intro k ops h; cases h)

example : retained (App.init {}).1 = 1 + 2 * 1024 := by decide

example : ∃ tc', specStep App.sem (steadyTab, { cfg := {} }) patPk = .ok tc'
    ∧ stepAllocFree (steadyTab, { cfg := {} }) patPk tc' := by
  obtain ⟨s', hs'⟩ := pat_quiescent_specStep steadyTab { cfg := {} } patPk { lastVersion := some 0 }
    [0x1e0] 0 rfl rfl patPkt_len ⟨rfl, rfl⟩ patPkt_repeat
  exact ⟨_, hs', (steady_step_alloc_free steadyTab _ patPk _ rfl steadyTab_steady hs').1⟩

/-- the same packet on a FRESH PAT filter is delivered in place: 16 bytes at packet offset 5 -/
theorem patPkt_in_place : ∃ s' ds d, Psi.consume Psi.table {} patPkt = .ok (s', ds) ∧ d ∈ ds
    ∧ d.inplace = some 5 ∧ d.bytes = (patPkt.drop 5).take 16 ∧ d.bytes.length = 16 := by
  obtain ⟨s', ds, d, h1, h2, h3, h4, h5⟩ :=
    section_fitting_first_packet_delivered_in_place Psi.table cfgOk_table {}
      (Lemmas.C03.psiInv_of_none _ _ rfl) patPkt patPkt_len _ patPkt_plOf rfl
      (by decide +kernel) (by decide +kernel) (by intro _; decide)
  have e : hdrLen (patPkt.drop 5) = 13 := by decide +kernel
  have e0 : byteD (patPkt.drop 4) 0 = 0 := by decide +kernel
  simp only [e0, Nat.add_zero] at h3 h4 h5
  rw [e] at h4 h5
  exact ⟨s', ds, d, h1, h2, h3, h4, h5⟩

example : ∃ s' ds d, Psi.consume Psi.table {} patPkt = .ok (s', ds) ∧ d ∈ ds
    ∧ d.inplace = some 5 ∧ d.bytes = (patPkt.drop 5).take 16 ∧ d.bytes.length = 16 := patPkt_in_place

set_option maxRecDepth 20000 in
/-- a PES packet (unit start, PES header `00 00 01 e0 00 00`, parsed contents `80 00 00`) at global
offset 376: `begin_packet` exposes the payload range (389, 175) — inside the packet, ending at
its last byte -/
example : ∃ h' c' bi, App.consume (.pes 7 {}) { cfg := {} } pesPk = .ok (h', c', [])
    ∧ c'.trace = [.esBegin 7 bi, .esStart 7] ∧ bi.pl = some (389, 175) :=
  ⟨_, _, _, rfl, rfl, rfl⟩

example : EvInPacket 7 376 (.esCont 7 380 184) := ⟨rfl, by omega, by omega, by omega⟩

/-- The script hypothesis of `retained_bounded` is necessary (it concerns test-harness input, not
stream bytes): a recorder scripted to insert a handler for the non-PID 9000 grows the table to
9001 slots. -/
theorem script_hypothesis_needed :
    ∃ cfg pushes t c, App.runApp cfg pushes = .ok (t, c) ∧ ¬ Bounded t := by
  obtain ⟨⟨t, c⟩, h1, h2⟩ := Lemmas.C19d.chk_ok (App.runApp { script := [(0, [.ins 9000])] } [pid5Pkt])
    (fun tc => tc.1.length == 9001) (by decide +kernel)
  refine ⟨_, _, t, c, h1, fun h => ?_⟩
  have h3 : t.length ≤ 8192 := h.1
  have h4 : t.length = 9001 := beq_iff_eq.1 h2
  omega


/-! ### in-place section in the pushed buffer -/

set_option maxRecDepth 20000 in
/-- `twoPkBuf` (a PID-5 packet, the PAT packet, 3 stray bytes) pushed after 1880 earlier bytes
frames into two packets at global offsets 1880 and 2068 -/
theorem twoPkBuf_frame : frame twoPkBuf 1880 =
    .ok [⟨pid5Pkt, 1880, 5, false, false⟩, ⟨patPkt, 2068, 0, false, false⟩] := rfl

/-- `section_in_pushed_buffer` applies: the PAT packet is the second packet of the push; a fresh
PAT filter delivers its 16-byte section in place at packet offset 5, and the delivered bytes are
the window `[193, 209)` of the caller's buffer (global range `[2073, 2089)`, inside
`[1880, 1880 + 379)`) -/
example : ∃ s' ds d, Psi.consume Psi.table {} patPkt = .ok (s', ds) ∧ d ∈ ds
    ∧ d.inplace = some 5 ∧ d.bytes.length = 16
    ∧ d.bytes = (twoPkBuf.drop (188 * 1 + 5)).take 16
    ∧ 1880 ≤ 2068 + 5 ∧ 2068 + 5 + 16 ≤ 1880 + twoPkBuf.length := by
  obtain ⟨s', ds, d, h1, h2, h3, _, h5⟩ := patPkt_in_place
  obtain ⟨k, k1, _, _, _, k5, k6, _, k8⟩ :=
    section_in_pushed_buffer twoPkBuf 1880 _ twoPkBuf_frame ⟨patPkt, 2068, 0, false, false⟩
      (by simp) Psi.table cfgOk_table {} (Lemmas.C03.psiInv_of_none _ _ rfl) s' ds h1 d h2 5 h3
  have hk : k = 1 := by
    have : (2068 : Nat) = 1880 + 188 * k := k1
    omega
  subst hk
  rw [h5] at k6 k8
  exact ⟨s', ds, d, h1, h2, h3, h5, k8, k5, k6⟩

/-! ### non-vacuity: a concrete run reaching steady state

`nvSetup` = PAT (program 1 → PMT PID 0x1e0) + PMT (video PID 0x21, audio PID 0x22) + start of a PES
packet on PID 0x21 (valid CRCs, default configuration).  `nvSteady` = PES continuation on 0x21 +
PAT repetition + PMT repetition + start of the next PES packet on 0x21, all in ONE push. -/

def nvSetupPks : List Pk :=
  [⟨nvPat 0, 0, 0, false, false⟩, ⟨nvPmt 0, 188, 0x1e0, false, false⟩,
   ⟨nvEsStart 0 0x11, 376, 0x21, false, false⟩]

def nvCheck : Bool :=
  Lemmas.C19d.chk (App.runApp {} [nvSetup]) fun tc =>
  Lemmas.C19d.chk (frame nvSetup 0) fun pks0 =>
  Lemmas.C19d.chk (frame nvSteady 564) fun pks =>
  Lemmas.C19d.chk (push App.sem tc nvSteady 564) fun tcf =>
  Lemmas.C19d.chk (pushAll App.sem tc [nvSteady, nvSteady, nvSteady] 564) fun _ =>
    tc.2.cfg.script.isEmpty && steadyB tc.1 pks
    && pks.map (·.pid) == [0x21, 0, 0x1e0, 0x21]
    && (tc.1.get 0).map handlerKind == some 0
    && (tc.1.get 0x1e0).map handlerKind == some 1
    && (tc.1.get 0x21).map handlerKind == some 2
    && retained tcf.1 == 0x1e1 + 2 * (2 * 1024)
    && pks0 == nvSetupPks
    && runMayAlloc (App.init {}) pks0
    && !steadyB (App.init {}).1 pks0

theorem nvCheck_true : nvCheck = true := by eval_app [nvCheck]

/-- the PMT of the first push queues two inserts -/
theorem nvSetup_chgHigh : chgHigh (App.init {}) nvSetupPks = 2 := by
  rw [nvSetupPks]
  simp only [chgHigh_cons, chgHigh_nil, stepChg_eq]
  eval_app

theorem nvSetup_length : nvSetup.length = 564 := by decide +kernel

/-- **The steady-state theorems are not vacuous.**  After the push `nvSetup` (state `(t, c)`: PAT
handler in slot 0, PMT handler in slot 0x1e0, PES handler in slot 0x21), the push `nvSteady` frames
into four packets on PIDs `0x21, 0, 0x1e0, 0x21` — a PES continuation, a PAT repetition, a PMT
repetition and a PES packet start in the same push — which satisfy `Steady t pks`; the push
succeeds; hence (by `steady_state_no_alloc`, `steady_state_no_mayAlloc`, `steady_state_all_pushes`,
`retained_bounded`, `retained'_bounded`) the listed conclusions hold for it.  By contrast the
first push is not steady and has `mayAlloc` steps, and the two-push run has changeset high-water
mark 2 (the PMT queues two inserts). -/
theorem steady_state_instance :
    ∃ t c pks0 pks tcf tcf3,
      App.runApp {} [nvSetup] = .ok (t, c)
      ∧ frame nvSteady 564 = .ok pks
      ∧ pks.map (·.pid) = [0x21, 0, 0x1e0, 0x21]
      ∧ (t.get 0).map handlerKind = some 0 ∧ (t.get 0x1e0).map handlerKind = some 1
      ∧ (t.get 0x21).map handlerKind = some 2
      -- the hypotheses of `steady_state_no_alloc`
      ∧ c.cfg.script = [] ∧ Steady t pks
      ∧ push App.sem (t, c) nvSteady 564 = .ok tcf
      -- its conclusion
      ∧ runAllocFree (t, c) pks ∧ tcf.1.length = t.length ∧ tcf.2.nextTag = c.nextTag
      ∧ (∀ p, psiBuf tcf.1 p = psiBuf t p) ∧ (∀ p, slotKey tcf.1 p = slotKey t p)
      ∧ Steady tcf.1 pks
      -- `steady_state_no_mayAlloc`
      ∧ runMayAlloc (t, c) pks = false
      -- `steady_state_all_pushes` on three further steady pushes
      ∧ pushAll App.sem (t, c) [nvSteady, nvSteady, nvSteady] 564 = .ok tcf3
      ∧ tcf3.1.length = t.length ∧ tcf3.2.nextTag = c.nextTag
      ∧ (∀ p, slotKey tcf3.1 p = slotKey t p) ∧ (∀ p, psiBuf tcf3.1 p = psiBuf t p)
      -- `retained_bounded` / `retained'_bounded` on the two-push run
      ∧ App.runApp {} [nvSetup, nvSteady] = .ok tcf
      ∧ Bounded tcf.1 ∧ retained tcf.1 ≤ RETAINED_MAX ∧ retained tcf.1 = 0x1e1 + 2 * (2 * 1024)
      ∧ chgHighAll (App.init {}) [nvSetup, nvSteady] 0 = 2
      ∧ retained' tcf.1 (chgHighAll (App.init {}) [nvSetup, nvSteady] 0) ≤ RETAINED_MAX + CHG_MAX
      -- the predicates discriminate: the first push is not steady and has `mayAlloc` steps
      ∧ frame nvSetup 0 = .ok pks0 ∧ runMayAlloc (App.init {}) pks0 = true
      ∧ steadyB (App.init {}).1 pks0 = false := by
  obtain ⟨⟨t, c⟩, h1, h⟩ := Lemmas.C19d.chk_ok _ _ nvCheck_true
  obtain ⟨pks0, h0, h⟩ := Lemmas.C19d.chk_ok _ _ h
  obtain ⟨pks, h2, h⟩ := Lemmas.C19d.chk_ok _ _ h
  obtain ⟨tcf, h3, h⟩ := Lemmas.C19d.chk_ok _ _ h
  obtain ⟨tcf3, h4, h⟩ := Lemmas.C19d.chk_ok _ _ h
  simp only [Bool.and_eq_true, beq_iff_eq, List.isEmpty_iff, Bool.not_eq_true'] at h
  obtain ⟨⟨⟨⟨⟨⟨⟨⟨⟨b1, b2⟩, b3⟩, b4⟩, b5⟩, b6⟩, b7⟩, b8⟩, b9⟩, b10⟩ := h
  have hst := steadyB_sound t pks b2
  obtain ⟨a1, a2, a3, a4, a5, a6, _⟩ := steady_state_no_alloc t c nvSteady 564 pks tcf b1 h2 hst h3
  have hma := steady_state_no_mayAlloc t c nvSteady 564 pks b1 h2 hst
  have hall : ∀ b ∈ [nvSteady, nvSteady, nvSteady], ∀ bs pks', frame b bs = .ok pks' → Steady t pks' := by
    intro b hb bs pks' hf
    have : b = nvSteady := by simpa using hb
    subst this
    exact steady_of_frame_base t nvSteady 564 pks h2 hst bs pks' hf
  obtain ⟨c1, c2, c3, c4⟩ := steady_state_all_pushes _ t c 564 tcf3 b1 hall h4
  have h1' : push App.sem (App.init {}) nvSetup 0 = .ok (t, c) := by
    rw [← Props.C07.pushAll_single, ← App.runApp]
    exact h1
  have hrun : App.runApp {} [nvSetup, nvSteady] = .ok tcf :=
    Lemmas.C19d.runApp_snoc {} [nvSetup] nvSteady 564 _ _ h1
      (by rw [List.map, List.map, List.sum_cons, List.sum_nil, nvSetup_length, Nat.add_zero]) h3 rfl
  -- the steady push queues nothing, so the high-water mark is that of the first push
  have hchg : chgHighAll (App.init {}) [nvSetup, nvSteady] 0 = 2 := by
    subst b8
    have e1 : chgHighPush (App.init {}) nvSetup 0 = 2 := by
      rw [chgHighPush, h0]; exact nvSetup_chgHigh
    have e2 : chgHighPush (t, c) nvSteady 564 = 0 := by
      rw [chgHighPush, h2]; exact Lemmas.C19.chgHigh_of_allocFree _ _ a1
    rw [chgHighAll, e1, h1']
    show max 2 (chgHighAll (t, c) [nvSteady] (0 + nvSetup.length)) = 2
    rw [chgHighAll, Nat.zero_add, nvSetup_length, e2, h3]
    rfl
  have hs0 : ScriptOk ({} : App.Cfg) := by intro k ops hm; cases hm
  have hl0 : ScriptLenOk ({} : App.Cfg) := by intro k ops hm; cases hm
  obtain ⟨d1, d2⟩ := retained_bounded {} _ tcf.1 tcf.2 hs0 hrun
  have d3 := (retained'_bounded {} _ tcf.1 tcf.2 hs0 hl0 hrun).1
  exact ⟨t, c, pks0, pks, tcf, tcf3, h1, h2, b3, b4, b5, b6, b1, hst, h3, a1, a2, a3, a4, a5, a6,
    hma, h4, c1, c2, c3, c4, hrun, d1, d2, b7, hchg, d3, h0, b9, b10⟩

/-! ### further instances -/

/-- `section_fitting_first_packet_in_pushed_buffer` applies to the same packet -/
example : ∃ s' ds d k, Psi.consume Psi.table {} patPkt = .ok (s', ds) ∧ d ∈ ds
    ∧ (2068 : Nat) = 1880 + 188 * k ∧ d.inplace = some (4 + 1 + byteD (patPkt.drop 4) 0)
    ∧ d.bytes = (twoPkBuf.drop (188 * k + (4 + 1 + byteD (patPkt.drop 4) 0))).take d.bytes.length := by
  obtain ⟨s', ds, d, k, h1, h2, h3, h4, _, _, h7⟩ :=
    section_fitting_first_packet_in_pushed_buffer twoPkBuf 1880 _ twoPkBuf_frame
      ⟨patPkt, 2068, 0, false, false⟩ (by simp) Psi.table cfgOk_table {}
      (Lemmas.C03.psiInv_of_none _ _ rfl) _ patPkt_plOf rfl
      (by decide +kernel) (by decide +kernel) (by intro _; decide)
  exact ⟨s', ds, d, k, h1, h2, h3, h4, h7⟩

/-- `changes_per_step_bounded` applies to the first PAT packet from the initial state (all four
invariants hold there); that step queues exactly one change (the PMT handler for PID 0x1e0) -/
example : ∃ chg, stepChg (App.init {}) patPk = .ok chg ∧ chg.length = 1 ∧ chg.length ≤ CHG_MAX := by
  have hs0 : ScriptOk ({} : App.Cfg) := by intro k ops hm; cases hm
  have hl0 : ScriptLenOk ({} : App.Cfg) := by intro k ops hm; cases hm
  obtain ⟨chg, h1, h2⟩ := Lemmas.C19d.chk_ok (stepChg (App.init {}) patPk) (fun chg => chg.length == 1)
    (by eval_app [stepChg])
  have hi := init_inv2 {} hs0 hl0
  exact ⟨chg, h1, by simpa using h2,
    changes_per_step_bounded (App.init {}).1 (App.init {}).2 patPk chg hi.1.1 hi.2.1 hi.1.2 hi.2.2
      patPkt_len (by decide) h1⟩

theorem steadyTab_bounded : Bounded steadyTab := by
  rw [bounded_iff]
  refine ⟨by decide, ?_⟩
  intro p h hg
  have hp : p = 0 := by
    have := Tab.lt_of_get_some steadyTab p h hg
    have : steadyTab.length = 1 := rfl
    omega
  subst hp
  have e : steadyTab.get 0 = some (.pat { lastVersion := some 0 } [0x1e0]) := rfl
  rw [e] at hg
  injection hg with hg
  subst hg
  refine ⟨?_, ?_⟩
  · intro s reg e
    injection e with e1 _
    subst e1
    exact ⟨Lemmas.C03.psiInv_of_none _ _ rfl, by decide⟩
  · intro pid prog s reg e; cases e

/-- `mayAlloc_false_step` applies to the repetition step on `steadyTab`: `mayAlloc = false`, the
step succeeds, and it is `StepQuiet` -/
example : mayAlloc (steadyTab, { cfg := {} }) patPk = false
    ∧ ∃ tc', specStep App.sem (steadyTab, { cfg := {} }) patPk = .ok tc'
      ∧ StepQuiet (steadyTab, { cfg := {} }) patPk tc' := by
  have hm := steady_step_no_mayAlloc steadyTab { cfg := {} } patPk rfl steadyTab_steady
  obtain ⟨s', hs'⟩ := pat_quiescent_specStep steadyTab { cfg := {} } patPk { lastVersion := some 0 }
    [0x1e0] 0 rfl rfl patPkt_len ⟨rfl, rfl⟩ patPkt_repeat
  exact ⟨hm, _, hs', mayAlloc_false_step steadyTab _ patPk _ steadyTab_bounded patPkt_len hm hs'⟩

/-- `mayAlloc` is not trivially `false`: the same packet on a FRESH PAT handler (the initial
state) reaches the buffer layer, and a packet on an unknown PID constructs a handler -/
example : mayAlloc (App.init {}) patPk = true
    ∧ mayAlloc (App.init {}) ⟨pid5Pkt, 0, 5, false, false⟩ = true := by
  constructor <;> decide +kernel


/-! ### the reading of "fits in one transport packet"; instances with a BUFFERED delivery -/

section SplitSection
open Ts.Lemmas.C19d (patSecV0 splitPkt1 splitPkt2 splitMux splitMid split_facts split_consume)

/-- **Counter-reading of "every section … that fits in one transport packet".**  The 16-byte PAT
`patSecV0` (delivered in place when a packet carries it whole, `pat_in_place_instance`) transmitted
with `pointer_field = 170`: `splitPkt1` has room for only its first 13 bytes, `splitPkt2` carries the
last 3.  From a fresh filter — `Psi.table` as well as the raw section-syntax chain — the first packet
delivers nothing (13 bytes are COPIED into the reassembly buffer, 3 owed) and the second delivers the
section with `inplace = none`: from the filter's buffer, not as a sub-slice of the pushed buffer. -/
theorem section_split_over_two_packets_is_copied :
    patSecV0.length = 16 ∧ WellFormedSection .syntax patSecV0
    ∧ splitPkt1.length = 188 ∧ splitPkt2.length = 188
    ∧ plOf splitPkt1 = some ⟨true, splitMux.first patSecV0, 4⟩
    ∧ byteD (splitMux.first patSecV0) 0 = 170
    ∧ ((splitMux.first patSecV0).drop 1).drop 170 = patSecV0.take 13
    ∧ plOf splitPkt2 = some ⟨false, patSecV0.drop 13 ++ List.replicate 181 0xff, 4⟩
    ∧ (∃ s1 s2, Psi.consume Psi.table {} splitPkt1 = .ok (s1, [])
        ∧ s1.buf = patSecV0.take 13 ∧ s1.remaining = some 3
        ∧ Psi.consume Psi.table s1 splitPkt2 = .ok (s2, [⟨patSecV0, none⟩]))
    ∧ (∃ s1 s2, Psi.consume Psi.rawSection {} splitPkt1 = .ok (s1, [])
        ∧ s1.buf = patSecV0.take 13 ∧ s1.remaining = some 3
        ∧ Psi.consume Psi.rawSection s1 splitPkt2 = .ok (s2, [⟨patSecV0, none⟩])) := by
  obtain ⟨a1, a2, a3, a4, a5, a6, _, _⟩ := split_facts
  obtain ⟨c1, c2, c3, c4⟩ := split_consume
  exact ⟨a6, a5, a1, a2, a3, by decide +kernel, by decide +kernel, a4,
    ⟨_, _, c1, rfl, rfl, c2⟩, ⟨_, _, c3, rfl, rfl, c4⟩⟩

/-- `wellformed_in_place_iff_fits_first`, case `m.k = S.length`: PAT v0 whole in one unit-start payload
(`pointer_field = 0`) is delivered in place at packet offset `4 + 1 + 0` -/
theorem pat_in_place_instance :
    ∃ sfin d, runPl (cfgOf .syntax) {} [⟨true, (Lemmas.C10.muxOf patSecV0).first patSecV0, 4⟩]
        = .ok (sfin, [d]) ∧ d.bytes = patSecV0 ∧ d.inplace = some 5 := by
  obtain ⟨_, _, _, _, hS, _, _, hm⟩ := split_facts
  obtain ⟨sfin, d, h1, h2, h3, _⟩ := wellformed_in_place_iff_fits_first .syntax patSecV0 hS
    (Lemmas.C10.muxOf patSecV0) hm {} (Lemmas.C03.psiInv_of_none _ _ rfl) 4 [] (by simp) rfl
  rw [Lemmas.C10.preSpec_idle _ _ _ rfl] at h1
  exact ⟨sfin, d, h1, h2, h3.2 (by decide +kernel)⟩

/-- `wellformed_in_place_iff_fits_first`, case `m.k < S.length`: the SAME 16-byte section in the
well-formed packetisation `splitMux` (13 + 3) is delivered once, from the buffer -/
theorem pat_split_instance :
    ∃ sfin d, runPl (cfgOf .syntax) {}
        [⟨true, splitMux.first patSecV0, 4⟩, ⟨false, patSecV0.drop 13 ++ List.replicate 181 0xff, 4⟩]
        = .ok (sfin, [d]) ∧ d.bytes = patSecV0 ∧ d.inplace = none ∧ splitMux.k < patSecV0.length := by
  obtain ⟨_, _, _, _, hS, _, hm, _⟩ := split_facts
  obtain ⟨sfin, d, h1, h2, _, h4⟩ := wellformed_in_place_iff_fits_first .syntax patSecV0 hS
    splitMux hm {} (Lemmas.C03.psiInv_of_none _ _ rfl) 4
    [⟨false, patSecV0.drop 13 ++ List.replicate 181 0xff, 4⟩] (by simp) rfl
  rw [Lemmas.C10.preSpec_idle _ _ _ rfl] at h1
  exact ⟨sfin, d, h1, h2, h4.2 (by decide +kernel), by decide +kernel⟩

theorem splitMid_inv : PsiInv (kindOf Psi.table) splitMid := by
  intro n hn
  cases hn
  decide

/-- `buffered_iff_completed` on a delivery with `inplace = none`: the delivery of the second packet
is `CompletedBy` the state's buffer (13 bytes ≥ 3) plus the 3 owed bytes of the continuation payload -/
example : ∃ q, plOf splitPkt2 = some q
    ∧ CompletedBy splitMid (contBytes q.us q.bytes) ⟨patSecV0, none⟩ ∧ 3 ≤ splitMid.buf.length :=
  (buffered_iff_completed Psi.table cfgOk_table splitMid splitMid_inv splitPkt2 split_facts.2.1 _ _
    split_consume.2.1 ⟨patSecV0, none⟩ (List.mem_singleton.2 rfl)).1 rfl

/-- `inplace_iff_started_here` on the same delivery: it is NOT flagged in place, so it was not started
in this packet -/
example : ¬ ∃ q, plOf splitPkt2 = some q ∧ q.us = true
    ∧ StartedHere Psi.table q.bytes q.off ⟨patSecV0, none⟩ := by
  intro hx
  have := (inplace_iff_started_here Psi.table cfgOk_table splitMid splitMid_inv splitPkt2
    split_facts.2.1 _ _ split_consume.2.1 ⟨patSecV0, none⟩ (List.mem_singleton.2 rfl)).2 hx
  cases this

/-- `single_packet_section_in_place` on the same delivery takes its SECOND alternative -/
example : ∃ q, plOf splitPkt2 = some q
    ∧ CompletedBy splitMid (contBytes q.us q.bytes) ⟨patSecV0, none⟩ := by
  obtain ⟨q, hq, hcase⟩ := single_packet_section_in_place Psi.table cfgOk_table splitMid splitMid_inv
    splitPkt2 split_facts.2.1 _ _ split_consume.2.1 ⟨patSecV0, none⟩ (List.mem_singleton.2 rfl)
  rcases hcase with ⟨_, _, hin, _⟩ | ⟨hc, _⟩
  · cases hin
  · exact ⟨q, hq, hc⟩

end SplitSection

/-! ### `es_payload_in_buffer` through `frame` -/

/-- a PES packet start on PID 0x100 as `frame` produces it at global offset 376 (`pesPk` of the
examples above with the PID bits set in the header bytes): unit start, PES header `00 00 01 e0 00 00`,
parsed contents `80 00 00`, stuffing -/
def pesPkF : Pk :=
  ⟨Lemmas.C08.mkPkt 0x41 0x10 (Lemmas.C08.pesStart ++ [0x80, 0x00, 0x00]), 376, 0x100, false, false⟩

def pesBuf : Bytes := pid5Pkt ++ pesPkF.bytes

set_option maxRecDepth 20000 in
theorem pesBuf_frame : frame pesBuf 188 = .ok [⟨pid5Pkt, 188, 5, false, false⟩, pesPkF] := by
  decide +kernel

set_option maxRecDepth 20000 in
/-- `es_payload_in_buffer` applies to the second packet of `push(pesBuf)` (188 bytes pushed before):
the `begin_packet` event exposes the range (389, 175); it lies inside the packet `[376, 564)` and
inside the pushed buffer `[188, 188 + 376)`, and denotes the same 175 bytes in the packet (from offset
13) and in the caller's buffer (from offset 201) -/
example : ∃ h' c' bi, App.consume (.pes 7 {}) { cfg := {} } pesPkF = .ok (h', c', [])
    ∧ c'.trace = [.esBegin 7 bi, .esStart 7] ∧ bi.pl = some (389, 175)
    ∧ 188 ≤ 389 ∧ 389 + 175 ≤ 188 + pesBuf.length
    ∧ (pesPkF.bytes.drop 13).take 175 = (pesBuf.drop 201).take 175 := by
  have hc : ∃ h' c' bi, App.consume (.pes 7 {}) { cfg := {} } pesPkF = .ok (h', c', [])
      ∧ c'.trace = [.esBegin 7 bi, .esStart 7] ∧ bi.pl = some (389, 175) := ⟨_, _, _, rfl, rfl, rfl⟩
  obtain ⟨h', c', bi, h1, h2, h3⟩ := hc
  obtain ⟨out, e1, e2⟩ := es_payload_in_buffer pesBuf 188 _ pesBuf_frame pesPkF (by simp) 7 {}
    { cfg := {} } h' c' [] h1
  have hout : out = [.esBegin 7 bi, .esStart 7] := by
    have : c'.trace = out ++ [] := e1
    rw [List.append_nil] at this
    rw [← this, h2]
  subst hout
  obtain ⟨_, hr⟩ := e2 (.esBegin 7 bi) (by simp)
  obtain ⟨_, _, _, _, r5, r6, r7⟩ := hr 389 175 h3
  exact ⟨h', c', bi, h1, h2, h3, r5, r6, r7⟩

/-! ## 7. the steady state at INPUT level (known finding F14)

`Steady` (§4, §5) is a hypothesis on the STATE and on the bytes the de-duplication layer reads.  The
property's quantifier is over inputs: "all well-formed steady-state streams (any packetisation, any
table repetition pattern)".  `C19_steady_full` states that; it is false (`C19_steady_full_false`).
`C19_steady_gap*` / `C19_steady_partial` say which input-level hypotheses DO give `Steady`. -/

section InputLevel
open Ts.Lemmas.C19d (LegalMux TransmitsWith TransmitsAnyCut StableInputWith StableInput frameAll
  LastTableOn CopyOf tablePid)
open Ts.Spec.RoutingHistory (Event initRoute WF Realises run)

/-- **C19 (d), partial** — `steady_state_no_alloc` under its other name.  What makes it PARTIAL with
respect to the property ("once all PIDs have been seen and the tables are stable … any packetisation,
any table repetition pattern") is the hypothesis `Steady t pks`: every packet's PID has a handler, and
a packet on a PAT/PMT PID is a `RepeatPkt v` for the version `v` its quiescent handler remembers — its
unit-start payload carries AT LEAST 8 SECTION BYTES after the `pointer_field` bytes.  That is the
de-duplication layer's own version test, copied into the hypothesis: a condition on the filter's
state and on where the multiplexer cut the section, not "the table is unchanged".  OUTSIDE it: a
repetition whose first share has fewer than 8 bytes.  With fewer than 3 (known finding F14,
`C19_steady_full_false`) the filter chain is reset, the NEXT ordinary repetition is re-applied, and
handlers are constructed in steady state. -/
theorem steady_state_no_alloc_partial (t : Tab App.Handler) (c : App.Ctx) (buf : Bytes) (base : Nat)
    (pks : List Pk) (tcf : Tab App.Handler × App.Ctx) (hsc : c.cfg.script = [])
    (hf : frame buf base = .ok pks) (hst : Steady t pks)
    (h : push App.sem (t, c) buf base = .ok tcf) :
    runAllocFree (t, c) pks ∧ tcf.1.length = t.length ∧ tcf.2.nextTag = c.nextTag
      ∧ (∀ p, psiBuf tcf.1 p = psiBuf t p) ∧ (∀ p, slotKey tcf.1 p = slotKey t p)
      ∧ Steady tcf.1 pks ∧ tcf.2.cfg.script = [] :=
  steady_state_no_alloc t c buf base pks tcf hsc hf hst h

/-- **C19 (d) at full strength, over inputs.**  For every configuration without recorder script,
every history `evs` of applied PAT/PMT versions, elementary-stream packets and repetitions
(`Spec.RoutingHistory`), every list of warm-up pushes `warm` whose packets `pks0` realise it
(`Realises`), run from `Demultiplex::new` to `(t, c)`; every list of further pushes `steady` with
packets `pks`, such that (`StableInput`)
* every PID occurring in `pks` has a handler after the warm-up, and
* for every PID `p` occurring in `pks` that carries tables after the history, the packets of PID `p`
  are, in order, the packets of COMPLETE transmissions — any number, each in ANY packetisation
  (`LegalMux` = `WellFormedMux` without the minimum first share), with anything interleaved on other
  PIDs — of one section `tbl p` that is a copy (`CopyOf`: intact, same `table_id`,
  `version_number` and contents) of the table LAST applied on `p` in the history:
if the whole run completes, NO HANDLER IS CONSTRUCTED during the steady pushes (`nextTag`, bumped by
every `construct`, is unchanged).  This is the weakest of the conclusions of
`steady_state_all_pushes`; the statement is false already for it. -/
def C19_steady_full : Prop :=
  ∀ (cfg : App.Cfg) (evs : List Event) (tbl : Nat → Bytes) (warm steady : List Bytes)
    (pks0 pks : List Pk) (t : Tab App.Handler) (c : App.Ctx) (tcf : Tab App.Handler × App.Ctx),
    cfg.script = [] →
    frameAll warm 0 = .ok pks0 → WF initRoute evs → Realises initRoute evs pks0 →
    App.runApp cfg warm = .ok (t, c) →
    frameAll (warm ++ steady) 0 = .ok (pks0 ++ pks) →
    StableInput evs tbl t pks →
    App.runApp cfg (warm ++ steady) = .ok tcf →
    tcf.2.nextTag = c.nextTag

/-- **Known finding F14: `C19_steady_full` is FALSE of the code (the model agrees).**
Witness = the probe `F14 steady b0t0 …` (`/verif/known_findings.json`), as byte lists
(`Lemmas.C19d.f14Warm`, `f14St1`, `f14St2`, `f14St3`):
warm-up PAT v0 {1 → 0x100}, PMT v0 {H.264 on 0x101}, start of a PES packet on 0x101 — it realises the
history `f14Hist` and constructs the handlers 0, 1, 2; then three pushes that carry, on PID 0, only
complete transmissions of the SAME PAT v0 and, on PID 0x100, only the SAME PMT v0, between
elementary-stream packets.  The second PAT transmission is cut after 2 bytes (`pointer_field = 181`;
`straddleMux`, a `LegalMux` that is not a `WellFormedMux`).  That start resets the PAT filter's
chain — remembered version forgotten —, the next ordinary PAT v0 is RE-APPLIED (`Pmt(0x100, 1)`
constructed again, tag 3), the rebuilt PMT filter re-applies PMT v0 (`Stream(…0x101…)` constructed
again, tag 4): `nextTag` is 3 after the warm-up and 5 at the end.  Real code on the same bytes:
`constructs = 0, 2, 0`, `allocs = 0, 3, 0` per steady push. -/
theorem C19_steady_full_false : ¬ C19_steady_full := by
  intro h
  obtain ⟨tc0, _, _, tc3, _, _, h0, h1, _, h2, _, _, h5, _, _, b0, _, _, b3, _, _, _, _, _, _, _, hc, _⟩ :=
    Lemmas.C19d.f14_runs
  have hfin := h {} Lemmas.C19d.f14Hist Lemmas.C19d.f14Tbl [Lemmas.C19d.f14Warm]
    [Lemmas.C19d.f14St1, Lemmas.C19d.f14St2, Lemmas.C19d.f14St3] _ _ tc0.1 tc0.2 tc3 rfl h0
    Lemmas.C19d.f14_wf Lemmas.C19d.f14_realises h2 h1 (Lemmas.C19d.f14_stable tc0.1 hc) h5
  have e0 : tc0.2.nextTag = 3 := congrArg Prod.fst b0
  have e3 : tc3.2.nextTag = 5 := congrArg Prod.fst b3
  omega

theorem pushMayAlloc_eq (tc : Tab App.Handler × App.Ctx) (buf : Bytes) (base : Nat) :
    Lemmas.C19d.pushMayAlloc tc buf base =
      (match frame buf base with
       | .ok pks => runMayAlloc tc pks
       | .panic _ => false) := by
  unfold Lemmas.C19d.pushMayAlloc Lemmas.C19d.chk
  cases frame buf base <;> rfl

/-- **F14 and its control on the exact probe bytes, push by push** (`runApp {}` = harness mode
`b0t0`).  Probe: after the warm-up 3 handlers have been constructed and the table has 258 slots; the
first steady push constructs nothing and has no `mayAlloc` step; the second (the one containing the
straddling PAT v0 and then an ordinary PAT v0 / PMT v0) constructs 2 handlers and has `mayAlloc`
steps; the third again nothing — the model's `constructs = 0, 2, 0`, as the real code.  Control
(`f14cSt2`: the straddling transmission replaced by two ordinary ones): nothing in any push. -/
theorem F14_steady_counterexample :
    (∃ tc0 tc1 tc2 tc3,
      App.runApp {} [Lemmas.C19d.f14Warm] = .ok tc0
      ∧ App.runApp {} [Lemmas.C19d.f14Warm, Lemmas.C19d.f14St1] = .ok tc1
      ∧ App.runApp {} [Lemmas.C19d.f14Warm, Lemmas.C19d.f14St1, Lemmas.C19d.f14St2] = .ok tc2
      ∧ App.runApp {} [Lemmas.C19d.f14Warm, Lemmas.C19d.f14St1, Lemmas.C19d.f14St2, Lemmas.C19d.f14St3]
          = .ok tc3
      ∧ (tc0.2.nextTag, tc0.1.length) = (3, 258) ∧ (tc1.2.nextTag, tc1.1.length) = (3, 258)
      ∧ (tc2.2.nextTag, tc2.1.length) = (5, 258) ∧ (tc3.2.nextTag, tc3.1.length) = (5, 258)
      ∧ Lemmas.C19d.pushMayAlloc tc0 Lemmas.C19d.f14St1 564 = false
      ∧ Lemmas.C19d.pushMayAlloc tc1 Lemmas.C19d.f14St2 1128 = true
      ∧ Lemmas.C19d.pushMayAlloc tc2 Lemmas.C19d.f14St3 2256 = false)
    ∧ (∃ tc0 tc1 tc2 tc3,
      App.runApp {} [Lemmas.C19d.f14Warm] = .ok tc0
      ∧ App.runApp {} [Lemmas.C19d.f14Warm, Lemmas.C19d.f14St1] = .ok tc1
      ∧ App.runApp {} [Lemmas.C19d.f14Warm, Lemmas.C19d.f14St1, Lemmas.C19d.f14cSt2] = .ok tc2
      ∧ App.runApp {} [Lemmas.C19d.f14Warm, Lemmas.C19d.f14St1, Lemmas.C19d.f14cSt2, Lemmas.C19d.f14St3]
          = .ok tc3
      ∧ (tc0.2.nextTag, tc0.1.length) = (3, 258) ∧ (tc1.2.nextTag, tc1.1.length) = (3, 258)
      ∧ (tc2.2.nextTag, tc2.1.length) = (3, 258) ∧ (tc3.2.nextTag, tc3.1.length) = (3, 258)
      ∧ Lemmas.C19d.pushMayAlloc tc0 Lemmas.C19d.f14St1 564 = false
      ∧ Lemmas.C19d.pushMayAlloc tc1 Lemmas.C19d.f14cSt2 1128 = false
      ∧ Lemmas.C19d.pushMayAlloc tc2 Lemmas.C19d.f14St3 2256 = false) := by
  obtain ⟨tc0, tc1, tc2, tc3, tc2c, tc3c, _, _, _, h0, h1, h2, h3, h2c, h3c, b0, b1, b2, b3, b2c, b3c,
    m1, m2, m3, m2c, m3c, _⟩ := Lemmas.C19d.f14_runs
  exact ⟨⟨tc0, tc1, tc2, tc3, h0, h1, h2, h3, b0, b1, b2, b3, m1, m2, m3⟩,
    ⟨tc0, tc1, tc2c, tc3c, h0, h1, h2c, h3c, b0, b1, b2c, b3c, m1, m2c, m3c⟩⟩

/-- the witness's packetisation: legal, NOT well-formed (its first share has 2 < 8 bytes); every
other packetisation of the probe is well-formed -/
theorem F14_only_straddle_is_short :
    LegalMux Lemmas.C19d.patSecV0 Lemmas.C19d.straddleMux
    ∧ ¬ WellFormedMux .syntax Lemmas.C19d.patSecV0 Lemmas.C19d.straddleMux
    ∧ WellFormedMux .syntax Lemmas.C19d.patSecV0 (Lemmas.C10.muxOf Lemmas.C19d.patSecV0)
    ∧ WellFormedMux .syntax Lemmas.C19d.pmtSecV0 (Lemmas.C10.muxOf Lemmas.C19d.pmtSecV0) :=
  Lemmas.C19d.straddleMux_legal

/-! ### what IS proved from input-level hypotheses -/

/-- **Gap, packet level.**  If every packet of the list is either
* on a PID holding a PAT/PMT handler quiescent at some version `v` and is a C10 repetition packet of
  version `v` (`Lemmas.C10.RepPacket`: a 188-byte packet without payload, or with a continuation
  payload, or whose unit-start payload is the first payload of a `WellFormedMux` packetisation — first
  share ≥ 8 bytes — of a well-formed version-`v` section), or
* a 188-byte packet on a PID holding a handler without section filter (PES filter or recorder),
then `Steady t pks`; hence (no recorder script) no step of the run has `mayAlloc`. -/
theorem C19_steady_gap (t : Tab App.Handler) (pks : List Pk)
    (h : ∀ pk ∈ pks,
      (∃ hd v, t.get pk.pid = some hd ∧ Lemmas.C10.QuiescentH v hd ∧ Lemmas.C10.RepPacket v pk.bytes)
      ∨ (pk.bytes.length = 188 ∧ ∃ hd, t.get pk.pid = some hd ∧ psiOf hd = none)) :
    Steady t pks ∧ ∀ c : App.Ctx, c.cfg.script = [] → runMayAlloc (t, c) pks = false := by
  have hst : Steady t pks := by
    intro pk hpk
    rcases h pk hpk with ⟨hd, v, hg, hq, hr⟩ | ⟨hl, hd, hg, hn⟩
    · exact steadyPk_of_c10 t pk v hd hg hq hr
    · exact steadyPk_of_noPsi t pk hd hl hg hn
  exact ⟨hst, fun c hsc => steady_run_mayAlloc_false pks t c hsc hst⟩

/-- `C19_steady_gap` is not vacuous: the hand-built table `steadyTab` (a PAT filter quiescent at
version 0 on PID 0) and an ordinary one-packet transmission of PAT v0 -/
example : Steady steadyTab [Lemmas.C19d.pkAt (Lemmas.C19d.patPktCc 1 Lemmas.C19d.patSecV0) 4 0]
    ∧ ∀ c : App.Ctx, c.cfg.script = [] →
        runMayAlloc (steadyTab, c) [Lemmas.C19d.pkAt (Lemmas.C19d.patPktCc 1 Lemmas.C19d.patSecV0) 4 0]
          = false := by
  obtain ⟨_, a1, _⟩ := Lemmas.C19d.f14_transmissions
  obtain ⟨_, _, w0, _⟩ := Lemmas.C19d.straddleMux_legal
  obtain ⟨_, _, _, _, hS, hl, _, _⟩ := Lemmas.C19d.split_facts
  have hrep := Lemmas.C19d.repPacket_of_transmits 0 Lemmas.C19d.patSecV0 _ hS (by rw [hl]; decide)
    (Lemmas.C19d.txCheck_sound_with _ _ _ _ w0 a1) _ (List.mem_singleton.2 rfl)
  rw [Lemmas.C19d.f14_versions.1] at hrep
  refine C19_steady_gap steadyTab _ ?_
  intro pk hpk
  rw [List.mem_singleton] at hpk
  subst hpk
  exact Or.inl ⟨_, 0, rfl, ⟨rfl, rfl⟩, hrep⟩

/-- **Gap, transmission level: input-level hypothesis ⇒ `Steady`.**  `StableInputWith
(WellFormedMux .syntax)` is the hypothesis of `C19_steady_full` PLUS "the first share of every
transmission has at least 8 bytes".  Together with
* `hlen`: the packets have 188 bytes (true of framed packets), and
* `hagree`: on the steady PIDs the table after the warm-up agrees with the history — a PID that
  carries tables holds a PAT/PMT handler quiescent at the version of the current table (i.e. the
  handler INSTANCE in the slot is the one that applied it; fails after known findings F8/F14 and F9),
  any other PID holds a handler without section filter —
it gives `Steady t pks`.  `hagree` is a hypothesis here because the theorems that derive it from a
realised history (`Props.C05History.routing_refines`, `Props.C10.C10_partial`) are downstream of this
file in the import order. -/
theorem C19_steady_gap_transmissions (evs : List Event) (tbl : Nat → Bytes) (t : Tab App.Handler)
    (pks : List Pk) (hin : StableInputWith (WellFormedMux .syntax) evs tbl t pks)
    (hlen : ∀ pk ∈ pks, pk.bytes.length = 188)
    (hagree : ∀ pk ∈ pks,
      (tablePid (run initRoute evs) pk.pid = true
        ∧ ∃ h, t.get pk.pid = some h ∧ Lemmas.C10.QuiescentH (Lemmas.C10.versionOf (tbl pk.pid)) h)
      ∨ (tablePid (run initRoute evs) pk.pid = false ∧ ∃ h, t.get pk.pid = some h ∧ psiOf h = none)) :
    Steady t pks :=
  Lemmas.C19d.steady_of_stable evs tbl t pks hin hlen hagree

/-- the hypothesis of `C19_steady_gap_transmissions` is that of `C19_steady_full` plus the 8-byte
clause, nothing else -/
theorem stableInput_of_wellFormed (evs : List Event) (tbl : Nat → Bytes) (t : Tab App.Handler)
    (pks : List Pk) (h : StableInputWith (WellFormedMux .syntax) evs tbl t pks) :
    StableInput evs tbl t pks :=
  h.mono fun S m hm => ((Lemmas.C19d.wellFormedMux_iff_legal .syntax S m).1 hm).1

/-- **C19 (d), partial, in the shape of `C19_steady_full`.**  Its hypotheses on the steady pushes with
`WellFormedMux .syntax` in place of `LegalMux` (first share of every transmission ≥ 8 bytes), plus
`hagree` (see `C19_steady_gap_transmissions`), plus "no recorder script" read off the context after
the warm-up.  Conclusion: the packets of the steady pushes are `Steady`; if the whole run completes,
no handler was constructed, the table has the same number of slots, every slot has the same kind,
PSI buffer contents, `Buffering` state and table version as after the warm-up; and no step over the
steady packets has `mayAlloc`.  (`WF`/`Realises` of the warm-up are not needed once `hagree` is
assumed.) -/
theorem C19_steady_partial (cfg : App.Cfg) (evs : List Event) (tbl : Nat → Bytes) (warm steady : List Bytes)
    (pks0 pks : List Pk) (t : Tab App.Handler) (c : App.Ctx) (tcf : Tab App.Handler × App.Ctx)
    (hsc : c.cfg.script = [])
    (hf0 : frameAll warm 0 = .ok pks0)
    (hrun : App.runApp cfg warm = .ok (t, c))
    (hf : frameAll (warm ++ steady) 0 = .ok (pks0 ++ pks))
    (hin : StableInputWith (WellFormedMux .syntax) evs tbl t pks)
    (hagree : ∀ pk ∈ pks,
      (tablePid (run initRoute evs) pk.pid = true
        ∧ ∃ h, t.get pk.pid = some h ∧ Lemmas.C10.QuiescentH (Lemmas.C10.versionOf (tbl pk.pid)) h)
      ∨ (tablePid (run initRoute evs) pk.pid = false ∧ ∃ h, t.get pk.pid = some h ∧ psiOf h = none))
    (hfin : App.runApp cfg (warm ++ steady) = .ok tcf) :
    Steady t pks ∧ tcf.2.nextTag = c.nextTag ∧ tcf.1.length = t.length
      ∧ (∀ p, slotKey tcf.1 p = slotKey t p) ∧ (∀ p, psiBuf tcf.1 p = psiBuf t p)
      ∧ runMayAlloc (t, c) pks = false := by
  -- the packets of the steady pushes alone
  obtain ⟨pb, hpb⟩ := Lemmas.C19d.frameAll_total steady (0 + (warm.map List.length).sum)
  have happ := Lemmas.C19d.frameAll_append warm steady 0 pks0 pb hf0 hpb
  rw [hf] at happ
  have hpks : pks = pb := List.append_cancel_left (R.ok_inj happ)
  subst hpks
  have hlen := Lemmas.C19d.frameAll_len steady _ pks hpb
  have hst : Steady t pks := C19_steady_gap_transmissions evs tbl t pks hin hlen hagree
  -- the steady pushes, run from the state after the warm-up
  unfold App.runApp at hrun hfin
  rw [pushAll_append_bufs, hrun, R.ok_bind] at hfin
  have hall : ∀ b ∈ steady, ∀ bs pks', frame b bs = .ok pks' → Steady t pks' := by
    intro b hb bs pks' hf'
    obtain ⟨base', a, ha, hsub⟩ := Lemmas.C19d.frameAll_mem steady _ pks hpb b hb
    exact steady_of_frame_base t b base' a ha (fun pk hm => hst pk (hsub pk hm)) bs pks' hf'
  obtain ⟨a1, a2, a3, a4⟩ := steady_state_all_pushes steady t c _ tcf hsc hall hfin
  exact ⟨hst, a2, a1, a3, a4, steady_run_mayAlloc_false pks t c hsc hst⟩

/-- **`C19_steady_partial` is not vacuous**: its hypotheses hold on the control probe F14c (warm-up
`f14Warm`; steady pushes `f14St1`, `f14cSt2`, `f14St3`: twelve packets — five ordinary PAT v0
repetitions, three PMT v0 repetitions, four elementary-stream continuations), so its conclusion holds
there; in particular `nextTag` stays 3. -/
theorem C19_steady_partial_instance :
    ∃ t c tcf, App.runApp {} [Lemmas.C19d.f14Warm] = .ok (t, c)
      ∧ App.runApp {} ([Lemmas.C19d.f14Warm]
          ++ [Lemmas.C19d.f14St1, Lemmas.C19d.f14cSt2, Lemmas.C19d.f14St3]) = .ok tcf
      ∧ StableInputWith (WellFormedMux .syntax) Lemmas.C19d.f14Hist Lemmas.C19d.f14Tbl t
          Lemmas.C19d.f14cSteadyPks
      ∧ StableInput Lemmas.C19d.f14Hist Lemmas.C19d.f14Tbl t Lemmas.C19d.f14cSteadyPks
      ∧ Steady t Lemmas.C19d.f14cSteadyPks ∧ tcf.2.nextTag = c.nextTag ∧ c.nextTag = 3
      ∧ tcf.1.length = t.length ∧ (∀ p, slotKey tcf.1 p = slotKey t p)
      ∧ runMayAlloc (t, c) Lemmas.C19d.f14cSteadyPks = false := by
  obtain ⟨tc0, _, _, _, _, tc3, h0, _, h1, h2, _, _, _, _, h5, b3, _, _, _, _, _, _, _, _, _, _, _, b9, b10⟩ :=
    Lemmas.C19d.f14_runs
  obtain ⟨q0, q1, q2⟩ := Lemmas.C19d.f14AgreeB_sound tc0.1 b9
  obtain ⟨_, _, _, _, _, _, _, hp⟩ := Lemmas.C19d.f14c_transmissions
  obtain ⟨v0, v1⟩ := Lemmas.C19d.f14_versions
  obtain ⟨tp0, tp1, tp2⟩ := Lemmas.C19d.f14_tablePids
  have hagree : ∀ pk ∈ Lemmas.C19d.f14cSteadyPks,
      (tablePid (run initRoute Lemmas.C19d.f14Hist) pk.pid = true
        ∧ ∃ h, tc0.1.get pk.pid = some h
            ∧ Lemmas.C10.QuiescentH (Lemmas.C10.versionOf (Lemmas.C19d.f14Tbl pk.pid)) h)
      ∨ (tablePid (run initRoute Lemmas.C19d.f14Hist) pk.pid = false
        ∧ ∃ h, tc0.1.get pk.pid = some h ∧ psiOf h = none) := by
    intro pk hpk
    rcases hp pk hpk with e | e | e <;> rw [e]
    · exact Or.inl ⟨tp0, by
        have : Lemmas.C19d.f14Tbl 0 = Lemmas.C19d.patSecV0 := rfl
        rw [this, v0]; exact q0⟩
    · exact Or.inl ⟨tp1, by
        have : Lemmas.C19d.f14Tbl 0x100 = Lemmas.C19d.pmtSecV0 := rfl
        rw [this, v1]; exact q1⟩
    · exact Or.inr ⟨tp2, q2⟩
  have hcont : ∀ pk ∈ Lemmas.C19d.f14cSteadyPks, tc0.1.contains pk.pid = true := by
    intro pk hpk
    rcases hagree pk hpk with ⟨_, hd, hg, _⟩ | ⟨_, hd, hg, _⟩
    · exact (Tab.contains_eq_true_iff _ _).2 ⟨hd, hg⟩
    · exact (Tab.contains_eq_true_iff _ _).2 ⟨hd, hg⟩
  have hin := Lemmas.C19d.f14c_stable tc0.1 hcont
  obtain ⟨c1, c2, c3, c4, _, c6⟩ := C19_steady_partial {} Lemmas.C19d.f14Hist Lemmas.C19d.f14Tbl
    [Lemmas.C19d.f14Warm] [Lemmas.C19d.f14St1, Lemmas.C19d.f14cSt2, Lemmas.C19d.f14St3] _ _ tc0.1 tc0.2
    tc3 b10 h0 h2 h1 hin hagree h5
  exact ⟨tc0.1, tc0.2, tc3, h2, h5, hin, stableInput_of_wellFormed _ _ _ _ hin, c1, c2,
    congrArg Prod.fst b3, c3, c4, c6⟩

end InputLevel


end Ts.Props.C19
