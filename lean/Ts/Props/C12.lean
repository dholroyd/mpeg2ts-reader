import Ts.Model.Packet
import Ts.Spec.Bits
import Ts.Lemmas.BitOps
import Ts.Gen.Consts
import Ts.Lemmas.RevC
/-!
# C12 — transport packet header fields and payload / adaptation-field split are exact

For every 188-byte packet: each fixed-header accessor of the model (byte masks and shifts, as in
`packet.rs:563-616`) equals the `uimsbf` field of ISO/IEC 13818-1 2.4.3.2 at its bit offset, and
`adaptation_field()` / `payload()` equal the table over (adaptation_field_control, length).
All results are `R.ok`: no accessor panics.

Readings and scope:
* The model's `afRange` / `payloadRange` return `(offset, length)` pairs; `mkAf_slice` /
  `mkPayload_slice` show each pair denotes exactly the slice the code takes (`&buf[5..5+len]`,
  `&buf[offset..]`), and `af_bytes` / `payload_bytes` restate the split on the byte strings
  `Packet.af` / `Packet.payload` return.
* `splitSpec` (the table below) is the specification of the split; it lives in this file, not under
  `Ts/Spec/`.  Of its thresholds, 182 is a literal of the model too (`Packet.lean:62`) and 183 is the
  model's `SIZE - ADAPTATION_FIELD_OFFSET` (`:67`);
  `tie_af_max_model` / `tie_af_only_len` relate them to the regenerated constants behaviourally.
* `Packet::try_new` is covered (`tryNew_exact`); `Packet::new` (which *asserts* the sync byte) is
  not modelled.
* adaptation_field_control = '00' is reserved by the standard; the code (and `splitSpec`) yield
  neither an adaptation field nor a payload for it.
-/
namespace Ts.Props.C12
open Ts Ts.Packet Ts.Spec Ts.Lemmas.RevC

/-! ### ties to the constants regenerated from `/repo/src/packet.rs` -/
theorem tie_packet_size : Ts.Gen.packetSize = SIZE := by decide
theorem tie_sync_byte : Ts.Gen.syncByte = SYNC_BYTE := by decide
theorem tie_fixed_header : Ts.Gen.fixedHeaderSize = FIXED_HEADER_SIZE := by decide
theorem tie_af_max : Ts.Gen.afMaxWithPayload = 182 := by decide
theorem tie_pid_max : Ts.Gen.pidMax = 0x1fff := by decide

/-! ### fixed header (2.4.3.2): sync 8, TEI 1, PUSI 1, priority 1, PID 13, scrambling 2, afc 2, cc 4 -/

theorem tei_exact (p : Bytes) (h : p.length = 188) : tei p = .ok (readBits p 8 1 == 1) := by
  unfold tei; rw [byteAt_ok p 1 (by omega)]
  exact congrArg R.ok (bit_eq_mask p 1 0 (by omega)).symm

theorem pusi_exact (p : Bytes) (h : p.length = 188) : pusi p = .ok (readBits p 9 1 == 1) := by
  unfold pusi; rw [byteAt_ok p 1 (by omega)]
  exact congrArg R.ok (bit_eq_mask p 1 1 (by omega)).symm

theorem prio_exact (p : Bytes) (h : p.length = 188) : prio p = .ok (readBits p 10 1 == 1) := by
  unfold prio; rw [byteAt_ok p 1 (by omega)]
  exact congrArg R.ok (bit_eq_mask p 1 2 (by omega)).symm

theorem pid_exact (p : Bytes) (h : p.length = 188) : pid p = .ok (readBits p 11 13) := by
  unfold pid; rw [byteAt_ok p 1 (by omega), byteAt_ok p 2 (by omega)]
  have e := readBits_be p 1 3 13 2 (by omega)
  simp only [be, Nat.zero_mul, Nat.zero_add, Nat.add_zero, Nat.reduceAdd, Nat.reduceMul] at e
  have b2 := byteD_lt p 2
  simp only [R.ok_bind, R.pure_eq, and_1f _ (byteD_lt p 1), Nat.shiftLeft_eq,
    or_eq_add 8 (Nat.dvd_mul_left _ _) b2, e]
  congr 1; omega

/-- every PID the model yields is a legal 13-bit PID (`Pid` invariant) -/
theorem pid_le_max (p : Bytes) : readBits p 11 13 ≤ 0x1fff := by
  have := readBits_lt p 11 13; omega

theorem scrambling_exact (p : Bytes) (h : p.length = 188) :
    byte3 p = .ok (byteD p 3) ∧ scheme (byteD p 3) = readBits p 24 2
      ∧ isScrambled (byteD p 3) = (readBits p 24 2 != 0) := by
  have r : readBits p 24 2 = byteD p 3 / 64 := by
    have r := readBits_sub p 3 0 2 (by omega)
    have := byteD_lt p 3
    simp only [Nat.add_zero, Nat.reduceMul] at r
    omega
  rw [r]
  exact ⟨byteAt_ok p 3 (by omega), Nat.shiftRight_eq_div_pow _ 6, and_c0 _ (byteD_lt p 3)⟩

theorem scheme_none_iff (b3 : Nat) (h : b3 < 256) : (scheme b3 = 0) ↔ (isScrambled b3 = false) := by
  unfold scheme isScrambled
  rw [Nat.shiftRight_eq_div_pow b3 6, and_c0 b3 h]
  simp

theorem afc_exact (p : Bytes) :
    hasAf (byteD p 3) = (readBits p 26 1 == 1) ∧ hasPayload (byteD p 3) = (readBits p 27 1 == 1) :=
  ⟨(bit_eq_mask p 3 2 (by omega)).symm, (bit_eq_mask p 3 3 (by omega)).symm⟩

theorem cc_exact (p : Bytes) (h : p.length = 188) : cc p = .ok (readBits p 28 4) := by
  unfold cc; rw [byteAt_ok p 3 (by omega)]
  have r := readBits_sub p 3 4 4 (by omega)
  rw [r]
  have m := and_0f (byteD p 3) (byteD_lt p 3)
  have : byteD p 3 % 16 < 16 := Nat.mod_lt _ (by decide)
  simp only [R.ok_bind, R.pure_eq, m, assertR]
  have hlt : (byteD p 3 % 16 < 0b10000) = True := by simp; omega
  simp [hlt]

theorem cc_lt_16 (p : Bytes) : readBits p 28 4 < 16 := readBits_lt p 28 4

/-! ### adaptation field / payload split -/

/-- the split implied by `adaptation_field_control` (`haf`,`hp`) and `adaptation_field_length` `L` -/
def splitSpec (haf hp : Bool) (L : Nat) : Option (Nat × Nat) × Option (Nat × Nat) :=
  match haf, hp with
  | false, false => (none, none)
  | false, true => (none, some (4, 184))
  | true, false => (if L = 183 then some (5, 183) else none, none)
  | true, true => (if 1 ≤ L ∧ L ≤ 182 then some (5, L) else none,
                   if L ≤ 182 then some (5 + L, 183 - L) else none)

theorem mkAf_ok (p : Bytes) (h : p.length = 188) (L : Nat) (h1 : 1 ≤ L) (h2 : L ≤ 183) :
    mkAf p L = .ok (5, L) := by
  unfold mkAf ADAPTATION_FIELD_OFFSET FIXED_HEADER_SIZE
  rw [sliceR_ok p 5 L (by omega)]
  have hne : ¬ (L = 0 ∨ p.length ≤ 5) := by omega
  simp [assertR, hne]

theorem af_exact (p : Bytes) (h : p.length = 188) :
    afRange p = .ok (splitSpec (hasAf (byteD p 3)) (hasPayload (byteD p 3)) (byteD p 4)).1 := by
  unfold afRange byte3 afLen
  rw [byteAt_ok p 3 (by omega)]
  simp only [R.ok_bind]
  -- without `hasAf` both sides are `none`; two cases are left
  cases haf : hasAf (byteD p 3) <;> cases hp : hasPayload (byteD p 3) <;>
    simp only [splitSpec, if_true, if_false, Bool.false_eq_true, R.pure_eq]
  · -- field only: present iff the length byte is 183
    rw [byteAt_ok p 4 (by omega)]
    simp only [R.ok_bind, SIZE, ADAPTATION_FIELD_OFFSET, FIXED_HEADER_SIZE]
    by_cases hl : byteD p 4 = 183
    · simp [hl, mkAf_ok p h 183 (by omega) (by omega)]
    · have : (byteD p 4 != 188 - (4 + 1)) = true := by simp; omega
      simp [this, hl]
  · -- field and payload: present iff `1 ≤ L ≤ 182`
    rw [byteAt_ok p 4 (by omega)]
    simp only [R.ok_bind]
    by_cases h1 : byteD p 4 > 182
    · have : ¬ (1 ≤ byteD p 4 ∧ byteD p 4 ≤ 182) := by omega
      simp [h1, this]
    · by_cases h0 : byteD p 4 = 0
      · simp [h0]
      · have hh : (1 ≤ byteD p 4 ∧ byteD p 4 ≤ 182) := by omega
        have hb : (byteD p 4 == 0) = false := by simp [h0]
        simp only [h1, if_false, hb, Bool.false_eq_true, hh, and_self, if_true]
        rw [mkAf_ok p h _ (by omega) (by omega)]
        rfl

theorem payload_exact (p : Bytes) (h : p.length = 188) :
    payloadRange p = .ok (splitSpec (hasAf (byteD p 3)) (hasPayload (byteD p 3)) (byteD p 4)).2 := by
  unfold payloadRange mkPayload contentOffset byte3 afLen
  rw [byteAt_ok p 3 (by omega)]
  simp only [R.ok_bind]
  -- without `hasPayload` both sides are `none`; two cases are left
  cases haf : hasAf (byteD p 3) <;> cases hp : hasPayload (byteD p 3) <;>
    simp only [splitSpec, if_true, if_false, Bool.false_eq_true, R.pure_eq, R.ok_bind]
  · -- payload only: from byte 4
    simp [FIXED_HEADER_SIZE, h, sliceFrom_ok p 4 (by omega)]
  · -- field and payload: from byte `5 + L`, if `L ≤ 182`
    rw [byteAt_ok p 4 (by omega)]
    simp only [R.ok_bind, ADAPTATION_FIELD_OFFSET, FIXED_HEADER_SIZE, h]
    by_cases h1 : byteD p 4 ≤ 182
    · have e1 : (4 + 1 + byteD p 4 == 188) = false := by simp; omega
      have e2 : ¬ (4 + 1 + byteD p 4 > 188) := by omega
      simp only [e1, Bool.false_eq_true, if_false, e2, h1, if_true]
      rw [sliceFrom_ok p _ (by omega)]
      simp only [R.ok_bind]
      congr 3 <;> omega
    · by_cases h2 : byteD p 4 = 183
      · simp [h2]
      · have e1 : (4 + 1 + byteD p 4 == 188) = false := by simp; omega
        have e2 : (4 + 1 + byteD p 4 > 188) := by omega
        simp [e1, e2, h1]

/-- an adaptation-field range of the table: only with `haf`, at byte 5; of length 183 without
payload, of length `L` in `1..182` with payload -/
theorem splitSpec_fst {haf hp : Bool} {L : Nat} {a : Nat × Nat} (h : (splitSpec haf hp L).1 = some a) :
    haf = true ∧
      ((hp = false ∧ L = 183 ∧ a = (5, 183)) ∨ (hp = true ∧ 1 ≤ L ∧ L ≤ 182 ∧ a = (5, L))) := by
  match haf, hp, h with
  | false, false, h => cases h
  | false, true, h => cases h
  | true, false, h =>
    simp only [splitSpec] at h
    split at h
    · next hl => cases h; exact ⟨rfl, .inl ⟨rfl, hl, rfl⟩⟩
    · cases h
  | true, true, h =>
    simp only [splitSpec] at h
    split at h
    · next hl => cases h; exact ⟨rfl, .inr ⟨rfl, hl.1, hl.2, rfl⟩⟩
    · cases h

/-- a payload range of the table: only with `hp`; bytes `4..188` without adaptation field, bytes
`5+L..188` after one of length `L ≤ 182` -/
theorem splitSpec_snd {haf hp : Bool} {L : Nat} {b : Nat × Nat} (h : (splitSpec haf hp L).2 = some b) :
    hp = true ∧ ((haf = false ∧ b = (4, 184)) ∨ (haf = true ∧ L ≤ 182 ∧ b = (5 + L, 183 - L))) := by
  match haf, hp, h with
  | false, false, h => cases h
  | true, false, h => cases h
  | false, true, h => cases h; exact ⟨rfl, .inl ⟨rfl, rfl⟩⟩
  | true, true, h =>
    simp only [splitSpec] at h
    split at h
    · next hl => cases h; exact ⟨rfl, .inr ⟨rfl, hl, rfl⟩⟩
    · cases h

/-- soundness of the split: ranges lie inside the packet, are disjoint, and a payload is never
empty and ends at the packet's last byte -/
theorem split_sound (haf hp : Bool) (L : Nat) :
    let s := splitSpec haf hp L
    (∀ a, s.1 = some a → 5 ≤ a.1 ∧ 1 ≤ a.2 ∧ a.1 + a.2 ≤ 188) ∧
    (∀ b, s.2 = some b → 1 ≤ b.2 ∧ b.1 + b.2 = 188 ∧ 4 ≤ b.1) ∧
    (∀ a b, s.1 = some a → s.2 = some b → a.1 + a.2 ≤ b.1) := by
  refine ⟨fun a ha => ?_, fun b hb => ?_, fun a b ha hb => ?_⟩
  · obtain ⟨_, ⟨_, _, rfl⟩ | ⟨_, _, _, rfl⟩⟩ := splitSpec_fst ha
    · decide
    · show 5 ≤ 5 ∧ 1 ≤ L ∧ 5 + L ≤ 188; omega
  · obtain ⟨_, ⟨_, rfl⟩ | ⟨_, _, rfl⟩⟩ := splitSpec_snd hb
    · decide
    · show 1 ≤ 183 - L ∧ 5 + L + (183 - L) = 188 ∧ 4 ≤ 5 + L; omega
  · -- both parts exist only for `haf`, `hp` and `1 ≤ L ≤ 182`
    obtain ⟨rfl, ⟨rfl, _⟩ | ⟨rfl, _, _, rfl⟩⟩ := splitSpec_fst ha
    · exact absurd (splitSpec_snd hb).1 (by decide)
    · obtain ⟨_, ⟨hf, _⟩ | ⟨_, _, rfl⟩⟩ := splitSpec_snd hb
      · cases hf
      · exact Nat.le_refl (5 + L)

/-- adjacency (sharper than `split_sound`'s `≤`): when both parts exist the field is bytes
`5 .. 5+L` and the payload starts exactly where it ends and runs to byte 188; a field without payload
is bytes `5 .. 188`; a payload without field starts at byte 4 (no adaptation field) or at byte 5
(adaptation field of length 0, i.e. only its length byte) -/
theorem split_adjacent (haf hp : Bool) (L : Nat) :
    let s := splitSpec haf hp L
    (∀ a b, s.1 = some a → s.2 = some b → a.1 = 5 ∧ a.2 = L ∧ b.1 = a.1 + a.2 ∧ b.1 + b.2 = 188) ∧
    (∀ a, s.1 = some a → s.2 = none → a = (5, 183) ∧ a.1 + a.2 = 188) ∧
    (∀ b, s.1 = none → s.2 = some b → (b = (4, 184) ∧ haf = false) ∨ (b = (5, 183) ∧ haf = true ∧ L = 0)) := by
  refine ⟨fun a b ha hb => ?_, fun a ha hn => ?_, fun b hn hb => ?_⟩
  · obtain ⟨rfl, ⟨rfl, _⟩ | ⟨rfl, _, _, rfl⟩⟩ := splitSpec_fst ha
    · exact absurd (splitSpec_snd hb).1 (by decide)
    · obtain ⟨_, ⟨hf, _⟩ | ⟨_, _, rfl⟩⟩ := splitSpec_snd hb
      · cases hf
      · show 5 = 5 ∧ L = L ∧ 5 + L = 5 + L ∧ 5 + L + (183 - L) = 188; omega
  · obtain ⟨rfl, ⟨rfl, _, rfl⟩ | ⟨rfl, _, h2, rfl⟩⟩ := splitSpec_fst ha
    · exact ⟨rfl, rfl⟩
    · -- with a payload flag and `L ≤ 182` the payload exists
      simp only [splitSpec, if_pos h2] at hn
      cases hn
  · obtain ⟨rfl, ⟨rfl, rfl⟩ | ⟨rfl, h2, rfl⟩⟩ := splitSpec_snd hb
    · exact .inl ⟨rfl, rfl⟩
    · -- no field although `haf`: only `L = 0` is left
      have : L = 0 := by
        simp only [splitSpec] at hn
        split at hn
        · cases hn
        · omega
      subst this
      exact .inr ⟨rfl, rfl, rfl⟩
/-! ### `Packet::try_new` -/

/-- `Packet::try_new` on a 188-byte buffer: no panic; `Some` exactly when sync_byte (bits 0..8) is
0x47.  (`Packet::new`, which asserts the sync byte instead, is not modelled.) -/
theorem tryNew_exact (buf : Bytes) (h : buf.length = 188) :
    tryNew buf = .ok (if readBits buf 0 8 = 0x47 then some buf else none) := by
  unfold tryNew assertR SIZE SYNC_BYTE
  have r := readBits_byte buf 0
  simp only [Nat.mul_zero] at r
  rw [r, byteAt_ok buf 0 (by omega)]
  by_cases hs : byteD buf 0 = 0x47 <;> simp [h, hs]

/-- any other length trips `assert_eq!(buf.len(), Self::SIZE)` -/
theorem tryNew_wrong_length (buf : Bytes) (h : buf.length ≠ 188) :
    tryNew buf = .panic "assert_eq!(buf.len(), Self::SIZE)" := by
  unfold tryNew assertR SIZE
  simp [h]

/-! ### the ranges are the slices the code takes

The model's `mkAf` / `mkPayload` evaluate the code's slice expression (for its panics) and then
return an `(offset, length)` pair written by hand.  These two theorems (any `p`, any length) show
the pair denotes exactly that slice. -/

/-- `mk_af`: a returned range denotes the slice `&buf[5..5+len]` the code passes to
`AdaptationField::new`, and is non-empty -/
theorem mkAf_slice (p : Bytes) (L : Nat) (r : Nat × Nat) (h : mkAf p L = .ok r) :
    r = (5, L) ∧ sliceR p 5 (5 + L) = .ok (rangeBytes p r) ∧ rangeBytes p r ≠ [] := by
  unfold mkAf ADAPTATION_FIELD_OFFSET FIXED_HEADER_SIZE at h
  cases hs : sliceR p (4 + 1) (4 + 1 + L) with
  | panic s => rw [hs] at h; cases h
  | ok s =>
    rw [hs] at h
    simp only [R.ok_bind] at h
    have hs' : s = (p.drop 5).take L := by
      unfold sliceR at hs
      split at hs
      · cases hs
      · split at hs
        · cases hs
        · injection hs with hs; rw [← hs]; congr 1; omega
    cases he : s.isEmpty with
    | true => rw [he] at h; cases h
    | false =>
      rw [he] at h
      simp only [assertR, Bool.not_false, if_true, R.ok_bind, R.pure_eq] at h
      injection h with h
      subst h
      refine ⟨rfl, ?_, ?_⟩
      · rw [hs']; rfl
      · show (p.drop 5).take L ≠ []
        rw [← hs']; intro e; rw [e] at he; cases he

/-- `mk_payload`: a returned range denotes the slice `&buf[offset..]` the code returns, for the
`content_offset()` it computed, and `offset < len` -/
theorem mkPayload_slice (p : Bytes) (r : Nat × Nat) (h : mkPayload p = .ok (some r)) :
    ∃ off, contentOffset p = .ok off ∧ off < p.length ∧ r = (off, p.length - off)
      ∧ sliceFrom p off = .ok (rangeBytes p r) ∧ rangeBytes p r = p.drop off := by
  unfold mkPayload at h
  cases ho : contentOffset p with
  | panic s => rw [ho] at h; cases h
  | ok off =>
    rw [ho] at h
    simp only [R.ok_bind] at h
    by_cases h1 : off = p.length
    · simp [h1] at h
    · by_cases h2 : off > p.length
      · have : (off == p.length) = false := by simp [h1]
        simp [this, h2] at h
      · have e1 : (off == p.length) = false := by simp [h1]
        simp only [e1, Bool.false_eq_true, if_false, h2] at h
        rw [sliceFrom_ok p off (by omega)] at h
        simp only [R.ok_bind, R.pure_eq] at h
        injection h with h; injection h with h
        subst h
        have e : rangeBytes p (off, p.length - off) = p.drop off := by
          unfold rangeBytes
          exact List.take_of_length_le (by simp)
        exact ⟨off, rfl, by omega, rfl, by rw [e]; exact sliceFrom_ok p off (by omega), e⟩

/-- the split on byte strings: the table `splitSpec` with the bytes each range denotes -/
def splitBytes (p : Bytes) (haf hp : Bool) (L : Nat) : Option Bytes × Option Bytes :=
  match haf, hp with
  | false, false => (none, none)
  | false, true => (none, some (p.drop 4))
  | true, false => (if L = 183 then some ((p.drop 5).take L) else none, none)
  | true, true => (if 1 ≤ L ∧ L ≤ 182 then some ((p.drop 5).take L) else none,
                   if L ≤ 182 then some (p.drop (5 + L)) else none)

/-- `Packet::adaptation_field()` as bytes, for every 188-byte packet: the `L =
adaptation_field_length` bytes that follow the length byte (byte 4), when the table allows a field -/
theorem af_bytes (p : Bytes) (h : p.length = 188) :
    Packet.af p = .ok (splitBytes p (hasAf (byteD p 3)) (hasPayload (byteD p 3)) (byteD p 4)).1 := by
  unfold Packet.af
  rw [af_exact p h]
  cases hasAf (byteD p 3) <;> cases hasPayload (byteD p 3) <;>
    simp only [splitSpec, splitBytes, R.ok_bind, R.pure_eq]
  · by_cases hl : byteD p 4 = 183
    · simp only [hl, if_true]; rfl
    · simp only [hl, if_false]
  · by_cases hl : 1 ≤ byteD p 4 ∧ byteD p 4 ≤ 182
    · simp only [hl, and_self, if_true]; rfl
    · simp only [hl, if_false]

/-- `Packet::payload()` as bytes, for every 188-byte packet: everything from the content offset
(4, or `5 + L`) to the end of the packet, when the table allows a payload -/
theorem payload_bytes (p : Bytes) (h : p.length = 188) :
    Packet.payload p
      = .ok (splitBytes p (hasAf (byteD p 3)) (hasPayload (byteD p 3)) (byteD p 4)).2 := by
  unfold Packet.payload
  rw [payload_exact p h]
  cases hasAf (byteD p 3) <;> cases hasPayload (byteD p 3) <;>
    simp only [splitSpec, splitBytes, R.ok_bind, R.pure_eq]
  · congr 2
    unfold rangeBytes
    exact List.take_of_length_le (by simp; omega)
  · by_cases hl : byteD p 4 ≤ 182
    · simp only [hl, if_true]
      congr 2
      unfold rangeBytes
      exact List.take_of_length_le (by simp; omega)
    · simp only [hl, if_false]

/-- whatever `adaptation_field()` hands out is non-empty and has exactly
`adaptation_field_length` (1..=183) bytes: this discharges the hypothesis `buf ≠ []` of every C13
theorem for adaptation fields obtained from a packet -/
theorem af_nonempty (p : Bytes) (h : p.length = 188) (a : Bytes) (ha : Packet.af p = .ok (some a)) :
    a ≠ [] ∧ a.length = byteD p 4 ∧ 1 ≤ byteD p 4 ∧ byteD p 4 ≤ 183 := by
  rw [af_bytes p h] at ha
  injection ha with ha
  revert ha
  cases hasAf (byteD p 3) <;> cases hasPayload (byteD p 3) <;> simp only [splitBytes] <;> intro ha
  · cases ha
  · cases ha
  · by_cases hl : byteD p 4 = 183
    · simp only [hl, if_true] at ha
      injection ha with ha
      have hlen : a.length = 183 := by rw [← ha]; simp; omega
      refine ⟨?_, by rw [hlen, hl], by omega, by omega⟩
      intro e; rw [e] at hlen; cases hlen
    · simp only [hl, if_false] at ha; cases ha
  · by_cases hl : 1 ≤ byteD p 4 ∧ byteD p 4 ≤ 182
    · simp only [hl, and_self, if_true] at ha
      injection ha with ha
      have hlen : a.length = byteD p 4 := by rw [← ha]; simp; omega
      refine ⟨?_, hlen, hl.1, by omega⟩
      intro e; rw [e] at hlen; simp at hlen; omega
    · simp only [hl, if_false] at ha; cases ha

/-! ### behavioural ties of the model's literal thresholds to the regenerated constants

`afRange` compares against the literal `182` (`Packet.lean:62`) and against
`SIZE - ADAPTATION_FIELD_OFFSET`; a literal inside a definition cannot be equated with a constant
by `decide`, so the tie is stated on the behaviour: were the model's literal different from
`Ts.Gen.afMaxWithPayload`, one of the clauses below would be false at `L = 182` or `L = 183`. -/

theorem tie_af_only_len :
    Ts.Gen.packetSize - (Ts.Gen.fixedHeaderSize + 1) = 183 ∧ SIZE - ADAPTATION_FIELD_OFFSET = 183 := by
  decide

theorem tie_af_max_model (p : Bytes) (h : p.length = 188)
    (haf : hasAf (byteD p 3) = true) (hp : hasPayload (byteD p 3) = true) :
    (byteD p 4 > Ts.Gen.afMaxWithPayload → afRange p = .ok none ∧ payloadRange p = .ok none) ∧
    (1 ≤ byteD p 4 → byteD p 4 ≤ Ts.Gen.afMaxWithPayload → afRange p = .ok (some (5, byteD p 4))) ∧
    (byteD p 4 ≤ Ts.Gen.afMaxWithPayload →
      payloadRange p = .ok (some (5 + byteD p 4, Ts.Gen.packetSize - 5 - byteD p 4))) := by
  rw [af_exact p h, payload_exact p h, haf, hp]
  simp only [splitSpec, Ts.Gen.afMaxWithPayload, Ts.Gen.packetSize]
  refine ⟨?_, ?_, ?_⟩
  · intro hl
    have h2 : ¬ (byteD p 4 ≤ 182) := by omega
    simp [h2]
  · intro h1 h2; simp [h2]; omega
  · intro h2; simp only [h2, if_true]

/-! ### non-vacuity -/
example : (List.replicate 188 (0x47 : UInt8)).length = 188 := List.length_replicate ..
example : splitSpec true true 7 = (some (5, 7), some (12, 176)) := by decide
example : splitSpec true false 183 = (some (5, 183), none) := by decide

/-! #### the MODEL evaluated on concrete 188-byte packets (kernel evaluation), one group per
adaptation_field_control value, with the boundary lengths 0, 1, 182, 183, 184 -/

/-- a 188-byte packet whose byte `i` has the value `i` for `i ≥ 5` (so that a returned byte string
shows where it was taken from): sync 0x47, PUSI set, PID 0x0100, then byte 3 (scrambling /
adaptation_field_control / continuity counter) and byte 4 (adaptation_field_length) as given -/
def exPkt (b3 b4 : UInt8) : Bytes :=
  [0x47, 0x41, 0x00, b3, b4] ++ (List.range 183).map (fun i => UInt8.ofNat (i + 5))

example : (exPkt 0x30 7).length = 188 := by decide +kernel
example : tryNew (exPkt 0x30 7) = .ok (some (exPkt 0x30 7)) := ok_of_okVal (by decide +kernel)
example : tryNew (0x48 :: (exPkt 0x30 7).drop 1) = .ok none := ok_of_okVal (by decide +kernel)
example : tryNew [0x47, 0x00] = .panic "assert_eq!(buf.len(), Self::SIZE)" := by rfl

/-! adaptation_field_control = '00' (reserved): neither part -/
example : afRange (exPkt 0x00 7) = .ok none ∧ payloadRange (exPkt 0x00 7) = .ok none :=
  ⟨ok_of_okVal (by decide +kernel), ok_of_okVal (by decide +kernel)⟩
/-! '01' payload only: bytes 4..188 (byte 4 is payload, not a length) -/
example : afRange (exPkt 0x10 7) = .ok none ∧ payloadRange (exPkt 0x10 7) = .ok (some (4, 184)) :=
  ⟨ok_of_okVal (by decide +kernel), ok_of_okVal (by decide +kernel)⟩
example : Packet.payload (exPkt 0x10 7) = .ok (some ((exPkt 0x10 7).drop 4)) := ok_of_okVal (by decide +kernel)
/-! '10' adaptation field only: accepted exactly for length 183 -/
example : afRange (exPkt 0x20 183) = .ok (some (5, 183)) ∧ payloadRange (exPkt 0x20 183) = .ok none :=
  ⟨ok_of_okVal (by decide +kernel), ok_of_okVal (by decide +kernel)⟩
example : afRange (exPkt 0x20 182) = .ok none ∧ afRange (exPkt 0x20 184) = .ok none
    ∧ afRange (exPkt 0x20 0) = .ok none :=
  ⟨ok_of_okVal (by decide +kernel), ok_of_okVal (by decide +kernel), ok_of_okVal (by decide +kernel)⟩
/-! '11' both: length 0 (no field, 183 payload bytes), 1, 7, 182 (one payload byte),
183 (neither: the field would leave no payload), 184 (neither) -/
example : afRange (exPkt 0x30 0) = .ok none ∧ payloadRange (exPkt 0x30 0) = .ok (some (5, 183)) :=
  ⟨ok_of_okVal (by decide +kernel), ok_of_okVal (by decide +kernel)⟩
example : afRange (exPkt 0x30 1) = .ok (some (5, 1)) ∧ payloadRange (exPkt 0x30 1) = .ok (some (6, 182)) :=
  ⟨ok_of_okVal (by decide +kernel), ok_of_okVal (by decide +kernel)⟩
example : afRange (exPkt 0x30 7) = .ok (some (5, 7)) ∧ payloadRange (exPkt 0x30 7) = .ok (some (12, 176)) :=
  ⟨ok_of_okVal (by decide +kernel), ok_of_okVal (by decide +kernel)⟩
example : afRange (exPkt 0x30 182) = .ok (some (5, 182))
    ∧ payloadRange (exPkt 0x30 182) = .ok (some (187, 1)) :=
  ⟨ok_of_okVal (by decide +kernel), ok_of_okVal (by decide +kernel)⟩
example : afRange (exPkt 0x30 183) = .ok none ∧ payloadRange (exPkt 0x30 183) = .ok none :=
  ⟨ok_of_okVal (by decide +kernel), ok_of_okVal (by decide +kernel)⟩
example : afRange (exPkt 0x30 184) = .ok none ∧ payloadRange (exPkt 0x30 184) = .ok none :=
  ⟨ok_of_okVal (by decide +kernel), ok_of_okVal (by decide +kernel)⟩
example : Packet.af (exPkt 0x30 3) = .ok (some [5, 6, 7]) := ok_of_okVal (by decide +kernel)
example : Packet.payload (exPkt 0x30 180) = .ok (some [185, 186, 187]) := ok_of_okVal (by decide +kernel)
example : Packet.payload (exPkt 0x30 182) = .ok (some [187]) := ok_of_okVal (by decide +kernel)
/-! hypotheses of `mkAf_slice`, `mkPayload_slice`, `af_nonempty`, `tie_af_max_model` are satisfiable -/
example : mkAf (exPkt 0x30 7) 7 = .ok (5, 7) ∧ mkPayload (exPkt 0x30 7) = .ok (some (12, 176)) :=
  ⟨ok_of_okVal (by decide +kernel), ok_of_okVal (by decide +kernel)⟩
example : hasAf (byteD (exPkt 0x30 7) 3) = true ∧ hasPayload (byteD (exPkt 0x30 7) 3) = true
    ∧ byteD (exPkt 0x30 7) 4 = 7 := by decide +kernel
example : pid (exPkt 0x30 7) = .ok 0x0100 ∧ pusi (exPkt 0x30 7) = .ok true ∧ tei (exPkt 0x30 7) = .ok false
    ∧ cc (exPkt 0x3A 7) = .ok 10 :=
  ⟨ok_of_okVal (by decide +kernel), ok_of_okVal (by decide +kernel),
   ok_of_okVal (by decide +kernel), ok_of_okVal (by decide +kernel)⟩

/-! ### the VALUES returned for `adaptation_field_control` and `transport_scrambling_control`

`Packet::adaptation_control()` / `transport_scrambling_control()` return small wrapper values that
derive `PartialEq` (and, for the former, `Debug`), so what they store is observable.  The theorems
say that the stored byte carries exactly the two bits of its field, in place, and nothing else of
header byte 3: two packets that agree in the field return equal values (finding F11 was that they
did not).  The harness compares `==` and `Debug` across packets that differ in the other bits of
byte 3 (`pkt` op: `aceq`, `tsceq`, `acdbg`). -/

/-- the stored byte depends on the two field bits only, and determines them -/
theorem control_values_carry_only_field_bits : ∀ b : Fin 256,
    adaptationControlRepr b.val = 16 * readBits [UInt8.ofNat b.val] 2 2 ∧
    scramblingControlRepr b.val = 64 * readBits [UInt8.ofNat b.val] 0 2 ∧
    (hasAf b.val = hasAf (adaptationControlRepr b.val)) ∧
    (hasPayload b.val = hasPayload (adaptationControlRepr b.val)) ∧
    (isScrambled b.val = isScrambled (scramblingControlRepr b.val)) ∧
    (scheme b.val = scheme (scramblingControlRepr b.val)) := by decide +kernel

/-- bytes that agree on the field agree on the value (what `==` compares), whatever the
continuity counter and the other field are -/
theorem control_values_equal_iff (a b : Fin 256) :
    (adaptationControlRepr a.val = adaptationControlRepr b.val ↔
      readBits [UInt8.ofNat a.val] 2 2 = readBits [UInt8.ofNat b.val] 2 2) ∧
    (scramblingControlRepr a.val = scramblingControlRepr b.val ↔
      readBits [UInt8.ofNat a.val] 0 2 = readBits [UInt8.ofNat b.val] 0 2) := by
  have ha := control_values_carry_only_field_bits a
  have hb := control_values_carry_only_field_bits b
  rw [ha.1, hb.1, ha.2.1, hb.2.1]
  constructor <;> constructor <;> intro h <;> omega

example : adaptationControlRepr 0x32 = 0x30 ∧ adaptationControlRepr 0xFD = 0x30
    ∧ scramblingControlRepr 0x9A = 0x80 := by decide

end Ts.Props.C12
