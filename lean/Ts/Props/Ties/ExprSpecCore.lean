import Ts.Refl.OrHom
import Ts.Basic
import Ts.Spec.Bits
import Ts.Lemmas.BitOps
/-!
# CODE = ISO: the source's bit-field expressions compute the standard's bit fields

`Ts/Props/Ties/Expr*.lean` prove CODE = MODEL: the expression machine-translated from `/repo/src`
(`Ts.Gen.Expr.*`) equals the hand-written model's expression, for all byte values.  The property
theorems (`Ts/Props/C12 … C17`, `Ts/Lemmas/*`) prove MODEL = ISO: the model's masks and shifts compute
the `uimsbf` field that the syntax tables of ISO/IEC 13818-1 define (`Ts.Spec.readBits bs off n`:
`n` bits, most significant first, from BIT offset `off`).

The last part of each `Expr*.lean` (and `ExprSpecPsi.lean`) composes the two, with the transport lemma
`tie_on_bytes` of this file.  Each `code_*_is_iso` states that the CODE's expression, evaluated on
the bytes of an arbitrary byte string `bs` (`envB bs`), is the ISO bit field of `bs` — the model
does not occur in the statement.  Every proof is the chain

    code_model_* : f (envB bs) = m (envB bs)      -- the tie `tie_expr_*`, transported to `bs`
    model_iso_*  : m (envB bs) = readBits bs … …  -- the arithmetic lemmas of the property proofs
    code_*_is_iso := code_model_*.trans model_iso_*

The tie theorems are stated for lists of at most `n` byte values, `bs` may be longer:
`tie_on_bytes` applies the tie to the first `n` bytes of `bs` and uses that both expressions read
only indices `< n` (`reads_below`, by unfolding).

The length hypotheses say that the field lies inside `bs`; they are what a caller has, and the
minimum for the field to be meaningful.  The proofs do not use them: past the end of the string
`envB bs` and `readBits bs` both read 0, so the equations hold there as well.

Layouts (checked against the syntax tables of ISO/IEC 13818-1):
* transport packet (2.4.3.2): sync 8 | tei 1 | pusi 1 | prio 1 | PID 13 | tsc 2 | afc 2 | cc 4
* PTS/DTS (2.4.3.6): prefix 4 | [32..30] 3 | marker | [29..15] 15 | marker | [14..0] 15 | marker
* PCR/OPCR (2.4.3.4): base 33 | reserved 6 | extension 9
* ESCR (2.4.3.6): reserved 2 | [32..30] 3 | marker | [29..15] 15 | marker | [14..0] 15 | marker |
  extension 9 | marker;  ES_rate: marker | ES_rate 22 | marker
* section (2.4.4.x): table_id 8 | syntax 1 | private 1 | reserved 2 | section_length 12; then
  (`TableSyntaxHeader`) id 16 | reserved 2 | version 5 | current_next 1 | section_number 8 | last 8
* PAT entry: program_number 16 | reserved 3 | PID 13
* PMT body: reserved 3 | PCR_PID 13 | reserved 4 | program_info_length 12;
  stream: stream_type 8 | reserved 3 | elementary_PID 13 | reserved 4 | ES_info_length 12
* adaptation field extension (2.4.3.4): ltw_valid 1 | ltw_offset 15;  reserved 2 | piecewise_rate 22
* maximum_bitrate_descriptor payload (2.6.26): reserved 2 | maximum_bitrate 22
* PES packet (2.4.3.6): start code prefix 24 | stream_id 8 | PES_packet_length 16
-/
namespace Ts.Props.Ties.Expr
open Ts Ts.Refl Ts.Spec

/-- `Ts.Refl.envB_apply`, with `byteD` -/
theorem envB_byteD (b : Bytes) (i : Nat) : envB b i = byteD b i := envB_apply b i

def ReadsBelow (n : Nat) (f : Env → Nat) : Prop :=
  ∀ e e' : Env, (∀ i, i < n → e i = e' i) → f e = f e'

/-- a tie proved for all lists of at most `n` byte values holds on the bytes of every byte
string, whatever its length, when both sides read only indices `< n` -/
theorem tie_on_bytes {f g : Env → Nat} (n : Nat)
    (tie : ∀ l : List Nat, l.length ≤ n → (∀ x ∈ l, x < 256) → f (envL l) = g (envL l))
    (hf : ReadsBelow n f) (hg : ReadsBelow n g) (bs : Bytes) : f (envB bs) = g (envB bs) := by
  -- the tie is applied to the values of the first `n` bytes of `bs`
  have agree : ∀ i, i < n → envB bs i = envB (bs.take n) i := fun i hi => by
    rw [envB_byteD, envB_byteD, byteD_take bs n i hi]
  rw [hf _ _ agree, hg _ _ agree]
  refine tie _ ?_ (envB_lt _)
  rw [List.length_map, List.length_take]
  exact Nat.min_le_left _ _

/-- `reads_below f`: proves `ReadsBelow n f` by unfolding `f` and rewriting every byte read -/
macro "reads_below " f:ident : tactic =>
  `(tactic| (intro e e' h; simp (disch := decide) only [$f:ident, h]))

end Ts.Props.Ties.Expr
