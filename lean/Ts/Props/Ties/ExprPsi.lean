import Ts.Refl.OrHom
import Ts.Gen.Exprs
import Ts.Model.Psi
import Ts.Model.Values
/-!
# Expression ties — section headers (audited with C03)

See `Ts/Props/Ties/ExprTime.lean` for the method.  `Ts.Gen.Expr.sch_*`, `tsh_*` are translated from
`/repo/src/psi/mod.rs` on every run.
-/
namespace Ts.Props.Ties.Expr
open Ts Ts.Refl Ts.Gen.Expr

def mSchSyntax (e : Env) : Bool := e 1 &&& 0b1000_0000 != 0
def mSchPrivate (e : Env) : Bool := e 1 &&& 0b0100_0000 != 0
def mSchLength (e : Env) : Nat := ((e 1 &&& 0b0000_1111) <<< 8) ||| e 2

theorem tie_expr_sch_bits : ∀ x : Fin 256,
    sch_syntax (envL [0xff, x.val, 0xff]) = mSchSyntax (envL [0, x.val])
    ∧ sch_private (envL [0xff, x.val, 0xff]) = mSchPrivate (envL [0, x.val]) := by decide +kernel
theorem tie_expr_sch_length : ∀ l : List Nat, l.length ≤ 3 → (∀ x ∈ l, x < 256) →
    sch_length (envL l) = mSchLength (envL l) := by tie_linear 3

theorem tie_model_header_new (b : Bytes) : Psi.headerNew b = (do
    assertR (b.length == Psi.COMMON) "assert_eq!(buf.len(), Self::SIZE)"
    let b0 ← byteAt b 0; let b1 ← byteAt b 1; let b1' ← byteAt b 1; let b1'' ← byteAt b 1; let b2 ← byteAt b 2
    pure ⟨b0, mSchSyntax (envL [0, b1]), mSchPrivate (envL [0, b1']), mSchLength (envL [0, b1'', b2])⟩) := rfl

def mTshId (e : Env) : Nat := (e 0 <<< 8) ||| e 1
def mTshVersion (e : Env) : Nat := (e 2 >>> 1) &&& 0b0001_1111

theorem tie_expr_tsh_id : ∀ l : List Nat, l.length ≤ 2 → (∀ x ∈ l, x < 256) →
    tsh_id (envL l) = mTshId (envL l) := by tie_linear 2
theorem tie_expr_tsh_version : ∀ x : Fin 256,
    tsh_version (envL [0xff, 0xff, x.val, 0xff]) = mTshVersion (envL [0, 0, x.val]) := by decide +kernel

theorem tie_model_tsh_version (b : Bytes) : Psi.tshVersion b = (do
    assertR (b.length ≥ Psi.TSH) "assert!(buf.len() >= Self::SIZE)"
    let b2 ← byteAt b 2
    pure (mTshVersion (envL [0, 0, b2]))) := rfl

theorem tie_model_tsh_fields (b : Bytes) : Values.tshFields b = (do
    assertR (b.length ≥ 5) "assert!(buf.len() >= Self::SIZE)"
    let b0 ← byteAt b 0; let b1 ← byteAt b 1
    let id := mTshId (envL [b0, b1])
    let b2 ← byteAt b 2
    let version := mTshVersion (envL [0, 0, b2])
    let b2' ← byteAt b 2
    let cur ← Values.currentNextFrom (b2' &&& 1)
    let b3 ← byteAt b 3; let b4 ← byteAt b 4
    pure ⟨id, version, cur, b3, b4⟩) := rfl

end Ts.Props.Ties.Expr
