import Ts.Props.Ties.StmtPsiGate
import Ts.Props.Ties.StmtTables
import Ts.Props.Ties.StmtTablesPmt
import Ts.Lemmas.AppEval
/-!
# Capstone: a table handler, from the transport packet to the queued changes, is translated code

`handler_is_translated_path` (StmtPsiGate) says: the model's table handler on one packet is the section
chain translated from `psi/mod.rs` (consumer → processor → de-duplication → buffering → CRC gate)
followed by the model's `patSection` / `pmtSection`.  `tie_stmt_pat_section` / `tie_stmt_pmt_section`
(StmtTables, StmtTablesPmt) say: `patSection` / `pmtSection` are `PatProcessor::section` /
`PmtProcessor::section` translated from `demultiplex.rs`.  This file composes the two: the whole
handler of the model — `Psi.consume` then `App.runDeliveries` — equals (up to which panic message is
reported) a composition that consists ONLY of definitions regenerated from the source on every run,
with the application's `construct` as the one parameter.
-/
namespace Ts.Props.Ties.StmtCapstone
open Ts Ts.Psi Ts.Stmt Ts.Demux Ts.App Ts.Gen Ts.Gen.PsiGen Ts.Gen.TablesGen
open Ts.Props.Ties.StmtPsi Ts.Props.Ties.StmtTables

/-- the translated CRC gate over every whole-section call, keeping the calls it makes on the table
processor (header, table-syntax header, data) -/
def gatedH (fz : Bool) : List BufferSectionSyntaxParser.Call → R (List CrcCheckWholeSectionSyntaxPayloadParser.Call)
  | [] => .ok []
  | .«section» h t d :: cs =>
    CrcCheckWholeSectionSyntaxPayloadParser.section fz {} h t d >>= fun r1 =>
      gatedH fz cs >>= fun r2 => .ok (r1.2 ++ r2)

theorem gated_eq_map (fz : Bool) : ∀ cs, gated fz cs = rmap (List.map gateDeliv) (gatedH fz cs) := by
  intro cs
  induction cs with
  | nil => rfl
  | cons c cs ih =>
    rcases c with ⟨h, t, d⟩
    simp only [gated, gatedH, ih, rmap_bind, bind_rmap, rmap_ok, List.map_append]

/-- the header a call carries is the header of the data it carries -/
def HOk : CrcCheckWholeSectionSyntaxPayloadParser.Call → Prop
  | .«section» h _ d => h.tableId = byteD d.bytes 0

/-- the translated CRC gate passes on nothing, or exactly the call it was given (from `tie_stmt_crc`,
so independent of how the gate's tests are ordered in the source) -/
theorem crc_calls (fz : Bool) (h : Psi.Header) (t d : Slice) (h3 : 3 ≤ d.bytes.length)
    (hh : Psi.headerNew (d.bytes.take 3) = .ok h)
    (r : CrcCheckWholeSectionSyntaxPayloadParser.Self × List CrcCheckWholeSectionSyntaxPayloadParser.Call)
    (e : CrcCheckWholeSectionSyntaxPayloadParser.section fz {} h t d = .ok r) :
    r.2 = [] ∨ r.2 = [.«section» h t d] := by
  have k := tie_stmt_crc fz h t d h3 hh
  rw [e] at k
  cases hp : Psi.crcPass fz d.bytes with
  | panic m => rw [hp] at k; cases k
  | ok pass =>
    rw [hp] at k
    simp only [rmap_ok, erase_ok] at k
    have k' := R.ok.inj k
    cases pass
    · exact Or.inl (by simpa using k')
    · exact Or.inr (by simpa using k')

theorem hok_of_hdrOk (h : Psi.Header) (t d : Slice) (h3 : 3 ≤ d.bytes.length)
    (hh : Psi.headerNew (d.bytes.take 3) = .ok h) : HOk (.«section» h t d) := by
  rw [eq_hdrOf h3 hh]; rfl

theorem gatedH_hok (fz : Bool) : ∀ (cs : List BufferSectionSyntaxParser.Call), (∀ c ∈ cs, HdrOk c) →
    ∀ r, gatedH fz cs = .ok r → ∀ x ∈ r, HOk x := by
  intro cs
  induction cs with
  | nil => intro _ r e x hx; cases e; cases hx
  | cons c cs ih =>
    intro hall r e x hx
    rcases c with ⟨h, t, d⟩
    have hc : HdrOk (.«section» h t d) := hall _ (List.mem_cons_self ..)
    simp only [gatedH] at e
    obtain ⟨r1, e1, e⟩ := R.bind_eq_ok e
    obtain ⟨r2, e2, e⟩ := R.bind_eq_ok e
    cases e
    rcases List.mem_append.mp hx with hx | hx
    · rcases crc_calls fz h t d hc.1 hc.2 r1 e1 with h0 | h1
      · rw [h0] at hx; cases hx
      · rw [h1] at hx
        rw [List.mem_singleton.mp hx]
        exact hok_of_hdrOk h t d hc.1 hc.2
    · exact ih (fun c' hc' => hall c' (List.mem_cons_of_mem _ hc')) r2 e2 x hx

/-- a translated table processor `sec` (its state made from the registered set by `mk`) that agrees
with the model's `sect` on one call, run over every call the gate made, is `sect` run on the same
deliveries -/
theorem codeRun_eq {P : Type} (mk : List Nat → P) (sect : SectFn)
    (sec : P → Ctx → List (Change Handler) → Psi.Header → Slice → R (P × Ctx × List (Change Handler)))
    (run : P → Ctx → List (Change Handler) → List CrcCheckWholeSectionSyntaxPayloadParser.Call →
      R (P × Ctx × List (Change Handler)))
    (run_nil : ∀ p c q, run p c q [] = .ok (p, c, q))
    (run_cons : ∀ p c q h t d cs,
      run p c q (.«section» h t d :: cs) = sec p c q h d >>= fun r => run r.1 r.2.1 r.2.2 cs)
    (hsec : ∀ c reg q h d, h.tableId = byteD d.bytes 0 →
      sec (mk reg) c q h d = rmap (fun r => (mk r.2.1, r.1, q ++ r.2.2)) (sect c reg d.bytes)) :
    ∀ (cs : List CrcCheckWholeSectionSyntaxPayloadParser.Call), (∀ x ∈ cs, HOk x) →
    ∀ (reg : List Nat) (c : Ctx) (q : List (Change Handler)),
      run (mk reg) c q cs = rmap (fun r => (mk r.2.1, r.1, q ++ r.2.2)) (runPassed sect c reg (cs.map gateDeliv)) := by
  intro cs
  induction cs with
  | nil => intro _ reg c q; simp [run_nil, runPassed]
  | cons x cs ih =>
    intro hall reg c q
    rcases x with ⟨h, t, d⟩
    obtain ⟨hx, hcs⟩ := List.forall_mem_cons.1 hall
    simp only [run_cons, List.map_cons, runPassed, gateDeliv, delivOf, hsec c reg q h d hx,
      bind_rmap, rmap_bind, rmap_ok]
    cases sect c reg d.bytes with
    | panic m => rfl
    | ok r1 =>
      simp only [R.ok_bind, ih hcs, List.append_assoc]
      cases runPassed sect r1.1 r1.2.1 (cs.map gateDeliv) <;> rfl

def codeRunPat (self : PatProcessor) (c : Ctx) (q : List (Change Handler)) :
    List CrcCheckWholeSectionSyntaxPayloadParser.Call → R (PatProcessor × Ctx × List (Change Handler))
  | [] => .ok (self, c, q)
  | .«section» h _ d :: cs =>
    PatProcessor.«section» appConstruct self c q h d >>= fun r => codeRunPat r.1 r.2.1 r.2.2 cs

theorem codeRunPat_eq : ∀ (cs : List CrcCheckWholeSectionSyntaxPayloadParser.Call), (∀ x ∈ cs, HOk x) →
    ∀ (reg : List Nat) (c : Ctx) (q : List (Change Handler)),
      codeRunPat ⟨reg⟩ c q cs
        = rmap (fun r => ((⟨r.2.1⟩ : PatProcessor), r.1, q ++ r.2.2)) (runPassed patSection c reg (cs.map gateDeliv)) :=
  codeRun_eq PatProcessor.mk patSection _ codeRunPat (fun _ _ _ => rfl) (fun _ _ _ _ _ _ _ => rfl)
    tie_stmt_pat_section

def codeRunPmt (self : PmtProcessor) (c : Ctx) (q : List (Change Handler)) :
    List CrcCheckWholeSectionSyntaxPayloadParser.Call → R (PmtProcessor × Ctx × List (Change Handler))
  | [] => .ok (self, c, q)
  | .«section» h _ d :: cs =>
    PmtProcessor.«section» appConstructRaw self c q h d >>= fun r => codeRunPmt r.1 r.2.1 r.2.2 cs

theorem codeRunPmt_eq (pid pn : Nat) : ∀ (cs : List CrcCheckWholeSectionSyntaxPayloadParser.Call), (∀ x ∈ cs, HOk x) →
    ∀ (reg : List Nat) (c : Ctx) (q : List (Change Handler)),
      codeRunPmt ⟨pid, pn, reg⟩ c q cs
        = rmap (fun r => ((⟨pid, pn, r.2.1⟩ : PmtProcessor), r.1, q ++ r.2.2))
            (runPassed (fun c r d => pmtSection c pid r d) c reg (cs.map gateDeliv)) :=
  codeRun_eq (PmtProcessor.mk pid pn) _ _ codeRunPmt (fun _ _ _ => rfl) (fun _ _ _ _ _ _ _ => rfl)
    fun c reg => tie_stmt_pmt_section c pid pn reg

/-- the PAT handler on one transport packet, composed ONLY of definitions translated from the source
(`SectionPacketConsumer::consume` → `SectionSyntaxSectionProcessor` → `DedupSectionSyntaxPayloadParser`
→ `BufferSectionSyntaxParser` → `CrcCheckWholeSectionSyntaxPayloadParser` → `PatProcessor::section`,
the last with the application's `construct`); the changeset is empty on entry -/
def codePatPacket (fz : Bool) (st : TableSt) (self : PatProcessor) (c : Ctx) (pk : Stmt.Pk) :
    R (TableSt × PatProcessor × Ctx × List (Change Handler)) :=
  chainConsumeK fz (tableStepK fz) st pk >>= fun r =>
    gatedH fz r.2 >>= fun calls => rmap (fun x => (r.1, x)) (codeRunPat self c [] calls)

def codePmtPacket (fz : Bool) (st : TableSt) (self : PmtProcessor) (c : Ctx) (pk : Stmt.Pk) :
    R (TableSt × PmtProcessor × Ctx × List (Change Handler)) :=
  chainConsumeK fz (tableStepK fz) st pk >>= fun r =>
    gatedH fz r.2 >>= fun calls => rmap (fun x => (r.1, x)) (codeRunPmt self c [] calls)

theorem codePacket_eq {P : Type} (mk : List Nat → P) (sect : SectFn)
    (run : P → Ctx → List (Change Handler) → List CrcCheckWholeSectionSyntaxPayloadParser.Call →
      R (P × Ctx × List (Change Handler)))
    (hrun : ∀ (cs : List CrcCheckWholeSectionSyntaxPayloadParser.Call), (∀ x ∈ cs, HOk x) →
      ∀ (reg : List Nat) (c : Ctx) (q : List (Change Handler)),
      run (mk reg) c q cs = rmap (fun r => (mk r.2.1, r.1, q ++ r.2.2)) (runPassed sect c reg (cs.map gateDeliv)))
    (fz : Bool) (st : TableSt) (reg : List Nat) (c : Ctx) (pk : Stmt.Pk) :
    (chainConsumeK fz (tableStepK fz) st pk >>= fun r =>
        gatedH fz r.2 >>= fun calls => rmap (fun x => (r.1, x)) (run (mk reg) c [] calls))
      = rmap (fun y => (y.1, mk y.2.2.1, y.2.1, y.2.2.2))
          (tableGated fz st pk >>= fun g => rmap (fun x => (g.1, x)) (runPassed sect c reg g.2)) := by
  unfold tableGated
  simp only [rmap_bind, R.bind_assoc, gated_eq_map, bind_rmap]
  refine bind_congr_ok fun r hk => bind_congr_ok fun calls hg => ?_
  simp only [hrun calls (gatedH_hok fz r.2 (table_calls_hdrOk fz st pk r hk) calls hg), rmap_rmap, List.nil_append]

theorem codePatPacket_eq (fz : Bool) (st : TableSt) (reg : List Nat) (c : Ctx) (pk : Stmt.Pk) :
    codePatPacket fz st ⟨reg⟩ c pk
      = rmap (fun y => (y.1, (⟨y.2.2.1⟩ : PatProcessor), y.2.1, y.2.2.2))
          (tableGated fz st pk >>= fun g => rmap (fun x => (g.1, x)) (runPassed patSection c reg g.2)) :=
  codePacket_eq PatProcessor.mk patSection codeRunPat codeRunPat_eq fz st reg c pk

theorem codePmtPacket_eq (fz : Bool) (st : TableSt) (pid pn : Nat) (reg : List Nat) (c : Ctx) (pk : Stmt.Pk) :
    codePmtPacket fz st ⟨pid, pn, reg⟩ c pk
      = rmap (fun y => (y.1, (⟨pid, pn, y.2.2.1⟩ : PmtProcessor), y.2.1, y.2.2.2))
          (tableGated fz st pk >>= fun g => rmap (fun x => (g.1, x)) (runPassed (fun c r d => pmtSection c pid r d) c reg g.2)) :=
  codePacket_eq (PmtProcessor.mk pid pn) _ codeRunPmt (codeRunPmt_eq pid pn) fz st reg c pk

/-- the translated composition against the model's handler, given the packet-level equation and the
model-side path theorem for `sect` -/
theorem code_handler {P : Type} (mk : List Nat → P) (sect : SectFn)
    (hcfg : ∀ c reg d r, sect c reg d = .ok r → r.1.cfg = c.cfg)
    (s : Psi.St) (reg : List Nat) (c : Ctx) (p : Bytes) (h : p.length = 188) :
    erase (rmap (fun y : TableSt × Ctx × List Nat × List (Change Handler) => (y.1, mk y.2.2.1, y.2.1, y.2.2.2))
        (tableGated c.cfg.bypassCrc (concTable s) (pkOf p) >>= fun g => rmap (fun x => (g.1, x)) (runPassed sect c reg g.2)))
      = erase (Psi.consume Psi.table s p >>= fun r =>
          rmap (fun x => (concTable r.1, mk x.2.1, x.1, x.2.2)) (App.runDeliveries sect c reg r.2)) := by
  rw [erase_rmap _ (handler_is_translated_path sect hcfg s reg c p h)]
  simp only [rmap_bind, rmap_rmap]

/-- **CAPSTONE (PAT).**  For every state of every layer, every registered set, every context and
every 188-byte packet: the model's PAT handler (`Psi.consume`, then `App.runDeliveries patSection`)
and the composition of the definitions translated from `/repo/src` agree — same new state of every
layer, same registered PMT PIDs, same context, same queued changes — and one panics exactly when the
other does. -/
theorem code_pat_handler (s : Psi.St) (reg : List Nat) (c : Ctx) (p : Bytes) (h : p.length = 188) :
    erase (codePatPacket c.cfg.bypassCrc (concTable s) ⟨reg⟩ c (pkOf p))
      = erase (Psi.consume Psi.table s p >>= fun r =>
          rmap (fun x => (concTable r.1, (⟨x.2.1⟩ : PatProcessor), x.1, x.2.2)) (App.runDeliveries patSection c reg r.2)) := by
  rw [codePatPacket_eq]
  exact code_handler PatProcessor.mk patSection patSection_cfg s reg c p h

/-- **CAPSTONE (PMT).**  The same for every PMT handler (`pid`, `program_number`). -/
theorem code_pmt_handler (pid pn : Nat) (s : Psi.St) (reg : List Nat) (c : Ctx) (p : Bytes) (h : p.length = 188) :
    erase (codePmtPacket c.cfg.bypassCrc (concTable s) ⟨pid, pn, reg⟩ c (pkOf p))
      = erase (Psi.consume Psi.table s p >>= fun r =>
          rmap (fun x => (concTable r.1, (⟨pid, pn, x.2.1⟩ : PmtProcessor), x.1, x.2.2))
            (App.runDeliveries (fun c r d => pmtSection c pid r d) c reg r.2)) := by
  rw [codePmtPacket_eq]
  exact code_handler (PmtProcessor.mk pid pn) _ (fun c reg d r e => pmtSection_cfg pid c reg d r e) s reg c p h
/-- non-vacuity: the translated composition run on a concrete PAT packet (program 1 → PID 0x100; the
CRC-bypassing build, the sample packet's CRC bytes being arbitrary) registers PID 0x100 and queues one
insert; in the checking build the same packet is stopped by the translated CRC gate -/
example :
    (match codePatPacket true (concTable {}) ⟨[]⟩ { cfg := { bypassCrc := true } } (pkOf patPacket) with
     | .ok r => (r.2.1.1, r.2.2.2.length) | .panic _ => ([], 99)) = ([0x100], 1) ∧
    (match codePatPacket false (concTable {}) ⟨[]⟩ { cfg := {} } (pkOf patPacket) with
     | .ok r => (r.2.1.1, r.2.2.2.length) | .panic _ => ([], 99)) = ([], 0) := by
  eval_app [codePatPacket_eq]

end Ts.Props.Ties.StmtCapstone
