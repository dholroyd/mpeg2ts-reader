import Ts.Spec.PesMux
import Ts.Lemmas.C02
import Ts.Lemmas.C02b
import Ts.Lemmas.C02c
import Ts.Lemmas.C02Ex
import Ts.Props.C06
import Ts.Gen.Tables
import Ts.Lemmas.AppEval
/-!
# C02 — PES payload conservation through the transport multiplex

For any PES packet built by the independent encoder `encodePes` (`Ts/Spec/PesMux.lean`) and spread
over transport packets by any `WellFormedPlan` (arbitrary adaptation-field stuffing in any packet,
payload-less packets in between, PES header wholly inside the first packet): what
`PesFilter.run` (the model of `PesPacketFilter::consume`) hands over (`pes_conservation`), what the
harness application reads from the header (`begin_reports_header`), sequences of PES packets, and
the same through the dispatcher interleaved with other PIDs (`not_attributed_to_other_pid`, with
`quiet_of_benign_traffic` for hypotheses on the input).
-/
namespace Ts.Props.C02
open Ts Ts.Packet Ts.PesFilter Ts.Demux Ts.Spec Ts.Spec.PesMux Ts.Lemmas.C02

/-! ### one PES packet -/

/-- **C02.**  From ANY filter state `f` whose stored counter, if any, is the predecessor of the first
packet's: the run yields exactly the plan's callbacks (`start` / `end_packet` as the previous state
demands, one `begin_packet`, one `continue_packet` per payload-carrying continuation, nothing for
payload-less packets, no `continuity_error`); the bytes handed over concatenate to `encodePes pes`,
and exposed payload ++ continuation slices = `pes.payload`.  No hypothesis on `pes`. -/
theorem pes_conservation (pes : PesPkt) (pl : Plan) (f : F)
    (hpl : WellFormedPlan pes pl) (hcc : ∀ c ∈ f.cc, tpCc pl.first = (c + 1) % 16) :
    ∃ o l, tpPayload pl.first = some (o, l) ∧ o + l = 188 ∧ headerLen pes ≤ l ∧
      -- the callbacks, packet by packet, and the final state
      PesFilter.run f (pl.first :: pl.conts) =
        .ok (⟨some pl.lastCc, .started⟩,
             (openEvs f.st ++ [Ev.beginPkt o l]) :: pl.conts.map contEvs) ∧
      -- nothing lost, duplicated or reordered: the ranges handed over, in order, are the PES packet
      delivered (pl.first :: pl.conts) ((openEvs f.st ++ [Ev.beginPkt o l]) :: pl.conts.map contEvs)
        = encodePes pes ∧
      rangeBytes pl.first (o, l) ++ (pl.conts.map tpPayloadBytes).flatten = encodePes pes ∧
      -- (payload exposed by the header) ++ (continuation slices) = the PES payload
      rangeBytes pl.first (o + headerLen pes, l - headerLen pes)
        ++ (pl.conts.map tpPayloadBytes).flatten = pes.payload := by
  obtain ⟨o, l, hr, hpay, hkl, hol, hbytes, hk, hle⟩ := first_facts pes pl hpl
  obtain ⟨r1, r2, r3⟩ := plan_runPure pes pl f hpl hcc
  have hfe : firstEvs f.st pl.first = openEvs f.st ++ [Ev.beginPkt o l] := by
    unfold firstEvs; rw [hr]
  obtain ⟨_, _, _, _, _, hconts⟩ := hpl
  rw [hkl] at hconts
  obtain ⟨_, c2, _⟩ := conts_run pl.conts _ _ hconts
  simp only [Plan.packets, planEvs, hfe] at r1 r2 r3
  refine ⟨o, l, hr, hol, hk, ?_, r3, ?_, ?_⟩
  · rw [Ts.Lemmas.C08.run_eq f _ r2, r1]
  · rw [hbytes, c2]; exact List.take_append_drop _ _
  · rw [exposed_of_take pes pl.first o l hk hbytes, c2, drop_encode pes l hk]
    exact List.take_append_drop _ _

/-- `start_stream` iff nothing was seen before, `end_packet` iff a packet was open -/
theorem open_events (st : St) :
    (openEvs st = [Ev.start] ↔ st = .begin) ∧ (openEvs st = [Ev.endPkt] ↔ st = .started) ∧
    (openEvs st = [] ↔ st = .ignoreRest) := by
  cases st <;> simp [openEvs]

theorem cont_events (p : Bytes) :
    (∀ o l, tpPayload p = some (o, l) → contEvs p = [Ev.cont o l]) ∧
    (tpPayload p = none → contEvs p = []) ∧
    (tpPayloadFlag p = false → contEvs p = []) := by
  refine ⟨?_, ?_, ?_⟩
  · intro o l h; unfold contEvs; rw [h]
  · intro h; unfold contEvs; rw [h]
  · intro h
    have : tpPayload p = none := by
      rw [tpPayload_eq]; exact payOf_none_of_hp (by rw [← tpPayloadFlag_eq]; exact h)
    unfold contEvs; rw [this]

theorem no_continuity_error (st : St) (pl : Plan) :
    (∀ evs ∈ planEvs st pl, Ev.ccErr ∉ evs) ∧
    (∀ evs ∈ pl.conts.map contEvs, ∀ e ∈ evs, ∃ o l, e = Ev.cont o l) := by
  have hc : ∀ p : Bytes, ∀ e ∈ contEvs p, ∃ o l, e = Ev.cont o l := by
    intro p e he
    unfold contEvs at he
    cases h : tpPayload p with
    | none => rw [h] at he; simp at he
    | some r =>
      obtain ⟨o, l⟩ := r
      rw [h] at he
      simp at he; exact ⟨o, l, he⟩
  refine ⟨?_, ?_⟩
  · intro evs hm
    simp only [planEvs, List.mem_cons, List.mem_map] at hm
    rcases hm with rfl | ⟨p, _, rfl⟩
    · unfold firstEvs
      rcases tpPayload pl.first with _ | ⟨o, l⟩ <;> cases st <;> simp [openEvs]
    · intro hm
      obtain ⟨o, l, e⟩ := hc p _ hm
      cases e
  · intro evs hm e he
    simp only [List.mem_map] at hm
    obtain ⟨p, _, rfl⟩ := hm
    exact hc p e he

/-! ### what `begin_packet` reports -/

/-- On the first packet of a well-formed plan (at stream offset `base`), the header handed to
`begin_packet` reports the multiplexed stream id and declared length; `kind = 0` (raw payload from
byte 6) for the no-header stream ids and `kind = 1` (parsed optional header) otherwise; the PTS/DTS
that were multiplexed; and as exposed payload the GLOBAL range `[base + o + headerLen, base + o + l)`,
whose bytes are the first `l - headerLen` payload bytes. -/
theorem begin_reports_header (pes : PesPkt) (hw : pes.WF) (pl : Plan) (hpl : WellFormedPlan pes pl)
    (base : Nat) :
    ∃ o l, tpPayload pl.first = some (o, l) ∧ o + l = 188 ∧ headerLen pes ≤ l ∧
      App.beginInfo pl.first base o l = .ok
        { sid := pes.sid, len := pes.len
          kind := if pes.noHeader then 0 else 1
          ptsDts := if pes.noHeader then none else some (
            match pes.pts, pes.dts with
            | some p, some d => .ok (.both (.ok p) (.ok d))
            | some p, none => .ok (.ptsOnly (.ok p))
            | none, _ => .error .fieldNotPresent)
          pl := some (base + o + headerLen pes, l - headerLen pes) } ∧
      rangeBytes pl.first (o + headerLen pes, l - headerLen pes)
        = ((encodePes pes).take l).drop (headerLen pes) ∧
      rangeBytes pl.first (o + headerLen pes, l - headerLen pes)
        = pes.payload.take (l - headerLen pes) := by
  obtain ⟨o, l, hr, _, _, hol, hbytes, hk, hle⟩ := first_facts pes pl hpl
  refine ⟨o, l, hr, hol, hk, beginInfo_of_take pes hw pl.first base o l hk hle hbytes, ?_,
    exposed_of_take pes pl.first o l hk hbytes⟩
  rw [exposed_bytes, hbytes]

/-- `begin_reports_header` for any packet whose payload range holds the first `l` bytes of the PES packet, header inside -/
theorem begin_reports_header_range (pes : PesPkt) (hw : pes.WF) (p : Bytes) (base o l : Nat)
    (hk : headerLen pes ≤ l) (hle : l ≤ (encodePes pes).length)
    (hh : rangeBytes p (o, l) = (encodePes pes).take l) :
    App.beginInfo p base o l = .ok (expectedBegin pes base o l) :=
  beginInfo_of_take pes hw p base o l hk hle hh

/-- the application events of the first packet: the opening event, then `esBegin` with the report of
`begin_reports_header`; with `touch = true` the application also walks every accessor of the header -/
theorem es_events_first (touch : Bool) (pes : PesPkt) (hw : pes.WF) (pl : Plan)
    (hpl : WellFormedPlan pes pl) (base tag : Nat) (c : App.Ctx) (st : St) :
    ∃ o l, tpPayload pl.first = some (o, l) ∧
      App.esEvents touch tag pl.first base c (firstEvs st pl.first) =
        .ok (((esOpen tag st).foldl App.Ctx.emit c).emit
          (.esBegin tag (expectedBegin pes base o l))) := by
  obtain ⟨o, l, hr, h⟩ := Ts.Lemmas.Proj.esEvList_plan_first touch pes hw pl hpl base tag st
  refine ⟨o, l, hr, ?_⟩
  rw [Ts.Lemmas.Proj.esEvents_eq_list, h]
  cases st <;> rfl

/-- every accessor / `Debug` walk the harness application performs on a header passed to
`begin_packet` (at least the six fixed bytes; any content) is panic-free -/
theorem touch_header_total (h : Bytes) (h6 : 6 ≤ h.length) : App.touchPesHeader h = .ok () :=
  Ts.Lemmas.C01.touchPesHeader_ok h h6

theorem es_vocabulary (tag : Nat) (pes : PesPkt) (base o l : Nat) :
    esOpen tag .begin = [.esStart tag] ∧ esOpen tag .started = [.esEnd tag] ∧ esOpen tag .ignoreRest = [] ∧
    expectedBegin pes base o l =
      { sid := pes.sid, len := pes.len
        kind := if pes.noHeader then 0 else 1
        ptsDts := if pes.noHeader then none else some (expectedPtsDts pes)
        pl := some (base + o + headerLen pes, l - headerLen pes) } :=
  ⟨rfl, rfl, rfl, rfl⟩

/-- one `esCont` whose range is GLOBAL (`base + o`); nothing for a payload-less packet -/
theorem es_events_cont (touch : Bool) (p : Bytes) (base tag : Nat) (c : App.Ctx) :
    App.esEvents touch tag p base c (contEvs p) =
      .ok (match tpPayload p with
           | some (o, l) => c.emit (.esCont tag (base + o) l)
           | none => c) ∧
    (∀ o l, tpPayload p = some (o, l) → base ≤ base + o ∧ 1 ≤ l ∧ base + o + l = base + 188) := by
  refine ⟨?_, ?_⟩
  · rw [Ts.Lemmas.Proj.esEvents_eq_list, Ts.Lemmas.Proj.esEvList_cont]
    cases tpPayload p <;> rfl
  intro o l h
  rw [tpPayload_eq] at h
  have := Ts.Lemmas.C08.payOf_sound h
  omega

/-! ### consecutive PES packets -/

/-- Two consecutive well-formed plans on the same PID, counters continuing: the second's first
packet emits `end_packet` (closing the first PES packet) and then its own `begin_packet`; the
bytes delivered for each plan are exactly that PES packet. -/
theorem next_pes_closes_previous (pes1 pes2 : PesPkt) (pl1 pl2 : Plan) (f : F)
    (h1 : WellFormedPlan pes1 pl1) (h2 : WellFormedPlan pes2 pl2)
    (hcc1 : ∀ c ∈ f.cc, tpCc pl1.first = (c + 1) % 16)
    (hcc2 : tpCc pl2.first = (pl1.lastCc + 1) % 16) :
    ∃ o l, tpPayload pl2.first = some (o, l) ∧
      PesFilter.run f (pl1.packets ++ pl2.packets) =
        .ok (⟨some pl2.lastCc, .started⟩,
             planEvs f.st pl1 ++ ([Ev.endPkt, Ev.beginPkt o l] :: pl2.conts.map contEvs)) ∧
      delivered pl1.packets (planEvs f.st pl1) = encodePes pes1 ∧
      delivered pl2.packets ([Ev.endPkt, Ev.beginPkt o l] :: pl2.conts.map contEvs) = encodePes pes2 := by
  obtain ⟨o, l, hr, _⟩ := first_facts pes2 pl2 h2
  obtain ⟨a1, a2, a3⟩ := plan_runPure pes1 pl1 f h1 hcc1
  obtain ⟨b1, b2, b3⟩ := plan_runPure pes2 pl2 ⟨some pl1.lastCc, .started⟩ h2
    (fun c hc => by cases hc; exact hcc2)
  have he : planEvs .started pl2 = [Ev.endPkt, Ev.beginPkt o l] :: pl2.conts.map contEvs := by
    simp only [planEvs, firstEvs, hr, openEvs, List.cons_append, List.nil_append]
  refine ⟨o, l, hr, ?_, a3, ?_⟩
  · rw [Ts.Lemmas.C08.run_eq f _ (by
      intro p hp
      rcases List.mem_append.1 hp with e | e
      · exact a2 p e
      · exact b2 p e), Ts.Lemmas.C08.runPure_append, a1, b1, he]
  · rw [← he]; exact b3

/-- A whole stream of PES packets (`PesStream`: each with a well-formed plan, counters continuing)
from any filter state `f`: the trace is `streamEvs f.st plans`; the bytes delivered per plan
(between consecutive `begin_packet`s) are exactly that PES packet's `encodePes`. -/
theorem pes_stream_conservation (s : List (PesPkt × Plan)) (f : F) (hs : PesStream f.cc s) :
    PesFilter.run f (streamPackets s) = .ok (streamFinal f s, streamEvs f.st (s.map (·.2))) ∧
    (∀ x ∈ s, ∀ st, delivered x.2.packets (planEvs st x.2) = encodePes x.1) ∧
    delivered (streamPackets s) (streamEvs f.st (s.map (·.2)))
      = (s.map (fun x => encodePes x.1)).flatten := by
  obtain ⟨r1, r2, r3⟩ := stream_runPure s f hs
  refine ⟨by rw [Ts.Lemmas.C08.run_eq f _ r2, r1], ?_, r3⟩
  -- every member of a stream has a well-formed plan
  have hmem : ∀ (s : List (PesPkt × Plan)) (cc : Option Nat), PesStream cc s →
      ∀ x ∈ s, WellFormedPlan x.1 x.2 := by
    intro s
    induction s with
    | nil => intro _ _ x hx; cases hx
    | cons y rest ih =>
      intro cc h x hx
      obtain ⟨pes, pl⟩ := y
      simp only [PesStream] at h
      rcases List.mem_cons.1 hx with e | e
      · rw [e]; exact h.2.1
      · exact ih _ h.2.2.2 x e
  intro x hx st
  exact (plan_runPure x.1 x.2 ⟨none, st⟩ (hmem s f.cc hs x hx) (fun c hc => by cases hc)).2.2

theorem stream_shape (st : St) (f : F) (x : PesPkt × Plan) (rest : List (PesPkt × Plan)) (pls : List Plan) (pl : Plan) :
    streamEvs st [] = [] ∧
    streamEvs st (pl :: pls) = planEvs st pl ++ streamEvs .started pls ∧
    planEvs st pl = firstEvs st pl.first :: pl.conts.map contEvs ∧
    streamFinal f [] = f ∧
    streamFinal f (x :: rest) = streamFinal ⟨some x.2.lastCc, .started⟩ rest :=
  ⟨rfl, rfl, rfl, rfl, rfl⟩

/-! ### nothing is attributed to another PID -/

/-- FRAME, any handler semantics: a packet of PID `q ≠ p` leaves slot `p` exactly as it was, unless
the handler at `q` queues a change naming `p` -/
theorem frame_step {H C : Type} (sem : Sem H C) (t : Tab H) (c : C) (pk : Pk) (t' : Tab H) (c' : C)
    (p : Nat) (hne : pk.pid ≠ p) (hstep : specStep sem (t, c) pk = .ok (t', c'))
    (hN : ∀ t1 c1 h h' c2 chg, ensure sem t c pk.pid = .ok (t1, c1) → t1.get pk.pid = some h →
      sem.consume h c1 pk = .ok (h', c2, chg) → ∀ ch ∈ chg, ch.pid ≠ p) :
    t'.get p = t.get p :=
  specStep_frame' sem t c pk t' c' p hne hstep fun _ => hN

/-- one step on the PES handler's own PID: the packet goes through `PesFilter.consume`, its callbacks
are replayed into the context with this packet's stream offset; a flagged packet (transport error /
scrambled) is not consumed at all -/
theorem pes_step (t : Tab App.Handler) (c : App.Ctx) (pk : Pk) (tag : Nat) (f : F)
    (hg : t.get pk.pid = some (.pes tag f)) (h188 : pk.bytes.length = 188) :
    (pk.flagged = false →
      ∃ f' evs, PesFilter.consume f pk.bytes = .ok (f', evs) ∧
        specStep App.sem (t, c) pk =
          (App.esEvents c.cfg.touch tag pk.bytes pk.off c evs >>= fun c' =>
            R.ok (t.insert pk.pid (.pes tag f'), c'))) ∧
    (pk.flagged = true → specStep App.sem (t, c) pk = .ok (t, c)) := by
  refine ⟨fun hf => ⟨_, _, Ts.Lemmas.C08.consume_eq f pk.bytes h188, specStep_pes t c pk tag f hg hf h188⟩,
    fun hf => C06.spec_step_flagged_known App.sem t c pk hf ((Tab.contains_eq_true_iff _ _).2 ⟨_, hg⟩)⟩

/-- `QueuesNothingFor App.sem p pk` ("whatever handler consumes `pk`, in whatever context, queues no
change naming `p`") is FALSE for every `p` and `pk`: a `.recorder` handler whose context carries
the script `[(pk.off / 188, [.ins p])]` queues an insertion for `p`.  Hence the theorems here speak
of the handlers that ACTUALLY consume the packets of the run (`QuietAlong`) or, at input level, of
`Benign` packets. -/
theorem queuesNothingFor_unsat (p : Nat) (pk : Pk) : ¬ QueuesNothingFor App.sem p pk := by
  intro h
  have key : App.sem.consume (.recorder 0)
      { cfg := { script := [(pk.off / 188, [.ins p])] } } pk
      = .ok (.recorder 0,
          (({ cfg := { script := [(pk.off / 188, [.ins p])] } : App.Ctx}.emit (.pkt 0 pk.off)
              |> fun c1 => ({ c1 with nextTag := c1.nextTag + 1 } : App.Ctx).emit (.scriptIns p c1.nextTag))),
          [Change.insert p (App.Handler.recorder 0)]) := by
    simp [App.sem, App.consume, List.lookup, App.scriptChanges, App.Ctx.emit]
  exact h _ _ _ _ _ key (Change.insert p (App.Handler.recorder 0)) (by simp) rfl

/-- as a hypothesis on an interleaving it would allow PID-`p` packets only -/
theorem queuesNothingFor_forces_single_pid (p : Nat) (xs : List Pk)
    (hN : ∀ pk ∈ xs, pk.pid ≠ p → QueuesNothingFor App.sem p pk) : ∀ pk ∈ xs, pk.pid = p := by
  intro pk hm
  apply Classical.byContradiction
  intro hne
  exact queuesNothingFor_unsat p pk (hN pk hm hne)

/-- `QuietAlong` is a predicate on the ACTUAL run: at every step on an unflagged packet of a PID other
than `p`, THE handler registered for that PID at that point (after `ensure`), in THE context of that
point, queues no change naming `p`.  Nothing is required of steps on PID `p`, of flagged packets,
or after a panic. -/
theorem quietAlong_iff {H C : Type} (sem : Sem H C) (p : Nat) (tc : Tab H × C) (pk : Pk) (pks : List Pk) :
    QuietAlong sem p tc [] ∧
    (QuietAlong sem p tc (pk :: pks) ↔
      (pk.pid ≠ p → pk.flagged = false →
        ∀ t1 c1 h h' c2 chg, ensure sem tc.1 tc.2 pk.pid = .ok (t1, c1) → t1.get pk.pid = some h →
          sem.consume h c1 pk = .ok (h', c2, chg) → ∀ ch ∈ chg, ch.pid ≠ p)
      ∧ ∀ tc', specStep sem tc pk = .ok tc' → QuietAlong sem p tc' pks) :=
  ⟨trivial, Iff.rfl⟩

/-- **C02, through the dispatcher.**  Over ANY interleaving `xs` (`App.sem` under `pushSpec`, which
the real loops refine by `C06.push_refines_spec`): if slot `p` holds a PES handler in filter state
`f`, packets on `p` are 188 bytes, and the run is quiet for `p` (`QuietAlong`; see
`quiet_of_benign_traffic` for conditions on the input), then after the run slot `p` holds the same
handler whose filter state is the one `PesFilter.run` reaches from `f` over exactly the unflagged
packets of PID `p`, in order.  Nothing of another PID reaches it; nothing of PID `p` is skipped. -/
theorem not_attributed_to_other_pid (p tag : Nat) (xs : List Pk) (t : Tab App.Handler) (c : App.Ctx)
    (f : F) (t' : Tab App.Handler) (c' : App.Ctx)
    (hg : t.get p = some (.pes tag f))
    (h188 : ∀ pk ∈ xs, pk.pid = p → pk.bytes.length = 188)
    (hQ : QuietAlong App.sem p (t, c) xs)
    (hrun : pushSpec App.sem (t, c) xs = .ok (t', c')) :
    ∃ f' evss,
      PesFilter.run f ((xs.filter (fun pk => pk.pid == p && !pk.flagged)).map (·.bytes)) = .ok (f', evss) ∧
      t'.get p = some (.pes tag f') := by
  have hs := pushSpec_pes_slot p tag xs t c f t' c' hg h188 hQ hrun
  refine ⟨_, _, Ts.Lemmas.C08.run_eq f _ ?_, hs⟩
  intro b hb
  simp only [List.mem_map, List.mem_filter] at hb
  obtain ⟨pk, ⟨hm, hp⟩, rfl⟩ := hb
  simp only [Bool.and_eq_true, beq_iff_eq] at hp
  exact h188 pk hm hp.1

theorem not_attributed_to_other_pid_model (p tag : Nat) (xs : List Pk) (t : Tab App.Handler)
    (c : App.Ctx) (f : F) (t' : Tab App.Handler) (c' : App.Ctx)
    (hg : t.get p = some (.pes tag f))
    (h188 : ∀ pk ∈ xs, pk.pid = p → pk.bytes.length = 188)
    (hQ : QuietAlong App.sem p (t, c) xs)
    (hrun : pushModel App.sem (t, c) xs = .ok (t', c')) :
    ∃ f' evss,
      PesFilter.run f ((xs.filter (fun pk => pk.pid == p && !pk.flagged)).map (·.bytes)) = .ok (f', evss) ∧
      t'.get p = some (.pes tag f') := by
  rw [C06.push_refines_spec] at hrun
  exact not_attributed_to_other_pid p tag xs t c f t' c' hg h188 hQ hrun

/-- a well-formed plan interleaved with traffic of other PIDs that is quiet for `p`: the PES handler
ends in the state the plan alone leads to (`started`, counter of the plan's last packet) -/
theorem interleaved_plan (pes : PesPkt) (pl : Plan) (p tag : Nat) (xs : List Pk)
    (t : Tab App.Handler) (c : App.Ctx) (f : F) (t' : Tab App.Handler) (c' : App.Ctx)
    (hpl : WellFormedPlan pes pl) (hcc : ∀ c ∈ f.cc, tpCc pl.first = (c + 1) % 16)
    (hg : t.get p = some (.pes tag f))
    (hsub : (xs.filter (fun pk => pk.pid == p && !pk.flagged)).map (·.bytes) = pl.packets)
    (h188 : ∀ pk ∈ xs, pk.pid = p → pk.bytes.length = 188)
    (hQ : QuietAlong App.sem p (t, c) xs)
    (hrun : pushSpec App.sem (t, c) xs = .ok (t', c')) :
    t'.get p = some (.pes tag ⟨some pl.lastCc, .started⟩) := by
  have hs := pushSpec_pes_slot p tag xs t c f t' c' hg h188 hQ hrun
  rw [hsub, (plan_runPure pes pl f hpl hcc).1] at hs
  exact hs

/-- a PES handler queues no change, on ANY packet in ANY context (so its steps satisfy the condition
of `QuietAlong` for every `p`); nothing is said about recorder, PAT or PMT handlers -/
theorem pes_handler_queues_nothing (tag : Nat) (f : F) (c0 : App.Ctx) (pk : Pk) (h' : App.Handler)
    (c1 : App.Ctx) (chg : List (Change App.Handler))
    (h : App.sem.consume (.pes tag f) c0 pk = .ok (h', c1, chg)) : chg = [] :=
  (Ts.Lemmas.C10.pes_consume_shape tag f c0 pk h' c1 chg h).1

/-! ### input-level sufficient conditions: other elementary streams, repeated tables, recorders -/

/-- `Benign`, relative to the table `t` at the START of a run: (ES) the slot of `pk.pid` holds a PES
handler; or (TABLE) a PAT / PMT handler quiescent at version `ver pk.pid` (C10 `QuiescentH`) and `pk`
is flagged or a repetition packet of that version (C10 `RepPacket`); or (REC) a recorder, or nothing
and `pk.pid ≠ 0` (a recorder is then constructed), and `pk` is flagged or `script` has no entry for
the packet's index `pk.off / 188`. -/
theorem benign_iff (ver : Nat → Nat) (script : List (Nat × List App.ScriptOp)) (t : Tab App.Handler)
    (pk : Pk) :
    Benign ver script t pk ↔
      (∃ σ g, t.get pk.pid = some (.pes σ g))
      ∨ ((∃ h, t.get pk.pid = some h ∧ Ts.Lemmas.C10.QuiescentH (ver pk.pid) h)
          ∧ (pk.flagged = true ∨ Ts.Lemmas.C10.RepPacket (ver pk.pid) pk.bytes))
      ∨ (((∃ σ, t.get pk.pid = some (.recorder σ)) ∨ (t.get pk.pid = none ∧ pk.pid ≠ 0))
          ∧ (pk.flagged = true ∨ script.lookup (pk.off / 188) = none)) := Iff.rfl

/-- INPUT-LEVEL ⇒ `QuietAlong`: if every packet on another PID is `Benign` for the table and script
at the START of the run, no handler taking part in the run queues any change at all -/
theorem quiet_of_benign_traffic (ver : Nat → Nat) (p tag : Nat) (xs : List Pk) (t : Tab App.Handler)
    (c : App.Ctx) (f : F) (hg : t.get p = some (.pes tag f))
    (hB : ∀ pk ∈ xs, pk.pid ≠ p → Benign ver c.cfg.script t pk) :
    QuietAlong App.sem p (t, c) xs := by
  refine quietAlong_of_benign ver p xs t c ?_
  intro pk hm
  by_cases hp : pk.pid = p
  · exact benign_of_pes ver _ t pk tag f (by rw [hp]; exact hg)
  · exact hB pk hm hp

/-- `not_attributed_to_other_pid` with hypotheses on the input only: ANY interleaving of the PID-`p`
packets with packets of other elementary streams, repetitions of the tables in force, and recorder
traffic without scripted action -/
theorem not_attributed_among_es_and_repeated_tables (ver : Nat → Nat) (p tag : Nat) (xs : List Pk)
    (t : Tab App.Handler) (c : App.Ctx) (f : F) (t' : Tab App.Handler) (c' : App.Ctx)
    (hg : t.get p = some (.pes tag f))
    (h188 : ∀ pk ∈ xs, pk.pid = p → pk.bytes.length = 188)
    (hB : ∀ pk ∈ xs, pk.pid ≠ p → Benign ver c.cfg.script t pk)
    (hrun : pushSpec App.sem (t, c) xs = .ok (t', c')) :
    ∃ f' evss,
      PesFilter.run f ((xs.filter (fun pk => pk.pid == p && !pk.flagged)).map (·.bytes)) = .ok (f', evss) ∧
      t'.get p = some (.pes tag f') :=
  not_attributed_to_other_pid p tag xs t c f t' c' hg h188
    (quiet_of_benign_traffic ver p tag xs t c f hg hB) hrun

/-! ### non-vacuity -/

/-- stream id `e0`, unbounded length, data-alignment bit, PTS and DTS, 200 payload bytes; 19 header
bytes, 219 bytes in all -/
def exPes : PesPkt :=
  { sid := 0xE0, len := 0, low6 := 0x04, pts := some 0x123456789, dts := some 0x0FEDCBA98,
    payload := (List.range 200).map UInt8.ofNat }

/-- split over 3 transport packets of PID 0x101 (184 bytes without adaptation field — an exact fit —
then 34 bytes behind 150 bytes of adaptation-field stuffing, then 1 byte behind 183 bytes of it),
with a payload-less PCR-only packet (counter repeated) after the first -/
def exPlan : Plan :=
  { first := mkTp true 0x101 5 none ((encodePes exPes).take 184)
    conts := [ mkTp false 0x101 5 (some (pcrAf 183)) [],
               mkTp false 0x101 6 (some (stuffingAf 149)) (((encodePes exPes).drop 184).take 34),
               mkTp false 0x101 7 (some (stuffingAf 182)) ((encodePes exPes).drop 218) ] }

example : exPes.WF := by decide +kernel
example : (encodePes exPes).length = 219 ∧ headerLen exPes = 19 := by decide +kernel
example : WellFormedPlan exPes exPlan := by decide +kernel
example : exPlan.packets.map List.length = [188, 188, 188, 188] := by decide +kernel
example : planEvs .begin exPlan =
    [[.start, .beginPkt 4 184], [], [.cont 154 34], [.cont 187 1]] := by decide +kernel
example : exPlan.lastCc = 7 := by decide +kernel
open Ts.Lemmas.C08 in
example : PesFilter.run {} exPlan.packets =
    .ok (⟨some 7, .started⟩, [[.start, .beginPkt 4 184], [], [.cont 154 34], [.cont 187 1]]) := by
  decide +kernel
-- the hypotheses of `pes_conservation` for the three kinds of previous state
example : ∀ c ∈ ({} : F).cc, tpCc exPlan.first = (c + 1) % 16 := by decide
example : ∀ c ∈ (⟨some 4, .started⟩ : F).cc, tpCc exPlan.first = (c + 1) % 16 := by decide +kernel
example : ∀ c ∈ (⟨some 4, .ignoreRest⟩ : F).cc, tpCc exPlan.first = (c + 1) % 16 := by decide +kernel
example : App.beginInfo exPlan.first 1880 4 184 =
    .ok ⟨0xE0, 0, 1, some (.ok (.both (.ok 0x123456789) (.ok 0x0FEDCBA98))), some (1880 + 4 + 19, 165)⟩ := by
  obtain ⟨o, l, h1, _, _, h2, _⟩ := begin_reports_header exPes (by decide +kernel) exPlan (by decide +kernel) 1880
  have e : tpPayload exPlan.first = some (4, 184) := by decide +kernel
  rw [e] at h1
  cases h1
  exact h2

/-- the hypothesis "the PES header lies wholly within the transport packet that starts it" is
needed for `begin_reports_header` (not for the byte conservation of the callbacks): the same PES
packet with its 19-byte header cut after 12 bytes. -/
def exSplit : Plan :=
  { first := mkTp true 0x101 5 (some (stuffingAf 171)) ((encodePes exPes).take 12)
    conts := [ mkTp false 0x101 6 (some (stuffingAf 1)) (((encodePes exPes).drop 12).take 182),
               mkTp false 0x101 7 (some (stuffingAf 158)) ((encodePes exPes).drop 194) ] }
example : ¬ WellFormedPlan exPes exSplit := by decide +kernel
example : exSplit.packets.map List.length = [188, 188, 188] ∧ exSplit.k = 12 ∧ headerLen exPes = 19 := by
  decide +kernel
open Ts.Lemmas.C08 in
example : PesFilter.run {} exSplit.packets =
    .ok (⟨some 7, .started⟩, [[.start, .beginPkt 176 12], [.cont 6 182], [.cont 163 25]]) := by
  decide +kernel
-- the header parser rejects the truncated optional header (`kind = 2`): no PTS/DTS, no payload boundary
example : (match App.beginInfo exSplit.first 0 176 12 with
    | .ok bi => bi.sid == 0xE0 && bi.kind == 2 && bi.pl == none
    | .panic _ => false) = true := by decide +kernel

/-- PES payload sizes 0 and 1 (one transport packet each, stuffed by the adaptation field), PTS only -/
def exPes0 : PesPkt := { sid := 0xC0, len := 8, pts := some 90000 }
def exPes1 : PesPkt := { sid := 0xC0, len := 9, pts := some 90000, payload := [0x5a] }
def exPlan0 : Plan := { first := mkTp true 0x102 0 (some (stuffingAf 169)) (encodePes exPes0), conts := [] }
def exPlan1 : Plan := { first := mkTp true 0x102 1 (some (stuffingAf 168)) (encodePes exPes1), conts := [] }
example : exPes0.WF ∧ WellFormedPlan exPes0 exPlan0 ∧ (encodePes exPes0).length = 14 := by decide +kernel
example : exPes1.WF ∧ WellFormedPlan exPes1 exPlan1 ∧ (encodePes exPes1).length = 15 := by decide +kernel

/-- a no-header stream id (padding_stream `be`), exactly 184 bytes: one packet, no adaptation field -/
def exPesPad : PesPkt := { sid := 0xBE, len := 178, payload := List.replicate 178 0xff }
def exPlanPad : Plan := { first := mkTp true 0x102 2 none (encodePes exPesPad), conts := [] }
example : exPesPad.WF ∧ exPesPad.noHeader ∧ headerLen exPesPad = 6 ∧ (encodePes exPesPad).length = 184
    ∧ WellFormedPlan exPesPad exPlanPad := by decide +kernel

/-- an optional header with further flags: ESCR (6 bytes) and PES_CRC (2 bytes) announced, carried in
`optExtra` followed by 3 stuffing bytes; PTS only; payload continues in a second packet that has a
42-byte adaptation field -/
def exPesF : PesPkt :=
  { sid := 0xBD, len := 0, low6 := 0x01, pts := some 0x1FFFFFFFF, flags6 := 0x22,
    optExtra := [0x04, 0x00, 0x04, 0x00, 0x04, 0x01, 0x12, 0x34, 0xff, 0xff, 0xff],
    payload := List.replicate 300 0xab }
def exPlanF : Plan :=
  { first := mkTp true 0x103 15 none ((encodePes exPesF).take 184)
    conts := [ mkTp false 0x103 0 (some (stuffingAf 42)) ((encodePes exPesF).drop 184) ] }
example : exPesF.WF ∧ WellFormedPlan exPesF exPlanF ∧ headerLen exPesF = 25 := by decide +kernel

/-- a stream of the three one-packet plans on PID 0x102 (counters 0, 1, 2) -/
example : PesStream none [(exPes0, exPlan0), (exPes1, exPlan1), (exPesPad, exPlanPad)] := by decide +kernel
example : streamEvs .begin [exPlan0, exPlan1, exPlanPad] =
    [[.start, .beginPkt 174 14], [.endPkt, .beginPkt 173 15], [.endPkt, .beginPkt 4 184]] := by decide +kernel

/-! ### non-vacuity of the interleaving theorems -/

section interleaving
open Ts.Lemmas.Proj

/-- `not_attributed_among_es_and_repeated_tables` applies to an interleaving that DOES contain packets
of other PIDs: `exPksRep` = `A PAT B PMT B null A A` from the state after PAT and PMT -/
example : ∃ t' c' f' evss, pushSpec App.sem (exTab0, exCtx0) exPksRep = .ok (t', c') ∧
    QuietAlong App.sem 0x21 (exTab0, exCtx0) exPksRep ∧
    PesFilter.run {} ((exPksRep.filter (fun pk => pk.pid == 0x21 && !pk.flagged)).map (·.bytes))
      = .ok (f', evss) ∧
    t'.get 0x21 = some (.pes 2 f') := by
  obtain ⟨t', c', hrun⟩ := run_ok exCtx0 exPksRep exPksRep_len
  have hB : ∀ pk ∈ exPksRep, pk.pid ≠ 0x21 → Benign (fun _ => 0) exCtx0.cfg.script exTab0 pk :=
    fun pk hm _ => exPksRep_benign pk hm
  obtain ⟨f', evss, h1, h2⟩ := not_attributed_among_es_and_repeated_tables (fun _ => 0) 0x21 2
    exPksRep exTab0 exCtx0 {} t' c' exTab0_21 (fun pk hm _ => exPksRep_len pk hm) hB hrun
  exact ⟨t', c', f', evss, hrun, quiet_of_benign_traffic _ 0x21 2 exPksRep exTab0 exCtx0 {} exTab0_21 hB, h1, h2⟩

/-- the same run, evaluated; the PAT handler is still quiescent at version 0 (its dedup layer is now
ignoring the repeated section), the null PID got a recorder -/
example : (match pushSpec App.sem (exTab0, exCtx0) exPksRep with
    | .ok (t, c) => decide (t.get 0x21 = some (.pes 2 ⟨some 2, .started⟩)
        ∧ t.get 0x22 = some (.pes 3 ⟨some 8, .started⟩)
        ∧ t.get 0 = some (.pat { lastVersion := some 0, dedupIgnore := true } [0x20])
        ∧ t.get 0x1fff = some (.recorder 4) ∧ c.nextTag = 5)
    | .panic _ => false) = true := by eval_app

end interleaving

/-! ### tie to the value table regenerated from `StreamType::is_pes` in `/repo/src/lib.rs` -/
/-- the stream types the SOURCE declares to be carried as PES are exactly those for which the
application (and its model) installs a PES filter -/
theorem tie_pes_stream_types : ∀ st : Fin 256,
    Ts.App.isPes st.val = Ts.Gen.pesStreamTypes.contains st.val := by decide +kernel

end Ts.Props.C02
