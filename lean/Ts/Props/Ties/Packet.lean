import Ts.Model.App
import Ts.Model.Values
import Ts.Gen.Consts
/-!
# Ties between the model's literals and constants regenerated from `/repo/src` — part `Packet`

Audited with: C12, C06, C07.  See `Ts/Props/Ties/Psi.lean` for the general explanation.
-/
namespace Ts.Props.Ties
open Ts Ts.Tables Ts.Demux

/-- `Pid::new` / `Pid::try_from` compare with `Pid::MAX_VALUE` (model copies in `Tables` and `Values`) -/
theorem tie_pid_new (v : Nat) :
    Tables.pidNew v = (do assertR (v ≤ Gen.pidMax) "assert!(pid <= 0x1fff)"; pure v) ∧
    Values.pidNew v = (do assertR (v ≤ Gen.pidMax) "assert!(pid <= 0x1fff)"; pure v) ∧
    Values.pidTryFrom v = (if v ≤ Gen.pidMax then some v else none) := ⟨rfl, rfl, rfl⟩

/-- `Packet::try_new`, `content_offset`, `adaptation_field`: `SIZE`, `SYNC_BYTE`, `FIXED_HEADER_SIZE`,
`ADAPTATION_FIELD_OFFSET = FIXED_HEADER_SIZE + 1`, and the literal `182` of `if len > 182` -/
theorem tie_packet_layout (p : Bytes) :
    Packet.tryNew p = (do
      assertR (p.length == Gen.packetSize) "assert_eq!(buf.len(), Self::SIZE)"
      let b0 ← byteAt p 0
      if b0 == Gen.syncByte then pure (some p) else pure none) ∧
    Packet.contentOffset p = (do
      let b3 ← Packet.byte3 p
      if Packet.hasAf b3 then do let l ← Packet.afLen p; pure (Gen.fixedHeaderSize + 1 + l)
      else pure Gen.fixedHeaderSize) ∧
    Packet.afRange p = (do
      let b3 ← Packet.byte3 p
      if Packet.hasAf b3 then
        if Packet.hasPayload b3 then
          let len ← Packet.afLen p
          if len > Gen.afMaxWithPayload then pure none
          else if len == 0 then pure none
          else do let r ← Packet.mkAf p len; pure (some r)
        else
          let len ← Packet.afLen p
          if len != (Gen.packetSize - (Gen.fixedHeaderSize + 1)) then pure none
          else do let r ← Packet.mkAf p len; pure (some r)
      else pure none) := ⟨rfl, rfl, rfl⟩

/-- `Demultiplex::push`: `chunks_exact(Packet::SIZE)`; the model's packet offsets advance by the
same amount -/
theorem tie_frame_packet_size (buf : Bytes) (base : Nat) (ch : Bytes) (chs : List Bytes) (off : Nat) :
    frame buf base = framePks (chunksExact Gen.packetSize (buf.length / Gen.packetSize + 1) buf) base ∧
    framePks (ch :: chs) off = (do
      let r ← mkPk ch off
      let rest ← framePks chs (off + Gen.packetSize)
      match r with
      | some pk => pure (pk :: rest)
      | none => pure rest) := ⟨rfl, rfl⟩

end Ts.Props.Ties
