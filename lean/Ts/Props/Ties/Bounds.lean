import Ts.Model.App
import Ts.Model.Values
import Ts.Lemmas.C19b
import Ts.Gen.Consts
/-!
# Ties between the model's literals and constants regenerated from `/repo/src` — part `Bounds`

Audited with: C19, C18.  See `Ts/Props/Ties/Psi.lean` for the general explanation.
-/
namespace Ts.Props.Ties
open Ts Ts.Tables Ts.Demux

/-- `PatProcessor` / `PmtProcessor`: the `FixedBitSet`s have `Pid::PID_COUNT = MAX_VALUE + 1` bits, so
`difference` ranges over that many PIDs -/
theorem tie_pid_count (registered seen : List Nat) :
    App.outdated registered seen =
      (List.range (Gen.pidMax + 1)).filter (fun p => registered.contains p && !seen.contains p) := rfl

/-- C19's invariant `Bounded` (a proof-side definition, `Ts/Lemmas/C19b.lean`) bounds the table
length by `PID_COUNT = MAX_VALUE + 1`, and its packet/script hypotheses speak of PIDs up to
`MAX_VALUE` and packets of `Packet::SIZE` bytes -/
theorem tie_bounded_pid_count (t : Tab App.Handler) (pk : Pk) (cfg : App.Cfg) :
    (Lemmas.C19.Bounded t ↔
      t.length ≤ Gen.pidMax + 1 ∧ ∀ p h, t.get p = some h → Lemmas.C19.HOk h) ∧
    (Lemmas.C19.PkOk pk ↔ pk.bytes.length = Gen.packetSize ∧ pk.pid < Gen.pidMax + 1) ∧
    (Lemmas.C19.ScriptOk cfg ↔
      ∀ k ops, (k, ops) ∈ cfg.script → ∀ op ∈ ops, Lemmas.C19.opPid op < Gen.pidMax + 1) :=
  ⟨Iff.rfl, Iff.rfl, Iff.rfl⟩

/-- C19's reassembly-buffer bound (proof-side `PsiBnd`, `Ts/Lemmas/C19b.lean`): 1024 is
`SECTION_LIMIT + SectionCommonHeader::SIZE` (the longest section the processors let through, with
its 3-byte header), and `ChgOk` bounds queued PIDs by `PID_COUNT`.  `RETAINED_MAX` =
`PID_COUNT` slots × (1 + that buffer bound + two `PID_COUNT`-bit sets of `PID_COUNT / 8` bytes each),
cf. `Ts.Props.C19.retained_max_value`. -/
theorem tie_psi_buffer_bound (s : Psi.St) (ch : Change App.Handler) :
    (Lemmas.C19.PsiBnd s ↔ Lemmas.C03.PsiInv .syntax s ∧
      s.buf.length ≤ Gen.sectionLimitSyntax + Gen.commonHeaderSize) ∧
    (Lemmas.C19.ChgOk ch ↔
      ch.pid < Gen.pidMax + 1 ∧ ∀ h, ch.val = some h → Lemmas.C19.HOk h) ∧
    Lemmas.C19.RETAINED_MAX = (Gen.pidMax + 1) *
      (1 + (Gen.sectionLimitSyntax + Gen.commonHeaderSize) + 2 * ((Gen.pidMax + 1) / 8)) :=
  ⟨Iff.rfl, Iff.rfl, by decide⟩



/-- the recorder's script lookup (harness application, `/verif/harness/src/app.rs`) indexes packets
by `offset / 188` -/
theorem tie_script_index (tag : Nat) (c : App.Ctx) (pk : Pk) :
    App.consume (.recorder tag) c pk = (do
      if c.cfg.touch then App.touchPacket pk.bytes
      let c1 := c.emit (.pkt tag pk.off)
      match c.cfg.script.lookup (pk.off / Gen.packetSize) with
      | some ops =>
        let (c2, chg) := App.scriptChanges c1 ops
        pure (.recorder tag, c2, chg)
      | none => pure (.recorder tag, c1, [])) := rfl

end Ts.Props.Ties
