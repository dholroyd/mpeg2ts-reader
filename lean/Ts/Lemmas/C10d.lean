import Ts.Lemmas.C10c
import Ts.Lemmas.AppEval
/-!
# C10 helper data: "unapplied start" witnesses

Byte-level witnesses for `Ts.Props.C10.foreign_table_between_repeats` (DESIGN 8.1b, case `N1`) and
`Ts.Props.C10.damaged_copy_between_repeats` (F12's shape on the PMT PID, case `N1b`), evaluated on the
whole model (`runApp {}` = harness mode `demux b0t0`).  The concatenations are byte-for-byte the hex
strings of the case lines (checked outside Lean: model driver and real code print the same lines).
-/
namespace Ts.Lemmas.C10
open Ts Ts.Psi Ts.Spec Ts.Spec.SectionMux Ts.Lemmas.C03 Ts.App Ts.Demux Ts.Tables

/-- a PRIVATE section: `table_id = 0x80`, section syntax, `table_id_extension = 1`,
`version_number = 5`, body `01 02 03 04`, VALID CRC -/
def privSecV5 : Bytes :=
  [0x80, 0xb0, 0x0d, 0x00, 0x01, 0xcb, 0x00, 0x00, 0x01, 0x02, 0x03, 0x04, 0x7d, 0xc7, 0x55, 0x7f]

/-- `pmtSecV0` with ONE bit flipped: bit 46, the least significant bit of `version_number`
(byte 5: `c1` → `c3`); the CRC bytes are those of the intact section, so the CRC fails -/
def pmtSecV0Damaged : Bytes :=
  [0x02, 0xb0, 0x12, 0x00, 0x01, 0xc3, 0x00, 0x00, 0xe1, 0x01, 0xf0, 0x00, 0x1b, 0xe1, 0x01, 0xf0, 0x00,
   0x4f, 0xc4, 0x3d, 0x1b]

theorem privSecV5_facts :
    WellFormedSection .syntax privSecV5 ∧ privSecV5.length = 16 ∧ Ts.CrcSpec.crc privSecV5 = 0
      ∧ versionOf privSecV5 = 5 ∧ byteD privSecV5 0 = 0x80 := by decide +kernel

theorem pmtSecV0Damaged_facts :
    pmtSecV0Damaged = Ts.CrcSpec.flipBit pmtSecV0 46
      ∧ WellFormedSection .syntax pmtSecV0Damaged ∧ Ts.CrcSpec.crc pmtSecV0Damaged ≠ 0
      ∧ versionOf pmtSecV0Damaged = 1 ∧ versionOf pmtSecV0 = 0
      ∧ Psi.crcPass false pmtSecV0Damaged = .ok false := by decide +kernel

/-- case `N1`: PAT v0, PMT v0 on 0x100, ES unit start on 0x101, the private section
(version 5) on 0x100, PMT v0 again, ES continuation -/
def foreignBytes : Bytes :=
  patPkt 0 patSecV0 ++ pmtPkt 0 pmtSecV0 ++ esStartPkt ++ pmtPkt 1 privSecV5 ++ pmtPkt 2 pmtSecV0 ++ esContPkt

def foreignPrefixBytes : Bytes :=
  patPkt 0 patSecV0 ++ pmtPkt 0 pmtSecV0 ++ esStartPkt ++ pmtPkt 1 privSecV5

/-- control `N1ctl`: an ordinary PMT v0 repetition in place of the private section -/
def foreignCtlBytes : Bytes :=
  patPkt 0 patSecV0 ++ pmtPkt 0 pmtSecV0 ++ esStartPkt ++ pmtPkt 1 pmtSecV0 ++ pmtPkt 2 pmtSecV0 ++ esContPkt

/-- case `N1b` (F12's probe shape on the PMT PID): the damaged PMT copy in that place -/
def damagedBytes : Bytes :=
  patPkt 0 patSecV0 ++ pmtPkt 0 pmtSecV0 ++ esStartPkt ++ pmtPkt 1 pmtSecV0Damaged ++ pmtPkt 2 pmtSecV0
    ++ esContPkt

def damagedPrefixBytes : Bytes :=
  patPkt 0 patSecV0 ++ pmtPkt 0 pmtSecV0 ++ esStartPkt ++ pmtPkt 1 pmtSecV0Damaged

theorem foreign_ctl_run : observe10 (runApp {} [foreignCtlBytes])
    = some (constructsA, [(2, 0), (2, 1), (2, 2)], .pmt 0x100 1 [0x101], .pes 2) :=
  (congrArg observe10 (C11c.runApp_append {} baseBytes (pmtPkt 1 pmtSecV0 ++ pmtPkt 2 pmtSecV0 ++ esContPkt)
    _ _ base_run (by decide +kernel)
    (by simp only [foreignCtlBytes, baseBytes, List.append_assoc]))).trans (by eval_app)

/-- the private section has moved the PMT filter's remembered version to 5 and nothing else -/
theorem foreign_prefix_state : runApp {} [foreignPrefixBytes]
    = .ok (probeTab { lastVersion := some 0 } { lastVersion := some 5 } [0x101],
        { cfg := {}, nextTag := 3, trace := baseTrace }) :=
  (C11c.runApp_append {} baseBytes (pmtPkt 1 privSecV5) foreignPrefixBytes _ base_run (by decide +kernel)
    rfl).trans (by eval_app)

theorem foreign_prefix_run : observe10 (runApp {} [foreignPrefixBytes])
    = some (constructsA, [(2, 0), (2, 1)], .pmt 0x100 1 [0x101], .pes 2) :=
  (congrArg observe10 foreign_prefix_state).trans (by decide +kernel)

theorem foreign_run : observe10 (runApp {} [foreignBytes])
    = some (constructsA ++ [(.stream 0x100 0x1b 0x101 0x101 [] [], 3)],
        [(2, 0), (2, 1)], .pmt 0x100 1 [0x101], .pes 3) :=
  (congrArg observe10 (C11c.runApp_append {} foreignPrefixBytes (pmtPkt 2 pmtSecV0 ++ esContPkt) _ _
    foreign_prefix_state (by decide +kernel)
    (by simp only [foreignBytes, foreignPrefixBytes, List.append_assoc]))).trans (by eval_app)

theorem damaged_prefix_state : runApp {} [damagedPrefixBytes]
    = .ok (probeTab { lastVersion := some 0 } { lastVersion := some 1 } [0x101],
        { cfg := {}, nextTag := 3, trace := baseTrace }) :=
  (C11c.runApp_append {} baseBytes (pmtPkt 1 pmtSecV0Damaged) damagedPrefixBytes _ base_run (by decide +kernel)
    rfl).trans (by eval_app)

theorem damaged_prefix_run : observe10 (runApp {} [damagedPrefixBytes])
    = some (constructsA, [(2, 0), (2, 1)], .pmt 0x100 1 [0x101], .pes 2) :=
  (congrArg observe10 damaged_prefix_state).trans (by decide +kernel)

theorem damaged_run : observe10 (runApp {} [damagedBytes])
    = some (constructsA ++ [(.stream 0x100 0x1b 0x101 0x101 [] [], 3)],
        [(2, 0), (2, 1)], .pmt 0x100 1 [0x101], .pes 3) :=
  (congrArg observe10 (C11c.runApp_append {} damagedPrefixBytes (pmtPkt 2 pmtSecV0 ++ esContPkt) _ _
    damaged_prefix_state (by decide +kernel)
    (by simp only [damagedBytes, damagedPrefixBytes, List.append_assoc]))).trans (by eval_app)

theorem between_plOf :
    plOf (pmtPkt 1 privSecV5) = some ⟨true, 0x00 :: (privSecV5 ++ List.replicate 167 0xff), 4⟩
      ∧ plOf (pmtPkt 1 pmtSecV0Damaged) = some ⟨true, 0x00 :: (pmtSecV0Damaged ++ List.replicate 162 0xff), 4⟩
      ∧ plOf (pmtPkt 2 pmtSecV0) = some ⟨true, (muxOf pmtSecV0).first pmtSecV0, 4⟩
      ∧ (pmtPkt 1 privSecV5).length = 188 ∧ (pmtPkt 1 pmtSecV0Damaged).length = 188 := by
  decide +kernel

/-- both in-between starts are ACCEPTED starts (section syntax, ≥ 8 bytes, length within limit) -/
theorem between_startOk :
    startOk Psi.table (privSecV5 ++ List.replicate 167 0xff) = true
      ∧ startOk Psi.table (pmtSecV0Damaged ++ List.replicate 162 0xff) = true
      ∧ versionOf (privSecV5 ++ List.replicate 167 0xff) = 5
      ∧ versionOf (pmtSecV0Damaged ++ List.replicate 162 0xff) = 1 := by decide +kernel

end Ts.Lemmas.C10
