/-
# OR-homomorphisms over byte environments

A reusable extensionality principle for bit-field extraction functions.  A function
`f : Env → Nat` built from byte reads, masks with literals, shifts, `% 2 ^ w` truncations and
`|||` is an *OR-homomorphism*: `f 0 = 0` and `f (a ||| b) = f a ||| f b`.  Two such functions that
agree on every single-bit environment agree on every environment of byte values
(`OrHom.ext`, `OrHom.ext_list`).  The single-bit hypothesis has a kernel-evaluable Boolean form
(`agreeOnSingles`, `agreeOnSingles_iff`), so an equation quantified over all byte values is
discharged by `8 * n` concrete evaluations.

Core + Std only.
-/
import Lean.Elab.Tactic

namespace Ts.Refl

abbrev Env := Nat → Nat

def Env.zero : Env := fun _ => 0
def Env.or (a b : Env) : Env := fun i => a i ||| b i
def single (i bit : Nat) : Env := fun j => if j = i then 2 ^ bit else 0
/-- environment from a list of byte values (index past the end reads 0) -/
def envL (l : List Nat) : Env := fun i => l.getD i 0

structure OrHom (f : Env → Nat) : Prop where
  zero : f Env.zero = 0
  or : ∀ a b : Env, f (a.or b) = f a ||| f b

theorem OrHom.byte (i : Nat) : OrHom (fun e => e i) :=
  ⟨rfl, fun _ _ => rfl⟩

theorem OrHom.andLit {f} (hf : OrHom f) (m : Nat) : OrHom (fun e => f e &&& m) :=
  ⟨by simp [hf.zero], fun a b => by simp [hf.or, Nat.and_or_distrib_right]⟩

theorem OrHom.litAnd {f} (hf : OrHom f) (m : Nat) : OrHom (fun e => m &&& f e) :=
  ⟨by simp [hf.zero], fun a b => by simp [hf.or, Nat.and_or_distrib_left]⟩

theorem OrHom.lor {f g} (hf : OrHom f) (hg : OrHom g) : OrHom (fun e => f e ||| g e) :=
  ⟨by simp [hf.zero, hg.zero], fun a b => by
    simp only [hf.or, hg.or]
    apply Nat.eq_of_testBit_eq
    intro i
    simp only [Nat.testBit_or]
    cases (f a).testBit i <;> cases (f b).testBit i <;> cases (g a).testBit i <;>
      cases (g b).testBit i <;> rfl⟩

theorem OrHom.shl {f} (hf : OrHom f) (k : Nat) : OrHom (fun e => f e <<< k) :=
  ⟨by simp [hf.zero], fun a b => by simp [hf.or, Nat.shiftLeft_or_distrib]⟩

theorem OrHom.shr {f} (hf : OrHom f) (k : Nat) : OrHom (fun e => f e >>> k) :=
  ⟨by simp [hf.zero], fun a b => by simp [hf.or, Nat.shiftRight_or_distrib]⟩

theorem OrHom.modPow {f} (hf : OrHom f) (w : Nat) : OrHom (fun e => f e % 2 ^ w) :=
  ⟨by simp [hf.zero], fun a b => by simp [hf.or, Nat.or_mod_two_pow]⟩

def byteEnv (i v : Nat) : Env := fun j => if j = i then v else 0

def truncEnv (e : Env) (n : Nat) : Env := fun j => if j < n then e j else 0

theorem mod_two_pow_succ_eq_or (v k : Nat) :
    v % 2 ^ (k + 1) = v % 2 ^ k ||| (if v.testBit k then 2 ^ k else 0) := by
  apply Nat.eq_of_testBit_eq
  intro j
  rw [Nat.testBit_or, Nat.testBit_mod_two_pow, Nat.testBit_mod_two_pow]
  by_cases hjk : j = k
  · subst hjk
    cases hv : v.testBit j <;> simp [Nat.testBit_two_pow_self]
  · have h2 : (if v.testBit k then 2 ^ k else 0).testBit j = false := by
      split
      · exact Nat.testBit_two_pow_of_ne (fun h => hjk h.symm)
      · exact Nat.zero_testBit j
    rw [h2, Bool.or_false]
    have : decide (j < k + 1) = decide (j < k) := by
      apply decide_eq_decide.mpr
      omega
    rw [this]

theorem byteEnv_zero (i : Nat) : byteEnv i 0 = Env.zero := by
  funext j
  simp [byteEnv, Env.zero]

theorem byteEnv_or (i a b : Nat) : byteEnv i (a ||| b) = (byteEnv i a).or (byteEnv i b) := by
  funext j
  simp only [byteEnv, Env.or]
  split <;> simp

theorem truncEnv_zero (e : Env) : truncEnv e 0 = Env.zero := by
  funext j
  simp [truncEnv, Env.zero]

theorem truncEnv_succ (e : Env) (n : Nat) :
    truncEnv e (n + 1) = (truncEnv e n).or (byteEnv n (e n)) := by
  funext j
  simp only [truncEnv, Env.or, byteEnv]
  by_cases h1 : j < n
  · have h2 : j < n + 1 := by omega
    have h3 : j ≠ n := by omega
    simp [h1, h2, h3]
  · by_cases h3 : j = n
    · subst h3
      simp
    · have h2 : ¬ j < n + 1 := by omega
      simp [h1, h2, h3]

theorem truncEnv_eq_self (e : Env) (n : Nat) (h : ∀ i, n ≤ i → e i = 0) : truncEnv e n = e := by
  funext j
  simp only [truncEnv]
  split
  · rfl
  · exact (h j (by omega)).symm

section Ext

variable {f g : Env → Nat}

theorem OrHom.agree_zero (hf : OrHom f) (hg : OrHom g) : f Env.zero = g Env.zero := by
  rw [hf.zero, hg.zero]

theorem OrHom.agree_or (hf : OrHom f) (hg : OrHom g) {a b : Env}
    (ha : f a = g a) (hb : f b = g b) : f (a.or b) = g (a.or b) := by
  rw [hf.or, hg.or, ha, hb]

/-- a byte value is the OR of its set bits: induction on the number `k` of low bits taken -/
theorem OrHom.agree_byteEnv (hf : OrHom f) (hg : OrHom g) (i v : Nat) (hv : v < 256)
    (h : ∀ b, b < 8 → f (single i b) = g (single i b)) :
    f (byteEnv i v) = g (byteEnv i v) := by
  have key : ∀ k, k ≤ 8 → f (byteEnv i (v % 2 ^ k)) = g (byteEnv i (v % 2 ^ k)) := by
    intro k
    induction k with
    | zero => intro _; rw [Nat.pow_zero, Nat.mod_one, byteEnv_zero]; exact hf.agree_zero hg
    | succ k ih =>
      intro hk
      rw [mod_two_pow_succ_eq_or, byteEnv_or]
      apply hf.agree_or hg (ih (by omega))
      split
      · exact h k (by omega)
      · rw [byteEnv_zero]; exact hf.agree_zero hg
  have h8 := key 8 (Nat.le_refl 8)
  rwa [Nat.mod_eq_of_lt hv] at h8

/-- two OR-homomorphisms that agree on every single-bit environment of the first `n`
bytes agree on every environment of byte values supported on the first `n` indices. -/
theorem OrHom.ext {f g : Env → Nat} (hf : OrHom f) (hg : OrHom g) (n : Nat)
    (h : ∀ i, i < n → ∀ b, b < 8 → f (single i b) = g (single i b)) :
    ∀ e : Env, (∀ i, e i < 256) → (∀ i, n ≤ i → e i = 0) → f e = g e := by
  intro e hlt hsupp
  have key : ∀ m, m ≤ n → f (truncEnv e m) = g (truncEnv e m) := by
    intro m
    induction m with
    | zero => intro _; rw [truncEnv_zero]; exact hf.agree_zero hg
    | succ m ih =>
      intro hm
      rw [truncEnv_succ]
      exact hf.agree_or hg (ih (by omega)) (hf.agree_byteEnv hg m (e m) (hlt m) (h m (by omega)))
  have := key n (Nat.le_refl n)
  rw [truncEnv_eq_self e n hsupp] at this
  exact this

end Ext

theorem envL_lt (l : List Nat) (hl : ∀ x ∈ l, x < 256) (i : Nat) : envL l i < 256 := by
  simp only [envL, List.getD_eq_getElem?_getD]
  by_cases hi : i < l.length
  · rw [List.getElem?_eq_getElem hi]
    exact hl _ (List.getElem_mem hi)
  · rw [List.getElem?_eq_none (by omega)]
    decide

theorem envL_eq_zero (l : List Nat) (i : Nat) (hi : l.length ≤ i) : envL l i = 0 := by
  simp only [envL, List.getD_eq_getElem?_getD]
  rw [List.getElem?_eq_none hi]
  rfl

theorem OrHom.ext_list {f g : Env → Nat} (hf : OrHom f) (hg : OrHom g) (n : Nat)
    (h : ∀ i, i < n → ∀ b, b < 8 → f (single i b) = g (single i b)) :
    ∀ l : List Nat, l.length ≤ n → (∀ x ∈ l, x < 256) → f (envL l) = g (envL l) := by
  intro l hlen hl
  exact hf.ext hg n h (envL l) (envL_lt l hl) (fun i hi => envL_eq_zero l i (by omega))

/-- a decidable, kernel-evaluable form of the hypothesis `h` (so that users can discharge it by
`decide +kernel`): -/
def agreeOnSingles (f g : Env → Nat) (n : Nat) : Bool :=
  (List.range n).all fun i => (List.range 8).all fun b => f (single i b) == g (single i b)

theorem agreeOnSingles_iff (f g : Env → Nat) (n : Nat) :
    agreeOnSingles f g n = true ↔ ∀ i, i < n → ∀ b, b < 8 → f (single i b) = g (single i b) := by
  simp [agreeOnSingles, List.all_eq_true, List.mem_range]

theorem OrHom.ext_list_of_agree {f g : Env → Nat} (hf : OrHom f) (hg : OrHom g) (n : Nat)
    (h : agreeOnSingles f g n = true) :
    ∀ l : List Nat, l.length ≤ n → (∀ x ∈ l, x < 256) → f (envL l) = g (envL l) :=
  hf.ext_list hg n ((agreeOnSingles_iff f g n).mp h)

/-! ## The `orhom` and `tie_linear` tactics -/

open Lean Meta Elab Tactic in
/-- `orhom_unfold` rewrites a goal `OrHom f` / `OrHom (fun e => c args)` whose function (body) is
headed by a user definition `c` into the goal with `c` delta-unfolded (and beta-reduced).  It
refuses to unfold operators (class projections such as `HAdd.hAdd`), so an unsupported shape is
left as the remaining goal instead of being unfolded into an instance implementation. -/
elab "orhom_unfold" : tactic => do
  let g ← getMainGoal
  g.withContext do
    let t ← whnfR (← instantiateMVars (← g.getType))
    unless t.isAppOfArity ``OrHom 1 do
      throwError "orhom: the goal is not of the form `OrHom f`"
    let unfoldHead (b : Expr) : MetaM Expr := do
      let some c := b.getAppFn.constName? | throwError "orhom: unsupported shape{indentExpr b}"
      -- operators (`HOr.hOr`, `HAdd.hAdd`, `OfNat.ofNat`, …) are structure projections: not ours
      if (← getProjectionFnInfo? c).isSome then throwError "orhom: unsupported shape{indentExpr b}"
      let some b' ← delta? b | throwError "orhom: cannot unfold{indentExpr b}"
      return b'.headBeta
    let f' ← match t.appArg!.eta with
      | .lam n d b bi => withLocalDecl n bi d fun x => do
          mkLambdaFVars #[x] (← unfoldHead (b.instantiate1 x))
      | f => unfoldHead f
    replaceMainGoal [← g.replaceTargetDefEq (mkApp t.appFn! f')]

/-- `orhom` proves `OrHom (fun e => t)` where `t` is built from byte reads `e i`, masks with
literals (either side), `|||`, `<<<`/`>>>` by a literal, and `% 2 ^ w`, by applying the closure
theorems `OrHom.byte/lor/shl/shr/modPow/andLit/litAnd` syntactically (reducible transparency: at
default transparency the unifier would try to evaluate `Nat.lor`/`<<<` on open terms and time
out).  A function given as a named definition is unfolded on the way (`orhom_unfold`), so
`orhom`, `unfold foo; orhom` and `show OrHom (fun e => _); orhom` all work. -/
syntax "orhom" : tactic

macro_rules
  | `(tactic| orhom) =>
    `(tactic|
      repeat' (first
        | with_reducible exact OrHom.byte _
        | with_reducible apply OrHom.lor
        | with_reducible apply OrHom.shl
        | with_reducible apply OrHom.shr
        | with_reducible apply OrHom.modPow
        | with_reducible apply OrHom.andLit
        | with_reducible apply OrHom.litAnd
        | orhom_unfold))

/-- `tie_linear n` proves `∀ l, l.length ≤ n → (∀ x ∈ l, x < 256) → f (envL l) = g (envL l)` for two
OR-linear bit-field expressions `f`, `g`: both are OR-homomorphisms (`orhom`), and they agree on the
`8 * n` single-bit environments (kernel evaluation).  The proof does not depend on how the two
expressions are written, only on what they compute. -/
macro "tie_linear " n:num : tactic =>
  `(tactic| exact OrHom.ext_list_of_agree (by orhom) (by orhom) $n (by decide +kernel))

def envB (b : List UInt8) : Env := envL (b.map (·.toNat))

theorem envB_lt (b : List UInt8) : ∀ x ∈ b.map (·.toNat), x < 256 := by
  intro x hx
  rcases List.mem_map.mp hx with ⟨u, _, rfl⟩
  exact UInt8.toNat_lt u

/-- `envB b` reads byte `i` of `b` (0 past the end).  The right-hand side is `Ts.byteD b i` unfolded
(this file does not import `Ts.Basic`; `Ts/Props/Ties/ExprSpecCore.lean` restates it with `byteD`). -/
theorem envB_apply (b : List UInt8) (i : Nat) : envB b i = (b.getD i 0).toNat := by
  unfold envB envL
  simp only [List.getD_eq_getElem?_getD, List.getElem?_map]
  cases b[i]? <;> rfl

section Test

def tsA (e : Env) : Nat :=
  ((e 0 &&& 0b0000_1110) <<< 29) ||| (e 1 <<< 22) ||| ((e 2 &&& 0b1111_1110) <<< 14) |||
    (e 3 <<< 7) ||| (e 4 >>> 1)

def tsB (e : Env) : Nat :=
  ((((e 0 >>> 1) &&& 7) <<< 30) % 2^64) ||| ((e 1 <<< 22) % 2^64) |||
    (((e 2 >>> 1) <<< 15) % 2^64) ||| ((e 3 <<< 7) % 2^64) ||| ((e 4 >>> 1) % 2^64)

/-- negative control: `tsA` with the wrong mask on byte 2 -/
def tsC (e : Env) : Nat :=
  ((e 0 &&& 0b0000_1110) <<< 29) ||| (e 1 <<< 22) ||| ((e 2 &&& 0b1111_1100) <<< 14) |||
    (e 3 <<< 7) ||| (e 4 >>> 1)

theorem tsA_orHom : OrHom tsA := by unfold tsA; orhom
theorem tsB_orHom : OrHom tsB := by unfold tsB; orhom

example : OrHom tsA := by show OrHom (fun e => _); orhom
example : OrHom tsA := by orhom
example : OrHom (fun e => 0xFF &&& e 3 ||| (e 1 &&& 0x1F) <<< 8) := by orhom

theorem tsA_tsB_agree : agreeOnSingles tsA tsB 5 = true := by decide +kernel

example : ∀ b0 b1 b2 b3 b4 : Nat, b0 < 256 → b1 < 256 → b2 < 256 → b3 < 256 → b4 < 256 →
    tsA (envL [b0,b1,b2,b3,b4]) = tsB (envL [b0,b1,b2,b3,b4]) := by
  intro b0 b1 b2 b3 b4 h0 h1 h2 h3 h4
  apply OrHom.ext_list tsA_orHom tsB_orHom 5 ((agreeOnSingles_iff _ _ _).mp tsA_tsB_agree)
  · simp
  · simp [h0, h1, h2, h3, h4]

/-- NEGATIVE control: the wrong mask is caught by the single-bit check -/
example : agreeOnSingles tsA tsC 5 = false := by decide +kernel

end Test

end Ts.Refl
