import Ts.Gen.PesGen
import Ts.Lemmas.C14c
import Ts.Props.Ties.StmtPsi
/-!
# Statement-level tie — PES header acceptance (audited with C14 and C08)

`Ts.Gen.PesGen` is `PesHeader::from_bytes`, `PesHeader::contents` and
`PesParsedContents::from_bytes` of `/repo/src/pes.rs` as they read NOW, translated statement by
statement by `tools/gen_pes.py`.  The theorems below prove, for EVERY byte string, that the
translated functions compute exactly the model's `Pes.headerFromBytes`, `Pes.parsedFromBytes`,
`Pes.contents` — the functions C14's `header_accept_iff`, `parsed_accept_iff`, `contents_kind` are
stated over — including the two subtractions the model evaluates for the `warn!` arguments (they
cannot underflow: `tie_stmt_parsed_from_bytes` shows the model never panics there either).
-/
-- as in `StmtPsi.lean`: the simp lists cover equivalent spellings of the source
set_option linter.unusedSimpArgs false
namespace Ts.Props.Ties.StmtPes
open Ts Ts.Stmt Ts.Gen Ts.Gen.PesGen Ts.Props.Ties.StmtPsi Ts.Lemmas.C14

/-- `PesHeader::from_bytes`: the same slice comes back when the six fixed bytes are present and start
with `00 00 01` -/
theorem tie_stmt_header_from_bytes (b : Bytes) (src : Option Nat) :
    PesHeader.from_bytes ⟨b, src⟩ = rmap (Option.map fun x => (⟨x, src⟩ : Slice)) (Pes.headerFromBytes b) := by
  unfold PesHeader.from_bytes Pes.headerFromBytes
  simp only [Slice.len, Slice.get, Pes.HDR_FIXED]
  by_cases h : b.length < 6
  · simp only [h, decide_true, if_true, R.pure_eq, rmap_ok, Option.map]
  · have h' : 6 ≤ b.length := by omega
    simp only [h, decide_false, Bool.false_eq_true, if_false, byteAt_ok b 0 (by omega), byteAt_ok b 1 (by omega),
      byteAt_ok b 2 (by omega), R.ok_bind, R.pure_eq]
    split <;> simp [rmap_ok]

/-- `PesParsedContents::from_bytes` -/
theorem tie_stmt_parsed_from_bytes (b : Bytes) (src : Option Nat) :
    PesParsedContents.from_bytes ⟨b, src⟩ = rmap (Option.map fun x => (⟨x, src⟩ : Slice)) (Pes.parsedFromBytes b) := by
  unfold PesParsedContents.from_bytes Pes.parsedFromBytes
  simp only [Slice.len, Slice.get, Pes.FIXED, Pes.hdl, Pes.flagsByte]
  by_cases h : b.length < 3
  · simp only [h, decide_true, if_true, R.pure_eq, rmap_ok, Option.map]
  · have h' : 3 ≤ b.length := by omega
    simp only [h, decide_false, Bool.false_eq_true, if_false, byteAt_ok b 0 (by omega), byteAt_ok b 1 (by omega),
      byteAt_ok b 2 (by omega), R.ok_bind, R.pure_eq]
    by_cases hc : (byteD b 0 >>> 6 != 2) = true
    · simp only [hc, if_true, rmap_ok, Option.map]
    · simp only [hc, Bool.false_eq_true, if_false]
      -- both consistency tests, in whichever order the source makes them
      have hcrc := crcEnd_eq (byteD b 1) (byteD_lt b 1)
      have h3 := three_le_curExt (flagsOfByte (byteD b 1))
      by_cases hh : 3 + byteD b 2 > b.length <;> by_cases hce : curExt (flagsOfByte (byteD b 1)) > 3 + byteD b 2 <;>
        simp only [hh, hce, hcrc, decide_true, decide_false, if_true, if_false, Bool.false_eq_true,
          subR_ok b.length 3 h', subR_ok _ 3 h3, R.ok_bind, rmap_ok, Option.map]

def contentsOf (src : Option Nat) : Pes.Contents → PesContents
  | .parsed c => .Parsed (c.map fun x => ⟨x, src⟩)
  | .payload rest => .Payload ⟨rest, src⟩

/-- `PesHeader::contents`: payload or parsed contents, both views of the bytes after the six fixed ones -/
theorem tie_stmt_contents (b : Bytes) (src : Option Nat) :
    PesHeader.contents ⟨⟨b, src⟩⟩ = rmap (contentsOf (src.map (· + 6))) (Pes.contents b) := by
  unfold PesHeader.contents Pes.contents
  simp only [Pes.HDR_FIXED, Slice.from, R.bind_assoc, R.ok_bind, R.pure_eq, rmap_bind]
  cases sliceFrom b 6 with
  | panic m => rfl
  | ok rest =>
    simp only [R.ok_bind]
    cases Pes.streamId b with
    | panic m => rfl
    | ok sid =>
      simp only [R.ok_bind]
      cases Pes.isParsed sid <;>
        simp only [Bool.not_true, Bool.not_false, Bool.false_eq_true, if_true, if_false, tie_stmt_parsed_from_bytes,
          bind_rmap, rmap_bind, R.pure_eq, rmap_ok, contentsOf]

/-- the model never panics in `parsedFromBytes` (the two subtractions it evaluates for the `warn!`
arguments cannot underflow) -/
theorem parsed_from_bytes_total (b : Bytes) : ∃ o, Pes.parsedFromBytes b = .ok o :=
  ⟨_, parsedFromBytes_eq b⟩

end Ts.Props.Ties.StmtPes
