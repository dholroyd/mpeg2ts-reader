import Ts.Spec.RoutingHistory
import Ts.Lemmas.C05Hc
import Ts.Lemmas.C05Hd
import Ts.Lemmas.C05HRun
import Ts.Props.C05
import Ts.Props.C06
import Ts.Lemmas.C05He
import Ts.Props.C02Trace
import Ts.Lemmas.C05Hf
import Ts.Lemmas.AppEval
/-!
# C05 over whole histories — routing follows the latest valid PAT and PMTs

`Ts/Props/C05.lean` proves C05 per applied table.  This file composes those theorems into theorems over
whole histories of PAT / PMT versions, elementary-stream packets and repetitions
(`Ts/Spec/RoutingHistory.lean`): `routing_refines` and its corollaries, the known findings F7 and F10 as
counterexamples to the clauses at full strength, and the scope boundaries of the spec's vocabulary
(DESIGN 8.1b), each with a run on real bytes.
-/
namespace Ts.Props.C05History
open Ts Ts.Tables Ts.App Ts.Demux Ts.Spec Ts.Spec.TableSpec Ts.Spec.Routing Ts.Spec.RoutingHistory
open Ts.Lemmas.C10 Ts.Lemmas.C05Run Ts.Lemmas.C05H Ts.Lemmas.C05HRun

theorem routeOf_iff (r : Route) (pid : Nat) :
    (routeOf r pid = none ↔ r.slots pid = none) ∧
    (∀ k, routeOf r pid = some k ↔ ∃ req tag, r.slots pid = some (req, tag) ∧ kindOf req = k) := by
  unfold routeOf
  cases h : r.slots pid with
  | none => simp
  | some x => obtain ⟨req, tag⟩ := x; simp

theorem routeOf_of_slot {r : Route} {q : Nat} {req : Req} {tag : Nat} (h : r.slots q = some (req, tag)) :
    routeOf r q = some (kindOf req) := by
  unfold routeOf; rw [h]; rfl

theorem slotRel_iff (r : Route) (p : Nat) (o : Option Handler) :
    (SlotRel r p none o ↔ o = none) ∧
    (∀ tag, SlotRel r p (some (.byPid 0, tag)) o ↔
      p = 0 ∧ ∃ s, o = some (.pat s (r.patEntries.map PatEntry.pid)) ∧
        s.lastVersion = r.patVersion ∧ s.remaining = none) ∧
    (∀ n tag, SlotRel r p (some (.byPid (n + 1), tag)) o ↔ o = some (.recorder tag)) ∧
    (∀ a b tag, SlotRel r p (some (.pmt a b, tag)) o ↔
      ∃ s, o = some (.pmt a b s ((r.pmt p).streams.map StreamInfo.pid)) ∧
        s.lastVersion = (r.pmt p).ver ∧ s.remaining = none) ∧
    (∀ a tag, SlotRel r p (some (.nit a, tag)) o ↔ o = some (.recorder tag)) ∧
    (∀ pp st a pcr d1 d2 tag, SlotRel r p (some (.stream pp st a pcr d1 d2, tag)) o ↔
      if isPes st then ∃ f, o = some (.pes tag f) else o = some (.recorder tag)) :=
  ⟨Iff.rfl, fun _ => Iff.rfl, fun _ _ => Iff.rfl, fun _ _ _ => Iff.rfl, fun _ _ => Iff.rfl,
    fun _ _ _ _ _ _ _ => Iff.rfl⟩

theorem sim_iff (r : Route) (t : Tab Handler) (c : Ctx) :
    Sim r t c ↔
      (c.cfg.script = [] ∧ c.nextTag = r.reqs.length ∧ constructs c = r.reqs.zipIdx ∧
       (∀ p, SlotRel r p (r.slots p) (t.get p)) ∧ (∀ e ∈ r.patEntries, e.pid ≠ 0) ∧
       ∀ p, ∀ s ∈ (r.pmt p).streams, s.pid ≠ p) :=
  ⟨fun h => ⟨h.script, h.tag, h.log, h.slots, h.pat0, h.pmtSelf⟩,
   fun ⟨a, b, c', d, e, f⟩ => ⟨a, b, c', d, e, f⟩⟩

theorem wfEv_iff (r : Route) :
    (∀ ver es, wfEv r (.patApplied ver es) ↔
      ((∃ tag, r.slots 0 = some (.byPid 0, tag)) ∧ r.patVersion ≠ some ver ∧
        ∀ e ∈ es, e.pid ≤ 0x1fff ∧ e.pid ≠ 0)) ∧
    (∀ p ver body, wfEv r (.pmtApplied p ver body) ↔
      ((∃ prog tag, r.slots p = some (.pmt p prog, tag)) ∧ (r.pmt p).ver ≠ some ver ∧
        ∀ s ∈ streamsOf body, s.pid ≤ 0x1fff ∧ s.pid ≠ p)) ∧
    (∀ p, wfEv r (.esPacket p) ↔ (p ≠ 0 ∧ tableRouted r p = false)) ∧
    (∀ p, wfEv r (.repetition p) ↔ tableRouted r p = true) := by
  refine ⟨fun ver es => ?_, fun p ver body => ?_, fun _ => Iff.rfl, fun _ => Iff.rfl⟩
  · unfold wfEv; rw [patRouted_iff]
  · simp only [wfEv]; rw [pmtRouted_iff]

/-- **One `stepRoute` = the table change of the corresponding packets**, for each of the four event
kinds: from any (table, context) that agrees with route `r`, the packets of a well-formed event run
through the dispatcher without panic and end in a (table, context) that agrees with
`stepRoute r ev`. -/
theorem route_step_sound (r : Route) (t : Tab Handler) (c : Ctx) (ev : Event) (pks : List Pk)
    (hsim : Sim r t c) (hwf : wfEv r ev) (hre : RealisesEv r ev pks) :
    ∃ t' c', pushSpec App.sem (t, c) pks = .ok (t', c') ∧ Sim (stepRoute r ev) t' c' :=
  Ts.Lemmas.C05He.sim_step_I r t c ev pks hsim hwf ⟨pks, hre, Ts.Lemmas.C05He.interleaves_self _ pks⟩

theorem route_step_sound_pat (r : Route) (t : Tab Handler) (c : Ctx) (ver : Nat) (es : List PatEntry)
    (pks : List Pk) (hsim : Sim r t c) (hwf : wfEv r (.patApplied ver es))
    (hre : RealisesEv r (.patApplied ver es) pks) :
    ∃ t' c', pushSpec App.sem (t, c) pks = .ok (t', c') ∧ Sim (stepRoute r (.patApplied ver es)) t' c' :=
  route_step_sound r t c _ pks hsim hwf hre

theorem route_step_sound_pmt (r : Route) (t : Tab Handler) (c : Ctx) (p ver : Nat) (body : Bytes)
    (pks : List Pk) (hsim : Sim r t c) (hwf : wfEv r (.pmtApplied p ver body))
    (hre : RealisesEv r (.pmtApplied p ver body) pks) :
    ∃ t' c', pushSpec App.sem (t, c) pks = .ok (t', c') ∧ Sim (stepRoute r (.pmtApplied p ver body)) t' c' :=
  route_step_sound r t c _ pks hsim hwf hre

theorem route_step_sound_es (r : Route) (t : Tab Handler) (c : Ctx) (p : Nat) (pks : List Pk)
    (hsim : Sim r t c) (hwf : wfEv r (.esPacket p)) (hre : RealisesEv r (.esPacket p) pks) :
    ∃ t' c', pushSpec App.sem (t, c) pks = .ok (t', c') ∧ Sim (stepRoute r (.esPacket p)) t' c' :=
  sim_es r t c p pks hsim hwf hre

theorem route_step_sound_rep (r : Route) (t : Tab Handler) (c : Ctx) (p : Nat) (pks : List Pk)
    (hsim : Sim r t c) (hwf : wfEv r (.repetition p)) (hre : RealisesEv r (.repetition p) pks) :
    ∃ t' c', pushSpec App.sem (t, c) pks = .ok (t', c') ∧ Sim r t' c' :=
  sim_rep r t c p pks hsim hwf hre

theorem init_refines (cfg : Cfg) (hscript : cfg.script = []) :
    Sim initRoute (App.init cfg).1 (App.init cfg).2 := sim_init cfg hscript

theorem routing_refines_from (r : Route) (t : Tab Handler) (c : Ctx) (evs : List Event) (pks : List Pk)
    (hsim : Sim r t c) (hwf : WF r evs) (hre : Realises r evs pks) :
    ∃ t' c', pushSpec App.sem (t, c) pks = .ok (t', c') ∧ pushModel App.sem (t, c) pks = .ok (t', c') ∧
      Sim (run r evs) t' c' := by
  obtain ⟨t', c', h1, h2⟩ :=
    Ts.Lemmas.C05He.sim_run_I (Ts.Lemmas.C05He.realisesI_of_realises hre) t c hsim hwf
  exact ⟨t', c', h1, by rw [Ts.Props.C06.push_refines_spec]; exact h1, h2⟩

theorem refines_of_sim (evs : List Event) (t : Tab Handler) (c : Ctx) (hsim : Sim (run initRoute evs) t c) :
    (∀ pid, SlotRel (run initRoute evs) pid ((run initRoute evs).slots pid) (t.get pid))
      ∧ (∀ pid req tag, (run initRoute evs).slots pid = some (req, tag) →
            reqPid req = pid ∧ Ev.construct req tag ∈ c.trace ∧ tag < c.nextTag)
      ∧ (∀ pid pid' req req' tag, (run initRoute evs).slots pid = some (req, tag) →
            (run initRoute evs).slots pid' = some (req', tag) → pid = pid')
      ∧ constructs c = (Req.byPid 0 :: historyRequests initRoute evs).zipIdx
      ∧ c.nextTag = 1 + (historyRequests initRoute evs).length := by
  have hinv := tagInv_run evs initRoute tagInv_init
  have hreqs : (run initRoute evs).reqs = Req.byPid 0 :: historyRequests initRoute evs := by
    rw [run_reqs]; rfl
  refine ⟨hsim.slots, ?_, fun pid pid' req req' tag => tags_distinct _ hinv pid pid' req req' tag, ?_, ?_⟩
  · intro pid req tag hs
    obtain ⟨a1, a2⟩ := hinv pid req tag hs
    refine ⟨a1, ?_, ?_⟩
    · rw [← mem_constructs, hsim.log, List.mem_zipIdx_iff_getElem?]; exact a2
    · rw [hsim.tag]
      exact (List.getElem?_eq_some_iff.1 a2).1
  · rw [hsim.log, hreqs]
  · rw [hsim.tag, hreqs, List.length_cons]; omega

/-- **C05 over whole histories.**  `cfg`: any configuration without recorder script (either build,
callbacks touching everything or not).  `evs`: any well-formed history; `pks`: any packet list
realising it.  Starting from `Demultiplex::new`, the real dispatcher loops (`pushModel`, equal to the
packet-by-packet `pushSpec`) run without panic and, with `r := run initRoute evs`:

1. for EVERY pid the handler in slot `pid` agrees with the route (`SlotRel`, spelled out kind by kind
   in `handler_of_route` / `route_of_handler`): the PAT filter on PID 0; PMT filters with the
   announced program number exactly on the PIDs routed by a `Pmt` request; PES filters / recorders
   carrying the tag of the `Stream` request that routes the PID; recorders for `Nit` and `ByPid`
   requests; nothing on un-routed PIDs;
2. the request routing a PID names that PID, and the `construct` event with that request and the
   handler's tag is in the trace; the tag is below the tag counter;
3. tags of different routed PIDs are different;
4. the `construct` events in the trace, oldest first, are exactly `ByPid(0)` followed by the
   concatenation of the per-event request lists, with tags 0, 1, 2, …;
5. the tag counter is the number of requests made. -/
theorem routing_refines (cfg : Cfg) (hscript : cfg.script = []) (evs : List Event) (pks : List Pk)
    (hwf : WF initRoute evs) (hre : Realises initRoute evs pks) :
    ∃ t c, pushSpec App.sem (App.init cfg) pks = .ok (t, c)
      ∧ pushModel App.sem (App.init cfg) pks = .ok (t, c)
      ∧ (∀ pid, SlotRel (run initRoute evs) pid ((run initRoute evs).slots pid) (t.get pid))
      ∧ (∀ pid req tag, (run initRoute evs).slots pid = some (req, tag) →
            reqPid req = pid ∧ Ev.construct req tag ∈ c.trace ∧ tag < c.nextTag)
      ∧ (∀ pid pid' req req' tag, (run initRoute evs).slots pid = some (req, tag) →
            (run initRoute evs).slots pid' = some (req', tag) → pid = pid')
      ∧ constructs c = (Req.byPid 0 :: historyRequests initRoute evs).zipIdx
      ∧ c.nextTag = 1 + (historyRequests initRoute evs).length := by
  obtain ⟨t, c, h1, h2, hsim⟩ := routing_refines_from initRoute _ _ evs pks (sim_init cfg hscript) hwf hre
  exact ⟨t, c, h1, h2, refines_of_sim evs t c hsim⟩

/-- the agreement of clause 1, read from the route kind to the handler -/
theorem handler_of_route (r : Route) (pid : Nat) (o : Option Handler)
    (h : SlotRel r pid (r.slots pid) o) :
    (routeOf r pid = none → o = none) ∧
    (routeOf r pid = some (.byPid 0) → pid = 0 ∧ ∃ s, o = some (.pat s (r.patEntries.map PatEntry.pid)) ∧
        s.lastVersion = r.patVersion ∧ s.remaining = none) ∧
    (∀ a prog, routeOf r pid = some (.pmt a prog) →
        ∃ s, o = some (.pmt a prog s ((r.pmt pid).streams.map StreamInfo.pid)) ∧
          s.lastVersion = (r.pmt pid).ver ∧ s.remaining = none) ∧
    (∀ a, routeOf r pid = some (.nit a) → ∃ tag, tagOf r pid = some tag ∧ o = some (.recorder tag)) ∧
    (∀ n, routeOf r pid = some (.byPid (n + 1)) → ∃ tag, tagOf r pid = some tag ∧ o = some (.recorder tag)) ∧
    (∀ pp st a, routeOf r pid = some (.stream pp st a) → ∃ tag, tagOf r pid = some tag ∧
        if isPes st then ∃ f, o = some (.pes tag f) else o = some (.recorder tag)) := by
  unfold routeOf tagOf
  cases hs : r.slots pid with
  | none =>
    rw [hs] at h
    refine ⟨fun _ => h, ?_, ?_, ?_, ?_, ?_⟩ <;> simp
  | some x =>
    obtain ⟨req, tag⟩ := x
    rw [hs] at h
    rcases req with (_ | n) | ⟨a, b⟩ | x | ⟨pp, st, q, pcr, d1, d2⟩
    · refine ⟨by simp, fun _ => h, ?_, ?_, ?_, ?_⟩ <;> simp [kindOf]
    · refine ⟨by simp, by simp [kindOf], by simp [kindOf], by simp [kindOf], ?_, by simp [kindOf]⟩
      intro m _
      exact ⟨tag, rfl, h⟩
    · refine ⟨by simp, by simp [kindOf], ?_, by simp [kindOf], by simp [kindOf], by simp [kindOf]⟩
      intro a' prog' e
      simp only [Option.map_some, kindOf, Option.some.injEq, ReqKind.pmt.injEq] at e
      obtain ⟨rfl, rfl⟩ := e
      exact h
    · refine ⟨by simp, by simp [kindOf], by simp [kindOf], ?_, by simp [kindOf], by simp [kindOf]⟩
      intro _ _
      exact ⟨tag, rfl, h⟩
    · refine ⟨by simp, by simp [kindOf], by simp [kindOf], by simp [kindOf], by simp [kindOf], ?_⟩
      intro pp' st' a' e
      simp only [Option.map_some, kindOf, Option.some.injEq, ReqKind.stream.injEq] at e
      obtain ⟨rfl, rfl, rfl⟩ := e
      exact ⟨tag, rfl, h⟩

/-- the agreement of clause 1, read from the handler to the route kind: handlers of each kind sit
EXACTLY on the PIDs the route says -/
theorem route_of_handler (r : Route) (pid : Nat) (o : Option Handler)
    (h : SlotRel r pid (r.slots pid) o) :
    (o = none → routeOf r pid = none) ∧
    (∀ s reg, o = some (.pat s reg) → routeOf r pid = some (.byPid 0) ∧ pid = 0) ∧
    (∀ a prog s reg, o = some (.pmt a prog s reg) → routeOf r pid = some (.pmt a prog)) ∧
    (∀ tag f, o = some (.pes tag f) → tagOf r pid = some tag ∧
        ∃ pp st a, routeOf r pid = some (.stream pp st a) ∧ isPes st = true) ∧
    (∀ tag, o = some (.recorder tag) → tagOf r pid = some tag ∧
        ((∃ a, routeOf r pid = some (.nit a)) ∨ (∃ n, routeOf r pid = some (.byPid (n + 1))) ∨
          ∃ pp st a, routeOf r pid = some (.stream pp st a) ∧ isPes st = false)) := by
  unfold routeOf tagOf
  cases hs : r.slots pid with
  | none =>
    rw [hs] at h
    have h' : o = none := h
    subst h'
    simp
  | some x =>
    obtain ⟨req, tag⟩ := x
    rw [hs] at h
    rcases req with (_ | n) | ⟨a, b⟩ | x | ⟨pp, st, q, pcr, d1, d2⟩
    · obtain ⟨hp, s, rfl, -⟩ := h
      simp [kindOf, hp]
    · have h' : o = some (.recorder tag) := h
      subst h'
      simp [kindOf]
    · obtain ⟨s, rfl, -⟩ := h
      simp [kindOf]
      intro a1 p1 s1 reg e1 e2 _ _
      exact ⟨e1, e2⟩
    · have h' : o = some (.recorder tag) := h
      subst h'
      simp [kindOf]
    · simp only [SlotRel] at h
      by_cases hp : isPes st = true
      · rw [if_pos hp] at h
        obtain ⟨f, rfl⟩ := h
        simp [kindOf]
        exact ⟨_, _, ⟨rfl, rfl⟩, hp⟩
      · rw [if_neg hp] at h
        subst h
        have hp' : isPes st = false := by simpa using hp
        simp [kindOf]
        exact ⟨_, _, ⟨rfl, rfl⟩, hp'⟩

/-! ### a new version takes effect for the very next transport packet -/

/-- `pks` realise the history `evs`; `pk` is ANY following packet (any PID, also the table's own).
The real loops dispatch `pk` on exactly the table `t` that agrees with the route after ALL of `evs` —
in particular after the table version applied by the last packet of `pks`. -/
theorem takes_effect_next_packet (cfg : Cfg) (hscript : cfg.script = []) (evs : List Event) (pks : List Pk)
    (hwf : WF initRoute evs) (hre : Realises initRoute evs pks) (pk : Pk) (rest : List Pk) :
    ∃ t c, pushModel App.sem (App.init cfg) pks = .ok (t, c) ∧ Sim (run initRoute evs) t c ∧
      pushModel App.sem (App.init cfg) (pks ++ pk :: rest) =
        (specStep App.sem (t, c) pk >>= fun tc => pushModel App.sem tc rest) := by
  obtain ⟨t, c, h1, h2, hsim⟩ := routing_refines_from initRoute _ _ evs pks (sim_init cfg hscript) hwf hre
  refine ⟨t, c, h2, hsim, ?_⟩
  rw [Ts.Props.C06.push_refines_spec, pushSpec_append_aux, h1]
  simp only [R.ok_bind, pushSpec_cons]
  congr 1
  funext tc
  rw [Ts.Props.C06.push_refines_spec]

theorem next_packet_handled (t : Tab Handler) (c : Ctx) (pk : Pk) (h : Handler)
    (hg : t.get pk.pid = some h) (hf : pk.flagged = false) :
    specStep App.sem (t, c) pk =
      (App.consume h c pk >>= fun x => R.ok (applyChanges (t.insert pk.pid x.1) x.2.2, x.2.1)) :=
  Ts.Props.C05.packet_on_listed_pid_handled t c pk h hg hf

/-! ### the positive clause: the most recent tables decide the route -/

/-- PMT PIDs are requested as program-map PIDs with the announced program number and network
entries as NIT PIDs: after any history whose most recent PAT is `es` (collision-free; the packets
after it arbitrary events other than a PAT), a PID listed by `es` is routed by the request of its
last entry -/
theorem routed_by_latest_pat (pre post : List Event) (ver : Nat) (es : List PatEntry) (q : Nat) (req : Req)
    (hcf : CollisionFree (pre ++ .patApplied ver es :: post))
    (hlast : ∀ ev ∈ post, ∀ v es', ev ≠ .patApplied v es')
    (hq : lastFor (patRequests es) q = some req) :
    (∃ tag, (run initRoute (pre ++ .patApplied ver es :: post)).slots q = some (req, tag)) ∧
    routeOf (run initRoute (pre ++ .patApplied ver es :: post)) q = some (kindOf req) ∧
    ∃ e ∈ es, e.pid = q ∧ req = patRequest e := by
  obtain ⟨tag, h⟩ := Ts.Lemmas.C05H.routed_by_latest_pat pre post ver es q req hcf hlast hq
  exact ⟨⟨tag, h⟩, routeOf_of_slot h, entry_of_lastFor hq⟩

/-- a PID listed by the most recent PMT received on program-map PID `p` is routed by a stream
request naming `p`, the entry's stream type and that PID (with the section's PCR PID and
descriptors) — whatever PAT versions, other PMTs, packets came after -/
theorem routed_by_latest_pmt (pre post : List Event) (p ver : Nat) (body : Bytes) (q : Nat) (req : Req)
    (hcf : CollisionFree (pre ++ .pmtApplied p ver body :: post))
    (hlast : ∀ ev ∈ post, ∀ v b, ev ≠ .pmtApplied p v b)
    (hq : lastFor (pmtReqs p body) q = some req) :
    (∃ tag, (run initRoute (pre ++ .pmtApplied p ver body :: post)).slots q = some (req, tag)) ∧
    routeOf (run initRoute (pre ++ .pmtApplied p ver body :: post)) q = some (kindOf req) ∧
    ∃ s ∈ streamsOf body, s.pid = q ∧
      req = .stream p s.streamType q (specPcrPid body) s.descBytes (specProgramDescBytes body) := by
  obtain ⟨tag, h⟩ := Ts.Lemmas.C05H.routed_by_latest_pmt pre post p ver body q req hcf hlast hq
  exact ⟨⟨tag, h⟩, routeOf_of_slot h, stream_of_lastFor hq⟩

/-- **the first sentence of C05, end to end.**  After any realised, well-formed, collision-free
history whose most recent PMT on `p` is `body`: the slot of a PID `q` listed by it holds a handler
the application built from the request naming `q`, its stream type and the owning program map `p` —
the `construct` event with that request and the handler's tag is in the trace; the handler is a PES
filter iff the stream type `is_pes`, else a recorder. -/
theorem handled_by_latest_pmt (cfg : Cfg) (hscript : cfg.script = []) (pre post : List Event)
    (p ver : Nat) (body : Bytes) (pks : List Pk) (q : Nat) (s : StreamInfo)
    (hwf : WF initRoute (pre ++ .pmtApplied p ver body :: post))
    (hcf : CollisionFree (pre ++ .pmtApplied p ver body :: post))
    (hre : Realises initRoute (pre ++ .pmtApplied p ver body :: post) pks)
    (hlast : ∀ ev ∈ post, ∀ v b, ev ≠ .pmtApplied p v b)
    (hq : lastFor (pmtReqs p body) q
      = some (.stream p s.streamType q (specPcrPid body) s.descBytes (specProgramDescBytes body))) :
    ∃ t c tag, pushModel App.sem (App.init cfg) pks = .ok (t, c) ∧
      Ev.construct (.stream p s.streamType q (specPcrPid body) s.descBytes (specProgramDescBytes body)) tag
        ∈ c.trace ∧
      (if isPes s.streamType then ∃ f, t.get q = some (.pes tag f) else t.get q = some (.recorder tag)) := by
  obtain ⟨t, c, -, h2, hslots, htags, -, -, -⟩ := routing_refines cfg hscript _ pks hwf hre
  obtain ⟨⟨tag, hs⟩, -, -⟩ := routed_by_latest_pmt pre post p ver body q _ hcf hlast hq
  exact ⟨t, c, tag, h2, (htags q _ tag hs).2.1, (hs ▸ hslots q :)⟩

/-! ### the "dropped PIDs" clause -/

/-- PAT: a PID listed by one PAT version and dropped by the next applied version is un-routed by the
last packet of that version (whatever happened in between other than a PAT) -/
theorem dropped_by_next_pat (r : Route) (mid : List Event) (v1 v2 : Nat) (es1 es2 : List PatEntry) (q : Nat)
    (hmid : ∀ ev ∈ mid, ∀ v es, ev ≠ .patApplied v es)
    (hq : q ∈ es1.map PatEntry.pid) (h13 : q ≤ 0x1fff) (hdrop : q ∉ es2.map PatEntry.pid) :
    routeOf (run r (.patApplied v1 es1 :: mid ++ [.patApplied v2 es2])) q = none :=
  Ts.Lemmas.C05H.dropped_by_next_pat r mid v1 v2 es1 es2 q hmid hq h13 hdrop

/-- PMT: a PID listed by one PMT version on `p` and dropped by the next version applied on `p` is
un-routed PROVIDED no PAT version listing `p` was applied in between — i.e. the SAME handler
instance applies both versions.  This is the exact extra hypothesis (see `dropped_clause_gap_is_F7`). -/
theorem dropped_by_same_pmt_instance (r : Route) (mid : List Event) (p v1 v2 : Nat) (b1 b2 : Bytes) (q : Nat)
    (hmid : ∀ ev ∈ mid, (∀ v b, ev ≠ .pmtApplied p v b) ∧
      ∀ v es, ev = .patApplied v es → p ∉ es.map PatEntry.pid)
    (hq : q ∈ (streamsOf b1).map StreamInfo.pid) (h13 : q ≤ 0x1fff)
    (hdrop : q ∉ (streamsOf b2).map StreamInfo.pid) :
    routeOf (run r (.pmtApplied p v1 b1 :: mid ++ [.pmtApplied p v2 b2])) q = none :=
  Ts.Lemmas.C05H.dropped_by_same_pmt_instance r mid p v1 v2 b1 b2 q hmid hq h13 hdrop

/-- the single steps behind them, in terms of the state: what the CURRENT instance remembers -/
theorem drop_steps (r : Route) (q : Nat) (h13 : q ≤ 0x1fff) :
    (∀ ver es, q ∈ r.patEntries.map PatEntry.pid → q ∉ es.map PatEntry.pid →
      routeOf (stepRoute r (.patApplied ver es)) q = none) ∧
    (∀ p ver body, q ∈ (r.pmt p).streams.map StreamInfo.pid → q ∉ (streamsOf body).map StreamInfo.pid →
      routeOf (stepRoute r (.pmtApplied p ver body)) q = none) ∧
    (∀ p ver body, (r.pmt p).streams = [] → q ∉ (streamsOf body).map StreamInfo.pid →
      routeOf (stepRoute r (.pmtApplied p ver body)) q = routeOf r q) :=
  ⟨fun ver es h1 h2 => pat_drop_step r ver es q h1 h13 h2,
   fun p ver body h1 h2 => pmt_drop_step r p ver body q h1 h13 h2,
   fun p ver body h1 h2 => pmt_fresh_keeps r p ver body q h1 h2⟩

/-- **known finding F7: the clause is FALSE of the code.**  Witness: PAT v0 {1 → 0x100},
PMT v0 {0x101, 0x102}, PAT v1 {1 → 0x100, 2 → 0x110}, PMT v1 {0x101}: PID 0x102 stays routed by the
stream request of PMT v0 (`removal_counterexample` in `Props/C05.lean` is the same history run
through the whole model; `f7_refined` below derives it from `routing_refines`). -/
theorem dropped_clause_pmt_false : ¬ DroppedClausePmt := by
  intro h
  have := h [.patApplied 0 [.program 1 0x100]] [.patApplied 1 [.program 1 0x100, .program 2 0x110]]
    0x100 0 1 body0 body1 0x102 (by decide +kernel) (by decide +kernel)
    (no_pmt_of _ _ rfl)
    (by decide +kernel) (by decide +kernel)
  revert this
  decide +kernel

/-- the gap is EXACTLY F7: whenever the clause fails, a PAT version listing `p` was applied between
the two PMT versions (every such PAT builds a fresh PMT handler whose remembered set is empty) -/
theorem dropped_clause_gap_is_F7 (r : Route) (mid : List Event) (p v1 v2 : Nat) (b1 b2 : Bytes) (q : Nat)
    (hmid : ∀ ev ∈ mid, ∀ v b, ev ≠ .pmtApplied p v b)
    (hq : q ∈ (streamsOf b1).map StreamInfo.pid) (h13 : q ≤ 0x1fff)
    (hdrop : q ∉ (streamsOf b2).map StreamInfo.pid)
    (hfail : routeOf (run r (.pmtApplied p v1 b1 :: mid ++ [.pmtApplied p v2 b2])) q ≠ none) :
    ∃ ev ∈ mid, ∃ v es, ev = .patApplied v es ∧ p ∈ es.map PatEntry.pid := by
  apply Classical.byContradiction
  intro hn
  apply hfail
  apply dropped_by_same_pmt_instance r mid p v1 v2 b1 b2 q ?_ hq h13 hdrop
  intro ev hm
  refine ⟨hmid ev hm, ?_⟩
  intro v es e hp
  exact hn ⟨ev, hm, v, es, e, hp⟩

/-- a second quirk of the code: the elementary-stream handlers of a program DROPPED by a newer PAT are not
un-routed (only the program-map PID is): PAT v0 {1 → 0x100}, PMT v0 {0x101, 0x102}, PAT v1 {} -/
theorem dropped_program_streams_survive :
    WF initRoute dropHist ∧ CollisionFree dropHist ∧
    routeOf (run initRoute dropHist) 0x100 = none ∧
    routeOf (run initRoute dropHist) 0x101 = some (.stream 0x100 0x1b 0x101) ∧
    routeOf (run initRoute dropHist) 0x102 = some (.stream 0x100 0x0f 0x102) := by
  exact ⟨drop_wf, drop_cf, (routeOf_iff _ _).1.2 drop_slots.1, routeOf_of_slot drop_slots.2.1,
    routeOf_of_slot drop_slots.2.2⟩

theorem runApp_one (cfg : Cfg) (buf : Bytes) (pks : List Pk) (h : Demux.frame buf 0 = .ok pks) :
    runApp cfg [buf] = pushModel App.sem (App.init cfg) pks :=
  Ts.Lemmas.C05He.runApp_frame cfg buf pks h

/-- the `F7control` probe: 4 real packets (PAT v0, PMT v0 {0x101, 0x102}, PMT v1 {0x101}, a packet on
0x102) cut into a 4-event history -/
example : Demux.frame ctlBytes 0 = .ok ctlPks ∧ WF initRoute ctlHist ∧ CollisionFree ctlHist ∧
    Realises initRoute ctlHist ctlPks := ⟨ctl_frame, ctl_wf, ctl_cf, ctl_realises⟩

/-- `routing_refines` on the `F7control` probe: PMT v1 (applied by the SAME instance that applied v0) took
0x102 out; the probe packet made the application get `ByPid(0x102)` (tag 5).  Identical to what kernel
evaluation of the whole model gives (`Ts.Lemmas.C05Run.ctl_run`). -/
theorem ctl_refined :
    ∃ t c, runApp {} [ctlBytes] = .ok (t, c) ∧
      t.get 0x102 = some (.recorder 5) ∧ (∃ f, t.get 0x101 = some (.pes 4 f)) ∧
      (∃ s, t.get 0x100 = some (.pmt 0x100 1 s [0x101]) ∧ s.lastVersion = some 1) ∧
      (∃ s, t.get 0 = some (.pat s [0x100]) ∧ s.lastVersion = some 0) ∧
      t.get 0x110 = none ∧
      Ev.construct (.byPid 0x102) 5 ∈ c.trace ∧
      constructs c = [(.byPid 0, 0), (.pmt 0x100 1, 1), (.stream 0x100 0x1b 0x101 0x101 [] [], 2),
        (.stream 0x100 0x0f 0x102 0x101 [] [], 3), (.stream 0x100 0x1b 0x101 0x101 [] [], 4),
        (.byPid 0x102, 5)] := by
  obtain ⟨t, c, -, h2, hslots, htags, -, hlog, -⟩ := routing_refines {} rfl ctlHist ctlPks ctl_wf ctl_realises
  obtain ⟨s0, s100, s101, s102, s110, pv, mv, -, ms⟩ := ctl_slots
  refine ⟨t, c, (runApp_one {} ctlBytes ctlPks ctl_frame).trans h2, ?_, ?_, ?_, ?_, ?_, ?_, ?_⟩
  · exact (s102 ▸ hslots 0x102 :)
  · exact (s101 ▸ hslots 0x101 :)
  · obtain ⟨s, h1, h3, -⟩ := s100 ▸ hslots 0x100
    rw [ms] at h1; rw [mv] at h3
    exact ⟨s, h1, h3⟩
  · obtain ⟨-, s, h1, h3, -⟩ := s0 ▸ hslots 0
    have pe : (run initRoute ctlHist).patEntries.map PatEntry.pid = [0x100] := by decide +kernel
    rw [pv] at h3; rw [pe] at h1
    exact ⟨s, h1, h3⟩
  · exact (s110 ▸ hslots 0x110 :)
  · exact (htags 0x102 _ 5 s102).2.1
  · rw [hlog, ctl_requests]; rfl

example : ∃ t c, runApp {} [ctlBytes] = .ok (t, c) ∧ t.get 0x102 = some (.recorder 5) ∧
    constructs c = constructsV0 ++ [(.stream 0x100 0x1b 0x101 0x101 [] [], 4), (.byPid 0x102, 5)] := by
  obtain ⟨t, c, hr, hc, -, -, -, h102, -⟩ := observe_some _ _ ctl_run
  exact ⟨t, c, hr, slot_recorder _ _ h102, hc⟩

example : Demux.frame f7Bytes 0 = .ok f7Pks ∧ WF initRoute f7Hist ∧ CollisionFree f7Hist ∧
    Realises initRoute f7Hist f7Pks := ⟨f7_frame, f7_wf, f7_cf, f7_realises⟩

/-- `routing_refines` on the `F7` probe yields the F7 behaviour: after PMT v1, slot 0x102 still holds the
PES filter with tag 3 built for PMT v0's stream request; the probe packet causes no `ByPid` request -/
theorem f7_refined :
    ∃ t c, runApp {} [f7Bytes] = .ok (t, c) ∧ (∃ f, t.get 0x102 = some (.pes 3 f)) ∧
      (∃ s, t.get 0x100 = some (.pmt 0x100 1 s [0x101])) ∧
      Ev.construct (.stream 0x100 0x0f 0x102 0x101 [] []) 3 ∈ c.trace ∧
      constructs c = [(.byPid 0, 0), (.pmt 0x100 1, 1), (.stream 0x100 0x1b 0x101 0x101 [] [], 2),
        (.stream 0x100 0x0f 0x102 0x101 [] [], 3), (.pmt 0x100 1, 4), (.pmt 0x110 2, 5),
        (.stream 0x100 0x1b 0x101 0x101 [] [], 6)] := by
  obtain ⟨t, c, -, h2, hslots, htags, -, hlog, -⟩ := routing_refines {} rfl f7Hist f7Pks f7_wf f7_realises
  obtain ⟨s100, s101, s102, s110, -, ms⟩ := f7_slots
  refine ⟨t, c, (runApp_one {} f7Bytes f7Pks f7_frame).trans h2, ?_, ?_, ?_, ?_⟩
  · exact (s102 ▸ hslots 0x102 :)
  · obtain ⟨s, h1, -⟩ := s100 ▸ hslots 0x100
    rw [ms] at h1
    exact ⟨s, h1⟩
  · exact (htags 0x102 _ 3 s102).2.1
  · rw [hlog, f7_requests]; rfl

example : WF initRoute repHist ∧ Realises initRoute repHist repPks := ⟨rep_wf, rep_realises⟩

example : routeOf (run initRoute [.patApplied 0 [.program 1 0x100], .pmtApplied 0x100 0 body0,
      .pmtApplied 0x100 1 body1]) 0x102 = none :=
  dropped_by_same_pmt_instance _ [] 0x100 0 1 body0 body1 0x102 (by simp) (by decide +kernel) (by decide)
    (by decide +kernel)

example : routeOf (run initRoute ctlHist) 0x101 = some (.stream 0x100 0x1b 0x101) :=
  (routed_by_latest_pmt [.patApplied 0 [.program 1 0x100], .pmtApplied 0x100 0 body0] [.esPacket 0x102]
    0x100 1 body1 0x101 (.stream 0x100 0x1b 0x101 0x101 [] []) ctl_cf
    (no_pmt_of _ _ rfl)
    (by decide +kernel)).2.1

open Ts.Lemmas.C05He

/-! ### known finding F10: a shared elementary PID is dropped by ONE program's newer PMT -/

/-- **Known finding F10 (spec level).**  History `sharedHist`: PAT {1 → 0x100, 2 → 0x110};
PMT(0x100) v0 {0x101, 0x102}; PMT(0x110) v0 {0x101, 0x102}; PMT(0x100) v1 {0x101}.  It is
well-formed; it is NOT `CollisionFree` (nor collision-free NOW: two PMTs in force share PIDs, which
ISO/IEC 13818-1 allows); the PMT in force on program 2's PID 0x110 is `body0`, which lists 0x102, and
0x110 is announced by the PAT in force; yet 0x102 is un-routed: program 1's newer PMT removed the
handler program 2's PMT had installed.  This violates the first sentence of C05; `routing_refines`
needs only `WF`, so it is the model's (and the code's: `shared_es_pid_counterexample`) behaviour. -/
theorem shared_es_pid_unrouted :
    WF initRoute sharedHist ∧ ¬ CollisionFree sharedHist ∧ ¬ CollisionFreeNowAll sharedHist ∧
    0x102 ∈ (streamsOf body0).map StreamInfo.pid ∧
    (0x110, body0) ∈ (currentOf sharedHist).pmt ∧ 0x110 ∈ progPids (currentOf sharedHist).pat ∧
    routeOf (run initRoute sharedHist) 0x102 = none := by
  refine ⟨shared_wf, shared_not_cf, by decide +kernel, by decide +kernel, by decide +kernel,
    by decide +kernel, ?_⟩
  exact (routeOf_iff _ _).1.2 shared_slots.1

/-- **Known finding F10 (model level, by kernel evaluation of the whole model on the exact probe
bytes `F10` / `F10c`, one `push`).**
* after the four tables slot 0x102 is EMPTY although the PMT filter of program 2 (slot 0x110) has
  0x102 registered and the handler it requested (`stream 0x110 0x0f 0x102`, tag 6) was built;
* `F10`: the packet on 0x102 makes the application get `ByPid(0x102)` (tag 8, the LAST request) and
  is recorded by that recorder at byte offset 752; no elementary-stream callback at all;
* `F10c` (control, without PMT(0x100) v1): the packet is consumed by the PES filter with tag 6; the
  elementary-stream callbacks are `start_stream`, `begin_packet` with tag 6; no `ByPid(0x102)`.
Identical to the output of the Rust harness on these bytes. -/
theorem shared_es_pid_counterexample :
    (∃ t c, runApp {} [pat2V0 ++ pmtV0 ++ pmt2V0 ++ pmtV1] = .ok (t, c) ∧ t.get 0x102 = none ∧
      (∃ s, t.get 0x110 = some (.pmt 0x110 2 s [0x101, 0x102])) ∧
      Ev.construct (.stream 0x110 0x0f 0x102 0x101 [] []) 6 ∈ c.trace) ∧
    (∃ t c, runApp {} [f10Bytes] = .ok (t, c) ∧ t.get 0x102 = some (.recorder 8) ∧
      (∃ s, t.get 0x110 = some (.pmt 0x110 2 s [0x101, 0x102])) ∧
      constructs c = [(.byPid 0, 0), (.pmt 0x100 1, 1), (.pmt 0x110 2, 2),
        (.stream 0x100 0x1b 0x101 0x101 [] [], 3), (.stream 0x100 0x0f 0x102 0x101 [] [], 4),
        (.stream 0x110 0x1b 0x101 0x101 [] [], 5), (.stream 0x110 0x0f 0x102 0x101 [] [], 6),
        (.stream 0x100 0x1b 0x101 0x101 [] [], 7), (.byPid 0x102, 8)] ∧
      pkts c = [(8, 752)] ∧ esTags c = []) ∧
    (∃ t c, runApp {} [f10cBytes] = .ok (t, c) ∧ (∃ f, t.get 0x102 = some (.pes 6 f)) ∧
      (∀ tag, Ev.construct (.byPid 0x102) tag ∉ c.trace) ∧ esTags c = [(6, 0), (6, 1)]) := by
  refine ⟨?_, ?_, ?_⟩
  · obtain ⟨t, c, hr, hc, -, -, -, h102, h110⟩ := observe_some _ _ f10_tables
    refine ⟨t, c, hr, slot_empty _ h102, slot_pmt _ _ _ _ h110, ?_⟩
    rw [← mem_constructs, hc]; decide
  · obtain ⟨t, c, hr, hc, hp, he, hs⟩ := observeAt_some _ _ _ f10_run
    simp only [List.map_cons, List.map_nil, List.cons.injEq, and_true] at hs
    obtain ⟨-, -, h102, h110⟩ := hs
    exact ⟨t, c, hr, slot_recorder _ _ h102, slot_pmt _ _ _ _ h110, hc, hp, he⟩
  · obtain ⟨t, c, hr, hc, -, he, hs⟩ := observeAt_some _ _ _ f10c_run
    simp only [List.map_cons, List.map_nil, List.cons.injEq, and_true] at hs
    obtain ⟨-, -, h102, -⟩ := hs
    refine ⟨t, c, hr, slot_pes _ _ h102, ?_, he⟩
    intro tag hm
    rw [← mem_constructs, hc] at hm
    simp [constructsShared] at hm

example : Demux.frame f10Bytes 0 = .ok f10Pks ∧ WF initRoute sharedHistP ∧
    Realises initRoute sharedHistP f10Pks := ⟨f10_frame, sharedP_wf, f10_realises⟩

/-- `routing_refines` on the F10 probe yields the same behaviour as kernel evaluation of the whole
model (`shared_es_pid_counterexample`) -/
theorem shared_refined :
    ∃ t c, runApp {} [f10Bytes] = .ok (t, c) ∧ t.get 0x102 = some (.recorder 8) ∧
      Ev.construct (.byPid 0x102) 8 ∈ c.trace ∧
      (∃ s, t.get 0x110 = some (.pmt 0x110 2 s [0x101, 0x102])) := by
  obtain ⟨t, c, -, h2, hslots, htags, -, -, -⟩ :=
    routing_refines {} rfl sharedHistP f10Pks sharedP_wf f10_realises
  have s102 := shared_slots.2.2.2.2
  have s110 : (run initRoute sharedHistP).slots 0x110 = some (.pmt 0x110 2, 2) := by decide +kernel
  have m110 : ((run initRoute sharedHistP).pmt 0x110).streams = [⟨0x1b, 0x101, []⟩, ⟨0x0f, 0x102, []⟩] := by
    decide +kernel
  refine ⟨t, c, (runApp_one {} f10Bytes f10Pks f10_frame).trans h2, ?_, ?_, ?_⟩
  · exact (s102 ▸ hslots 0x102 :)
  · exact (htags 0x102 _ 8 s102).2.1
  · obtain ⟨s, h1, -⟩ := s110 ▸ hslots 0x110
    rw [m110] at h1
    exact ⟨s, h1⟩

/-! ### the positive clause under collision-freedom of the tables IN FORCE only -/

theorem collisionFreeNow_iff (T : Current) :
    CollisionFreeNow T ↔
      ((∀ e ∈ T.pat, ∀ e' ∈ T.pat, e.pid = e'.pid → isProgram e = isProgram e') ∧
       (∀ x ∈ T.pmt, ∀ s ∈ streamsOf x.2, ∀ e ∈ T.pat, s.pid ≠ e.pid) ∧
       (∀ x ∈ T.pmt, ∀ y ∈ T.pmt, ∀ s ∈ streamsOf x.2, ∀ s' ∈ streamsOf y.2, s.pid = s'.pid → x.1 = y.1)) :=
  Iff.rfl

/-- only the prefixes up to the length of the history matter, so the condition is decidable -/
theorem collisionFreeNowAll_iff (evs : List Event) :
    CollisionFreeNowAll evs ↔ ∀ k ≤ evs.length, CollisionFreeNow (currentOf (evs.take k)) :=
  Ts.Lemmas.C05He.collisionFreeNowAll_iff evs

/-- the global condition implies the per-prefix one (so every `CollisionFree` history is covered by
the primed theorems) -/
theorem collisionFreeNowAll_of_collisionFree (evs : List Event) (h : CollisionFree evs) :
    CollisionFreeNowAll evs := Ts.Lemmas.C05He.collisionFreeNowAll_of_collisionFree evs h

/-- **The positive clause for the tables in force.**  `evs`: a well-formed history such that after
EVERY prefix the tables in force are collision-free (`CollisionFreeNowAll`; superseded tables are not
constrained).  If `body` is the PMT in force on the program-map PID `p` (the most recent PMT applied
on `p` since `p` has continuously been announced by the PAT) then every PID `q` it lists is routed by
the stream request of its (last) entry in `body`: naming `p`, the entry's stream type, `q`, the
section's PCR PID and descriptors. -/
theorem routed_by_current_pmt (evs : List Event) (hwf : WF initRoute evs) (hcf : CollisionFreeNowAll evs)
    (p : Nat) (body : Bytes) (hm : (p, body) ∈ (currentOf evs).pmt) (q : Nat) (req : Req)
    (hq : lastFor (pmtReqs p body) q = some req) :
    (∃ tag, (run initRoute evs).slots q = some (req, tag)) ∧
    routeOf (run initRoute evs) q = some (kindOf req) ∧
    ∃ s ∈ streamsOf body, s.pid = q ∧
      req = .stream p s.streamType q (specPcrPid body) s.descBytes (specProgramDescBytes body) := by
  obtain ⟨tag, h⟩ := Ts.Lemmas.C05He.routed_by_current_pmt evs hwf hcf p body hm q req hq
  exact ⟨⟨tag, h⟩, routeOf_of_slot h, stream_of_lastFor hq⟩

/-- `routed_by_latest_pmt` with the global `CollisionFree` replaced by `CollisionFreeNowAll`.
Extra hypotheses compared with `routed_by_latest_pmt`: the history is well-formed (`hwf`), and every
PAT applied after the PMT still announces `p` as a program-map PID (`hkeep`: the program is not
dropped and announced again in between — then its PMT would no longer be in force). -/
theorem routed_by_latest_pmt' (pre post : List Event) (p ver : Nat) (body : Bytes) (q : Nat) (req : Req)
    (hwf : WF initRoute (pre ++ .pmtApplied p ver body :: post))
    (hcf : CollisionFreeNowAll (pre ++ .pmtApplied p ver body :: post))
    (hlast : ∀ ev ∈ post, ∀ v b, ev ≠ .pmtApplied p v b)
    (hkeep : ∀ ev ∈ post, ∀ v es, ev = .patApplied v es → p ∈ progPids es)
    (hq : lastFor (pmtReqs p body) q = some req) :
    (∃ tag, (run initRoute (pre ++ .pmtApplied p ver body :: post)).slots q = some (req, tag)) ∧
    routeOf (run initRoute (pre ++ .pmtApplied p ver body :: post)) q = some (kindOf req) ∧
    ∃ s ∈ streamsOf body, s.pid = q ∧
      req = .stream p s.streamType q (specPcrPid body) s.descBytes (specProgramDescBytes body) :=
  routed_by_current_pmt _ hwf hcf p body (cur_after_pmt pre post p ver body fun ev hm => ⟨hlast ev hm, hkeep ev hm⟩) q req hq

example (pre post : List Event) (p ver : Nat) (body : Bytes) (q : Nat) (req : Req)
    (hwf : WF initRoute (pre ++ .pmtApplied p ver body :: post))
    (hcf : CollisionFree (pre ++ .pmtApplied p ver body :: post))
    (hlast : ∀ ev ∈ post, ∀ v b, ev ≠ .pmtApplied p v b)
    (hkeep : ∀ ev ∈ post, ∀ v es, ev = .patApplied v es → p ∈ progPids es)
    (hq : lastFor (pmtReqs p body) q = some req) :
    ∃ tag, (run initRoute (pre ++ .pmtApplied p ver body :: post)).slots q = some (req, tag) :=
  (routed_by_latest_pmt' pre post p ver body q req hwf (collisionFreeNowAll_of_collisionFree _ hcf)
    hlast hkeep hq).1

/-- **the first sentence of C05, end to end, for the tables in force.**  As `handled_by_latest_pmt`
with `CollisionFree` replaced by `CollisionFreeNowAll` and the extra hypothesis `hkeep` (every PAT
after the PMT still announces `p`). -/
theorem handled_by_latest_pmt' (cfg : Cfg) (hscript : cfg.script = []) (pre post : List Event)
    (p ver : Nat) (body : Bytes) (pks : List Pk) (q : Nat) (s : StreamInfo)
    (hwf : WF initRoute (pre ++ .pmtApplied p ver body :: post))
    (hcf : CollisionFreeNowAll (pre ++ .pmtApplied p ver body :: post))
    (hre : Realises initRoute (pre ++ .pmtApplied p ver body :: post) pks)
    (hlast : ∀ ev ∈ post, ∀ v b, ev ≠ .pmtApplied p v b)
    (hkeep : ∀ ev ∈ post, ∀ v es, ev = .patApplied v es → p ∈ progPids es)
    (hq : lastFor (pmtReqs p body) q
      = some (.stream p s.streamType q (specPcrPid body) s.descBytes (specProgramDescBytes body))) :
    ∃ t c tag, pushModel App.sem (App.init cfg) pks = .ok (t, c) ∧
      Ev.construct (.stream p s.streamType q (specPcrPid body) s.descBytes (specProgramDescBytes body)) tag
        ∈ c.trace ∧
      (if isPes s.streamType then ∃ f, t.get q = some (.pes tag f) else t.get q = some (.recorder tag)) := by
  obtain ⟨t, c, -, h2, hslots, htags, -, -, -⟩ := routing_refines cfg hscript _ pks hwf hre
  obtain ⟨⟨tag, hs⟩, -, -⟩ := routed_by_latest_pmt' pre post p ver body q _ hwf hcf hlast hkeep hq
  exact ⟨t, c, tag, h2, (htags q _ tag hs).2.1, (hs ▸ hslots q :)⟩

/-- **A history that is NOT `CollisionFree` but `CollisionFreeNowAll`.**  `movedHist`: PAT
{1 → 0x100, 2 → 0x110}; PMT(0x100) v0 {0x101, 0x102}; PMT(0x100) v1 {0x101} (applied by the same
instance, so 0x102 is removed); PMT(0x110) v0 {0x102}; a packet on 0x102 — PID 0x102 MOVES from
program 1 to program 2.  It is realised by real packets (`movedBytes`). -/
example : WF initRoute movedHist ∧ ¬ CollisionFree movedHist ∧ CollisionFreeNowAll movedHist ∧
    Demux.frame movedBytes 0 = .ok movedPks ∧ Realises initRoute movedHist movedPks :=
  ⟨moved_wf, moved_not_cf, moved_cfn, moved_frame, moved_realises⟩

/-- `handled_by_latest_pmt'` on it: 0x102 is handled by a PES filter built from program 2's stream
request … -/
theorem moved_handled :
    ∃ t c tag, runApp {} [movedBytes] = .ok (t, c) ∧
      Ev.construct (.stream 0x110 0x0f 0x102 0x102 [] []) tag ∈ c.trace ∧
      ∃ f, t.get 0x102 = some (.pes tag f) := by
  obtain ⟨t, c, tag, h1, h2, h3⟩ := handled_by_latest_pmt' {} rfl
    [.patApplied 0 pat2, .pmtApplied 0x100 0 body0, .pmtApplied 0x100 1 body1] [.esPacket 0x102]
    0x110 0 bodyM movedPks 0x102 ⟨0x0f, 0x102, []⟩ moved_wf moved_cfn moved_realises
    (no_pmt_of _ _ rfl)
    (fun ev hm v es e => absurd e (no_pat_of _ rfl ev hm v es))
    (by decide +kernel)
  rw [bodyM_spec.1, bodyM_spec.2] at h2
  rw [if_pos (by decide)] at h3
  exact ⟨t, c, tag, (runApp_one {} movedBytes movedPks moved_frame).trans h1, h2, h3⟩

/-- kernel evaluation of the whole model on `movedBytes` agrees with `moved_handled`: that tag is 6,
and the callbacks for the probe packet carry tag 6 (no stale handler interferes) -/
theorem moved_checked :
    ∃ t c, runApp {} [movedBytes] = .ok (t, c) ∧ (∃ f, t.get 0x102 = some (.pes 6 f)) ∧
      Ev.construct (.stream 0x110 0x0f 0x102 0x102 [] []) 6 ∈ c.trace ∧
      (∀ tag, Ev.construct (.byPid 0x102) tag ∉ c.trace) ∧ esTags c = [(6, 0), (6, 1)] := by
  obtain ⟨t, c, hr, hc, -, he, hs⟩ := observeAt_some _ _ _ moved_run
  simp only [List.map_cons, List.map_nil, List.cons.injEq, and_true] at hs
  obtain ⟨-, -, h102, -⟩ := hs
  refine ⟨t, c, hr, slot_pes _ _ h102, ?_, ?_, he⟩
  · rw [← mem_constructs, hc]; decide
  · intro tag hm
    rw [← mem_constructs, hc] at hm
    simp at hm

/-! ### the "dropped PIDs" clause as a statement about TAGS -/

/-- PMT, with tags: a PID listed by one PMT version on `p` and dropped by the next version applied on
`p` is afterwards routed to NO handler instance — in particular not to the one (tag `tag`) the older
version installed — PROVIDED no PAT version listing `p` was applied in between. -/
theorem dropped_by_same_pmt_instance' (r : Route) (mid : List Event) (p v1 v2 : Nat) (b1 b2 : Bytes)
    (q tag : Nat)
    (hmid : ∀ ev ∈ mid, (∀ v b, ev ≠ .pmtApplied p v b) ∧
      ∀ v es, ev = .patApplied v es → p ∉ es.map PatEntry.pid)
    (hq : q ∈ (streamsOf b1).map StreamInfo.pid) (h13 : q ≤ 0x1fff)
    (hdrop : q ∉ (streamsOf b2).map StreamInfo.pid) :
    tagOf (run r (.pmtApplied p v1 b1 :: mid ++ [.pmtApplied p v2 b2])) q = none ∧
    tagOf (run r (.pmtApplied p v1 b1 :: mid ++ [.pmtApplied p v2 b2])) q ≠ some tag := by
  have h := dropped_by_same_pmt_instance r mid p v1 v2 b1 b2 q hmid hq h13 hdrop
  have h' := ((routeOf_iff _ q).1).1 h
  unfold tagOf
  rw [h']
  exact ⟨rfl, fun e => by cases e⟩

/-- **`DroppedClausePmt'` with the exact extra hypothesis** "no PAT version listing `p` was applied
between the two PMT versions" (needs neither `WF` nor `CollisionFree`; `q` a 13-bit PID) -/
theorem dropped_clause_pmt'_partial (pre mid : List Event) (p v1 v2 : Nat) (b1 b2 : Bytes) (q tag : Nat)
    (hmid : ∀ ev ∈ mid, ∀ v b, ev ≠ .pmtApplied p v b)
    (hpat : ∀ ev ∈ mid, ∀ v es, ev = .patApplied v es → p ∉ es.map PatEntry.pid)
    (hq : q ∈ (streamsOf b1).map StreamInfo.pid) (h13 : q ≤ 0x1fff)
    (hdrop : q ∉ (streamsOf b2).map StreamInfo.pid) :
    tagOf (run initRoute (pre ++ (.pmtApplied p v1 b1 :: mid ++ [.pmtApplied p v2 b2]))) q ≠ some tag := by
  rw [run_append]
  exact (dropped_by_same_pmt_instance' _ mid p v1 v2 b1 b2 q tag
    (fun ev hm => ⟨hmid ev hm, hpat ev hm⟩) hq h13 hdrop).2

/-- **known finding F7 against the faithful clause: `DroppedClausePmt'` is FALSE.**  Witness as in
`dropped_clause_pmt_false`: right after PMT v0, 0x102 is routed to the instance with tag 3; after
PAT v1 and PMT v1 (which drops 0x102) it is STILL routed to the instance with tag 3. -/
theorem dropped_clause_pmt'_false : ¬ DroppedClausePmt' := by
  intro h
  have := h [.patApplied 0 [.program 1 0x100]] [.patApplied 1 [.program 1 0x100, .program 2 0x110]]
    0x100 0 1 body0 body1 0x102 3 (by decide +kernel) (by decide +kernel)
    (no_pmt_of _ _ rfl)
    (by decide +kernel) (by decide +kernel) (by decide +kernel)
  revert this
  decide +kernel

/-- the witness of `dropped_clause_pmt'_false` in the model (kernel evaluation of the whole model on
the F7 bytes with a unit-start probe packet): the handler PMT v0 installed for 0x102 (`construct` with
tag 3) still sits in slot 0x102
after PMT v1 dropped 0x102, and the probe packet produces `start_stream` / `begin_packet` callbacks
carrying tag 3.  (`f7_refined` derives the slot content from `routing_refines`.) -/
theorem dropped_clause_model_witness :
    ∃ t c, runApp {} [f7aBytes] = .ok (t, c) ∧ (∃ f, t.get 0x102 = some (.pes 3 f)) ∧
      Ev.construct (.stream 0x100 0x0f 0x102 0x101 [] []) 3 ∈ c.trace ∧
      (∃ s, t.get 0x100 = some (.pmt 0x100 1 s [0x101])) ∧ esTags c = [(3, 0), (3, 1)] := by
  obtain ⟨t, c, hr, hc, -, he, hs⟩ := observeAt_some _ _ _ f7a_run
  simp only [List.map_cons, List.map_nil, List.cons.injEq, and_true] at hs
  obtain ⟨h100, -, h102, -⟩ := hs
  refine ⟨t, c, hr, slot_pes _ _ h102, ?_, slot_pmt _ _ _ _ h100, he⟩
  rw [← mem_constructs, hc]; decide

/-- the dropped clause end to end, under the same-instance hypothesis: after a realised well-formed
history `pre ++ PMT(p) v1 :: mid ++ [PMT(p) v2]` with no PMT on `p` and no PAT listing `p` in `mid`,
the slot of a PID listed by v1 and not by v2 is EMPTY in the dispatcher's table -/
theorem dropped_by_same_pmt_instance_handled (cfg : Cfg) (hscript : cfg.script = [])
    (pre mid : List Event) (p v1 v2 : Nat) (b1 b2 : Bytes) (q : Nat) (pks : List Pk)
    (hwf : WF initRoute (pre ++ (.pmtApplied p v1 b1 :: mid ++ [.pmtApplied p v2 b2])))
    (hre : Realises initRoute (pre ++ (.pmtApplied p v1 b1 :: mid ++ [.pmtApplied p v2 b2])) pks)
    (hmid : ∀ ev ∈ mid, (∀ v b, ev ≠ .pmtApplied p v b) ∧
      ∀ v es, ev = .patApplied v es → p ∉ es.map PatEntry.pid)
    (hq : q ∈ (streamsOf b1).map StreamInfo.pid) (h13 : q ≤ 0x1fff)
    (hdrop : q ∉ (streamsOf b2).map StreamInfo.pid) :
    ∃ t c, pushModel App.sem (App.init cfg) pks = .ok (t, c) ∧ t.get q = none := by
  obtain ⟨t, c, -, h2, hslots, -, -, -, -⟩ := routing_refines cfg hscript _ pks hwf hre
  have h := dropped_by_same_pmt_instance (run initRoute pre) mid p v1 v2 b1 b2 q hmid hq h13 hdrop
  rw [← run_append] at h
  have h' := ((routeOf_iff _ q).1).1 h
  exact ⟨t, c, h2, (h' ▸ hslots q :)⟩

/-! ### observable conclusion: the callbacks of the next packet carry the handler's tag -/

/-- a packet on a PID whose slot holds the PES filter with tag `tag` (the conclusion of
`handled_by_latest_pmt` / `handled_by_latest_pmt'` for an `is_pes` stream type) produces only
elementary-stream callbacks carrying `tag`, makes no request and touches no other slot -/
theorem next_packet_callbacks_tagged (t : Tab Handler) (c : Ctx) (pk : Pk) (tag : Nat) (f : PesFilter.F)
    (hg : t.get pk.pid = some (.pes tag f)) (hf : pk.flagged = false) (hl : pk.bytes.length = 188) :
    ∃ f' c' out, specStep App.sem (t, c) pk = .ok (t.insert pk.pid (.pes tag f'), c') ∧
      c'.trace = out ++ c.trace ∧ c'.nextTag = c.nextTag ∧ c'.cfg = c.cfg ∧
      ∀ e ∈ out, Ts.Lemmas.Proj.tagOf e = some tag ∧ ∀ req σ, e ≠ .construct req σ := by
  obtain ⟨h', c', chg, h1, -, -⟩ := Ts.Lemmas.C01.consume_total (.pes tag f) c pk trivial hl
  obtain ⟨out, f', e1, e2, h2, h3, h4, h5⟩ := Ts.Lemmas.C19.pes_consume_events tag f c pk h' c' chg hl h1
  subst e1 e2
  refine ⟨f', c', out, ?_, h2, h4, h5, ?_⟩
  · rw [next_packet_handled t c pk _ hg hf, h1]; rfl
  · intro e he
    have := h3 e he
    cases e <;> first
      | exact this.elim
      | exact ⟨by simp only [Ts.Lemmas.Proj.tagOf]; rw [this], fun _ _ h => by cases h⟩
      | exact ⟨by simp only [Ts.Lemmas.Proj.tagOf]; rw [this.1], fun _ _ h => by cases h⟩

/-- **the first sentence of C05 in terms of callbacks.**  Hypotheses of `handled_by_latest_pmt'` plus
`is_pes` of the entry's stream type.  Then for ANY unflagged 188-byte packet `pk` on `q` following
the packets of the history: the real loops on `pks ++ [pk]` succeed, make no further request, and
every event appended for `pk` is an elementary-stream callback carrying the tag `tag` under which the
application answered the stream request naming `p`, the stream type and `q`. -/
theorem latest_pmt_stream_callbacks_tagged (cfg : Cfg) (hscript : cfg.script = []) (pre post : List Event)
    (p ver : Nat) (body : Bytes) (pks : List Pk) (q : Nat) (s : StreamInfo)
    (hwf : WF initRoute (pre ++ .pmtApplied p ver body :: post))
    (hcf : CollisionFreeNowAll (pre ++ .pmtApplied p ver body :: post))
    (hre : Realises initRoute (pre ++ .pmtApplied p ver body :: post) pks)
    (hlast : ∀ ev ∈ post, ∀ v b, ev ≠ .pmtApplied p v b)
    (hkeep : ∀ ev ∈ post, ∀ v es, ev = .patApplied v es → p ∈ progPids es)
    (hq : lastFor (pmtReqs p body) q
      = some (.stream p s.streamType q (specPcrPid body) s.descBytes (specProgramDescBytes body)))
    (hpes : isPes s.streamType = true)
    (pk : Pk) (hpid : pk.pid = q) (hf : pk.flagged = false) (hl : pk.bytes.length = 188) :
    ∃ t c tag t' c' out, pushModel App.sem (App.init cfg) pks = .ok (t, c) ∧
      Ev.construct (.stream p s.streamType q (specPcrPid body) s.descBytes (specProgramDescBytes body)) tag
        ∈ c.trace ∧
      pushModel App.sem (App.init cfg) (pks ++ [pk]) = .ok (t', c') ∧
      c'.trace = out ++ c.trace ∧ c'.nextTag = c.nextTag ∧
      (∀ e ∈ out, Ts.Lemmas.Proj.tagOf e = some tag ∧ ∀ req σ, e ≠ .construct req σ) ∧
      (∃ f', t'.get q = some (.pes tag f')) := by
  obtain ⟨t, c, tag, h1, h2, h3⟩ := handled_by_latest_pmt' cfg hscript pre post p ver body pks q s
    hwf hcf hre hlast hkeep hq
  rw [if_pos hpes] at h3
  obtain ⟨f, hg⟩ := h3
  obtain ⟨f', c', out, hstep, e1, e2, -, e4⟩ :=
    next_packet_callbacks_tagged t c pk tag f (by rw [hpid]; exact hg) hf hl
  refine ⟨t, c, tag, t.insert pk.pid (.pes tag f'), c', out, h1, h2, ?_, e1, e2, e4, f', ?_⟩
  · rw [Ts.Props.C06.push_refines_spec] at h1 ⊢
    rw [pushSpec_append_aux, h1]
    simp only [R.ok_bind, pushSpec_cons, hstep, pushSpec_nil]
  · rw [hpid]; exact Tab.get_insert_self _ _ _

/-- on `movedHist` up to PMT(0x110) and the probe packet `probeA` on 0x102 -/
example : ∃ t c tag t' c' out,
    pushModel App.sem (App.init {}) (movedPks.take 4) = .ok (t, c) ∧
    Ev.construct (.stream 0x110 0x0f 0x102 (specPcrPid bodyM) [] (specProgramDescBytes bodyM)) tag ∈ c.trace ∧
    pushModel App.sem (App.init {}) (movedPks.take 4 ++ [⟨probeA, 752, 0x102, false, false⟩]) = .ok (t', c') ∧
    c'.trace = out ++ c.trace ∧ c'.nextTag = c.nextTag ∧
    (∀ e ∈ out, Ts.Lemmas.Proj.tagOf e = some tag ∧ ∀ req σ, e ≠ .construct req σ) ∧
    (∃ f', t'.get 0x102 = some (.pes tag f')) :=
  latest_pmt_stream_callbacks_tagged {} rfl
    [.patApplied 0 pat2, .pmtApplied 0x100 0 body0, .pmtApplied 0x100 1 body1] []
    0x110 0 bodyM (movedPks.take 4) 0x102 ⟨0x0f, 0x102, []⟩ (by decide +kernel) (by decide +kernel)
    (Realises.cons (re_pat2 _ 0) (Realises.cons (re_pmt0 _ 188) (Realises.cons (re_pmt1 _ 376)
      (Realises.cons (re_pmt2_M _ 564) (Realises.nil _)))))
    (by intro ev hm; cases hm) (by intro ev hm; cases hm) (by decide +kernel) (by decide)
    ⟨probeA, 752, 0x102, false, false⟩ rfl rfl (by show probeA.length = 188; decide +kernel)

/-! ### instantiations (non-vacuity) of `removal_partial`, `handled_by_latest_pmt`, `dropped_by_next_pat` -/

/-- `Ts.Props.C05.removal_partial` on real bytes: the PMT filter on 0x100 remembering {0x101, 0x102}
consumes the packet carrying PMT v1: it queues `remove 0x102` -/
example : ∃ s' c' chg,
    App.consume (.pmt 0x100 1 {} ((streamsOf body0).map StreamInfo.pid)) { cfg := {} }
        ⟨pmtV1, 376, 0x100, false, false⟩ = .ok (.pmt 0x100 1 s' [0x101], c', chg) ∧
      Change.remove 0x102 ∈ chg ∧ ∀ t : Tab Handler, (applyChanges t chg).get 0x102 = none := by
  have h : (match Psi.consume Psi.table {} pmtV1 with
      | .ok (_, [d]) =>
        (match Psi.crcPass false d.bytes with | .ok true => true | _ => false) &&
          byteD d.bytes 0 == 2 && decide (sectionBody d.bytes = body1)
      | _ => false) = true := by decide +kernel
  split at h
  · rename_i s' d heq
    simp only [Bool.and_eq_true, beq_iff_eq, decide_eq_true_eq] at h
    obtain ⟨⟨h1, h2⟩, h3⟩ := h
    split at h1
    · rename_i hc
      have := Ts.Props.C05.removal_partial 0x100 1 {} body0 { cfg := {} } ⟨pmtV1, 376, 0x100, false, false⟩
        s' d 0x102 heq hc (by rw [h3]; decide +kernel) h2 (by decide +kernel)
        (by rw [h3]; decide +kernel)
      obtain ⟨c', chg, a1, -, a3, a4⟩ := this
      rw [h3, streams_body1] at a1
      exact ⟨s', c', chg, a1, a3, fun t => (a4 t).1⟩
    · cases h1
  · cases h

/-- `handled_by_latest_pmt` on the control history (real packets `ctlPks`) for 0x101 -/
example : ∃ t c tag, pushModel App.sem (App.init {}) ctlPks = .ok (t, c) ∧
    Ev.construct (.stream 0x100 0x1b 0x101 (specPcrPid body1) [] (specProgramDescBytes body1)) tag ∈ c.trace ∧
    ∃ f, t.get 0x101 = some (.pes tag f) := by
  obtain ⟨t, c, tag, h1, h2, h3⟩ := handled_by_latest_pmt {} rfl
    [.patApplied 0 [.program 1 0x100], .pmtApplied 0x100 0 body0] [.esPacket 0x102]
    0x100 1 body1 ctlPks 0x101 ⟨0x1b, 0x101, []⟩ ctl_wf ctl_cf ctl_realises
    (no_pmt_of _ _ rfl)
    (by decide +kernel)
  rw [if_pos (by decide)] at h3
  exact ⟨t, c, tag, h1, h2, h3⟩

example : routeOf (run initRoute dropHist) 0x100 = none :=
  dropped_by_next_pat initRoute [.pmtApplied 0x100 0 body0] 0 1 [.program 1 0x100] [] 0x100
    (no_pat_of _ rfl)
    (by decide) (by decide) (by decide)

/-! ### interleaved realisation: elementary-stream packets between the packets of one table -/

theorem realisesI_of_realises {r : Route} {evs : List Event} {pks : List Pk} (h : Realises r evs pks) :
    RealisesI r evs pks := Ts.Lemmas.C05He.realisesI_of_realises h

theorem routing_refines_interleaved_from (r : Route) (t : Tab Handler) (c : Ctx) (evs : List Event)
    (pks : List Pk) (hsim : Sim r t c) (hwf : WF r evs) (hre : RealisesI r evs pks) :
    ∃ t' c', pushSpec App.sem (t, c) pks = .ok (t', c') ∧ pushModel App.sem (t, c) pks = .ok (t', c') ∧
      Sim (run r evs) t' c' := by
  obtain ⟨t', c', h1, h2⟩ := sim_run_I hre t c hsim hwf
  exact ⟨t', c', h1, by rw [Ts.Props.C06.push_refines_spec]; exact h1, h2⟩

/-- **C05 over whole histories, with interleaving.**  As `routing_refines`, but `pks` realises the
history in the sense of `RealisesI`: between (before, after) the packets of ONE PAT / PMT transmission
there may be any number of unflagged 188-byte packets on PIDs that, in the state the table event
happens in, are routed to a PES filter and are not named by the event (neither listed by the new
version nor installed by the superseded one) — `Foreign`.  Same conclusion as `routing_refines`.
NOT covered: packets of OTHER tables, of recorders or of unknown PIDs inside a multi-packet table
(they must sit between events), and packets on PIDs the table itself names. -/
theorem routing_refines_interleaved (cfg : Cfg) (hscript : cfg.script = []) (evs : List Event)
    (pks : List Pk) (hwf : WF initRoute evs) (hre : RealisesI initRoute evs pks) :
    ∃ t c, pushSpec App.sem (App.init cfg) pks = .ok (t, c)
      ∧ pushModel App.sem (App.init cfg) pks = .ok (t, c)
      ∧ (∀ pid, SlotRel (run initRoute evs) pid ((run initRoute evs).slots pid) (t.get pid))
      ∧ (∀ pid req tag, (run initRoute evs).slots pid = some (req, tag) →
            reqPid req = pid ∧ Ev.construct req tag ∈ c.trace ∧ tag < c.nextTag)
      ∧ (∀ pid pid' req req' tag, (run initRoute evs).slots pid = some (req, tag) →
            (run initRoute evs).slots pid' = some (req', tag) → pid = pid')
      ∧ constructs c = (Req.byPid 0 :: historyRequests initRoute evs).zipIdx
      ∧ c.nextTag = 1 + (historyRequests initRoute evs).length := by
  obtain ⟨t, c, h1, h2, hsim⟩ :=
    routing_refines_interleaved_from initRoute _ _ evs pks (sim_init cfg hscript) hwf hre
  exact ⟨t, c, h1, h2, refines_of_sim evs t c hsim⟩

/-! #### non-vacuity: a TWO-packet PMT with an elementary-stream packet in between -/

/-- 184 bytes of elementary-stream descriptors (two user-private descriptors of 90 bytes) -/
def descL : Bytes := [0x80, 0x5a] ++ List.replicate 90 0x00 ++ ([0x80, 0x5a] ++ List.replicate 90 0x00)

/-- PMT body of program 2: PCR PID 0x111, 0x1b on 0x111 with 184 descriptor bytes -/
def bodyL : Bytes := [0xe1, 0x11, 0xf0, 0x00, 0x1b, 0xe1, 0x11, 0xf0, 0xb8] ++ descL

/-- the section: 205 bytes, so it needs two transport packets -/
def pmtLS : Bytes := [0x02, 0xb0, 0xca, 0x00, 0x02, 0xc1, 0x00, 0x00] ++ bodyL ++ [0x1c, 0x78, 0x1d, 0xd5]

/-- first packet on 0x110: unit start, `pointer_field = 0`, the first 183 bytes of the section -/
def pmtLA : Bytes := [0x47, 0x41, 0x10, 0x10, 0x00] ++ pmtLS.take 183

/-- second packet on 0x110: continuation, the remaining 22 bytes, stuffing -/
def pmtLB : Bytes := [0x47, 0x01, 0x10, 0x11] ++ pmtLS.drop 183 ++ List.replicate 162 0xff

/-- a unit-start packet on 0x101 (start of a PES packet, stream id 0xe0) -/
def probeB : Bytes :=
  [0x47, 0x41, 0x01, 0x10, 0x00, 0x00, 0x01, 0xe0, 0x00, 0x00, 0x80, 0x00, 0x00] ++ List.replicate 175 0x55

/-- PAT {1 → 0x100, 2 → 0x110}; PMT(0x100) {0x101, 0x102}; first packet of PMT(0x110); a packet on
0x101 (program 1's video); second packet of PMT(0x110) -/
def interBytes : Bytes := pat2V0 ++ pmtV0 ++ pmtLA ++ probeB ++ pmtLB

def interHist : List Event :=
  [.patApplied 0 pat2, .pmtApplied 0x100 0 body0, .pmtApplied 0x110 0 bodyL]

def interPks : List Pk :=
  [⟨pat2V0, 0, 0, false, false⟩, ⟨pmtV0, 188, 0x100, false, false⟩, ⟨pmtLA, 376, 0x110, false, false⟩,
   ⟨probeB, 564, 0x101, false, false⟩, ⟨pmtLB, 752, 0x110, false, false⟩]

theorem inter_frame : Demux.frame interBytes 0 = .ok interPks := by decide +kernel
theorem inter_wf : WF initRoute interHist := by decide +kernel

theorem tx_pmtL : Transmits 0x110 pmtLS
    [⟨pmtLA, 376, 0x110, false, false⟩, ⟨pmtLB, 752, 0x110, false, false⟩] :=
  { wf := by decide +kernel, len := by decide +kernel, crc := by decide +kernel
    pkts := by
      intro pk hm
      simp only [List.mem_cons, List.mem_nil_iff, or_false] at hm
      rcases hm with rfl | rfl
      · exact ⟨rfl, rfl, by show pmtLA.length = 188; decide +kernel⟩
      · exact ⟨rfl, rfl, by show pmtLB.length = 188; decide +kernel⟩
    mux := ⟨⟨[], 183, [], [pmtLS.drop 183 ++ List.replicate 162 0xff], []⟩, 4,
      [⟨false, pmtLS.drop 183 ++ List.replicate 162 0xff, 4⟩],
      by decide +kernel,
      by
        show [pmtLA, pmtLB].filterMap Ts.Lemmas.C03.plOf = _
        decide +kernel,
      by decide, rfl⟩ }

theorem inter_realises : RealisesI initRoute interHist interPks := by
  refine RealisesI.cons (pks1 := [⟨pat2V0, 0, 0, false, false⟩])
    ⟨_, re_pat2 _ 0, Interleaves.own _ Interleaves.nil⟩
    (RealisesI.cons (pks1 := [⟨pmtV0, 188, 0x100, false, false⟩])
      ⟨_, re_pmt0 _ 188, Interleaves.own _ Interleaves.nil⟩
      (RealisesI.cons (pks1 := [⟨pmtLA, 376, 0x110, false, false⟩, ⟨probeB, 564, 0x101, false, false⟩,
          ⟨pmtLB, 752, 0x110, false, false⟩]) (pks2 := [])
        ⟨[⟨pmtLA, 376, 0x110, false, false⟩, ⟨pmtLB, 752, 0x110, false, false⟩], ?_, ?_⟩
        (RealisesI.nil _)))
  · exact ⟨pmtLS, tx_pmtL, by decide +kernel, by decide +kernel, by decide +kernel, by decide +kernel⟩
  · refine Interleaves.own _ (Interleaves.foreign _ ?_ (Interleaves.own _ Interleaves.nil))
    refine ⟨rfl, by show probeB.length = 188; decide +kernel, ?_, ?_⟩
    · exact ⟨0x100, 0x1b, 0x101, 0x101, [], [], 3, by decide +kernel, by decide⟩
    · show _ ∉ _ ∧ _ ∉ _
      decide +kernel

/-- `routing_refines_interleaved` on it: the PMT of program 2 is applied although a packet of
program 1 sat between its two packets; 0x101 still holds the PES filter with tag 3 … -/
theorem inter_refined :
    ∃ t c, runApp {} [interBytes] = .ok (t, c) ∧ (∃ f, t.get 0x101 = some (.pes 3 f)) ∧
      (∃ f, t.get 0x111 = some (.pes 5 f)) ∧
      (∃ s, t.get 0x110 = some (.pmt 0x110 2 s [0x111])) ∧
      Ev.construct (.stream 0x110 0x1b 0x111 0x111 descL []) 5 ∈ c.trace := by
  obtain ⟨t, c, -, h2, hslots, htags, -, -, -⟩ :=
    routing_refines_interleaved {} rfl interHist interPks inter_wf inter_realises
  have s101 : (run initRoute interHist).slots 0x101 = some (.stream 0x100 0x1b 0x101 0x101 [] [], 3) := by
    decide +kernel
  have s111 : (run initRoute interHist).slots 0x111 = some (.stream 0x110 0x1b 0x111 0x111 descL [], 5) := by
    decide +kernel
  have s110 : (run initRoute interHist).slots 0x110 = some (.pmt 0x110 2, 2) := by decide +kernel
  have m110 : ((run initRoute interHist).pmt 0x110).streams.map StreamInfo.pid = [0x111] := by decide +kernel
  refine ⟨t, c, (runApp_one {} interBytes interPks inter_frame).trans h2, ?_, ?_, ?_, ?_⟩
  · exact (s101 ▸ hslots 0x101 :)
  · exact (s111 ▸ hslots 0x111 :)
  · obtain ⟨s, h1, -⟩ := s110 ▸ hslots 0x110
    rw [m110] at h1
    exact ⟨s, h1⟩
  · exact (htags 0x111 _ 5 s111).2.1

/-- kernel evaluation of the whole model on `interBytes` agrees with `inter_refined`; the interleaved
packet produced `start_stream` / `begin_packet` with tag 3 -/
theorem inter_checked :
    (match runApp {} [interBytes] with
      | .ok (t, c) => slotOf (t.get 0x101) == .pes 3 && slotOf (t.get 0x110) == .pmt 0x110 2 [0x111] &&
          decide (esTags c = [(3, 0), (3, 1)]) && decide ((constructs c).length = 6)
      | .panic _ => false) = true := by
  eval_app [runApp_frame _ _ _ inter_frame]

open Ts.Lemmas.C05Hf

/-! ### the PAT clause under collision-freedom of the tables IN FORCE only -/

/-- **The PAT clause for the tables in force.**  `evs`: a well-formed history such that after EVERY
prefix the tables in force are collision-free (`CollisionFreeNowAll`).  A PID `q` listed by the PAT in
force is routed by the request of its (last) entry: `Pmt(q, program_number)` for a program entry,
`Nit(q)` for the network entry. -/
theorem routed_by_current_pat (evs : List Event) (hwf : WF initRoute evs) (hcf : CollisionFreeNowAll evs)
    (q : Nat) (req : Req) (hq : lastFor (patRequests (currentOf evs).pat) q = some req) :
    (∃ tag, (run initRoute evs).slots q = some (req, tag)) ∧
    routeOf (run initRoute evs) q = some (kindOf req) ∧
    ∃ e ∈ (currentOf evs).pat, e.pid = q ∧ req = patRequest e := by
  obtain ⟨tag, h⟩ := Ts.Lemmas.C05Hf.routed_by_current_pat evs hwf hcf q req hq
  exact ⟨⟨tag, h⟩, routeOf_of_slot h, entry_of_lastFor hq⟩

/-- `routed_by_latest_pat` with the global `CollisionFree` replaced by `CollisionFreeNowAll`; extra
hypothesis compared with `routed_by_latest_pat`: the history is well-formed (`hwf`). -/
theorem routed_by_latest_pat' (pre post : List Event) (ver : Nat) (es : List PatEntry) (q : Nat) (req : Req)
    (hwf : WF initRoute (pre ++ .patApplied ver es :: post))
    (hcf : CollisionFreeNowAll (pre ++ .patApplied ver es :: post))
    (hlast : ∀ ev ∈ post, ∀ v es', ev ≠ .patApplied v es')
    (hq : lastFor (patRequests es) q = some req) :
    (∃ tag, (run initRoute (pre ++ .patApplied ver es :: post)).slots q = some (req, tag)) ∧
    routeOf (run initRoute (pre ++ .patApplied ver es :: post)) q = some (kindOf req) ∧
    ∃ e ∈ es, e.pid = q ∧ req = patRequest e := by
  have hcur := cur_pat_after pre post ver es hlast
  obtain ⟨h1, h2, -⟩ := routed_by_current_pat _ hwf hcf q req (by rw [hcur]; exact hq)
  exact ⟨h1, h2, entry_of_lastFor hq⟩

example (pre post : List Event) (ver : Nat) (es : List PatEntry) (q : Nat) (req : Req)
    (hwf : WF initRoute (pre ++ .patApplied ver es :: post))
    (hcf : CollisionFree (pre ++ .patApplied ver es :: post))
    (hlast : ∀ ev ∈ post, ∀ v es', ev ≠ .patApplied v es')
    (hq : lastFor (patRequests es) q = some req) :
    ∃ tag, (run initRoute (pre ++ .patApplied ver es :: post)).slots q = some (req, tag) :=
  (routed_by_latest_pat' pre post ver es q req hwf (collisionFreeNowAll_of_collisionFree _ hcf) hlast hq).1

/-- **"PMT PIDs are requested as program-map PIDs with the announced program number", end to end, for
the tables in force.**  After any realised, well-formed history with `CollisionFreeNowAll` whose most
recent PAT is `es`: if the last entry of `es` naming PID `q` is the entry of program `n`
(`hq`), slot `q` of the dispatcher's table holds a PMT filter with parameters `(q, n)`, not
reassembling, and the `construct` event with the request `Pmt(q, n)` is in the trace.  Its version memory
and registered PIDs are those of the abstract instance; if no PMT has been applied on `q` since the
PAT, it is fresh: no version, nothing registered. -/
theorem handled_by_latest_pat' (cfg : Cfg) (hscript : cfg.script = []) (pre post : List Event)
    (ver : Nat) (es : List PatEntry) (pks : List Pk) (q n : Nat)
    (hwf : WF initRoute (pre ++ .patApplied ver es :: post))
    (hcf : CollisionFreeNowAll (pre ++ .patApplied ver es :: post))
    (hre : Realises initRoute (pre ++ .patApplied ver es :: post) pks)
    (hlast : ∀ ev ∈ post, ∀ v es', ev ≠ .patApplied v es')
    (hq : lastFor (patRequests es) q = some (.pmt q n)) :
    ∃ t c tag s reg, pushModel App.sem (App.init cfg) pks = .ok (t, c) ∧
      Ev.construct (.pmt q n) tag ∈ c.trace ∧
      t.get q = some (.pmt q n s reg) ∧ s.remaining = none ∧
      reg = ((run initRoute (pre ++ .patApplied ver es :: post)).pmt q).streams.map StreamInfo.pid ∧
      s.lastVersion = ((run initRoute (pre ++ .patApplied ver es :: post)).pmt q).ver ∧
      ((∀ ev ∈ post, ∀ v b, ev ≠ .pmtApplied q v b) → reg = [] ∧ s.lastVersion = none) := by
  obtain ⟨t, c, -, h2, hslots, htags, -, -, -⟩ := routing_refines cfg hscript _ pks hwf hre
  obtain ⟨⟨tag, hs⟩, -, -⟩ := routed_by_latest_pat' pre post ver es q _ hwf hcf hlast hq
  obtain ⟨s, h3, h4, h5⟩ := hs ▸ hslots q
  refine ⟨t, c, tag, s, _, h2, (htags q _ tag hs).2.1, h3, h5, rfl, h4, ?_⟩
  intro hno
  have := fresh_after_pat (run initRoute pre) post ver es q q n hlast hno hq
  rw [← run_append] at this
  rw [h4, this.1, this.2]
  exact ⟨rfl, rfl⟩

/-- **"… and network entries as NIT PIDs", end to end.**  Same hypotheses; if the last entry of the most
recent PAT naming `q` is the network entry, slot `q` holds the recorder the application answered the
request `Nit(q)` with. -/
theorem handled_by_latest_pat_nit' (cfg : Cfg) (hscript : cfg.script = []) (pre post : List Event)
    (ver : Nat) (es : List PatEntry) (pks : List Pk) (q : Nat)
    (hwf : WF initRoute (pre ++ .patApplied ver es :: post))
    (hcf : CollisionFreeNowAll (pre ++ .patApplied ver es :: post))
    (hre : Realises initRoute (pre ++ .patApplied ver es :: post) pks)
    (hlast : ∀ ev ∈ post, ∀ v es', ev ≠ .patApplied v es')
    (hq : lastFor (patRequests es) q = some (.nit q)) :
    ∃ t c tag, pushModel App.sem (App.init cfg) pks = .ok (t, c) ∧
      Ev.construct (.nit q) tag ∈ c.trace ∧ t.get q = some (.recorder tag) := by
  obtain ⟨t, c, -, h2, hslots, htags, -, -, -⟩ := routing_refines cfg hscript _ pks hwf hre
  obtain ⟨⟨tag, hs⟩, -, -⟩ := routed_by_latest_pat' pre post ver es q _ hwf hcf hlast hq
  exact ⟨t, c, tag, h2, (htags q _ tag hs).2.1, (hs ▸ hslots q :)⟩

/-! #### instantiations (non-vacuity) of both PAT clauses -/

/-- `routed_by_latest_pat` on the F7 history -/
example : routeOf (run initRoute f7Hist) 0x110 = some (.pmt 0x110 2) :=
  (routed_by_latest_pat [.patApplied 0 [.program 1 0x100], .pmtApplied 0x100 0 body0]
    [.pmtApplied 0x100 1 body1, .esPacket 0x102] 1 [.program 1 0x100, .program 2 0x110] 0x110 (.pmt 0x110 2)
    f7_cf
    (no_pat_of _ rfl)
    (by decide +kernel)).2.1

/-- `routed_by_latest_pat'` on `movedHist`, which is NOT `CollisionFree` but `CollisionFreeNowAll` -/
example : routeOf (run initRoute movedHist) 0x110 = some (.pmt 0x110 2) :=
  (routed_by_latest_pat' [] [.pmtApplied 0x100 0 body0, .pmtApplied 0x100 1 body1, .pmtApplied 0x110 0 bodyM,
      .esPacket 0x102] 0 pat2 0x110 (.pmt 0x110 2) moved_wf moved_cfn
    (no_pat_of _ rfl)
    (by decide +kernel)).2.1

/-- `handled_by_latest_pat'` on `movedHist` / `movedBytes` (real packets): slot 0x110 holds the PMT
filter of program 2, built for the request `Pmt(0x110, 2)`; slot 0x100 that of program 1 -/
theorem moved_pat_handled :
    ∃ t c tag s reg, runApp {} [movedBytes] = .ok (t, c) ∧ Ev.construct (.pmt 0x110 2) tag ∈ c.trace ∧
      t.get 0x110 = some (.pmt 0x110 2 s reg) ∧ s.remaining = none := by
  obtain ⟨t, c, tag, s, reg, h1, h2, h3, h4, -⟩ := handled_by_latest_pat' {} rfl []
    [.pmtApplied 0x100 0 body0, .pmtApplied 0x100 1 body1, .pmtApplied 0x110 0 bodyM, .esPacket 0x102]
    0 pat2 movedPks 0x110 2 moved_wf moved_cfn moved_realises
    (no_pat_of _ rfl)
    (by decide +kernel)
  exact ⟨t, c, tag, s, reg, (runApp_one {} movedBytes movedPks moved_frame).trans h1, h2, h3, h4⟩

/-- the "fresh" clause of `handled_by_latest_pat'`: right after the PAT alone both PMT filters are fresh -/
example : ∃ t c tag s, pushModel App.sem (App.init {}) [⟨pat2V0, 0, 0, false, false⟩] = .ok (t, c) ∧
    Ev.construct (.pmt 0x110 2) tag ∈ c.trace ∧ t.get 0x110 = some (.pmt 0x110 2 s []) ∧
    s.lastVersion = none ∧ s.remaining = none := by
  obtain ⟨t, c, tag, s, reg, h1, h2, h3, h4, -, -, h7⟩ := handled_by_latest_pat' {} rfl [] [] 0 pat2
    [⟨pat2V0, 0, 0, false, false⟩] 0x110 2 (by decide +kernel) (by decide +kernel)
    (Realises.cons (re_pat2 _ 0) (Realises.nil _)) (by intro ev hm; cases hm) (by decide +kernel)
  obtain ⟨rfl, h8⟩ := h7 (by intro ev hm; cases hm)
  exact ⟨t, c, tag, s, h1, h2, h3, h8, h4⟩

/-- `handled_by_latest_pat_nit'` and `handled_by_latest_pat'` on a real packet carrying
PAT {network → 0x10, 1 → 0x100} -/
example : (∃ t c tag, pushModel App.sem (App.init {}) [⟨psiPkt 0x40 0x00 0x10 secPatNit, 0, 0, false, false⟩]
      = .ok (t, c) ∧ Ev.construct (.nit 0x10) tag ∈ c.trace ∧ t.get 0x10 = some (.recorder tag)) ∧
    (∃ t c tag s, pushModel App.sem (App.init {}) [⟨psiPkt 0x40 0x00 0x10 secPatNit, 0, 0, false, false⟩]
      = .ok (t, c) ∧ Ev.construct (.pmt 0x100 1) tag ∈ c.trace ∧ t.get 0x100 = some (.pmt 0x100 1 s [])) := by
  have hre : Realises initRoute ([] ++ Event.patApplied 0 patNit :: []) _ :=
    Realises.cons (re_patNit _) (Realises.nil _)
  refine ⟨handled_by_latest_pat_nit' {} rfl [] [] 0 patNit _ 0x10 nit_wf.1 nit_wf.2 hre
    (by intro ev hm; cases hm) (by decide +kernel), ?_⟩
  obtain ⟨t, c, tag, s, reg, h1, h2, h3, -, -, -, h7⟩ := handled_by_latest_pat' {} rfl [] [] 0 patNit _
    0x100 1 nit_wf.1 nit_wf.2 hre (by intro ev hm; cases hm) (by decide +kernel)
  obtain ⟨rfl, -⟩ := h7 (by intro ev hm; cases hm)
  exact ⟨t, c, tag, s, h1, h2, h3⟩

/-! ### SCOPE BOUNDARY (DESIGN 8.1b): two programs whose PAT entries name the SAME PMT PID -/

theorem distinctPmtPidsAll_iff (evs : List Event) :
    DistinctPmtPidsAll evs ↔ ∀ v es, Event.patApplied v es ∈ evs → DistinctPmtPids es :=
  distinctAll_iff evs

theorem distinctPmtPids_iff (es : List PatEntry) :
    DistinctPmtPids es ↔
      ((∀ n p n' p', PatEntry.program n p ∈ es → PatEntry.program n' p' ∈ es → n ≠ n' → p ≠ p') ∧
       (∀ n p p', PatEntry.program n p ∈ es → PatEntry.network p' ∈ es → p ≠ p')) := by
  constructor
  · intro h
    refine ⟨fun n p n' p' h1 h2 hn hp => ?_, fun n p p' h1 h2 hp => ?_⟩
    · have := h _ h1 _ h2 hp
      simp only [progNum, Option.some.injEq] at this
      exact hn this
    · have := h _ h1 _ h2 hp
      cases this
  · rintro ⟨h1, h2⟩ e he e' he' hp
    cases e with
    | program n p =>
      cases e' with
      | program n' p' =>
        apply Classical.byContradiction
        intro hne
        exact h1 n p n' p' he he' (fun e => hne (by rw [e]; rfl)) hp
      | network p' => exact absurd hp (h2 n p p' he he')
    | network p =>
      cases e' with
      | program n' p' => exact absurd hp.symm (h2 n' p' p he' he)
      | network p' => rfl

theorem pmtPidOf_some (es : List PatEntry) (n p : Nat) (h : pmtPidOf es n = some p) :
    PatEntry.program n p ∈ es ∧ p ∈ progPids es :=
  ⟨pmtPidOf_mem h, progPids_of_program (pmtPidOf_mem h)⟩

/-- **Scope boundary (NOT a known finding; DESIGN 8.1b): a shared PMT PID, equal versions.**
`sharedSameVer`: PAT {1 → 0x100, 2 → 0x100}; on 0x100 the PMT of program 1 (version 0, stream 0x101) and
the PMT of program 2 (`table_id_extension` 2, version 0, stream 0x201); elementary packets on both.  Legal
MPEG-2 TS but OUTSIDE the spec's vocabulary: `Event.pmtApplied` carries no program number, so the spec
reads "the PMT of a program" as "the PMT applied on that program's PMT PID".

Spec level: `hSame` is `WF`, `CollisionFree`, `CollisionFreeNowAll`, NOT `DistinctPmtPidsAll`, and is
REALISED by the exact bytes — program 2's PMT being a `repetition` in the sense of C10.
`routed_by_latest_pmt'` HOLDS in the spec's reading (0x101 is routed by `Stream(0x100, 0x1b, 0x101)`); the
property's reading "PMT of program 2" FAILS: 0x201 is routed by `ByPid(0x201)`.

Model level (kernel evaluation on the exact bytes; Rust output
`… C:stream:256:27:257…>3 … C:bypid:513>4 P:4@752`): no stream request for 0x201 is ever made; its packets
are recorded by the `ByPid(0x201)` recorder (tag 4); the PMT filter on 0x100 is the one requested for
program 2 and has registered program 1's stream. -/
theorem shared_pmt_pid_same_version_unrouted :
    (WF initRoute hSame ∧ CollisionFree hSame ∧ CollisionFreeNowAll hSame ∧ ¬ DistinctPmtPidsAll hSame ∧
      Demux.frame sameBytes 0 = .ok samePks ∧ Realises initRoute hSame samePks ∧
      (currentOf hSame).pat = patShared ∧
      pmtPidOf patShared 1 = some 0x100 ∧ pmtPidOf patShared 2 = some 0x100 ∧
      (currentOf hSame).pmt = [(0x100, bodyA)] ∧
      byteD secPmtB0 4 = 2 ∧ sectionBody secPmtB0 = bodyB ∧ streamsOf bodyB = [⟨0x1b, 0x201, []⟩] ∧
      routeOf (run initRoute hSame) 0x100 = some (.pmt 0x100 2) ∧
      routeOf (run initRoute hSame) 0x101 = some (.stream 0x100 0x1b 0x101) ∧
      routeOf (run initRoute hSame) 0x201 = some (.byPid 0x201)) ∧
    (∃ t c, runApp {} [sameBytes] = .ok (t, c) ∧
      constructs c = [(.byPid 0, 0), (.pmt 0x100 1, 1), (.pmt 0x100 2, 2),
        (.stream 0x100 0x1b 0x101 0x101 [] [], 3), (.byPid 0x201, 4)] ∧
      pkts c = [(4, 752), (4, 1128)] ∧
      (∃ s, t.get 0x100 = some (.pmt 0x100 2 s [0x101])) ∧
      (∃ f, t.get 0x101 = some (.pes 3 f)) ∧ t.get 0x201 = some (.recorder 4)) := by
  refine ⟨⟨same_wf, same_cf.1, same_cf.2.1, same_cf.2.2, same_frame, same_realises, by decide +kernel,
    by decide +kernel, by decide +kernel, by decide +kernel, by decide +kernel, by decide +kernel,
    streams_bodyB, ?_, ?_, ?_⟩, ?_⟩
  · exact routeOf_of_slot same_slots.1
  · exact routeOf_of_slot same_slots.2.1
  · exact routeOf_of_slot same_slots.2.2.1
  · obtain ⟨t, c, hr, hc, hp, -, hs⟩ := observeAt_some _ _ _ same_run
    simp only [List.map_cons, List.map_nil, List.cons.injEq, and_true] at hs
    obtain ⟨-, h100, h101, h201⟩ := hs
    exact ⟨t, c, hr, hc, hp, slot_pmt _ _ _ _ h100, slot_pes _ _ h101, slot_recorder _ _ h201⟩

example : routeOf (run initRoute hSame) 0x101 = some (.stream 0x100 0x1b 0x101) :=
  (routed_by_latest_pmt' [.patApplied 0 patShared]
    [.repetition 0x100, .esPacket 0x101, .esPacket 0x201, .esPacket 0x101, .esPacket 0x201]
    0x100 0 bodyA 0x101 (.stream 0x100 0x1b 0x101 0x101 [] []) same_wf same_cf.2.1
    (no_pmt_of _ _ rfl)
    (fun ev hm v es e => absurd e (no_pat_of _ rfl ev hm v es))
    (by decide +kernel)).2.1

/-- `routing_refines` on `hSame` / `samePks` gives the same table as the kernel evaluation in
`shared_pmt_pid_same_version_unrouted`: the model AGREES with the spec here; it is the spec's vocabulary
that is too coarse -/
theorem shared_same_refined :
    ∃ t c, runApp {} [sameBytes] = .ok (t, c) ∧ t.get 0x201 = some (.recorder 4) ∧
      Ev.construct (.byPid 0x201) 4 ∈ c.trace ∧ (∃ s, t.get 0x100 = some (.pmt 0x100 2 s [0x101])) := by
  obtain ⟨t, c, -, h2, hslots, htags, -, -, -⟩ :=
    routing_refines {} rfl hSame samePks same_wf same_realises
  obtain ⟨s100, -, s201, m100⟩ := same_slots
  refine ⟨t, c, (runApp_one {} sameBytes samePks same_frame).trans h2, ?_, ?_, ?_⟩
  · exact (s201 ▸ hslots 0x201 :)
  · exact (htags 0x201 _ 4 s201).2.1
  · obtain ⟨s, h1, -⟩ := s100 ▸ hslots 0x100
    rw [m100] at h1
    exact ⟨s, h1⟩

/-- **Scope boundary (NOT a known finding; DESIGN 8.1b): a shared PMT PID, different versions.**
`sharedDiffVer`: as `sharedSameVer` with program 2's PMT at version 1, both PMTs transmitted twice.

Spec level: in `hDiff` the two programs' PMTs are versions 0, 1, 0, 1 of "the" PMT on 0x100; it is `WF`,
`CollisionFree`, `CollisionFreeNowAll`, NOT `DistinctPmtPidsAll`, and realised by the exact bytes.  Every
application un-routes the OTHER program's stream (after the 3rd event 0x101, after the 6th 0x201, after the
9th 0x101 again), so the property's reading fails for whichever program's PMT came first.

Model level (kernel evaluation on the exact bytes): stream requests for 0x101 / 0x201 alternate with `ByPid`
requests for the PID just removed; three elementary packets are recorded by `ByPid` recorders. -/
theorem shared_pmt_pid_alternating :
    (WF initRoute hDiff ∧ CollisionFree hDiff ∧ CollisionFreeNowAll hDiff ∧ ¬ DistinctPmtPidsAll hDiff ∧
      Demux.frame diffBytes 0 = .ok diffPks ∧ Realises initRoute hDiff diffPks ∧
      hDiff.take 3 = [.patApplied 0 patShared, .pmtApplied 0x100 0 bodyA, .pmtApplied 0x100 1 bodyB] ∧
      routeOf (run initRoute (hDiff.take 3)) 0x101 = none ∧
      routeOf (run initRoute (hDiff.take 3)) 0x201 = some (.stream 0x100 0x1b 0x201) ∧
      routeOf (run initRoute (hDiff.take 6)) 0x101 = some (.stream 0x100 0x1b 0x101) ∧
      routeOf (run initRoute (hDiff.take 6)) 0x201 = none ∧
      routeOf (run initRoute (hDiff.take 9)) 0x101 = none ∧
      routeOf (run initRoute (hDiff.take 9)) 0x201 = some (.stream 0x100 0x1b 0x201) ∧
      routeOf (run initRoute hDiff) 0x101 = some (.byPid 0x101) ∧
      routeOf (run initRoute hDiff) 0x201 = some (.stream 0x100 0x1b 0x201)) ∧
    (∃ t c, runApp {} [diffBytes] = .ok (t, c) ∧
      constructs c = [(.byPid 0, 0), (.pmt 0x100 1, 1), (.pmt 0x100 2, 2),
        (.stream 0x100 0x1b 0x101 0x101 [] [], 3), (.stream 0x100 0x1b 0x201 0x201 [] [], 4),
        (.byPid 0x101, 5), (.stream 0x100 0x1b 0x101 0x101 [] [], 6), (.byPid 0x201, 7),
        (.stream 0x100 0x1b 0x201 0x201 [] [], 8), (.byPid 0x101, 9)] ∧
      pkts c = [(5, 564), (7, 1316), (9, 1692)] ∧
      (∃ s, t.get 0x100 = some (.pmt 0x100 2 s [0x201])) ∧
      t.get 0x101 = some (.recorder 9) ∧ (∃ f, t.get 0x201 = some (.pes 8 f))) := by
  obtain ⟨a1, a2, a3, a4, a5, a6, a7, a8⟩ := diff_slots
  refine ⟨⟨diff_wf, diff_cf.1, diff_cf.2.1, diff_cf.2.2, diff_frame, diff_realises, rfl,
    ?_, ?_, ?_, ?_, ?_, ?_, ?_, ?_⟩, ?_⟩
  · exact (routeOf_iff _ _).1.2 a1
  · exact routeOf_of_slot a2
  · exact routeOf_of_slot a3
  · exact (routeOf_iff _ _).1.2 a4
  · exact (routeOf_iff _ _).1.2 a5
  · exact routeOf_of_slot a6
  · exact routeOf_of_slot a7
  · exact routeOf_of_slot a8
  · obtain ⟨t, c, hr, hc, hp, -, hs⟩ := observeAt_some _ _ _ diff_run
    simp only [List.map_cons, List.map_nil, List.cons.injEq, and_true] at hs
    obtain ⟨-, h100, h101, h201⟩ := hs
    exact ⟨t, c, hr, hc, hp, slot_pmt _ _ _ _ h100, slot_recorder _ _ h101, slot_pes _ _ h201⟩

/-! ### the positive clause read per PROGRAM, under `DistinctPmtPidsAll` -/

/-- **The positive clause for "the most recent PMT of a PROGRAM".**  History
`pre ++ PMT(p, ver, body) :: post`, well-formed, `CollisionFreeNowAll`, and — the scope hypothesis that
makes the spec's reading the property's reading — `DistinctPmtPidsAll`.  `hprog`: the PAT in force when the
PMT was applied announces `p` as the PMT PID of program `n`; `hkeep`: so does every PAT applied afterwards;
`hlast`: no PMT is applied on `p` afterwards.  Then
1. the most recent PAT announces `p` for program `n`, and EVERY entry of it naming `p` is that entry;
2. the PMT was consumed by a handler built from the request `Pmt(p, n)`, which still routes `p`;
3. every PID `q` listed by `body` is routed by the stream request of its (last) entry.
(3 is `routed_by_latest_pmt'`; without `DistinctPmtPidsAll` it still holds but says nothing about programs:
`shared_pmt_pid_same_version_unrouted`.) -/
theorem routed_by_latest_pmt_of_program (pre post : List Event) (n p ver : Nat) (body : Bytes)
    (q : Nat) (req : Req)
    (hwf : WF initRoute (pre ++ .pmtApplied p ver body :: post))
    (hcf : CollisionFreeNowAll (pre ++ .pmtApplied p ver body :: post))
    (hd : DistinctPmtPidsAll (pre ++ .pmtApplied p ver body :: post))
    (hprog : pmtPidOf (currentOf pre).pat n = some p)
    (hlast : ∀ ev ∈ post, ∀ v b, ev ≠ .pmtApplied p v b)
    (hkeep : ∀ ev ∈ post, ∀ v es, ev = .patApplied v es → pmtPidOf es n = some p)
    (hq : lastFor (pmtReqs p body) q = some req) :
    (pmtPidOf (currentOf (pre ++ .pmtApplied p ver body :: post)).pat n = some p ∧
      ∀ e ∈ (currentOf (pre ++ .pmtApplied p ver body :: post)).pat, e.pid = p → e = .program n p) ∧
    ((∃ tag, (run initRoute pre).slots p = some (.pmt p n, tag)) ∧
      ∃ tag, (run initRoute (pre ++ .pmtApplied p ver body :: post)).slots p = some (.pmt p n, tag)) ∧
    ((∃ tag, (run initRoute (pre ++ .pmtApplied p ver body :: post)).slots q = some (req, tag)) ∧
      routeOf (run initRoute (pre ++ .pmtApplied p ver body :: post)) q = some (kindOf req) ∧
      ∃ s ∈ streamsOf body, s.pid = q ∧
        req = .stream p s.streamType q (specPcrPid body) s.descBytes (specProgramDescBytes body)) := by
  have hkeep' : ∀ ev ∈ post, ∀ v es, ev = .patApplied v es → PatEntry.program n p ∈ es :=
    fun ev hm v es e => pmtPidOf_mem (hkeep ev hm v es e)
  obtain ⟨hmem, huniq, hslot0⟩ := of_program_aux pre post n p ver body hwf hd (pmtPidOf_mem hprog) hkeep'
  have hcur : pmtPidOf (currentOf (pre ++ .pmtApplied p ver body :: post)).pat n = some p := by
    unfold currentOf
    rw [curFrom_append, curFrom_cons]
    exact cur_pat_pred (fun es => pmtPidOf es n = some p) post _ hprog hkeep
  refine ⟨⟨hcur, huniq⟩, ⟨hslot0, pmt_slot_of_program _ hwf hcf hd n p hmem⟩, ?_⟩
  exact routed_by_latest_pmt' pre post p ver body q req hwf hcf hlast
    (fun ev hm v es e => progPids_of_program (hkeep' ev hm v es e)) hq

/-- **the first sentence of C05, end to end, per PROGRAM.**  Hypotheses of
`routed_by_latest_pmt_of_program` (in particular the scope hypothesis `DistinctPmtPidsAll`) for a
realised history.  Then the real loops succeed and: slot `q` of a PID listed by the most recent PMT of
program `n` holds a handler built from the request naming `q`, its stream type and the program map `p`
of program `n` (PES filter iff `is_pes`, else recorder); slot `p` holds a PMT filter with parameters
`(p, n)` built from the request `Pmt(p, n)`. -/
theorem handled_by_latest_pmt_of_program (cfg : Cfg) (hscript : cfg.script = []) (pre post : List Event)
    (n p ver : Nat) (body : Bytes) (pks : List Pk) (q : Nat) (s : StreamInfo)
    (hwf : WF initRoute (pre ++ .pmtApplied p ver body :: post))
    (hcf : CollisionFreeNowAll (pre ++ .pmtApplied p ver body :: post))
    (hd : DistinctPmtPidsAll (pre ++ .pmtApplied p ver body :: post))
    (hre : Realises initRoute (pre ++ .pmtApplied p ver body :: post) pks)
    (hprog : pmtPidOf (currentOf pre).pat n = some p)
    (hlast : ∀ ev ∈ post, ∀ v b, ev ≠ .pmtApplied p v b)
    (hkeep : ∀ ev ∈ post, ∀ v es, ev = .patApplied v es → pmtPidOf es n = some p)
    (hq : lastFor (pmtReqs p body) q
      = some (.stream p s.streamType q (specPcrPid body) s.descBytes (specProgramDescBytes body))) :
    ∃ t c tag tagp sp reg, pushModel App.sem (App.init cfg) pks = .ok (t, c) ∧
      Ev.construct (.stream p s.streamType q (specPcrPid body) s.descBytes (specProgramDescBytes body)) tag
        ∈ c.trace ∧
      (if isPes s.streamType then ∃ f, t.get q = some (.pes tag f) else t.get q = some (.recorder tag)) ∧
      Ev.construct (.pmt p n) tagp ∈ c.trace ∧ t.get p = some (.pmt p n sp reg) := by
  obtain ⟨t, c, -, h2, hslots, htags, -, -, -⟩ := routing_refines cfg hscript _ pks hwf hre
  obtain ⟨-, ⟨-, tagp, hsp⟩, ⟨tag, hs⟩, -, -⟩ :=
    routed_by_latest_pmt_of_program pre post n p ver body q _ hwf hcf hd hprog hlast hkeep hq
  obtain ⟨sp, h3, -⟩ := hsp ▸ hslots p
  exact ⟨t, c, tag, tagp, sp, _, h2, (htags q _ tag hs).2.1, (hs ▸ hslots q :), (htags p _ tagp hsp).2.1, h3⟩

/-- non-vacuity: `movedHist` (two programs with DISTINCT PMT PIDs; realised by `movedBytes`) satisfies
`DistinctPmtPidsAll`, and the hypotheses of the per-program theorems hold for program 2, `p = 0x110` -/
theorem moved_distinct : DistinctPmtPidsAll movedHist ∧
    pmtPidOf (currentOf [.patApplied 0 pat2, .pmtApplied 0x100 0 body0, .pmtApplied 0x100 1 body1]).pat 2
      = some 0x110 := by decide +kernel

/-- `handled_by_latest_pmt_of_program` on `movedHist` / `movedBytes`: program 2's stream 0x102 is handled
by a PES filter built from `Stream(0x110, 0x0f, 0x102)`, and 0x110 by the PMT filter of program 2 -/
theorem moved_handled_of_program :
    ∃ t c tag tagp sp reg, runApp {} [movedBytes] = .ok (t, c) ∧
      Ev.construct (.stream 0x110 0x0f 0x102 0x102 [] []) tag ∈ c.trace ∧
      (∃ f, t.get 0x102 = some (.pes tag f)) ∧
      Ev.construct (.pmt 0x110 2) tagp ∈ c.trace ∧ t.get 0x110 = some (.pmt 0x110 2 sp reg) := by
  obtain ⟨t, c, tag, tagp, sp, reg, h1, h2, h3, h4, h5⟩ := handled_by_latest_pmt_of_program {} rfl
    [.patApplied 0 pat2, .pmtApplied 0x100 0 body0, .pmtApplied 0x100 1 body1] [.esPacket 0x102]
    2 0x110 0 bodyM movedPks 0x102 ⟨0x0f, 0x102, []⟩ moved_wf moved_cfn moved_distinct.1 moved_realises
    moved_distinct.2
    (no_pmt_of _ _ rfl)
    (fun ev hm v es e => absurd e (no_pat_of _ rfl ev hm v es))
    (by decide +kernel)
  rw [bodyM_spec.1, bodyM_spec.2] at h2
  rw [if_pos (by decide)] at h3
  exact ⟨t, c, tag, tagp, sp, reg, (runApp_one {} movedBytes movedPks moved_frame).trans h1,
    h2, h3, h4, h5⟩

/-- the scope hypothesis is what fails on the shared-PID witnesses: program 2 IS announced with PMT PID
0x100 by the PAT in force throughout `hSame`, yet conclusion 1 of `routed_by_latest_pmt_of_program`
("every entry naming 0x100 is the entry of program 2") is false there -/
example : pmtPidOf (currentOf hSame).pat 2 = some 0x100 ∧
    ¬ (∀ e ∈ (currentOf hSame).pat, e.pid = 0x100 → e = .program 2 0x100) := by decide +kernel

/-! ### SCOPE BOUNDARY (DESIGN 8.1b): next tables and multi-section tables

`Transmits` / `RealisesEv` constrain `table_id`, `version_number`, the CRC and the packetisation of a
section; they do NOT constrain `current_next_indicator`, `section_number` / `last_section_number` or
`table_id_extension`.  Histories contain APPLIED versions only; what the code applies is shown here on two
legal inputs. -/

/-- **Scope boundary (NOT a known finding; DESIGN 8.1b): a NEXT table is applied at once.**  `cniNext`:
PAT {1 → 0x100}; PMT v0 {0x101}; a packet on 0x101; a PMT with
`current_next_indicator = 0` (bit 0 of byte 5 of `secPmtNext`), version 1, listing 0x102 only; a packet
on 0x101.  ISO/IEC 13818-1 says a next table "is not yet applicable"; the code (and the model,
identically: Rust output `C:stream…258>3 C:bypid:257>4`) applies it like a current table: the stream
request for 0x102 is made (tag 3), 0x101 is removed, and the following packet on 0x101 is offered as
`ByPid(0x101)` (tag 4) and recorded at offset 752.  In the spec's vocabulary the bytes REALISE the
history `hCni`, in which the next table is just `pmtApplied 0x100 1 bodyN`: the spec does not represent
`current_next_indicator`. -/
theorem next_table_applied_at_once :
    (byteD secPmtNext 5 &&& 1 = 0 ∧ versionOf secPmtNext = 1 ∧ sectionBody secPmtNext = bodyN ∧
      Demux.frame cniBytes 0 = .ok cniPks ∧ WF initRoute hCni ∧ Realises initRoute hCni cniPks) ∧
    (∃ t c, runApp {} [cniBytes] = .ok (t, c) ∧
      constructs c = [(.byPid 0, 0), (.pmt 0x100 1, 1), (.stream 0x100 0x1b 0x101 0x101 [] [], 2),
        (.stream 0x100 0x1b 0x102 0x102 [] [], 3), (.byPid 0x101, 4)] ∧
      pkts c = [(4, 752)] ∧
      (∃ s, t.get 0x100 = some (.pmt 0x100 1 s [0x102])) ∧
      t.get 0x101 = some (.recorder 4) ∧ (∃ f, t.get 0x102 = some (.pes 3 f))) := by
  refine ⟨⟨by decide +kernel, by decide +kernel, by decide +kernel, cni_frame, cni_wf, cni_realises⟩, ?_⟩
  obtain ⟨t, c, hr, hc, hp, -, hs⟩ := observeAt_some _ _ _ cni_run
  simp only [List.map_cons, List.map_nil, List.cons.injEq, and_true] at hs
  obtain ⟨-, h100, h101, h102⟩ := hs
  exact ⟨t, c, hr, hc, hp, slot_pmt _ _ _ _ h100, slot_recorder _ _ h101, slot_pes _ _ h102⟩

/-- **Scope boundary (NOT a known finding; DESIGN 8.1b): the second section of a two-section PAT is
de-duplicated.**  `twoSectionPat`: a PAT version 0 in two sections
(`section_number` 0 of 1: program 1 → 0x100; `section_number` 1 of 1: program 2 → 0x110); PMT of program
1 on 0x100; PMT of program 2 on 0x110; a packet on 0x201.  The de-duplication layer keys on
`version_number` only, so section 1 is taken for a repetition of section 0 (in the spec's vocabulary the
bytes REALISE `hTwoSec`, where it is `repetition 0`): program 2 never gets a PMT handler — the packet
carrying its PMT is offered as `ByPid(0x110)` (tag 3, recorded at 564) and its elementary stream as
`ByPid(0x201)` (tag 4, recorded at 752).  Rust output: `C:bypid:272>3 … C:bypid:513>4`.  The spec has no
representation of multi-section tables: a `patApplied` event is ONE section. -/
theorem second_section_deduplicated :
    (byteD secPat2a 6 = 0 ∧ byteD secPat2a 7 = 1 ∧ byteD secPat2b 6 = 1 ∧ byteD secPat2b 7 = 1 ∧
      versionOf secPat2a = 0 ∧ versionOf secPat2b = 0 ∧
      specPat (sectionBody secPat2b) = [.program 2 0x110] ∧
      Demux.frame twoSecBytes 0 = .ok twoSecPks ∧ WF initRoute hTwoSec ∧
      Realises initRoute hTwoSec twoSecPks) ∧
    (∃ t c, runApp {} [twoSecBytes] = .ok (t, c) ∧
      constructs c = [(.byPid 0, 0), (.pmt 0x100 1, 1), (.stream 0x100 0x1b 0x101 0x101 [] [], 2),
        (.byPid 0x110, 3), (.byPid 0x201, 4)] ∧
      pkts c = [(3, 564), (4, 752)] ∧
      (∃ s, t.get 0 = some (.pat s [0x100])) ∧
      t.get 0x110 = some (.recorder 3) ∧ t.get 0x201 = some (.recorder 4)) := by
  refine ⟨⟨by decide +kernel, by decide +kernel, by decide +kernel, by decide +kernel, by decide +kernel,
    by decide +kernel, by decide +kernel, twoSec_frame, twoSec_wf, twoSec_realises⟩, ?_⟩
  obtain ⟨t, c, hr, hc, hp, -, hs⟩ := observeAt_some _ _ _ twoSec_run
  simp only [List.map_cons, List.map_nil, List.cons.injEq, and_true] at hs
  obtain ⟨h0, -, h110, -, h201⟩ := hs
  exact ⟨t, c, hr, hc, hp, slot_pat _ _ h0, slot_recorder _ _ h110, slot_recorder _ _ h201⟩

end Ts.Props.C05History
