import Ts.Props.Ties.ExprSpecCore
import Ts.Props.Ties.ExprPsi
import Ts.Lemmas.C16
/-!
# CODE = ISO: the translated expressions of `/repo/src` equal the bit fields of ISO/IEC 13818-1 — part `Psi` (audited with C03)

See `Ts/Props/Ties/ExprSpecCore.lean`. Each `code_*_is_iso` is `(code_model_*).trans (model_iso_*)`: the
model appears only in the two intermediate lemmas, never in the final statement.
-/
namespace Ts.Props.Ties.Expr
open Ts Ts.Refl Ts.Gen.Expr Ts.Spec

theorem code_model_section_length (bs : Bytes) : sch_length (envB bs) = mSchLength (envB bs) :=
  tie_on_bytes 3 tie_expr_sch_length (by reads_below sch_length) (by reads_below mSchLength) bs

/-- one-byte tie (`∀ x : Fin 256`), instantiated at byte 2 of `bs` -/
theorem code_model_tsh_version (bs : Bytes) : tsh_version (envB bs) = mTshVersion (envB bs) := by
  have l1 : tsh_version (envB bs) = tsh_version (envL [0xff, 0xff, byteD bs 2, 0xff]) := by
    simp only [tsh_version, envB_byteD]; rfl
  have l2 : mTshVersion (envL [0, 0, byteD bs 2]) = mTshVersion (envB bs) := by
    simp only [mTshVersion, envB_byteD]; rfl
  rw [l1]
  exact (tie_expr_tsh_version ⟨byteD bs 2, byteD_lt bs 2⟩).trans l2

open Ts.Lemmas.C16 in
theorem model_iso_section_length (bs : Bytes) : mSchLength (envB bs) = readBits bs 12 12 := by
  simp only [mSchLength, envB_byteD]
  rw [mask12 _ _ (byteD_lt bs 1) (byteD_lt bs 2)]
  exact (field_4_12 bs 1).symm

theorem shr1_and_1f (b : Nat) : (b >>> 1) &&& 0b0001_1111 = b / 2 % 32 := by
  rw [Nat.shiftRight_eq_div_pow]; exact Nat.and_two_pow_sub_one_eq_mod _ 5

theorem model_iso_tsh_version (bs : Bytes) : mTshVersion (envB bs) = readBits bs 18 5 := by
  simp only [mTshVersion, envB_byteD]
  have r := readBits_sub bs 2 2 5 (by omega)
  rw [show 8 * 2 + 2 = 18 from rfl] at r
  rw [r]
  exact shr1_and_1f _

/-- section header: `section_length`, 12 bits at bit 12 -/
theorem code_section_length_is_iso (bs : Bytes) (_h : 3 ≤ bs.length) :
    sch_length (envB bs) = readBits bs 12 12 :=
  (code_model_section_length bs).trans (model_iso_section_length bs)

/-- table syntax header (the bytes after `section_length`): `version_number`, 5 bits at bit 18 -/
theorem code_tsh_version_is_iso (bs : Bytes) (_h : 3 ≤ bs.length) :
    tsh_version (envB bs) = readBits bs 18 5 :=
  (code_model_tsh_version bs).trans (model_iso_tsh_version bs)

/-- section header `02 b0 1d`: section_length 0x01d = 29, and the theorem instantiated -/
example : sch_length (envB [0x02, 0xb0, 0x1d]) = 29 ∧ readBits [0x02, 0xb0, 0x1d] 12 12 = 29 := by decide
example : sch_length (envB [0x02, 0xb0, 0x1d]) = readBits [0x02, 0xb0, 0x1d] 12 12 :=
  code_section_length_is_iso _ (by decide)

end Ts.Props.Ties.Expr
