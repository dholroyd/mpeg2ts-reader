import Ts.Model.Pes
import Ts.Model.Tables
import Ts.Model.App
import Ts.Model.Values
import Ts.Gen.Consts
import Ts.Refl.OrHom
import Ts.Gen.Exprs
import Ts.Props.Ties.ExprSpecCore
import Ts.Lemmas.C16
/-!
# Ties to `/repo/src` — PAT / PMT bodies (audited with C16)

Constants (`namespace Ts.Props.Ties`): the model's literals against `Ts/Gen/Consts.lean`; see
`Ts/Props/Ties/Psi.lean`.

Expressions (`tie_expr_*`, `tie_model_*`).  See `Ts/Props/Ties/ExprTime.lean` for the method.
`Ts.Gen.Expr.pat_*`, `pmt_*` are
translated from `/repo/src/psi/pat.rs`, `psi/pmt.rs` on every run.

CODE = ISO (`code_*_is_iso`): see `Ts/Props/Ties/ExprSpecCore.lean`.
-/
namespace Ts.Props.Ties
open Ts Ts.Pes Ts.Tables Ts.Demux

/-- `ProgramIter::next` splits off `4` bytes per PAT entry -/
theorem tie_pat_entry_size (fuel : Nat) (buf : Bytes) :
    patPrograms (fuel + 1) buf =
      (if buf.isEmpty then .ok []
       else if buf.length < Gen.patEntrySize then .ok []
       else do
         let e ← patEntryFromBytes (buf.take Gen.patEntrySize)
         let rest ← patPrograms fuel (buf.drop Gen.patEntrySize)
         pure (e :: rest)) := rfl

/-- `PmtSection::from_bytes`, `descriptors`, `streams`: `PmtSection::HEADER_SIZE` -/
theorem tie_pmt_header_size (data : Bytes) :
    pmtFromBytes data = (do
      if data.length < Gen.pmtHeaderSize then pure none
      else do
        let d2 ← byteAt data 2; let d3 ← byteAt data 3
        let pil := ((d2 &&& 0b0000_1111) <<< 8) ||| d3
        let expected := pil + Gen.pmtHeaderSize
        if data.length < expected then pure none else pure (some data)) ∧
    pmtDescriptorBytes data = (do
      let pil ← pmtProgramInfoLength data
      sliceR data Gen.pmtHeaderSize (Gen.pmtHeaderSize + pil)) ∧
    pmtStreams data = (do
      let pil ← pmtProgramInfoLength data
      let descriptorEnd := Gen.pmtHeaderSize + pil
      if descriptorEnd > data.length then do
        let e ← sliceR data 0 0
        streamIter (e.length + 1) e
      else do
        let r ← sliceFrom data descriptorEnd
        streamIter (r.length + 1) r) := ⟨rfl, rfl, rfl⟩

/-- `StreamInfo::from_bytes` / `descriptors`: `StreamInfo::HEADER_SIZE` -/
theorem tie_stream_info_header_size (data : Bytes) :
    streamInfoFromBytes data = (do
      if data.length < Gen.streamInfoHeaderSize then pure none
      else do
        let d3 ← byteAt data 3; let d4 ← byteAt data 4
        let esil := ((d3 &&& 0b0000_1111) <<< 8) ||| d4
        let descriptorEnd := Gen.streamInfoHeaderSize + esil
        if descriptorEnd > data.length then pure none
        else do
          let st ← byteAt data 0
          let d1 ← byteAt data 1; let d2 ← byteAt data 2
          let pid ← pidNew (((d1 &&& 0b0001_1111) <<< 8) ||| d2)
          let db ← sliceR data Gen.streamInfoHeaderSize descriptorEnd
          pure (some (⟨st, pid, db⟩, descriptorEnd))) := rfl

end Ts.Props.Ties

namespace Ts.Props.Ties.Expr
open Ts Ts.Refl Ts.Gen.Expr Ts.Tables

def mPatProgramNumber (e : Env) : Nat := (e 0 <<< 8) ||| e 1
def mPatPid (e : Env) : Nat := ((e 2 &&& 0b0001_1111) <<< 8) ||| e 3

theorem tie_expr_pat_program_number : ∀ l : List Nat, l.length ≤ 4 → (∀ x ∈ l, x < 256) →
    pat_program_number (envL l) = mPatProgramNumber (envL l) := by tie_linear 4
theorem tie_expr_pat_pid : ∀ l : List Nat, l.length ≤ 4 → (∀ x ∈ l, x < 256) →
    pat_pid (envL l) = mPatPid (envL l) := by tie_linear 4

theorem tie_model_pat_entry (d : Bytes) : Tables.patEntryFromBytes d = (do
    let d0 ← byteAt d 0; let d1 ← byteAt d 1
    let pn := mPatProgramNumber (envL [d0, d1])
    let d2 ← byteAt d 2; let d3 ← byteAt d 3
    let pid ← pidNew (mPatPid (envL [0, 0, d2, d3]))
    if pn == 0 then pure (.network pid) else pure (.program pn pid)) := rfl

def mPmtPcrPid (e : Env) : Nat := ((e 0 &&& 0b0001_1111) <<< 8) ||| e 1
def mPmtProgramInfoLength (e : Env) : Nat := ((e 2 &&& 0b0000_1111) <<< 8) ||| e 3
def mPmtElementaryPid (e : Env) : Nat := ((e 1 &&& 0b0001_1111) <<< 8) ||| e 2
def mPmtEsInfoLength (e : Env) : Nat := ((e 3 &&& 0b0000_1111) <<< 8) ||| e 4

theorem tie_expr_pmt_pcr_pid : ∀ l : List Nat, l.length ≤ 4 → (∀ x ∈ l, x < 256) →
    pmt_pcr_pid (envL l) = mPmtPcrPid (envL l) := by tie_linear 4
theorem tie_expr_pmt_program_info_length : ∀ l : List Nat, l.length ≤ 4 → (∀ x ∈ l, x < 256) →
    pmt_program_info_length (envL l) = mPmtProgramInfoLength (envL l) := by tie_linear 4
theorem tie_expr_pmt_elementary_pid : ∀ l : List Nat, l.length ≤ 5 → (∀ x ∈ l, x < 256) →
    pmt_elementary_pid (envL l) = mPmtElementaryPid (envL l) := by tie_linear 5
theorem tie_expr_pmt_es_info_length : ∀ l : List Nat, l.length ≤ 5 → (∀ x ∈ l, x < 256) →
    pmt_es_info_length (envL l) = mPmtEsInfoLength (envL l) := by tie_linear 5

theorem tie_model_pmt_from_bytes (data : Bytes) : Tables.pmtFromBytes data = (do
    if data.length < 4 then pure none
    else do
      let d2 ← byteAt data 2; let d3 ← byteAt data 3
      let pil := mPmtProgramInfoLength (envL [0, 0, d2, d3])
      let expected := pil + 4
      if data.length < expected then pure none else pure (some data)) := rfl
theorem tie_model_pmt_pcr_pid (data : Bytes) : Tables.pmtPcrPid data = (do
    let d0 ← byteAt data 0; let d1 ← byteAt data 1
    pidNew (mPmtPcrPid (envL [d0, d1]))) := rfl
theorem tie_model_pmt_program_info_length (data : Bytes) : Tables.pmtProgramInfoLength data = (do
    let d2 ← byteAt data 2; let d3 ← byteAt data 3
    pure (mPmtProgramInfoLength (envL [0, 0, d2, d3]))) := rfl
theorem tie_model_stream_info (data : Bytes) : Tables.streamInfoFromBytes data = (do
    if data.length < 5 then pure none
    else do
      let d3 ← byteAt data 3; let d4 ← byteAt data 4
      let esil := mPmtEsInfoLength (envL [0, 0, 0, d3, d4])
      let descriptorEnd := 5 + esil
      if descriptorEnd > data.length then pure none
      else do
        let st ← byteAt data 0
        let d1 ← byteAt data 1; let d2 ← byteAt data 2
        let pid ← pidNew (mPmtElementaryPid (envL [0, d1, d2]))
        let db ← sliceR data 5 descriptorEnd
        pure (some (⟨st, pid, db⟩, descriptorEnd))) := rfl

end Ts.Props.Ties.Expr

namespace Ts.Props.Ties.Expr
open Ts Ts.Refl Ts.Gen.Expr Ts.Spec

theorem code_model_pat_pid (bs : Bytes) : pat_pid (envB bs) = mPatPid (envB bs) :=
  tie_on_bytes 4 tie_expr_pat_pid (by reads_below pat_pid) (by reads_below mPatPid) bs

theorem code_model_pmt_pcr_pid (bs : Bytes) : pmt_pcr_pid (envB bs) = mPmtPcrPid (envB bs) :=
  tie_on_bytes 4 tie_expr_pmt_pcr_pid (by reads_below pmt_pcr_pid) (by reads_below mPmtPcrPid) bs

theorem code_model_pmt_program_info_length (bs : Bytes) :
    pmt_program_info_length (envB bs) = mPmtProgramInfoLength (envB bs) :=
  tie_on_bytes 4 tie_expr_pmt_program_info_length (by reads_below pmt_program_info_length)
    (by reads_below mPmtProgramInfoLength) bs

theorem code_model_pmt_elementary_pid (bs : Bytes) :
    pmt_elementary_pid (envB bs) = mPmtElementaryPid (envB bs) :=
  tie_on_bytes 5 tie_expr_pmt_elementary_pid (by reads_below pmt_elementary_pid)
    (by reads_below mPmtElementaryPid) bs

theorem code_model_pmt_es_info_length (bs : Bytes) :
    pmt_es_info_length (envB bs) = mPmtEsInfoLength (envB bs) :=
  tie_on_bytes 5 tie_expr_pmt_es_info_length (by reads_below pmt_es_info_length)
    (by reads_below mPmtEsInfoLength) bs

open Ts.Lemmas.C16 in
theorem model_iso_pat_pid (bs : Bytes) : mPatPid (envB bs) = readBits bs 19 13 := by
  simp only [mPatPid, envB_byteD]
  rw [mask13 _ _ (byteD_lt bs 2) (byteD_lt bs 3), Ts.Lemmas.C16.pat_pid]

open Ts.Lemmas.C16 in
theorem model_iso_pmt_pcr_pid (bs : Bytes) : mPmtPcrPid (envB bs) = readBits bs 3 13 := by
  simp only [mPmtPcrPid, envB_byteD]
  rw [mask13 _ _ (byteD_lt bs 0) (byteD_lt bs 1), pmt_pcr]

open Ts.Lemmas.C16 in
theorem model_iso_pmt_program_info_length (bs : Bytes) :
    mPmtProgramInfoLength (envB bs) = readBits bs 20 12 := by
  simp only [mPmtProgramInfoLength, envB_byteD]
  rw [mask12 _ _ (byteD_lt bs 2) (byteD_lt bs 3), pmt_pil]

open Ts.Lemmas.C16 in
theorem model_iso_pmt_elementary_pid (bs : Bytes) : mPmtElementaryPid (envB bs) = readBits bs 11 13 := by
  simp only [mPmtElementaryPid, envB_byteD]
  rw [mask13 _ _ (byteD_lt bs 1) (byteD_lt bs 2), st_pid]

open Ts.Lemmas.C16 in
theorem model_iso_pmt_es_info_length (bs : Bytes) : mPmtEsInfoLength (envB bs) = readBits bs 28 12 := by
  simp only [mPmtEsInfoLength, envB_byteD]
  rw [mask12 _ _ (byteD_lt bs 3) (byteD_lt bs 4), st_esil]

/-- PAT entry: `network_PID` / `program_map_PID`, 13 bits at bit 19 -/
theorem code_pat_pid_is_iso (bs : Bytes) (_h : 4 ≤ bs.length) : pat_pid (envB bs) = readBits bs 19 13 :=
  (code_model_pat_pid bs).trans (model_iso_pat_pid bs)

/-- PMT body: `PCR_PID`, 13 bits at bit 3 -/
theorem code_pmt_pcr_pid_is_iso (bs : Bytes) (_h : 2 ≤ bs.length) :
    pmt_pcr_pid (envB bs) = readBits bs 3 13 :=
  (code_model_pmt_pcr_pid bs).trans (model_iso_pmt_pcr_pid bs)

/-- PMT body: `program_info_length`, 12 bits at bit 20 -/
theorem code_pmt_program_info_length_is_iso (bs : Bytes) (_h : 4 ≤ bs.length) :
    pmt_program_info_length (envB bs) = readBits bs 20 12 :=
  (code_model_pmt_program_info_length bs).trans (model_iso_pmt_program_info_length bs)

/-- PMT stream entry: `elementary_PID`, 13 bits at bit 11 -/
theorem code_pmt_elementary_pid_is_iso (bs : Bytes) (_h : 3 ≤ bs.length) :
    pmt_elementary_pid (envB bs) = readBits bs 11 13 :=
  (code_model_pmt_elementary_pid bs).trans (model_iso_pmt_elementary_pid bs)

/-- PMT stream entry: `ES_info_length`, 12 bits at bit 28 -/
theorem code_pmt_es_info_length_is_iso (bs : Bytes) (_h : 5 ≤ bs.length) :
    pmt_es_info_length (envB bs) = readBits bs 28 12 :=
  (code_model_pmt_es_info_length bs).trans (model_iso_pmt_es_info_length bs)

end Ts.Props.Ties.Expr
