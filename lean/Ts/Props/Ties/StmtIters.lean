import Ts.Gen.ItersGen
import Ts.Props.Ties.StmtPsi
/-!
# Statement-level tie — the PAT entry loop and the descriptor loops (audited with C16 and C17)

`Ts.Gen.ItersGen` is `ProgramIter::next` (`psi/pat.rs`) and `DescriptorIter::next`
(`descriptor/mod.rs`) as they read NOW, translated statement by statement by `tools/gen_iters.py`:
`Self → R (Self × Option Item)`, the remaining buffer after the call and what was yielded.  The
model's `patPrograms` / `descIter` run an iterator to exhaustion with `next` inlined; the theorems
below prove that they ARE the translated `next` iterated (`iterate`), for every fuel and every byte
string — so C16's `pat_entries` / `pat_roundtrip` and C17's `desc_iter_total` / `desc_iter_tiles` /
`desc_roundtrip` speak about the loop the source contains today.
-/
namespace Ts.Props.Ties.StmtIters
open Ts Ts.Stmt Ts.Gen Ts.Gen.ItersGen Ts.Props.Ties.StmtPsi

def iterate {σ α : Type} (next : σ → R (σ × Option α)) : Nat → σ → R (List α)
  | 0, _ => .ok []
  | fuel+1, s =>
    next s >>= fun r =>
      match r.2 with
      | none => .ok []
      | some x => iterate next fuel r.1 >>= fun rest => .ok (x :: rest)

theorem iterate_empty {α : Type} (next : Self → R (Self × Option α)) (src : Option Nat)
    (h : next ⟨⟨[], src⟩⟩ = .ok (⟨⟨[], src⟩⟩, none)) (fuel : Nat) :
    iterate next fuel ⟨⟨[], src⟩⟩ = .ok [] := by
  cases fuel with
  | zero => rfl
  | succ n => unfold iterate; rw [h]; rfl

theorem pat_next (b : Bytes) (src : Option Nat) :
    ProgramIter.next ⟨⟨b, src⟩⟩ =
      (if b.isEmpty then .ok (⟨⟨b, src⟩⟩, none)
       else if b.length < 4 then .ok (⟨⟨b, src⟩⟩, none)
       else Tables.patEntryFromBytes (b.take 4) >>= fun e => .ok (⟨⟨b.drop 4, src.map (· + 4)⟩⟩, some e)) := by
  unfold ProgramIter.next
  simp only [Slice.len]
  -- the two "nothing left" tests, in whichever order the source makes them
  by_cases he : b.isEmpty = true <;> by_cases h4 : b.length < 4
  · simp only [he, h4, decide_true, if_true, R.pure_eq]
  · have : b.length = 0 := by simpa using he
    omega
  · simp only [he, h4, decide_true, Bool.false_eq_true, if_true, if_false, R.pure_eq]
  · have h4' : 4 ≤ b.length := by omega
    simp only [he, h4, decide_false, Bool.false_eq_true, if_false, upto_ok ⟨b, src⟩ 4 h4', from_ok ⟨b, src⟩ 4 h4',
      R.ok_bind, R.pure_eq]

/-- `ProgramIter`: the model's `patPrograms` is the translated `next` iterated -/
theorem tie_stmt_pat_programs (fuel : Nat) : ∀ (b : Bytes) (src : Option Nat),
    iterate ProgramIter.next fuel ⟨⟨b, src⟩⟩ = Tables.patPrograms fuel b := by
  induction fuel with
  | zero => intro b src; rfl
  | succ n ih =>
    intro b src
    unfold iterate Tables.patPrograms
    rw [pat_next]
    by_cases he : b.isEmpty = true
    · simp only [he, if_true, R.ok_bind]
    · simp only [he, Bool.false_eq_true, if_false]
      by_cases h4 : b.length < 4
      · simp only [h4, if_true, R.ok_bind]
      · simp only [h4, if_false, R.bind_assoc, R.ok_bind, R.pure_eq]
        cases Tables.patEntryFromBytes (List.take 4 b) with
        | panic m => rfl
        | ok e =>
          simp only [R.ok_bind]
          rw [ih (List.drop 4 b) (Option.map (· + 4) src)]

theorem desc_next (b : Bytes) (src : Option Nat) :
    DescriptorIter.next ⟨⟨b, src⟩⟩ =
      (if b.isEmpty then .ok (⟨⟨b, src⟩⟩, none)
       else if b.length < 2 then .ok (⟨⟨[], src.map (· + 0)⟩⟩, some (.err .bufferTooShort))
       else if byteD b 1 > b.length - 2 then .ok (⟨⟨[], src.map (· + 0)⟩⟩, some (.err .notEnoughData))
       else Tables.coreFromBytes (b.take (byteD b 1 + 2)) >>= fun item =>
         .ok (⟨⟨b.drop (byteD b 1 + 2), src.map (· + (byteD b 1 + 2))⟩⟩, some item)) := by
  unfold DescriptorIter.next
  simp only [Slice.len, Slice.get]
  by_cases he : b.isEmpty = true
  · simp only [he, if_true, R.pure_eq]
  · simp only [he, Bool.false_eq_true, if_false]
    by_cases h2 : b.length < 2
    · simp only [h2, decide_true, if_true, sub_zero_ok, R.ok_bind, R.pure_eq]
    · have h2' : 2 ≤ b.length := by omega
      simp only [h2, decide_false, Bool.false_eq_true, if_false, byteAt_ok b 0 (by omega), byteAt_ok b 1 (by omega),
        subR_ok b.length 2 h2', R.ok_bind, R.pure_eq]
      by_cases hl : byteD b 1 > b.length - 2
      · simp only [hl, decide_true, if_true, sub_zero_ok, R.ok_bind]
      · have hle : byteD b 1 + 2 ≤ b.length := by omega
        simp only [hl, decide_false, Bool.false_eq_true, if_false, upto_ok ⟨b, src⟩ _ hle, from_ok ⟨b, src⟩ _ hle,
          R.ok_bind]

/-- `DescriptorIter`: the model's `descIter` is the translated `next` iterated -/
theorem tie_stmt_desc_iter (fuel : Nat) : ∀ (b : Bytes) (src : Option Nat),
    iterate DescriptorIter.next fuel ⟨⟨b, src⟩⟩ = Tables.descIter fuel b := by
  induction fuel with
  | zero => intro b src; rfl
  | succ n ih =>
    intro b src
    have hempty : ∀ s : Option Nat, DescriptorIter.next ⟨⟨[], s⟩⟩ = .ok (⟨⟨[], s⟩⟩, none) := by
      intro s; rw [desc_next]; rfl
    unfold iterate Tables.descIter
    rw [desc_next]
    by_cases he : b.isEmpty = true
    · simp only [he, if_true, R.ok_bind]
    · simp only [he, Bool.false_eq_true, if_false]
      by_cases h2 : b.length < 2
      · simp only [h2, if_true, R.ok_bind]
        rw [iterate_empty _ _ (hempty _)]
        rfl
      · have h2' : 2 ≤ b.length := by omega
        simp only [h2, if_false, byteAt_ok b 0 (by omega), byteAt_ok b 1 (by omega), subR_ok b.length 2 h2',
          R.ok_bind, R.pure_eq]
        by_cases hl : byteD b 1 > b.length - 2
        · simp only [hl, if_true, R.ok_bind]
          rw [iterate_empty _ _ (hempty _)]
          rfl
        · have hle : byteD b 1 + 2 ≤ b.length := by omega
          have ha : assertR (decide (byteD b 1 + 2 ≤ b.length)) "split_at: mid > len" = .ok () := by
            simp [assertR, hle]
          simp only [hl, if_false, R.bind_assoc, R.ok_bind, ha]
          cases Tables.coreFromBytes (List.take (byteD b 1 + 2) b) with
          | panic m => rfl
          | ok item =>
            simp only [R.ok_bind]
            rw [ih (List.drop (byteD b 1 + 2) b) (Option.map (· + (byteD b 1 + 2)) src)]

/-- the loops as the library runs them: `PatSection::programs()` / a descriptor loop over `b` -/
theorem code_pat_programs_all (b : Bytes) (src : Option Nat) :
    iterate ProgramIter.next (b.length + 1) ⟨⟨b, src⟩⟩ = Tables.patProgramsAll b :=
  tie_stmt_pat_programs _ b src

theorem code_desc_iter_all (b : Bytes) (src : Option Nat) :
    iterate DescriptorIter.next (b.length + 1) ⟨⟨b, src⟩⟩ = Tables.descIterAll b :=
  tie_stmt_desc_iter _ b src

end Ts.Props.Ties.StmtIters
