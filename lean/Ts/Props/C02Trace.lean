import Ts.Lemmas.Proj
import Ts.Lemmas.Projb
import Ts.Lemmas.C02d
import Ts.Lemmas.C02Ex
import Ts.Props.C02
import Ts.Props.C06
import Ts.Props.C08
import Ts.Props.C19
import Ts.Lemmas.AppEval
/-!
# C02 / C06 / C08 for the concrete application: the per-consumer view of the callback trace

The application context `App.Ctx` records the callbacks of ALL handlers in one shared trace
(`Ctx.trace`, most recent first).  `C02.not_attributed_to_other_pid` tracked the filter STATE of a
PES handler's slot over an interleaving; here the TRACE is projected on a consumer's tag: the tag
discipline (`TagInv`), the projection theorem (`pes_trace_is_filter_run_kept`, with `Keeps` derived
from hypotheses on the input), its corollaries for C19 / C02 / C08, the delivered bytes read from
the pushed buffer, and the end-to-end statement from `Demultiplex::new`.
-/
namespace Ts.Props.C02Trace
open Ts Ts.Demux Ts.App Ts.Lemmas.Proj Ts.Spec.Protocol Ts.Spec.PesMux
open Ts.Lemmas.C02 (QuietAlong Benign streamPackets streamFinal expectedBegin esOpen)
open Ts.Lemmas.C10 (RepPacket QuiescentH)
open Ts.Lemmas.C19 (EvInPacket)

/-! ## 0. vocabulary -/

theorem tag_vocabulary (tag off len pid prog : Nat) (bi : BeginInfo) (req : Req) (s : Psi.St)
    (reg : List Nat) (f : PesFilter.F) :
    tagOf (.pkt tag off) = some tag ∧ tagOf (.esStart tag) = some tag ∧ tagOf (.esBegin tag bi) = some tag
    ∧ tagOf (.esCont tag off len) = some tag ∧ tagOf (.esEnd tag) = some tag ∧ tagOf (.esCcErr tag) = some tag
    ∧ tagOf (.construct req tag) = none ∧ tagOf (.scriptIns pid tag) = none ∧ tagOf (.scriptRem pid) = none
    ∧ hTag (.pes tag f) = some tag ∧ hTag (.recorder tag) = some tag
    ∧ hTag (.pat s reg) = none ∧ hTag (.pmt pid prog s reg) = none :=
  ⟨rfl, rfl, rfl, rfl, rfl, rfl, rfl, rfl, rfl, rfl, rfl, rfl, rfl⟩

theorem tagsIn_mem (t : Tab Handler) (τ : Nat) :
    τ ∈ tagsIn t ↔ ∃ p h, t.get p = some h ∧ hTag h = some τ :=
  Ts.Lemmas.Proj.tagsIn_mem t τ

theorem tagInv_iff (t : Tab Handler) (c : Ctx) :
    TagInv (t, c) ↔
      (∀ τ ∈ tagsIn t, τ < c.nextTag) ∧ (tagsIn t).Pairwise (· ≠ ·)
      ∧ (∀ e ∈ c.trace, ∀ τ, tagOf e = some τ → τ < c.nextTag) := by
  constructor
  · rintro ⟨a, b⟩
    exact ⟨((tabTags_iff t _).1 a).1, ((tabTags_iff t _).1 a).2, b⟩
  · rintro ⟨a, b, d⟩
    exact ⟨(tabTags_iff t _).2 ⟨a, b⟩, d⟩

theorem tagInv_slots (t : Tab Handler) (c : Ctx) (h : TagInv (t, c)) :
    (∀ p hd τ, t.get p = some hd → hTag hd = some τ → τ < c.nextTag) ∧
    (∀ p q hd hd' τ, t.get p = some hd → t.get q = some hd' → hTag hd = some τ → hTag hd' = some τ → p = q) :=
  h.1

theorem proj_eq (τ : Nat) (c : Ctx) :
    proj τ c = (c.trace.reverse).filter (fun e => decide (tagOf e = some τ)) := rfl

theorem own_eq (p : Nat) (pks : List Pk) :
    own p pks = pks.filter (fun pk => pk.pid == p && !pk.flagged) := rfl

/-! ## 1. tag discipline -/

theorem construct_allocates (c : Ctx) (req : Req) :
    (construct c req).2 = { c with nextTag := c.nextTag + 1 }.emit (.construct req c.nextTag)
    ∧ (hTag (construct c req).1 = none ∨ hTag (construct c req).1 = some c.nextTag)
    ∧ ∀ σ f, (construct c req).1 = .pes σ f → f = {} ∧ σ = c.nextTag :=
  ⟨construct_ctx c req, construct_tag c req, construct_pes c req⟩

theorem produces_spec {P : Ev → Prop} {c c' : Ctx} {chg : List (Change Handler)}
    (h : Produces P c chg c') :
    c'.cfg = c.cfg ∧ c.nextTag ≤ c'.nextTag
    ∧ (∃ out, c'.trace = out ++ c.trace ∧ ∀ e ∈ out, P e)
    ∧ (∀ q hd σ, Change.insert q hd ∈ chg → hTag hd = some σ → c.nextTag ≤ σ ∧ σ < c'.nextTag)
    ∧ (chgTags chg).Pairwise (· < ·)
    ∧ (∀ q σ f, Change.insert q (Handler.pes σ f) ∈ chg → f = {}) :=
  ⟨h.1.1, h.1.2.1, h.1.2.2, fun q hd σ hm ht => chgFresh_mem chg _ _ h.2.1 q hd σ hm ht,
   chgFresh_pairwise chg _ _ h.2.1, fun q σ f hm => h.2.2 _ hm q σ f rfl⟩

theorem chgTags_mem (cs : List (Change Handler)) (σ : Nat) :
    σ ∈ chgTags cs ↔ ∃ q h, Change.insert q h ∈ cs ∧ hTag h = some σ :=
  Ts.Lemmas.Proj.chgTags_mem cs σ

/-- `PatProcessor::section` (and likewise `PmtProcessor::section`, the recorder's script): only
`construct` events; inserted handlers get consecutive fresh tags -/
theorem patSection_fresh (c : Ctx) (reg : List Nat) (data : Bytes) (c' : Ctx) (reg' : List Nat)
    (chg : List (Change Handler)) (h : patSection c reg data = .ok (c', reg', chg)) :
    Produces (fun e => tagOf e = none) c chg c' :=
  patSection_produces c reg data c' reg' chg h

theorem pmtSection_fresh (c : Ctx) (pmtPid : Nat) (reg : List Nat) (data : Bytes) (c' : Ctx)
    (reg' : List Nat) (chg : List (Change Handler))
    (h : pmtSection c pmtPid reg data = .ok (c', reg', chg)) :
    Produces (fun e => tagOf e = none) c chg c' :=
  pmtSection_produces c pmtPid reg data c' reg' chg h

theorem scriptChanges_fresh (ops : List ScriptOp) (c : Ctx) :
    Produces (fun e => tagOf e = none) c (scriptChanges c ops).2 (scriptChanges c ops).1 :=
  scriptChanges_produces ops c

theorem consume_emits_own_tag (h : Handler) (c : Ctx) (pk : Pk) (h' : Handler) (c' : Ctx)
    (chg : List (Change Handler)) (hc : App.consume h c pk = .ok (h', c', chg)) :
    Produces (fun e => ∀ σ, tagOf e = some σ → hTag h = some σ) c chg c' ∧ hTag h' = hTag h := by
  obtain ⟨a, b, _⟩ := consume_facts h c pk h' c' chg hc
  exact ⟨produces_mono (fun e he σ hσ => evBy_tag h e σ he hσ) a, b⟩

theorem tagInv_init (cfg : Cfg) : TagInv (App.init cfg) := init_tagInv cfg

theorem tagInv_step (t : Tab Handler) (c : Ctx) (pk : Pk) (t' : Tab Handler) (c' : Ctx)
    (hi : TagInv (t, c)) (h : specStep App.sem (t, c) pk = .ok (t', c')) :
    TagInv (t', c') ∧ c'.cfg = c.cfg ∧ c.nextTag ≤ c'.nextTag ∧
    ∃ out, c'.trace = out ++ c.trace ∧ ∀ e ∈ out, ∀ σ, tagOf e = some σ →
      (∃ h0, t.get pk.pid = some h0 ∧ hTag h0 = some σ) ∨ c.nextTag ≤ σ := by
  obtain ⟨a, b1, b2, b3⟩ := specStep_facts t c pk t' c' hi h
  exact ⟨a, b1, b2, b3⟩

theorem tagInv_pushSpec (pks : List Pk) (tc tc' : Tab Handler × Ctx) (hi : TagInv tc)
    (h : pushSpec App.sem tc pks = .ok tc') :
    TagInv tc' ∧ tc'.2.cfg = tc.2.cfg ∧ tc.2.nextTag ≤ tc'.2.nextTag
      ∧ ∃ new, tc'.2.trace = new ++ tc.2.trace := by
  obtain ⟨a, b1, b2, new, b3, _⟩ := pushSpec_tagInv pks tc tc' hi h
  exact ⟨a, b1, b2, new, b3⟩

theorem tagInv_pushModel (pks : List Pk) (tc tc' : Tab Handler × Ctx) (hi : TagInv tc)
    (h : pushModel App.sem tc pks = .ok tc') : TagInv tc' := by
  rw [C06.push_refines_spec] at h
  exact (pushSpec_tagInv pks tc tc' hi h).1

theorem tagInv_push (tc : Tab Handler × Ctx) (buf : Bytes) (base : Nat) (tc' : Tab Handler × Ctx)
    (hi : TagInv tc) (h : push App.sem tc buf base = .ok tc') : TagInv tc' :=
  push_invariant App.sem TagInv (fun _ => True)
    (fun x pk x' hx _ hs => specStep_tagInv x.1 x.2 pk x'.1 x'.2 hx hs) tc tc' buf base hi
    (fun _ _ _ _ => trivial) h

theorem tagInv_runApp (cfg : Cfg) (pushes : List Bytes) (t : Tab Handler) (c : Ctx)
    (h : runApp cfg pushes = .ok (t, c)) : TagInv (t, c) :=
  pushAll_invariant App.sem TagInv (fun _ => True)
    (fun x pk x' hx _ hs => specStep_tagInv x.1 x.2 pk x'.1 x'.2 hx hs) (fun _ _ _ _ _ _ => trivial)
    pushes (App.init cfg) (t, c) 0 (init_tagInv cfg) h

theorem tags_after_step (t : Tab Handler) (c : Ctx) (pk : Pk) (t' : Tab Handler) (c' : Ctx)
    (h : specStep App.sem (t, c) pk = .ok (t', c')) :
    ∀ σ ∈ tagsIn t', σ ∈ tagsIn t ∨ c.nextTag ≤ σ :=
  specStep_tags_origin t c pk t' c' h

/-- a tag that was handed out and is not in the table is never re-issued, and no event is ever
attributed to it again -/
theorem tag_never_reissued (τ : Nat) (pks : List Pk) (t : Tab Handler) (c : Ctx) (t' : Tab Handler)
    (c' : Ctx) (hi : TagInv (t, c)) (hlt : τ < c.nextTag) (hn : τ ∉ tagsIn t)
    (h : pushSpec App.sem (t, c) pks = .ok (t', c')) : τ ∉ tagsIn t' ∧ proj τ c' = proj τ c := by
  induction pks generalizing t c with
  | nil =>
    cases h
    exact ⟨hn, rfl⟩
  | cons pk xs ih =>
    rw [pushSpec_cons] at h
    obtain ⟨⟨t1, c1⟩, hstep, hrun⟩ := R.bind_eq_ok h
    obtain ⟨hi1, _, hle, out1, ho1, hall⟩ := specStep_facts t c pk t1 c1 hi hstep
    have hn1 : τ ∉ tagsIn t1 := by
      intro hm
      rcases specStep_tags_origin t c pk t1 c1 hstep τ hm with x | x
      · exact hn x
      · omega
    obtain ⟨b1, b2⟩ := ih t1 c1 hi1 (by omega) hn1 hrun
    refine ⟨b1, ?_⟩
    rw [b2, proj_of_trace τ c c1 out1 ho1, filter_tag_none, List.append_nil]
    intro e he hτ
    rcases hall e (List.mem_reverse.1 he) τ hτ with ⟨h0, hg0, ht0⟩ | hge
    · exact hn ((tagsIn_mem _ τ).2 ⟨pk.pid, h0, hg0, ht0⟩)
    · omega

theorem unissued_tag_silent (τ : Nat) (t : Tab Handler) (c : Ctx) (hi : TagInv (t, c))
    (h : c.nextTag ≤ τ) : proj τ c = [] ∧ τ ∉ tagsIn t := by
  refine ⟨?_, ?_⟩
  · unfold proj
    refine filter_tag_none τ _ ?_
    intro e he hτ
    have : τ < c.nextTag := hi.2 e (List.mem_reverse.1 he) τ hτ
    omega
  · intro hm
    have := ((tagInv_iff t c).1 hi).1 τ hm
    omega

/-! ## 2. the projection -/

theorem esEvents_is_esEvList (touch : Bool) (tag : Nat) (p : Bytes) (base : Nat)
    (evs : List PesFilter.Ev) (c : Ctx) :
    esEvents touch tag p base c evs =
      (esEvList touch tag p base evs >>= fun l => R.ok { c with trace := l.reverse ++ c.trace }) :=
  esEvents_eq_list touch tag p base evs c

theorem esAll_spec (touch : Bool) (tag : Nat) (pk : Pk) (pks : List Pk) (evs : List PesFilter.Ev)
    (evss : List (List PesFilter.Ev)) :
    esAll touch tag [] [] = .ok [] ∧
    esAll touch tag (pk :: pks) (evs :: evss) =
      (esEvList touch tag pk.bytes pk.off evs >>= fun a =>
        esAll touch tag pks evss >>= fun rest => R.ok (a :: rest)) :=
  ⟨rfl, rfl⟩

theorem keeps_spec (p τ : Nat) (tc : Tab Handler × Ctx) (pk : Pk) (pks : List Pk) :
    Keeps p τ tc [] = true ∧
    (Keeps p τ tc (pk :: pks) = true ↔
      ∀ tc', specStep App.sem tc pk = .ok tc' →
        (∃ f, tc'.1.get p = some (.pes τ f)) ∧ Keeps p τ tc' pks = true) := by
  refine ⟨rfl, ?_⟩
  simp only [Keeps]
  cases h : specStep App.sem tc pk with
  | panic s => simp
  | ok r =>
    simp only [Bool.and_eq_true, holdsPes_iff]
    constructor
    · intro hk tc' e
      injection e with e; subst e; exact hk
    · intro hk; exact hk r rfl

/-- INPUT-LEVEL ⇒ `Keeps`, elementary streams only: every packet on another PID finds a PES handler
in its slot of the table at the START of the run.  No hypothesis on packet lengths, flags or
contents: PES handlers queue no change (`C02.pes_handler_queues_nothing`) and stay PES handlers. -/
theorem keeps_of_es_interleaving (p τ : Nat) (pks : List Pk) (t : Tab Handler) (c : Ctx)
    (f : PesFilter.F) (hg : t.get p = some (.pes τ f))
    (hO : ∀ pk ∈ pks, pk.pid ≠ p → ∃ σ g, t.get pk.pid = some (.pes σ g)) :
    Keeps p τ (t, c) pks = true :=
  Ts.Lemmas.C02.keeps_of_benign (fun _ => 0) p τ pks t c f hg
    (fun pk hm hne => Or.inl (hO pk hm hne))

/-- INPUT-LEVEL ⇒ `Keeps` for the property's "any interleaving with other PIDs and repeated tables":
a packet on another PID finds a PES handler in its slot at the start of the run, or is an unflagged
repetition packet (C10 `RepPacket`) on a PAT / PMT handler quiescent at that version (C10
`QuiescentH`) -/
theorem keeps_of_es_and_repeated_tables (ver : Nat → Nat) (p τ : Nat) (pks : List Pk)
    (t : Tab Handler) (c : Ctx) (f : PesFilter.F) (hg : t.get p = some (.pes τ f))
    (hO : ∀ pk ∈ pks, pk.pid ≠ p →
      (∃ σ g, t.get pk.pid = some (.pes σ g))
      ∨ (pk.flagged = false ∧ RepPacket (ver pk.pid) pk.bytes
          ∧ ∃ h, t.get pk.pid = some h ∧ QuiescentH (ver pk.pid) h)) :
    Keeps p τ (t, c) pks = true := by
  refine Ts.Lemmas.C02.keeps_of_benign ver p τ pks t c f hg ?_
  intro pk hm hne
  rcases hO pk hm hne with h | ⟨_, hr, hq⟩
  · exact Or.inl h
  · exact Or.inr (Or.inl ⟨hq, Or.inr hr⟩)

/-- INPUT-LEVEL ⇒ `Keeps`, the general form: `Benign` (`C02.benign_iff`) also admits flagged packets
and packets without scripted action on recorders or unregistered PIDs other than 0 (null packets) -/
theorem keeps_of_benign_traffic (ver : Nat → Nat) (p τ : Nat) (pks : List Pk) (t : Tab Handler)
    (c : Ctx) (f : PesFilter.F) (hg : t.get p = some (.pes τ f))
    (hB : ∀ pk ∈ pks, pk.pid ≠ p → Benign ver c.cfg.script t pk) :
    Keeps p τ (t, c) pks = true :=
  Ts.Lemmas.C02.keeps_of_benign ver p τ pks t c f hg hB

/-- THE PROJECTION.  `TagInv (t, c)`; slot `p` holds the PES handler tagged `τ` in filter state `f`;
along the run over the interleaving `pks` the consumer is never replaced or removed (`Keeps`).  Then
`PesFilter.run f` over exactly the unflagged PID-`p` packets, in order, succeeds; `outs` are the
application events for its callbacks (`esAll`: packet `k`'s callbacks with packet `k`'s bytes and
global offset); consumer `τ` observes `proj τ c' = proj τ c ++ outs.flatten` — no other handler
emits an event tagged `τ`, nothing of PID `p` is missing — and slot `p` ends in the state reached. -/
theorem pes_trace_is_filter_run_kept (p τ : Nat) (pks : List Pk) (t : Tab Handler) (c : Ctx)
    (f : PesFilter.F) (t' : Tab Handler) (c' : Ctx)
    (hi : TagInv (t, c)) (hg : t.get p = some (.pes τ f))
    (h188 : ∀ pk ∈ pks, pk.pid = p → pk.flagged = false → pk.bytes.length = 188)
    (hK : Keeps p τ (t, c) pks = true)
    (hrun : pushSpec App.sem (t, c) pks = .ok (t', c')) :
    ∃ f' evss outs,
      PesFilter.run f ((own p pks).map (·.bytes)) = .ok (f', evss) ∧
      esAll c.cfg.touch τ (own p pks) evss = .ok outs ∧
      proj τ c' = proj τ c ++ outs.flatten ∧
      t'.get p = some (.pes τ f') ∧ TagInv (t', c') := by
  obtain ⟨outs, a1, a2, a3, a4⟩ := pushSpec_proj p τ pks t c f t' c' hi hg h188 hK hrun
  refine ⟨_, _, outs, Ts.Lemmas.C08.run_eq f _ ?_, a1, a4, a2, a3⟩
  intro b hb
  obtain ⟨pk, hm, rfl⟩ := List.mem_map.1 hb
  obtain ⟨hm, hp, hf⟩ := mem_own.1 hm
  exact h188 pk hm hp hf

/-- The projection from the run-relative `QuietAlong` of `C02.not_attributed_to_other_pid` -/
theorem pes_trace_is_filter_run (p τ : Nat) (pks : List Pk) (t : Tab Handler) (c : Ctx)
    (f : PesFilter.F) (t' : Tab Handler) (c' : Ctx)
    (hi : TagInv (t, c)) (hg : t.get p = some (.pes τ f))
    (h188 : ∀ pk ∈ pks, pk.pid = p → pk.bytes.length = 188)
    (hQ : QuietAlong App.sem p (t, c) pks)
    (hrun : pushSpec App.sem (t, c) pks = .ok (t', c')) :
    ∃ f' evss outs,
      PesFilter.run f ((own p pks).map (·.bytes)) = .ok (f', evss) ∧
      esAll c.cfg.touch τ (own p pks) evss = .ok outs ∧
      proj τ c' = proj τ c ++ outs.flatten ∧
      t'.get p = some (.pes τ f') ∧ TagInv (t', c') :=
  pes_trace_is_filter_run_kept p τ pks t c f t' c' hi hg (fun pk hm hp _ => h188 pk hm hp)
    (Ts.Lemmas.C02.keeps_of_quietAlong p τ pks t c f hg hQ) hrun

theorem pes_trace_is_filter_run_model (p τ : Nat) (pks : List Pk) (t : Tab Handler) (c : Ctx)
    (f : PesFilter.F) (t' : Tab Handler) (c' : Ctx)
    (hi : TagInv (t, c)) (hg : t.get p = some (.pes τ f))
    (h188 : ∀ pk ∈ pks, pk.pid = p → pk.bytes.length = 188)
    (hQ : QuietAlong App.sem p (t, c) pks)
    (hrun : pushModel App.sem (t, c) pks = .ok (t', c')) :
    ∃ f' evss outs,
      PesFilter.run f ((own p pks).map (·.bytes)) = .ok (f', evss) ∧
      esAll c.cfg.touch τ (own p pks) evss = .ok outs ∧
      proj τ c' = proj τ c ++ outs.flatten ∧
      t'.get p = some (.pes τ f') ∧ TagInv (t', c') := by
  rw [C06.push_refines_spec] at hrun
  exact pes_trace_is_filter_run p τ pks t c f t' c' hi hg h188 hQ hrun

/-- The projection from INPUT-LEVEL hypotheses: ANY interleaving of the packets of PID `p` with
packets that are `Benign` for the table and script at the START of the run (other elementary
streams, repetitions of the tables in force, recorder traffic without scripted action) -/
theorem pes_trace_is_filter_run_benign (ver : Nat → Nat) (p τ : Nat) (pks : List Pk)
    (t : Tab Handler) (c : Ctx) (f : PesFilter.F) (t' : Tab Handler) (c' : Ctx)
    (hi : TagInv (t, c)) (hg : t.get p = some (.pes τ f))
    (h188 : ∀ pk ∈ pks, pk.pid = p → pk.flagged = false → pk.bytes.length = 188)
    (hB : ∀ pk ∈ pks, pk.pid ≠ p → Benign ver c.cfg.script t pk)
    (hrun : pushSpec App.sem (t, c) pks = .ok (t', c')) :
    ∃ f' evss outs,
      PesFilter.run f ((own p pks).map (·.bytes)) = .ok (f', evss) ∧
      esAll c.cfg.touch τ (own p pks) evss = .ok outs ∧
      proj τ c' = proj τ c ++ outs.flatten ∧
      t'.get p = some (.pes τ f') ∧ TagInv (t', c') :=
  pes_trace_is_filter_run_kept p τ pks t c f t' c' hi hg h188
    (keeps_of_benign_traffic ver p τ pks t c f hg hB) hrun

/-- The projection for `Demultiplex::push` on raw bytes: framed packets are 188 bytes by construction -/
theorem pes_trace_is_filter_run_push (p τ : Nat) (buf : Bytes) (base : Nat) (pks : List Pk)
    (t : Tab Handler) (c : Ctx) (f : PesFilter.F) (t' : Tab Handler) (c' : Ctx)
    (hi : TagInv (t, c)) (hg : t.get p = some (.pes τ f))
    (hf : frame buf base = .ok pks)
    (hK : Keeps p τ (t, c) pks = true)
    (hrun : push App.sem (t, c) buf base = .ok (t', c')) :
    ∃ f' evss outs,
      PesFilter.run f ((own p pks).map (·.bytes)) = .ok (f', evss) ∧
      esAll c.cfg.touch τ (own p pks) evss = .ok outs ∧
      proj τ c' = proj τ c ++ outs.flatten ∧
      t'.get p = some (.pes τ f') ∧ TagInv (t', c') := by
  rw [push_of_frame App.sem _ hf] at hrun
  exact pes_trace_is_filter_run_kept p τ pks t c f t' c' hi hg
    (fun pk hm _ _ => (Ts.Lemmas.C19.frame_pk_props buf base pks hf pk hm).2.2.2.2.1) hK hrun

theorem pes_trace_is_filter_run_push_benign (ver : Nat → Nat) (p τ : Nat) (buf : Bytes) (base : Nat)
    (pks : List Pk) (t : Tab Handler) (c : Ctx) (f : PesFilter.F) (t' : Tab Handler) (c' : Ctx)
    (hi : TagInv (t, c)) (hg : t.get p = some (.pes τ f))
    (hf : frame buf base = .ok pks)
    (hB : ∀ pk ∈ pks, pk.pid ≠ p → Benign ver c.cfg.script t pk)
    (hrun : push App.sem (t, c) buf base = .ok (t', c')) :
    ∃ f' evss outs,
      PesFilter.run f ((own p pks).map (·.bytes)) = .ok (f', evss) ∧
      esAll c.cfg.touch τ (own p pks) evss = .ok outs ∧
      proj τ c' = proj τ c ++ outs.flatten ∧
      t'.get p = some (.pes τ f') ∧ TagInv (t', c') :=
  pes_trace_is_filter_run_push p τ buf base pks t c f t' c' hi hg hf
    (keeps_of_benign_traffic ver p τ pks t c f hg hB) hrun

/-- INDEPENDENCE OF THE INTERLEAVING: two runs (different tables, contexts, traffic on other PIDs)
in which consumer `τ` sits on PID `p` in the same filter state and sees the same own packets
(bytes and stream offsets) observe the SAME new events and end in the same handler state. -/
theorem projection_independent_of_interleaving (p τ : Nat) (xs ys : List Pk)
    (t1 t2 : Tab Handler) (c1 c2 : Ctx) (f : PesFilter.F) (t1' t2' : Tab Handler) (c1' c2' : Ctx)
    (hi1 : TagInv (t1, c1)) (hi2 : TagInv (t2, c2))
    (hg1 : t1.get p = some (.pes τ f)) (hg2 : t2.get p = some (.pes τ f))
    (htouch : c1.cfg.touch = c2.cfg.touch) (hown : own p xs = own p ys)
    (hx188 : ∀ pk ∈ xs, pk.pid = p → pk.flagged = false → pk.bytes.length = 188)
    (hK1 : Keeps p τ (t1, c1) xs = true) (hK2 : Keeps p τ (t2, c2) ys = true)
    (hr1 : pushSpec App.sem (t1, c1) xs = .ok (t1', c1'))
    (hr2 : pushSpec App.sem (t2, c2) ys = .ok (t2', c2')) :
    ∃ d, proj τ c1' = proj τ c1 ++ d ∧ proj τ c2' = proj τ c2 ++ d ∧ t1'.get p = t2'.get p := by
  have hy188 : ∀ pk ∈ ys, pk.pid = p → pk.flagged = false → pk.bytes.length = 188 := by
    intro pk hm hp hf
    have : pk ∈ own p xs := hown ▸ mem_own.2 ⟨hm, hp, hf⟩
    exact hx188 pk (mem_own.1 this).1 hp hf
  obtain ⟨o1, a1, a2, _, a4⟩ := pushSpec_proj p τ xs t1 c1 f t1' c1' hi1 hg1 hx188 hK1 hr1
  obtain ⟨o2, b1, b2, _, b4⟩ := pushSpec_proj p τ ys t2 c2 f t2' c2' hi2 hg2 hy188 hK2 hr2
  rw [hown, htouch] at a1
  rw [a1] at b1
  have : o1 = o2 := R.ok_inj b1
  subst this
  exact ⟨o1.flatten, a4, b4, by rw [a2, b2, hown]⟩

theorem shiftEv_vocabulary (d tag off len : Nat) (bi : BeginInfo) (pks : List Pk) (rel : List (List Ev)) :
    shiftEv d (.esCont tag off len) = .esCont tag (d + off) len
    ∧ shiftEv d (.esBegin tag bi) = .esBegin tag { bi with pl := bi.pl.map (fun r => (d + r.1, r.2)) }
    ∧ shiftEv d (.pkt tag off) = .pkt tag (d + off)
    ∧ shiftEv d (.esStart tag) = .esStart tag ∧ shiftEv d (.esEnd tag) = .esEnd tag
    ∧ shiftEv d (.esCcErr tag) = .esCcErr tag
    ∧ placeAt pks rel = List.zipWith (fun pk l => l.map (shiftEv pk.off)) pks rel :=
  ⟨rfl, rfl, rfl, rfl, rfl, rfl, rfl⟩

theorem esAllRel_spec (touch : Bool) (tag : Nat) (b : Bytes) (bs : List Bytes) (evs : List PesFilter.Ev)
    (evss : List (List PesFilter.Ev)) :
    esAllRel touch tag [] [] = .ok [] ∧
    esAllRel touch tag (b :: bs) (evs :: evss) =
      (esEvList touch tag b 0 evs >>= fun a =>
        esAllRel touch tag bs evss >>= fun rest => R.ok (a :: rest)) :=
  ⟨rfl, rfl⟩

theorem esAll_is_placed_rel (touch : Bool) (tag : Nat) (pks : List Pk) (evss : List (List PesFilter.Ev)) :
    esAll touch tag pks evss =
      (esAllRel touch tag (pks.map (·.bytes)) evss >>= fun rel => R.ok (placeAt pks rel)) := by
  induction pks generalizing evss with
  | nil => rfl
  | cons pk pks ih =>
    cases evss with
    | nil => rfl
    | cons evs evss =>
      simp only [esAll_cons, List.map_cons, esAllRel]
      rw [esEvList_base, ih evss]
      simp only [bind_assoc, R.ok_bind, R.pure_eq, placeAt, List.zipWith_cons_cons]

/-- INDEPENDENCE OF THE INTERLEAVING, MODULO OFFSETS.  As `projection_independent_of_interleaving`, but
the own packets only carry the same BYTES in the same order (`hown`), at possibly different stream offsets.  Then there is ONE list
`rel` of packet-relative event lists (`esAllRel`: a function of those bytes only) such that in each
run the consumer observes `rel` with the `k`-th list moved to the offset of the `k`-th own packet
of THAT run (`placeAt`); both runs leave the handler in the same state, and with arguments erased
(`esTrace`) they append the SAME callback sequence `d`. -/
theorem projection_independent_modulo_offsets (p τ : Nat) (xs ys : List Pk)
    (t1 t2 : Tab Handler) (c1 c2 : Ctx) (f : PesFilter.F) (t1' t2' : Tab Handler) (c1' c2' : Ctx)
    (hi1 : TagInv (t1, c1)) (hi2 : TagInv (t2, c2))
    (hg1 : t1.get p = some (.pes τ f)) (hg2 : t2.get p = some (.pes τ f))
    (htouch : c1.cfg.touch = c2.cfg.touch)
    (hown : (own p xs).map (·.bytes) = (own p ys).map (·.bytes))
    (hx188 : ∀ pk ∈ xs, pk.pid = p → pk.flagged = false → pk.bytes.length = 188)
    (hK1 : Keeps p τ (t1, c1) xs = true) (hK2 : Keeps p τ (t2, c2) ys = true)
    (hr1 : pushSpec App.sem (t1, c1) xs = .ok (t1', c1'))
    (hr2 : pushSpec App.sem (t2, c2) ys = .ok (t2', c2')) :
    ∃ f' evss rel,
      PesFilter.run f ((own p xs).map (·.bytes)) = .ok (f', evss) ∧
      esAllRel c1.cfg.touch τ ((own p xs).map (·.bytes)) evss = .ok rel ∧
      proj τ c1' = proj τ c1 ++ (placeAt (own p xs) rel).flatten ∧
      proj τ c2' = proj τ c2 ++ (placeAt (own p ys) rel).flatten ∧
      t1'.get p = some (.pes τ f') ∧ t2'.get p = some (.pes τ f') ∧
      ∃ d, esTrace τ c1' = esTrace τ c1 ++ d ∧ esTrace τ c2' = esTrace τ c2 ++ d := by
  have hbx : ∀ b ∈ (own p xs).map (·.bytes), b.length = 188 := by
    intro b hb
    obtain ⟨pk, hm, rfl⟩ := List.mem_map.1 hb
    obtain ⟨hm, hp, hf⟩ := mem_own.1 hm
    exact hx188 pk hm hp hf
  have hy188 : ∀ pk ∈ ys, pk.pid = p → pk.flagged = false → pk.bytes.length = 188 := by
    intro pk hm hp hf
    apply hbx
    rw [hown]
    exact List.mem_map.2 ⟨pk, mem_own.2 ⟨hm, hp, hf⟩, rfl⟩
  obtain ⟨o1, a1, a2, _, p1⟩ := pushSpec_proj p τ xs t1 c1 f t1' c1' hi1 hg1 hx188 hK1 hr1
  obtain ⟨o2, b1, b2, _, p2⟩ := pushSpec_proj p τ ys t2 c2 f t2' c2' hi2 hg2 hy188 hK2 hr2
  rw [← hown, ← htouch] at b1
  rw [← hown] at b2
  have s1 := esAll_shape _ _ _ _ _ a1
  have s2 := esAll_shape _ _ _ _ _ (by rw [← hown]; exact b1)
  rw [← hown] at s2
  rw [esAll_is_placed_rel] at a1 b1
  rw [← hown] at b1
  obtain ⟨rel, hrel, a1⟩ := R.bind_eq_ok a1
  rw [hrel] at b1
  have e1 : placeAt (own p xs) rel = o1 := R.ok_inj a1
  have e2 : placeAt (own p ys) rel = o2 := R.ok_inj b1
  have q1 : esTrace τ c1' = esTrace τ c1 ++ o1.flatten.filterMap esShape := by
    unfold esTrace; rw [p1, List.filterMap_append]
  have q2 : esTrace τ c2' = esTrace τ c2 ++ o2.flatten.filterMap esShape := by
    unfold esTrace; rw [p2, List.filterMap_append]
  rw [s1] at q1
  rw [s2] at q2
  exact ⟨_, _, rel, Ts.Lemmas.C08.run_eq f _ hbx, hrel, by rw [e1]; exact p1, by rw [e2]; exact p2,
    a2, b2, _, q1, q2⟩

/-! ## 3. corollaries -/

/-- **(a)** (C19) every event attributed to `τ` that the run appends was emitted while consuming an
unflagged packet `pk` of PID `p`, and its exposed slice lies inside that packet (`EvInPacket`) -/
theorem es_consumer_sees_only_its_pid (p τ : Nat) (pks : List Pk) (t : Tab Handler) (c : Ctx)
    (f : PesFilter.F) (t' : Tab Handler) (c' : Ctx)
    (hi : TagInv (t, c)) (hg : t.get p = some (.pes τ f))
    (h188 : ∀ pk ∈ pks, pk.pid = p → pk.flagged = false → pk.bytes.length = 188)
    (hK : Keeps p τ (t, c) pks = true)
    (hrun : pushSpec App.sem (t, c) pks = .ok (t', c')) :
    ∃ new, c'.trace = new ++ c.trace ∧
      ∀ e ∈ new, tagOf e = some τ →
        ∃ pk ∈ pks, pk.pid = p ∧ pk.flagged = false ∧ EvInPacket τ pk.off e := by
  obtain ⟨outs, new, a1, _, _, _, a5, a6⟩ := pushSpec_view p τ pks t c f t' c' hi hg h188 hK hrun
  refine ⟨new, a5, ?_⟩
  intro e he hτ
  have hmem : e ∈ outs.flatten := by
    rw [← a6, List.mem_filter]
    exact ⟨List.mem_reverse.2 he, by simpa using hτ⟩
  have hown : ∀ pk ∈ own p pks, pk ∈ pks ∧ pk.pid = p ∧ pk.flagged = false := by
    intro pk hpk
    simp only [own, List.mem_filter, Bool.and_eq_true, beq_iff_eq, Bool.not_eq_true'] at hpk
    exact ⟨hpk.1, hpk.2.1, hpk.2.2⟩
  obtain ⟨pk, hpk, hin⟩ := esAll_inPacket c.cfg.touch τ (own p pks) f outs
    (fun pk hpk => by obtain ⟨x, y, z⟩ := hown pk hpk; exact h188 pk x y z) a1 e hmem
  obtain ⟨x, y, z⟩ := hown pk hpk
  exact ⟨pk, x, y, z, hin⟩

theorem es_consumer_sees_only_its_pid' (p τ : Nat) (pks : List Pk) (t : Tab Handler) (c : Ctx)
    (f : PesFilter.F) (t' : Tab Handler) (c' : Ctx)
    (hi : TagInv (t, c)) (hg : t.get p = some (.pes τ f))
    (h188 : ∀ pk ∈ pks, pk.pid = p → pk.bytes.length = 188)
    (hQ : QuietAlong App.sem p (t, c) pks)
    (hrun : pushSpec App.sem (t, c) pks = .ok (t', c')) :
    ∃ new, c'.trace = new ++ c.trace ∧
      ∀ e ∈ new, tagOf e = some τ →
        ∃ pk ∈ pks, pk.pid = p ∧ pk.flagged = false ∧ EvInPacket τ pk.off e :=
  es_consumer_sees_only_its_pid p τ pks t c f t' c' hi hg (fun pk hm hp _ => h188 pk hm hp)
    (Ts.Lemmas.C02.keeps_of_quietAlong p τ pks t c f hg hQ) hrun

/-- **(b)** (C02) CONSERVATION through the dispatcher.  If the unflagged PID-`p` packets of the
interleaving are the packets of a well-formed `PesStream` (C02's independent encoder), consumer `τ`
observes the `esAll` image of the expected callbacks `streamEvs`, the filter ends in `streamFinal`,
and the bytes handed over per PES packet are exactly `encodePes`. -/
theorem es_consumer_conservation (p τ : Nat) (pks : List Pk) (t : Tab Handler) (c : Ctx)
    (f : PesFilter.F) (t' : Tab Handler) (c' : Ctx) (s : List (PesPkt × Plan))
    (hi : TagInv (t, c)) (hg : t.get p = some (.pes τ f))
    (hsub : (own p pks).map (·.bytes) = streamPackets s) (hs : PesStream f.cc s)
    (hK : Keeps p τ (t, c) pks = true)
    (hrun : pushSpec App.sem (t, c) pks = .ok (t', c')) :
    ∃ outs,
      esAll c.cfg.touch τ (own p pks) (streamEvs f.st (s.map (·.2))) = .ok outs ∧
      proj τ c' = proj τ c ++ outs.flatten ∧
      t'.get p = some (.pes τ (streamFinal f s)) ∧
      (∀ x ∈ s, ∀ st, delivered x.2.packets (planEvs st x.2) = encodePes x.1) ∧
      delivered (streamPackets s) (streamEvs f.st (s.map (·.2)))
        = (s.map (fun x => encodePes x.1)).flatten := by
  obtain ⟨r1, r2, r3⟩ := C02.pes_stream_conservation s f hs
  obtain ⟨q1, q2, _⟩ := Ts.Lemmas.C02.stream_runPure s f hs
  have h188 : ∀ pk ∈ pks, pk.pid = p → pk.flagged = false → pk.bytes.length = 188 := by
    intro pk hm hp hf
    apply q2
    rw [← hsub]
    exact List.mem_map.2 ⟨pk, mem_own.2 ⟨hm, hp, hf⟩, rfl⟩
  obtain ⟨outs, a1, a2, _, a4⟩ := pushSpec_proj p τ pks t c f t' c' hi hg h188 hK hrun
  rw [hsub, q1] at a1 a2
  exact ⟨outs, a1, a4, a2, r2, r3⟩

theorem es_image_cont (touch : Bool) (p : Bytes) (base tag : Nat) :
    esEvList touch tag p base (contEvs p) =
      .ok (match tpPayload p with
           | some (o, l) => [.esCont tag (base + o) l]
           | none => []) :=
  esEvList_cont touch p base tag

theorem es_image_first (touch : Bool) (pes : PesPkt) (hw : pes.WF) (pl : Plan)
    (hpl : WellFormedPlan pes pl) (base tag : Nat) (st : PesFilter.St) :
    ∃ o l, tpPayload pl.first = some (o, l) ∧
      esEvList touch tag pl.first base (firstEvs st pl.first) =
        .ok (esOpen tag st ++ [.esBegin tag (expectedBegin pes base o l)]) :=
  esEvList_plan_first touch pes hw pl hpl base tag st

/-! ### (c) nesting, for every consumer instance, over hostile input -/

/-- the protocol acceptor looks at the constructor of a callback only, so erasing the arguments
(`esShape`) loses nothing -/
theorem acceptor_ignores_arguments (s : PState) (o l o' l' : Nat) :
    protoStep s (.beginPkt o l) = protoStep s (.beginPkt o' l') ∧
    protoStep s (.cont o l) = protoStep s (.cont o' l') := by
  cases s <;> exact ⟨rfl, rfl⟩

theorem esShape_vocabulary (tag off len : Nat) (bi : BeginInfo) :
    esShape (.esStart tag) = some .start ∧ esShape (.esBegin tag bi) = some (.beginPkt 0 0)
    ∧ esShape (.esCont tag off len) = some (.cont 0 0) ∧ esShape (.esEnd tag) = some .endPkt
    ∧ esShape (.esCcErr tag) = some .ccErr ∧ esShape (.pkt tag off) = none :=
  ⟨rfl, rfl, rfl, rfl, rfl, rfl⟩

theorem esTrace_eq (τ : Nat) (c : Ctx) : esTrace τ c = (proj τ c).filterMap esShape := rfl

theorem nestInv_iff (t : Tab Handler) (c : Ctx) :
    NestInv (t, c) ↔ ∀ τ, ∃ s, accepts .notStarted (esTrace τ c) = some s ∧
      ∀ p f, t.get p = some (.pes τ f) → s = Ts.Lemmas.C08.abs f.st := Iff.rfl

theorem nestInv_step (t : Tab Handler) (c : Ctx) (pk : Pk) (t' : Tab Handler) (c' : Ctx)
    (hi : TagInv (t, c)) (hn : NestInv (t, c)) (hlen : pk.bytes.length = 188)
    (h : specStep App.sem (t, c) pk = .ok (t', c')) : NestInv (t', c') :=
  specStep_nest t c pk t' c' hi hn hlen h

theorem nestInv_pushSpec (pks : List Pk) (tc tc' : Tab Handler × Ctx) (hi : TagInv tc)
    (hn : NestInv tc) (hlen : ∀ pk ∈ pks, pk.bytes.length = 188)
    (h : pushSpec App.sem tc pks = .ok tc') : NestInv tc' :=
  (pushSpec_invariant App.sem _ _ specStep_tagNest pks tc tc' ⟨hi, hn⟩ hlen h).2

theorem nestInv_push (tc : Tab Handler × Ctx) (buf : Bytes) (base : Nat) (tc' : Tab Handler × Ctx)
    (hi : TagInv tc) (hn : NestInv tc) (h : push App.sem tc buf base = .ok tc') : NestInv tc' :=
  (push_invariant App.sem _ _ specStep_tagNest tc tc' buf base ⟨hi, hn⟩
    (fun pks hf pk hpk => (Ts.Lemmas.C19.frame_pk_props buf base pks hf pk hpk).2.2.2.2.1) h).2

/-- **(c)** (C08) For EVERY tag `τ`, after ANY sequence of pushed byte strings (hostile input too):
the elementary-stream callbacks attributed to `τ` — from the construction of the handler in state
`begin` until it is replaced — are accepted by the protocol acceptor of C08 from `notStarted`;
while the handler is installed the acceptor state is the abstraction of its filter state. -/
theorem es_consumer_well_nested (cfg : Cfg) (pushes : List Bytes) (t : Tab Handler) (c : Ctx)
    (h : runApp cfg pushes = .ok (t, c)) (τ : Nat) :
    ∃ s, accepts .notStarted (esTrace τ c) = some s ∧
      ∀ p f, t.get p = some (.pes τ f) → s = Ts.Lemmas.C08.abs f.st :=
  (pushAll_nest pushes (App.init cfg) 0 (t, c) (init_tagInv cfg) (init_nest cfg) h).2 τ

/-- the clauses of C08, through the acceptor, per consumer instance -/
theorem stream_start_at_most_once (cfg : Cfg) (pushes : List Bytes) (t : Tab Handler) (c : Ctx)
    (h : runApp cfg pushes = .ok (t, c)) (τ : Nat) :
    c.trace.countP (isStartOf τ) ≤ 1 := by
  obtain ⟨s, hs, _⟩ := es_consumer_well_nested cfg pushes t c h τ
  rw [← count_start]
  exact Ts.Spec.Protocol.start_at_most_once hs

theorem isStartOf_iff (τ : Nat) (e : Ev) : isStartOf τ e = true ↔ e = .esStart τ := by
  cases e <;> simp [isStartOf]

theorem begin_only_after_start (cfg : Cfg) (pushes : List Bytes) (t : Tab Handler) (c : Ctx)
    (h : runApp cfg pushes = .ok (t, c)) (τ : Nat) (bi : BeginInfo) (pre post : List Ev)
    (hsplit : c.trace.reverse = pre ++ .esBegin τ bi :: post) : .esStart τ ∈ pre := by
  obtain ⟨s, hs, _⟩ := es_consumer_well_nested cfg pushes t c h τ
  have he : esTrace τ c =
      (pre.filter (fun e => decide (tagOf e = some τ))).filterMap esShape
        ++ .beginPkt 0 0 :: (post.filter (fun e => decide (tagOf e = some τ))).filterMap esShape := by
    unfold esTrace proj
    rw [hsplit, List.filter_append, List.filterMap_append]
    simp [tagOf, esShape]
  rw [he] at hs
  have := Ts.Spec.Protocol.start_before_begin hs
  rw [List.mem_filterMap] at this
  obtain ⟨e, hm, hsh⟩ := this
  rw [List.mem_filter] at hm
  have htag : tagOf e = some τ := by simpa using hm.2
  cases e <;> simp [esShape] at hsh
  simp only [tagOf, Option.some.injEq] at htag
  subst htag
  exact hm.1

theorem data_and_end_only_while_open (cfg : Cfg) (pushes : List Bytes) (t : Tab Handler) (c : Ctx)
    (h : runApp cfg pushes = .ok (t, c)) (τ : Nat) (pre post : List PesFilter.Ev) (e : PesFilter.Ev)
    (hs : esTrace τ c = pre ++ e :: post) (he : (∃ o l, e = .cont o l) ∨ e = .endPkt) :
    ∃ pre' o l mid, pre = pre' ++ .beginPkt o l :: mid ∧ ∀ x ∈ mid, isCont x := by
  obtain ⟨s, hacc, _⟩ := es_consumer_well_nested cfg pushes t c h τ
  rw [hs] at hacc
  exact cont_end_preceded_by_begin hacc (by simp) he

theorem closed_at_most_once (cfg : Cfg) (pushes : List Bytes) (t : Tab Handler) (c : Ctx)
    (h : runApp cfg pushes = .ok (t, c)) (τ : Nat) (pre mid post : List PesFilter.Ev)
    (cl e : PesFilter.Ev) (hs : esTrace τ c = pre ++ cl :: (mid ++ e :: post))
    (hc : cl = .endPkt ∨ cl = .ccErr) (he : (∃ o l, e = .cont o l) ∨ e = .endPkt) :
    ∃ o l, PesFilter.Ev.beginPkt o l ∈ mid := by
  obtain ⟨s, hacc, _⟩ := es_consumer_well_nested cfg pushes t c h τ
  rw [hs] at hacc
  exact Ts.Spec.Protocol.closed_at_most_once hacc hc he

/-! ## 4. non-vacuity -/

theorem ok_of_check {α : Type} (r : R α) (b : α → Bool)
    (h : (match r with | .ok a => b a | .panic _ => false) = true) : ∃ a, r = .ok a ∧ b a = true := by
  cases r with
  | ok a => exact ⟨a, rfl, h⟩
  | panic s => cases h

open Ts.Lemmas.C02 (runApp_split exState_eq run_ok exPks_len exPksRep_len exPks_pes frame_exEs
  exTab0_0 exTab0_20 exTab0_21 exTab0_22)

example : exPat.length = 188 ∧ exPmt2.length = 188 ∧ exEs.length = 5 * 188 := by decide +kernel

example : (match frame exEs 376 with | .ok pks => decide (pks = exPks) | .panic _ => false) = true := by
  rw [frame_exEs]
  exact decide_eq_true rfl

/-- END TO END, by evaluation: PAT, PMT (video on PID 0x21, audio on PID 0x22), then the two
elementary streams interleaved `A B B A A`.  Tags: 0 = PAT request, 1 = PMT request, 2 / 3 = the PES
filters of PIDs 0x21 / 0x22. -/
example : (match runApp { bypassCrc := true } [exBuf] with
    | .ok (t, c) => decide (tagsIn t = [2, 3] ∧ c.nextTag = 4
        ∧ proj 2 c = [.esStart 2, .esBegin 2 (exBi 389), .esCont 2 944 184, .esEnd 2, .esBegin 2 (exBi 1141)]
        ∧ proj 3 c = [.esStart 3, .esBegin 3 (exBi 577), .esCont 3 840 100]
        ∧ proj 0 c = [] ∧ proj 4 c = []
        ∧ esTrace 2 c = [.start, .beginPkt 0 0, .cont 0 0, .endPkt, .beginPkt 0 0]
        ∧ accepts .notStarted (esTrace 2 c) = some .open_
        ∧ accepts .notStarted (esTrace 3 c) = some .open_)
    | .panic _ => false) = true := by
  rw [exBuf, runApp_split _ (exPat ++ exPmt2) exEs (by decide +kernel), ← exState, exState_eq]
  eval_app

theorem exState_inv : TagInv (exTab0, exCtx0) ∧ NestInv (exTab0, exCtx0) :=
  ⟨tagInv_runApp _ _ _ _ exState_eq,
   (pushAll_nest _ (App.init _) 0 _ (init_tagInv _) (init_nest _) exState_eq).2⟩

example : tagsIn exTab0 = [2, 3] ∧ exTab0.get 0x21 = some (.pes 2 {}) ∧ exTab0.get 0x22 = some (.pes 3 {}) :=
  ⟨by decide +kernel, exTab0_21, exTab0_22⟩

/-- `pes_trace_is_filter_run_kept` applies: over `exPks` both PES filters are kept
(`keeps_of_es_interleaving`), the run succeeds by C01 -/
example : ∃ t' c', pushSpec App.sem (exTab0, exCtx0) exPks = .ok (t', c') ∧
    (∃ f' evss outs, PesFilter.run {} ((own 0x21 exPks).map (·.bytes)) = .ok (f', evss) ∧
      esAll false 2 (own 0x21 exPks) evss = .ok outs ∧ proj 2 c' = proj 2 exCtx0 ++ outs.flatten ∧
      t'.get 0x21 = some (.pes 2 f')) ∧
    (∃ f' evss outs, PesFilter.run {} ((own 0x22 exPks).map (·.bytes)) = .ok (f', evss) ∧
      esAll false 3 (own 0x22 exPks) evss = .ok outs ∧ proj 3 c' = proj 3 exCtx0 ++ outs.flatten ∧
      t'.get 0x22 = some (.pes 3 f')) := by
  obtain ⟨t', c', hrun⟩ := run_ok exCtx0 exPks exPks_len
  obtain ⟨f1, e1, o1, a1, a2, a3, a4, _⟩ := pes_trace_is_filter_run_kept 0x21 2 exPks exTab0 exCtx0 {} t' c'
    exState_inv.1 exTab0_21 (fun pk hm _ _ => exPks_len pk hm)
    (keeps_of_es_interleaving 0x21 2 exPks exTab0 exCtx0 {} exTab0_21 fun pk hm _ => exPks_pes pk hm) hrun
  obtain ⟨f2, e2, o2, b1, b2, b3, b4, _⟩ := pes_trace_is_filter_run_kept 0x22 3 exPks exTab0 exCtx0 {} t' c'
    exState_inv.1 exTab0_22 (fun pk hm _ _ => exPks_len pk hm)
    (keeps_of_es_interleaving 0x22 3 exPks exTab0 exCtx0 {} exTab0_22 fun pk hm _ => exPks_pes pk hm) hrun
  exact ⟨t', c', hrun, ⟨f1, e1, o1, a1, a2, a3, a4⟩, ⟨f2, e2, o2, b1, b2, b3, b4⟩⟩

open Ts.Lemmas.C02 (exPksRep exPksRep_benign exPat_rep exPmt2_rep) in
/-- `pes_trace_is_filter_run_benign` applies to `exPksRep` = `A PAT B PMT B null A A` (a REPEATED PAT,
a REPEATED PMT, a null packet on the unregistered PID 0x1fff): every packet is benign
(`exPksRep_benign`); nothing is evaluated -/
example : ∃ t' c', pushSpec App.sem (exTab0, exCtx0) exPksRep = .ok (t', c') ∧
    (∃ f' evss outs, PesFilter.run {} ((own 0x21 exPksRep).map (·.bytes)) = .ok (f', evss) ∧
      esAll false 2 (own 0x21 exPksRep) evss = .ok outs ∧ proj 2 c' = proj 2 exCtx0 ++ outs.flatten ∧
      t'.get 0x21 = some (.pes 2 f') ∧ TagInv (t', c')) ∧
    (∃ f' evss outs, PesFilter.run {} ((own 0x22 exPksRep).map (·.bytes)) = .ok (f', evss) ∧
      esAll false 3 (own 0x22 exPksRep) evss = .ok outs ∧ proj 3 c' = proj 3 exCtx0 ++ outs.flatten ∧
      t'.get 0x22 = some (.pes 3 f') ∧ TagInv (t', c')) := by
  obtain ⟨t', c', hrun⟩ := run_ok exCtx0 exPksRep exPksRep_len
  exact ⟨t', c', hrun,
    pes_trace_is_filter_run_benign (fun _ => 0) 0x21 2 exPksRep exTab0 exCtx0 {} t' c'
      exState_inv.1 exTab0_21 (fun pk hm _ _ => exPksRep_len pk hm)
      (fun pk hm _ => exPksRep_benign pk hm) hrun,
    pes_trace_is_filter_run_benign (fun _ => 0) 0x22 3 exPksRep exTab0 exCtx0 {} t' c'
      exState_inv.1 exTab0_22 (fun pk hm _ _ => exPksRep_len pk hm)
      (fun pk hm _ => exPksRep_benign pk hm) hrun⟩

open Ts.Lemmas.C02 (exPksRep exPat_rep exPmt2_rep) in
/-- `keeps_of_es_and_repeated_tables` applies to `exPksRep` without the null packet -/
example : Keeps 0x21 2 (exTab0, exCtx0) (exPksRep.filter (fun pk => pk.pid != 0x1fff)) = true := by
  refine keeps_of_es_and_repeated_tables (fun _ => 0) 0x21 2 _ exTab0 exCtx0 {} exTab0_21 ?_
  intro pk hm hne
  have hm' : pk ∈ [(⟨exA0, 376, 0x21, false, false⟩ : Pk), ⟨exPat, 564, 0, false, false⟩,
      ⟨exB0, 752, 0x22, false, false⟩, ⟨exPmt2, 940, 0x20, false, false⟩,
      ⟨exB1, 1128, 0x22, false, false⟩, ⟨exA1, 1504, 0x21, false, false⟩,
      ⟨exA2, 1692, 0x21, false, false⟩] := hm
  simp only [List.mem_cons, List.not_mem_nil, or_false] at hm'
  rcases hm' with rfl | rfl | rfl | rfl | rfl | rfl | rfl
  · exact absurd rfl hne
  · exact Or.inr ⟨rfl, exPat_rep, _, exTab0_0, ⟨rfl, rfl⟩⟩
  · exact Or.inl ⟨_, _, exTab0_22⟩
  · exact Or.inr ⟨rfl, exPmt2_rep, _, exTab0_20, ⟨rfl, rfl⟩⟩
  · exact Or.inl ⟨_, _, exTab0_22⟩
  · exact absurd rfl hne
  · exact absurd rfl hne

open Ts.Lemmas.C02 (exPksRep) in
/-- the run over `exPksRep`, evaluated: consumers 2 and 3 observe what they observe over `exPks`, the
offsets of the later packets moved by the inserted packets; the null packet goes to recorder 4 -/
example : (match pushSpec App.sem (exTab0, exCtx0) exPksRep with
    | .ok (_, c) => decide (
        proj 2 c = [.esStart 2, .esBegin 2 (exBi 389), .esCont 2 1508 184, .esEnd 2, .esBegin 2 (exBi 1705)]
        ∧ proj 3 c = [.esStart 3, .esBegin 3 (exBi 765), .esCont 3 1216 100]
        ∧ proj 4 c = [.pkt 4 1316] ∧ c.nextTag = 5)
    | .panic _ => false) = true := by
  eval_app

open Ts.Lemmas.C02 (exPksRep exPksRep_benign) in
/-- `projection_independent_modulo_offsets` applies to `exPks` and `exPksRep`: the own packets of PID
0x21 carry the same bytes at offsets 376, 940, 1128 resp. 376, 1504, 1692, so
`projection_independent_of_interleaving` does not apply -/
example : ∃ c1' c2' rel d,
    (∃ t1', pushSpec App.sem (exTab0, exCtx0) exPks = .ok (t1', c1')) ∧
    (∃ t2', pushSpec App.sem (exTab0, exCtx0) exPksRep = .ok (t2', c2')) ∧
    proj 2 c1' = proj 2 exCtx0 ++ (placeAt (own 0x21 exPks) rel).flatten ∧
    proj 2 c2' = proj 2 exCtx0 ++ (placeAt (own 0x21 exPksRep) rel).flatten ∧
    esTrace 2 c1' = esTrace 2 exCtx0 ++ d ∧ esTrace 2 c2' = esTrace 2 exCtx0 ++ d := by
  obtain ⟨t1', c1', hr1⟩ := run_ok exCtx0 exPks exPks_len
  obtain ⟨t2', c2', hr2⟩ := run_ok exCtx0 exPksRep exPksRep_len
  obtain ⟨_, _, rel, _, _, a3, a4, _, _, d, a7, a8⟩ :=
    projection_independent_modulo_offsets 0x21 2 exPks exPksRep exTab0 exTab0 exCtx0 exCtx0 {}
      t1' t2' c1' c2' exState_inv.1 exState_inv.1 exTab0_21 exTab0_21 rfl (by decide +kernel)
      (fun pk hm _ _ => exPks_len pk hm)
      (keeps_of_es_interleaving 0x21 2 exPks exTab0 exCtx0 {} exTab0_21 fun pk hm _ => exPks_pes pk hm)
      (keeps_of_benign_traffic (fun _ => 0) 0x21 2 exPksRep exTab0 exCtx0 {} exTab0_21
        fun pk hm _ => exPksRep_benign pk hm) hr1 hr2
  exact ⟨c1', c2', rel, d, ⟨t1', hr1⟩, ⟨t2', hr2⟩, a3, a4, a7, a8⟩

/-- `exPksRep` as raw bytes -/
def exBufRep : Bytes :=
  exA0 ++ exPat ++ exB0 ++ exPmt2 ++ exB1 ++ Ts.Lemmas.C02.exNull ++ exA1 ++ exA2

open Ts.Lemmas.C02 (exPksRep) in
theorem frame_exBufRep : frame exBufRep 376 = .ok exPksRep := by decide +kernel

open Ts.Lemmas.C02 (exPksRep) in
theorem push_exBufRep : ∃ t' c', push App.sem (exTab0, exCtx0) exBufRep 376 = .ok (t', c') ∧
    pushSpec App.sem (exTab0, exCtx0) exPksRep = .ok (t', c') := by
  obtain ⟨t', c', hrun⟩ := run_ok exCtx0 exPksRep exPksRep_len
  exact ⟨t', c', by rw [push_of_frame App.sem _ frame_exBufRep, hrun], hrun⟩

open Ts.Lemmas.C02 (exPksRep exPksRep_benign) in
/-- `pes_trace_is_filter_run_push_benign` applies to `exBufRep` -/
example : ∃ t' c' f' evss outs,
    push App.sem (exTab0, exCtx0) exBufRep 376 = .ok (t', c') ∧
    PesFilter.run {} ((own 0x21 exPksRep).map (·.bytes)) = .ok (f', evss) ∧
    esAll false 2 (own 0x21 exPksRep) evss = .ok outs ∧ proj 2 c' = proj 2 exCtx0 ++ outs.flatten ∧
    t'.get 0x21 = some (.pes 2 f') := by
  obtain ⟨t', c', hrun, _⟩ := push_exBufRep
  obtain ⟨f', evss, outs, a1, a2, a3, a4, _⟩ := pes_trace_is_filter_run_push_benign (fun _ => 0) 0x21 2
    exBufRep 376 _ exTab0 exCtx0 {} t' c' exState_inv.1 exTab0_21 frame_exBufRep
    (fun pk hm _ => exPksRep_benign pk hm) hrun
  exact ⟨t', c', f', evss, outs, hrun, a1, a2, a3, a4⟩

/-- the two PES packets the PID-0x21 packets `exA0 exA1 | exA2` carry, with their plans -/
def exStreamA : List (PesPkt × Plan) :=
  [({ sid := 0xE0, len := 0, payload := List.replicate 175 0x11 ++ List.replicate 184 0x12 },
      { first := exA0, conts := [exA1] }),
   ({ sid := 0xE0, len := 0, payload := List.replicate 175 0x13 }, { first := exA2, conts := [] })]

theorem exStreamA_wf : PesStream none exStreamA ∧ streamFinal {} exStreamA = ⟨some 2, .started⟩ := by
  decide +kernel

open Ts.Lemmas.C02 (exPksRep) in
theorem exPksRep_own : (own 0x21 exPksRep).map (·.bytes) = streamPackets exStreamA := by decide +kernel

open Ts.Lemmas.C02 (exPksRep exPksRep_benign) in
/-- `es_consumer_conservation` applies: the PID-0x21 packets of `exPksRep` are the packets of
`exStreamA`; `Keeps` comes from the input-level theorem -/
example : ∃ t' c' outs, pushSpec App.sem (exTab0, exCtx0) exPksRep = .ok (t', c') ∧
    esAll false 2 (own 0x21 exPksRep) (streamEvs .begin (exStreamA.map (·.2))) = .ok outs ∧
    proj 2 c' = proj 2 exCtx0 ++ outs.flatten ∧
    t'.get 0x21 = some (.pes 2 ⟨some 2, .started⟩) ∧
    delivered (streamPackets exStreamA) (streamEvs .begin (exStreamA.map (·.2)))
      = (exStreamA.map (fun x => encodePes x.1)).flatten := by
  obtain ⟨t', c', hrun⟩ := run_ok exCtx0 exPksRep exPksRep_len
  obtain ⟨outs, a1, a2, a3, _, a5⟩ := es_consumer_conservation 0x21 2 exPksRep exTab0 exCtx0 {} t' c'
    exStreamA exState_inv.1 exTab0_21 exPksRep_own exStreamA_wf.1
    (keeps_of_benign_traffic (fun _ => 0) 0x21 2 exPksRep exTab0 exCtx0 {} exTab0_21
      (fun pk hm _ => exPksRep_benign pk hm)) hrun
  rw [exStreamA_wf.2] at a3
  exact ⟨t', c', outs, hrun, a1, a2, a3, a5⟩

/-- the run over `exPks`, evaluated: the two views, and `PesFilter.run` on each PID's own packets -/
example : (match pushSpec App.sem (exTab0, exCtx0) exPks with
    | .ok (_, c) => decide (
        proj 2 c = [.esStart 2, .esBegin 2 (exBi 389), .esCont 2 944 184, .esEnd 2, .esBegin 2 (exBi 1141)]
        ∧ proj 3 c = [.esStart 3, .esBegin 3 (exBi 577), .esCont 3 840 100])
    | .panic _ => false) = true := by decide +kernel
open Ts.Lemmas.C08 in
example : PesFilter.run {} ((own 0x21 exPks).map (·.bytes)) =
      .ok (⟨some 2, .started⟩, [[.start, .beginPkt 4 184], [.cont 4 184], [.endPkt, .beginPkt 4 184]])
    ∧ PesFilter.run {} ((own 0x22 exPks).map (·.bytes)) =
      .ok (⟨some 8, .started⟩, [[.start, .beginPkt 4 184], [.cont 88 100]]) := by decide +kernel

/-- consumer 2 observes the same events whether the PID-0x22 packets are interleaved or absent -/
example : (match pushSpec App.sem (exTab0, exCtx0) exPks,
      pushSpec App.sem (exTab0, exCtx0) (exPks.filter (fun pk => pk.pid == 0x21)) with
    | .ok (_, c1), .ok (_, c2) => decide (proj 2 c1 = proj 2 c2 ∧ proj 3 c2 = [] ∧ proj 3 c1 ≠ [])
    | _, _ => false) = true := by decide +kernel

/-- a run after which slot `p` does not hold consumer `τ` did not keep it: had it, the slot would
(`pes_trace_is_filter_run_kept`) -/
theorem not_keeps_of_end (p τ : Nat) (pks : List Pk) (t : Tab Handler) (c : Ctx) (f : PesFilter.F)
    (hi : TagInv (t, c)) (hg : t.get p = some (.pes τ f))
    (h188 : ∀ pk ∈ pks, pk.pid = p → pk.flagged = false → pk.bytes.length = 188)
    (hn : (match pushSpec App.sem (t, c) pks with
      | .ok tc => holdsPes tc.1 p τ | .panic _ => true) = false) :
    Keeps p τ (t, c) pks = false := by
  cases hrun : pushSpec App.sem (t, c) pks with
  | panic s => rw [hrun] at hn; cases hn
  | ok tc =>
    rw [hrun] at hn
    cases hK : Keeps p τ (t, c) pks with
    | false => rfl
    | true =>
      obtain ⟨f', _, _, _, _, _, hg', _⟩ :=
        pes_trace_is_filter_run_kept p τ pks t c f tc.1 tc.2 hi hg h188 hK hrun
      have hn : holdsPes tc.1 p τ = false := hn
      rw [(holdsPes_iff _ _ _).2 ⟨f', hg'⟩] at hn
      cases hn

/-- REPLACEMENT, by evaluation: a second PMT version re-announces both streams, so both PES filters
are replaced by fresh instances (tags 4 and 5); the next packet of PID 0x21 is attributed to tag 4,
starting with ITS OWN `start_stream`; nothing is added to what consumer 2 observed; `Keeps` fails -/
example : (match pushSpec App.sem (exTab0, exCtx0) exPks,
      pushSpec App.sem (exTab0, exCtx0) (exPks ++ [⟨exPmt2v1, 1316, 0x20, false, false⟩, ⟨exA3, 1504, 0x21, false, false⟩]) with
    | .ok (_, c), .ok (t', c') => decide (tagsIn t' = [4, 5] ∧ c'.nextTag = 6
        ∧ proj 2 c' = proj 2 c ∧ proj 3 c' = proj 3 c
        ∧ proj 4 c' = [.esStart 4, .esBegin 4 (exBi (1316 + 188 + 13))]
        ∧ proj 5 c' = []
        ∧ Keeps 0x21 2 (exTab0, exCtx0)
            (exPks ++ [⟨exPmt2v1, 1316, 0x20, false, false⟩, ⟨exA3, 1504, 0x21, false, false⟩]) = false)
    | _, _ => false) = true := by
  have hK := not_keeps_of_end 0x21 2
    (exPks ++ [⟨exPmt2v1, 1316, 0x20, false, false⟩, ⟨exA3, 1504, 0x21, false, false⟩])
    exTab0 exCtx0 {} exState_inv.1 exTab0_21 (by decide +kernel) (by eval_app)
  rw [hK]
  eval_app

/-- `tag_never_reissued` applies once tag 2 has left the table -/
example : ∃ t c, pushSpec App.sem (exTab0, exCtx0) [⟨exPmt2v1, 1316, 0x20, false, false⟩] = .ok (t, c)
    ∧ 2 ∉ tagsIn t ∧ ∀ pks t' c', pushSpec App.sem (t, c) pks = .ok (t', c') →
        2 ∉ tagsIn t' ∧ proj 2 c' = proj 2 c := by
  obtain ⟨t, c, h⟩ := run_ok exCtx0 [⟨exPmt2v1, 1316, 0x20, false, false⟩] (by decide +kernel)
  have h2 : (match pushSpec App.sem (exTab0, exCtx0) [⟨exPmt2v1, 1316, 0x20, false, false⟩] with
      | .ok tc => decide (2 ∉ tagsIn tc.1) | .panic _ => false) = true := by eval_app
  rw [h] at h2
  have h2 : 2 ∉ tagsIn t := of_decide_eq_true h2
  obtain ⟨hi, _, h1, _⟩ := tagInv_pushSpec _ _ _ exState_inv.1 h
  have h1 : 4 ≤ c.nextTag := h1
  exact ⟨t, c, h, h2, fun pks t' c' hrun => tag_never_reissued 2 pks t c t' c' hi (by omega) h2 hrun⟩

/-- hostile input on PID 0x21: a continuity jump, a valid PES start, a unit start on garbage, a stray
continuation; the per-consumer trace is still a legal protocol run (`nestInv_pushSpec`) -/
example : (match frame (exEs ++ exHostile) 376 with
    | .ok pks =>
      (match pushSpec App.sem (exTab0, exCtx0) pks with
       | .ok (_, c) => decide (esTrace 2 c =
            [.start, .beginPkt 0 0, .cont 0 0, .endPkt, .beginPkt 0 0, .ccErr, .beginPkt 0 0, .endPkt]
          ∧ accepts .notStarted (esTrace 2 c) = some .idle)
       | .panic _ => false)
    | .panic _ => false) = true := by
  eval_app

/-! ## 5. the delivered bytes, read from the PUSHED BUFFER -/

open Ts.Lemmas.C02 (sliceOf groupsFrom payloadGroups InBuf inBuf_of_frame)

/-- the packet-relative ranges of the callbacks (C08 / C12) and the global ranges of the application
events (`pk.off + o`) denote bytes of the buffer the caller passed in (`base` = bytes pushed before) -/
theorem frame_range_is_buffer_window (buf : Bytes) (base : Nat) (pks : List Pk)
    (hf : frame buf base = .ok pks) (pk : Pk) (hm : pk ∈ pks) (o l : Nat) (hol : o + l ≤ 188) :
    Packet.rangeBytes pk.bytes (o, l) = (buf.drop (pk.off - base + o)).take l := by
  have h := (Ts.Lemmas.C19.frame_pk_props buf base pks hf pk hm).2.2.2.1
  rw [h]
  exact Ts.Lemmas.C02.rangeBytes_window buf _ o l hol

theorem inBuf_iff (buf : Bytes) (base : Nat) (pk : Pk) :
    InBuf buf base pk ↔ base ≤ pk.off ∧ pk.bytes = (buf.drop (pk.off - base)).take 188 := Iff.rfl

theorem sliceOf_vocabulary (buf : Bytes) (base tag off len : Nat) (bi : BeginInfo) :
    sliceOf buf base (.esCont tag off len) = (buf.drop (off - base)).take len
    ∧ (bi.pl = some (off, len) → sliceOf buf base (.esBegin tag bi) = (buf.drop (off - base)).take len)
    ∧ (bi.pl = none → sliceOf buf base (.esBegin tag bi) = [])
    ∧ sliceOf buf base (.esStart tag) = [] ∧ sliceOf buf base (.esEnd tag) = []
    ∧ sliceOf buf base (.esCcErr tag) = [] ∧ sliceOf buf base (.pkt tag off) = [] := by
  refine ⟨rfl, ?_, ?_, rfl, rfl, rfl, rfl⟩
  · intro h; simp only [sliceOf, h]
  · intro h; simp only [sliceOf, h]

/-- `groupsFrom … cur es` scans one consumer's events with `cur` = the group being collected:
`esBegin` closes `cur` and opens a group with its exposed payload, `esCont` appends its slice (dropped
when none is open), `esEnd` / `esCcErr` close it, everything else is skipped -/
theorem payloadGroups_spec (buf : Bytes) (base tag off len : Nat) (bi : BeginInfo) (cur : Option Bytes)
    (b : Bytes) (es : List Ev) :
    payloadGroups buf base es = groupsFrom buf base none es
    ∧ groupsFrom buf base cur [] = cur.toList
    ∧ groupsFrom buf base cur (.esBegin tag bi :: es)
        = cur.toList ++ groupsFrom buf base (some (sliceOf buf base (.esBegin tag bi))) es
    ∧ groupsFrom buf base (some b) (.esCont tag off len :: es)
        = groupsFrom buf base (some (b ++ sliceOf buf base (.esCont tag off len))) es
    ∧ groupsFrom buf base none (.esCont tag off len :: es) = groupsFrom buf base none es
    ∧ groupsFrom buf base cur (.esEnd tag :: es) = cur.toList ++ groupsFrom buf base none es
    ∧ groupsFrom buf base cur (.esCcErr tag :: es) = cur.toList ++ groupsFrom buf base none es
    ∧ groupsFrom buf base cur (.esStart tag :: es) = groupsFrom buf base cur es :=
  ⟨rfl, rfl, rfl, rfl, rfl, rfl, rfl, rfl⟩

/-- **BYTE-LEVEL CONSERVATION against the buffer**, dispatcher level.  Hypotheses of
`es_consumer_conservation`, plus `hin`: the own packets sit in `buf` (pushed after `base` bytes) at
their recorded offsets.  Then the bytes OF `buf` at the ranges consumer `τ`'s new events report,
grouped per PES packet (`payloadGroups`: from each `esBegin` up to the next `esBegin` / `esEnd`),
are exactly the payloads of the PES packets of `s`, one group per packet, in order. -/
theorem es_payload_bytes_from_buffer (p τ : Nat) (buf : Bytes) (base : Nat) (pks : List Pk)
    (t : Tab Handler) (c : Ctx) (f : PesFilter.F) (t' : Tab Handler) (c' : Ctx) (s : List (PesPkt × Plan))
    (hi : TagInv (t, c)) (hg : t.get p = some (.pes τ f))
    (hin : ∀ pk ∈ own p pks, InBuf buf base pk)
    (hsub : (own p pks).map (·.bytes) = streamPackets s) (hs : PesStream f.cc s)
    (hK : Keeps p τ (t, c) pks = true)
    (hrun : pushSpec App.sem (t, c) pks = .ok (t', c')) :
    ∃ outs,
      esAll c.cfg.touch τ (own p pks) (streamEvs f.st (s.map (·.2))) = .ok outs ∧
      proj τ c' = proj τ c ++ outs.flatten ∧
      payloadGroups buf base outs.flatten = s.map (·.1.payload) ∧
      (∀ (k : Nat) (x : PesPkt × Plan), s[k]? = some x → (payloadGroups buf base outs.flatten)[k]? = some x.1.payload) ∧
      (outs.flatten.map (sliceOf buf base)).flatten = (s.map (·.1.payload)).flatten ∧
      t'.get p = some (.pes τ (streamFinal f s)) := by
  obtain ⟨outs, a1, a2, a3, _, _⟩ := es_consumer_conservation p τ pks t c f t' c' s hi hg hsub hs hK hrun
  obtain ⟨g1, g2⟩ := Ts.Lemmas.C02.stream_groups buf base c.cfg.touch τ s f.st f.cc (own p pks) outs
    hs hsub hin a1
  have g : payloadGroups buf base outs.flatten = s.map (·.1.payload) := by
    have := g1 none
    simpa [payloadGroups] using this
  refine ⟨outs, a1, a2, g, ?_, g2, a3⟩
  intro k x hx
  rw [g, List.getElem?_map, hx]
  rfl

/-- **`Demultiplex::push` on raw bytes.**  The bytes consumer `τ` receives between one `begin_packet`
and the next `begin_packet` / `end_packet` — read FROM THE BUFFER THE CALLER PASSED, at the global
ranges the events report — are exactly the payload of the PES packet that was multiplexed. -/
theorem es_payload_bytes_from_pushed_buffer (p τ : Nat) (buf : Bytes) (base : Nat) (pks : List Pk)
    (t : Tab Handler) (c : Ctx) (f : PesFilter.F) (t' : Tab Handler) (c' : Ctx) (s : List (PesPkt × Plan))
    (hi : TagInv (t, c)) (hg : t.get p = some (.pes τ f))
    (hf : frame buf base = .ok pks)
    (hsub : (own p pks).map (·.bytes) = streamPackets s) (hs : PesStream f.cc s)
    (hK : Keeps p τ (t, c) pks = true)
    (hrun : push App.sem (t, c) buf base = .ok (t', c')) :
    ∃ outs,
      esAll c.cfg.touch τ (own p pks) (streamEvs f.st (s.map (·.2))) = .ok outs ∧
      proj τ c' = proj τ c ++ outs.flatten ∧
      payloadGroups buf base outs.flatten = s.map (·.1.payload) ∧
      (∀ (k : Nat) (x : PesPkt × Plan), s[k]? = some x → (payloadGroups buf base outs.flatten)[k]? = some x.1.payload) ∧
      (outs.flatten.map (sliceOf buf base)).flatten = (s.map (·.1.payload)).flatten ∧
      t'.get p = some (.pes τ (streamFinal f s)) := by
  rw [push_of_frame App.sem _ hf] at hrun
  refine es_payload_bytes_from_buffer p τ buf base pks t c f t' c' s hi hg ?_ hsub hs hK hrun
  intro pk hm
  exact inBuf_of_frame buf base pks hf pk (mem_own.1 hm).1

theorem es_payload_bytes_from_pushed_buffer_benign (ver : Nat → Nat) (p τ : Nat) (buf : Bytes)
    (base : Nat) (pks : List Pk) (t : Tab Handler) (c : Ctx) (f : PesFilter.F) (t' : Tab Handler)
    (c' : Ctx) (s : List (PesPkt × Plan))
    (hi : TagInv (t, c)) (hg : t.get p = some (.pes τ f))
    (hf : frame buf base = .ok pks)
    (hsub : (own p pks).map (·.bytes) = streamPackets s) (hs : PesStream f.cc s)
    (hB : ∀ pk ∈ pks, pk.pid ≠ p → Benign ver c.cfg.script t pk)
    (hrun : push App.sem (t, c) buf base = .ok (t', c')) :
    ∃ outs,
      esAll c.cfg.touch τ (own p pks) (streamEvs f.st (s.map (·.2))) = .ok outs ∧
      proj τ c' = proj τ c ++ outs.flatten ∧
      payloadGroups buf base outs.flatten = s.map (·.1.payload) ∧
      (∀ (k : Nat) (x : PesPkt × Plan), s[k]? = some x → (payloadGroups buf base outs.flatten)[k]? = some x.1.payload) ∧
      (outs.flatten.map (sliceOf buf base)).flatten = (s.map (·.1.payload)).flatten ∧
      t'.get p = some (.pes τ (streamFinal f s)) :=
  es_payload_bytes_from_pushed_buffer p τ buf base pks t c f t' c' s hi hg hf hsub hs
    (keeps_of_benign_traffic ver p τ pks t c f hg hB) hrun

/-! ## 6. END TO END from the initial state -/

/-- `exPat` with a VALID CRC (`a2 c3 29 41`): accepted by the release build (`bypassCrc = false`) too -/
def e2ePat : Bytes := pad [0x47, 0x40, 0x00, 0x10, 0x00,
  0x00, 0xB0, 0x0D, 0x00, 0x01, 0xC1, 0x00, 0x00, 0x00, 0x01, 0xE0, 0x20, 0xA2, 0xC3, 0x29, 0x41]

/-- `exPmt2` with a valid CRC (`fa 81 67 0f`) -/
def e2ePmt : Bytes := pad [0x47, 0x40, 0x20, 0x10, 0x00,
  0x02, 0xB0, 0x17, 0x00, 0x01, 0xC1, 0x00, 0x00, 0xE0, 0x21, 0xF0, 0x00,
  0x1B, 0xE0, 0x21, 0xF0, 0x00, 0x0F, 0xE0, 0x22, 0xF0, 0x00, 0xFA, 0x81, 0x67, 0x0F]

def e2eCtx (cfg : Cfg) : Ctx := { exCtx0 with cfg := cfg }

theorem e2e_len : (e2ePat ++ e2ePmt).length = 376 := by decide +kernel

example : e2ePat.length = 188 ∧ e2ePmt.length = 188 ∧ (e2ePat ++ e2ePmt).length = 376 :=
  ⟨by decide +kernel, by decide +kernel, e2e_len⟩

example : Psi.crcPass false ((e2ePat.drop 5).take 16) = .ok true
    ∧ Psi.crcPass false ((e2ePmt.drop 5).take 26) = .ok true := by eval_app

/-- from `Demultiplex::new`, pushing the PAT and PMT packets leaves `exTab0` and `e2eCtx cfg`, whatever
the build and the `touch` setting; `hscript`: the harness script is empty (the default) -/
theorem e2e_setup (cfg : Cfg) (hscript : cfg.script = []) :
    runApp cfg [e2ePat ++ e2ePmt] = .ok (exTab0, e2eCtx cfg) := by
  obtain ⟨b, tch, scr⟩ := cfg
  simp only at hscript
  subst hscript
  cases b <;> cases tch <;> eval_app

/-- `Benign` after the set-up prefix, written out: the OTHER elementary stream (PID 0x22); flagged
packets or repetitions of the tables in force on PIDs 0 / 0x20; any PID not in the table (null
packets …: the application gives them a recorder, which queues nothing under the empty script) -/
theorem benign_after_setup (pk : Pk)
    (h : pk.pid = 0x22
      ∨ ((pk.pid = 0 ∨ pk.pid = 0x20) ∧ (pk.flagged = true ∨ RepPacket 0 pk.bytes))
      ∨ (pk.pid ≠ 0 ∧ pk.pid ≠ 0x20 ∧ pk.pid ≠ 0x21 ∧ pk.pid ≠ 0x22)) :
    Benign (fun _ => 0) [] exTab0 pk :=
  Ts.Lemmas.C02.benign_exTab0 pk h

/-- **END TO END, from `Demultiplex::new`.**  ANY configuration with the default (empty) harness
script.  ONE call of `push` with `e2ePat ++ e2ePmt ++ body`: a PAT listing program 1 on PMT PID 0x20,
a PMT listing video on PID 0x21 and audio on PID 0x22, then ANY `body` whose framed packets `pks` are
* `hsub`, `hs`: on PID 0x21, unflagged: in order the transport packets of a well-formed `PesStream` `s`
  (C02's independent encoder: any PES packets, header shapes, splits, stuffing, payload-less packets),
* `hB`: otherwise `Benign` (`benign_after_setup`), in ANY interleaving.
No hypothesis on any internal state.  Then the run succeeds, and consumer 2 (the tag the PMT's
request for PID 0x21 got, as the trace records) observes over the WHOLE run exactly the `esAll` image
of the encoder's expected callbacks; the bytes of the pushed buffer at the ranges it is handed,
grouped per PES packet, are exactly the multiplexed payloads; its filter ends in `streamFinal`. -/
theorem es_conservation_end_to_end (cfg : Cfg) (hscript : cfg.script = []) (body : Bytes)
    (pks : List Pk) (s : List (PesPkt × Plan))
    (hf : frame body 376 = .ok pks)
    (hsub : (own 0x21 pks).map (·.bytes) = streamPackets s) (hs : PesStream none s)
    (hB : ∀ pk ∈ pks, pk.pid ≠ 0x21 → Benign (fun _ => 0) [] exTab0 pk) :
    ∃ t' c' outs,
      runApp cfg [e2ePat ++ e2ePmt ++ body] = .ok (t', c') ∧
      esAll cfg.touch 2 (own 0x21 pks) (streamEvs .begin (s.map (·.2))) = .ok outs ∧
      proj 2 c' = outs.flatten ∧
      payloadGroups (e2ePat ++ e2ePmt ++ body) 0 (proj 2 c') = s.map (·.1.payload) ∧
      ((proj 2 c').map (sliceOf (e2ePat ++ e2ePmt ++ body) 0)).flatten
        = (s.map (·.1.payload)).flatten ∧
      t'.get 0x21 = some (.pes 2 (streamFinal {} s)) ∧
      Ev.construct (.stream 0x20 0x1B 0x21 0x21 [] []) 2 ∈ c'.trace := by
  have hlen := e2e_len
  have hsetup := e2e_setup cfg hscript
  have hi : TagInv (exTab0, e2eCtx cfg) := tagInv_runApp _ _ _ _ hsetup
  -- the whole run is the dispatcher over `pks` from the state after the set-up prefix; C01: it succeeds
  have hsplit : runApp cfg [e2ePat ++ e2ePmt ++ body] = pushSpec App.sem (exTab0, e2eCtx cfg) pks := by
    rw [runApp_split cfg _ body (by rw [hlen]), hsetup, hlen]
    exact push_of_frame App.sem _ hf
  obtain ⟨t', c', hrun⟩ := run_ok (e2eCtx cfg) pks
    fun pk hm => (Ts.Props.C07.frame_packets_wellformed body 376 pks hf pk hm).1
  have hK : Keeps 0x21 2 (exTab0, e2eCtx cfg) pks = true := by
    refine keeps_of_benign_traffic (fun _ => 0) 0x21 2 pks exTab0 (e2eCtx cfg) {} exTab0_21 ?_
    intro pk hm hne
    have : (e2eCtx cfg).cfg.script = [] := hscript
    rw [this]
    exact hB pk hm hne
  have hin : ∀ pk ∈ own 0x21 pks, InBuf (e2ePat ++ e2ePmt ++ body) 0 pk := by
    intro pk hm
    refine Ts.Lemmas.C02.inBuf_append ?_
    rw [hlen]
    exact inBuf_of_frame body 376 pks hf pk (mem_own.1 hm).1
  obtain ⟨outs, a1, a2, a3, _, a5, a6⟩ := es_payload_bytes_from_buffer 0x21 2 (e2ePat ++ e2ePmt ++ body) 0
    pks exTab0 (e2eCtx cfg) {} t' c' s hi exTab0_21 hin hsub hs hK hrun
  have hp0 : proj 2 (e2eCtx cfg) = [] := rfl
  rw [hp0, List.nil_append] at a2
  obtain ⟨_, _, _, new, htr⟩ := tagInv_pushSpec pks _ _ hi hrun
  refine ⟨t', c', outs, by rw [hsplit, hrun], a1, a2, by rw [a2]; exact a3, by rw [a2]; exact a5, a6, ?_⟩
  have htr : c'.trace = new ++ (e2eCtx cfg).trace := htr
  rw [htr]
  exact List.mem_append_right _ (by simp [e2eCtx, exCtx0])

/-- the same run cut into TWO pushes (C07: cutting at a packet boundary changes nothing) -/
theorem e2e_two_pushes (cfg : Cfg) (body : Bytes) :
    runApp cfg [e2ePat ++ e2ePmt, body] = runApp cfg [e2ePat ++ e2ePmt ++ body] := by
  have hlen := e2e_len
  unfold runApp
  have := Ts.Props.C07.chunking_irrelevant_unaligned_last App.sem (App.init cfg) [e2ePat ++ e2ePmt] body 0
    (by intro c hc; simp only [List.mem_cons, List.not_mem_nil, or_false] at hc; rw [hc, hlen])
  simp only [List.cons_append, List.nil_append, List.flatten_cons, List.flatten_nil,
    List.append_nil] at this
  rw [this, Ts.Props.C07.pushAll_single]

/-! ### non-vacuity of sections 5 and 6 -/

open Ts.Lemmas.C02 (exPksRep exPksRep_benign) in
/-- `frame_range_is_buffer_window` on the 7th packet framed out of `exBufRep` -/
example : Packet.rangeBytes exA1 (4, 184) = (exBufRep.drop (1504 - 376 + 4)).take 184 :=
  frame_range_is_buffer_window exBufRep 376 _ frame_exBufRep ⟨exA1, 1504, 0x21, false, false⟩
    (by simp [exPksRep]) 4 184 (by omega)

open Ts.Lemmas.C02 (exPksRep exPksRep_benign) in
/-- `es_payload_bytes_from_pushed_buffer_benign` applies to `exBufRep`: the buffer bytes handed to
consumer 2, grouped per PES packet, are the two payloads of `exStreamA` -/
example : ∃ (t' : Tab Handler) (c' : Ctx) (outs : List (List Ev)),
    push App.sem (exTab0, exCtx0) exBufRep 376 = .ok (t', c') ∧
    proj 2 c' = proj 2 exCtx0 ++ outs.flatten ∧
    payloadGroups exBufRep 376 outs.flatten =
      [List.replicate 175 0x11 ++ List.replicate 184 0x12, List.replicate 175 0x13] := by
  obtain ⟨t', c', hrun, _⟩ := push_exBufRep
  obtain ⟨outs, _, a2, a3, _⟩ := es_payload_bytes_from_pushed_buffer_benign (fun _ => 0) 0x21 2
    exBufRep 376 _ exTab0 exCtx0 {} t' c' exStreamA exState_inv.1 exTab0_21 frame_exBufRep exPksRep_own
    exStreamA_wf.1 (fun pk hm _ => exPksRep_benign pk hm) hrun
  exact ⟨t', c', outs, hrun, a2, a3⟩

section e2eData
open Ts.Spec.SectionMux Ts.Lemmas.C10 Ts.Lemmas.C03

def e2ePatSec : Bytes :=
  [0x00, 0xB0, 0x0D, 0x00, 0x01, 0xC1, 0x00, 0x00, 0x00, 0x01, 0xE0, 0x20, 0xA2, 0xC3, 0x29, 0x41]
def e2ePmtSec : Bytes :=
  [0x02, 0xB0, 0x17, 0x00, 0x01, 0xC1, 0x00, 0x00, 0xE0, 0x21, 0xF0, 0x00,
   0x1B, 0xE0, 0x21, 0xF0, 0x00, 0x0F, 0xE0, 0x22, 0xF0, 0x00, 0xFA, 0x81, 0x67, 0x0F]

theorem e2ePat_rep : RepPacket 0 e2ePat :=
  Ts.Lemmas.C05HRun.rep_of_section 0 _ e2ePatSec (by decide +kernel)

theorem e2ePmt_rep : RepPacket 0 e2ePmt :=
  Ts.Lemmas.C05HRun.rep_of_section 0 _ e2ePmtSec (by decide +kernel)

end e2eData

/-- `A PAT B PMT B null A A`, then three stray bytes that do not fill a packet -/
def e2eBody : Bytes :=
  exA0 ++ e2ePat ++ exB0 ++ e2ePmt ++ exB1 ++ Ts.Lemmas.C02.exNull ++ exA1 ++ exA2 ++ [0x47, 0x01, 0x02]

def e2ePks : List Pk :=
  [⟨exA0, 376, 0x21, false, false⟩, ⟨e2ePat, 564, 0, false, false⟩, ⟨exB0, 752, 0x22, false, false⟩,
   ⟨e2ePmt, 940, 0x20, false, false⟩, ⟨exB1, 1128, 0x22, false, false⟩,
   ⟨Ts.Lemmas.C02.exNull, 1316, 0x1fff, false, false⟩, ⟨exA1, 1504, 0x21, false, false⟩,
   ⟨exA2, 1692, 0x21, false, false⟩]

/-- `es_conservation_end_to_end` applies to `e2eBody` in the RELEASE build (`cfg = {}`: CRCs checked):
it yields the success of the whole run and the two payloads read from the ONE pushed buffer -/
example : ∃ t' c', runApp {} [e2ePat ++ e2ePmt ++ e2eBody] = .ok (t', c') ∧
    payloadGroups (e2ePat ++ e2ePmt ++ e2eBody) 0 (proj 2 c') =
      [List.replicate 175 0x11 ++ List.replicate 184 0x12, List.replicate 175 0x13] ∧
    t'.get 0x21 = some (.pes 2 ⟨some 2, .started⟩) := by
  have hf : frame e2eBody 376 = .ok e2ePks := by decide +kernel
  have hsub : (own 0x21 e2ePks).map (·.bytes) = streamPackets exStreamA := by decide +kernel
  have hB : ∀ pk ∈ e2ePks, pk.pid ≠ 0x21 → Benign (fun _ => 0) [] exTab0 pk := by
    intro pk hm hne
    simp only [e2ePks, List.mem_cons, List.not_mem_nil, or_false] at hm
    rcases hm with rfl | rfl | rfl | rfl | rfl | rfl | rfl | rfl
    · exact absurd rfl hne
    · exact benign_after_setup _ (Or.inr (Or.inl ⟨Or.inl rfl, Or.inr e2ePat_rep⟩))
    · exact benign_after_setup _ (Or.inl rfl)
    · exact benign_after_setup _ (Or.inr (Or.inl ⟨Or.inr rfl, Or.inr e2ePmt_rep⟩))
    · exact benign_after_setup _ (Or.inl rfl)
    · exact benign_after_setup _ (Or.inr (Or.inr ⟨by decide, by decide, by decide, by decide⟩))
    · exact absurd rfl hne
    · exact absurd rfl hne
  obtain ⟨t', c', outs, a1, _, _, a4, _, a6, _⟩ :=
    es_conservation_end_to_end {} rfl e2eBody e2ePks exStreamA hf hsub exStreamA_wf.1 hB
  rw [exStreamA_wf.2] at a6
  exact ⟨t', c', a1, a4, a6⟩

/-- the same run, evaluated; the ranges are offsets into the one pushed buffer -/
example : (match runApp {} [e2ePat ++ e2ePmt ++ e2eBody] with
    | .ok (_, c) => decide (
        proj 2 c = [.esStart 2, .esBegin 2 (exBi 389), .esCont 2 1508 184, .esEnd 2, .esBegin 2 (exBi 1705)]
        ∧ payloadGroups (e2ePat ++ e2ePmt ++ e2eBody) 0 (proj 2 c) =
            [List.replicate 175 0x11 ++ List.replicate 184 0x12, List.replicate 175 0x13])
    | .panic _ => false) = true := by
  rw [runApp_split {} _ e2eBody (by rw [e2e_len]), e2e_setup {} rfl]
  eval_app

/-! ## 7. the reading of C08's "header could not be recognised" clause, on `exSplit` -/

open Ts.Props.C02 (exSplit exPes) in
/-- **C08 reading, on a PES header SPLIT over two transport packets** (`exSplit`: the 19-byte PES
header of `exPes` cut after 12 bytes).  The first packet's payload `(176, 12)` is accepted by
`PesHeader::from_bytes`, its OPTIONAL header is rejected (`PesHeader::contents` = `Parsed(None)`;
the application reports `kind = 2`) — and the filter still delivers `start_stream`, `begin_packet`
and BOTH continuation slices.  So "could not be recognised" in C08 is read as
"`PesHeader::from_bytes` = `None`", not as "optional header rejected"; cf.
`C08.rejected_optional_header_still_delivered`. -/
theorem rejected_optional_header_still_delivered_split :
    (∀ p ∈ exSplit.packets, p.length = 188) ∧
    PesFilter.run {} exSplit.packets =
      .ok (⟨some 7, .started⟩, [[.start, .beginPkt 176 12], [.cont 6 182], [.cont 163 25]]) ∧
    Pes.headerFromBytes (Packet.rangeBytes exSplit.first (176, 12))
      = .ok (some (Packet.rangeBytes exSplit.first (176, 12))) ∧
    Pes.contents (Packet.rangeBytes exSplit.first (176, 12)) = .ok (.parsed none) ∧
    (∀ base, App.beginInfo exSplit.first base 176 12 = .ok ⟨0xE0, 0, 2, none, none⟩) ∧
    delivered exSplit.packets [[.start, .beginPkt 176 12], [.cont 6 182], [.cont 163 25]]
      = encodePes exPes := by
  refine ⟨by decide +kernel, by decide +kernel, by decide +kernel,
    C08.contents_parsed_none_of_check _ (by decide +kernel), ?_, by decide +kernel⟩
  intro base
  rw [beginInfo_base]
  have : App.beginInfo exSplit.first 0 176 12 = .ok ⟨0xE0, 0, 2, none, none⟩ := by decide +kernel
  rw [this]
  rfl

end Ts.Props.C02Trace
