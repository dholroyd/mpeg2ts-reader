import Ts.Lemmas.C19
import Ts.Lemmas.C05
/-!
# C19 helper lemmas, part 2: the state retained between packets is bounded for EVERY input

`Bounded t`: the filter table has at most 8192 slots and every PAT/PMT handler's reassembly
buffer satisfies the C03 buffer invariant and holds at most 1024 bytes.  It holds initially and is
preserved by every dispatcher step on a framed packet (188 bytes, 13-bit PID), whatever the bytes:
every PID a handler queues a change for went through `Pid::new` (`pidNew`), and freshly
constructed handlers start with an empty buffer.
-/
namespace Ts.Lemmas.C19
open Ts Ts.Demux

/-! ### the PSI reassembly buffer never exceeds 1024 bytes -/

/-- C03 buffer invariant plus the absolute size bound (also while `Complete`) -/
def PsiBnd (s : Psi.St) : Prop := C03.PsiInv .syntax s ∧ s.buf.length ≤ 1024

theorem psiBnd_init : PsiBnd {} := ⟨C03.psiInv_of_none _ _ rfl, by decide⟩

theorem bufRule_bnd (cfg : Psi.Cfg) : C03.BufRule cfg
    (fun s => C03.PsiInv (C03.kindOf cfg) s ∧ s.buf.length ≤ 1024) (fun _ => True) where
  hloc s s' hb hr h := ⟨C03.psiInv_congr _ s s' hb hr h.1, by rw [hb]; exact h.2⟩
  hreset s hb hr := ⟨C03.psiInv_of_none _ s hr, by rw [hb]; exact Nat.zero_le _⟩
  hcont s data h := by
    refine ⟨⟨(C03.bufContSpec_inv _ s data h.1).1, ?_⟩, fun _ _ => trivial⟩
    unfold C03.bufContSpec
    cases hr : s.remaining with
    | none => exact h.2
    | some n =>
      obtain ⟨h0, h1, h2⟩ := h.1 n hr
      by_cases hle : n ≤ data.length
      · simp only [hle, if_true, List.length_append, List.length_take]; omega
      · simp only [hle, if_false, List.length_append]; omega
  hstart s data off hok h := by
    refine ⟨⟨((C03.bufRule_inv cfg).hstart s data off hok h.1).1, ?_⟩, fun _ _ => trivial⟩
    have h2 := ((C03.startOk_iff cfg data).1 hok).2.2
    unfold C03.bufStartSpec
    split
    · exact h.2
    · show data.length ≤ 1024
      omega

theorem psi_consume_bnd (s s' : Psi.St) (ds : List Psi.Delivery) (p : Bytes) (hs : PsiBnd s)
    (hp : p.length = 188) (h : Psi.consume Psi.table s p = .ok (s', ds)) : PsiBnd s' := by
  rw [C03.consume_eq_spec Psi.table C03.cfgOk_table s hs.1 p hp] at h
  have e : (C03.consumeSpecPk Psi.table s p).1 = s' := congrArg Prod.fst (R.ok_inj h)
  exact e ▸ (C03.consumeSpecPk_rule (bufRule_bnd Psi.table) s p hs).1


/-- the section-reassembly state of a PAT / PMT handler -/
def psiOf : App.Handler → Option Psi.St
  | .pat s _ => some s
  | .pmt _ _ s _ => some s
  | _ => none

def HOk (h : App.Handler) : Prop := ∀ s, psiOf h = some s → PsiBnd s

/-- THE INVARIANT: at most 8192 slots; every PSI handler's buffer bounded -/
def Bounded (t : Tab App.Handler) : Prop :=
  t.length ≤ 8192 ∧ ∀ p h, t.get p = some h → HOk h

def ChgOk (ch : Change App.Handler) : Prop := ch.pid < 8192 ∧ ∀ h, ch.val = some h → HOk h

def opPid : App.ScriptOp → Nat
  | .ins p => p
  | .rem p => p

/-- recorder scripts (test-harness input, not stream data) only name 13-bit PIDs -/
def ScriptOk (cfg : App.Cfg) : Prop :=
  ∀ k ops, (k, ops) ∈ cfg.script → ∀ op ∈ ops, opPid op < 8192

theorem hok_of_none (h : App.Handler) (hn : psiOf h = none) : HOk h := by
  intro s hs; rw [hn] at hs; cases hs

theorem bounded_insert (t : Tab App.Handler) (p : Nat) (h : App.Handler) (ht : Bounded t)
    (hp : p < 8192) (hh : HOk h) : Bounded (t.insert p h) := by
  refine ⟨by rw [Tab.length_insert]; have := ht.1; omega, ?_⟩
  intro q h' hg
  rw [Tab.get_insert] at hg
  split at hg
  · injection hg with hg; subst hg; exact hh
  · exact ht.2 q h' hg

theorem bounded_remove (t : Tab App.Handler) (p : Nat) (ht : Bounded t) : Bounded (t.remove p) := by
  refine ⟨by rw [Tab.length_remove]; exact ht.1, ?_⟩
  intro q h' hg
  rw [Tab.get_remove] at hg
  split at hg
  · cases hg
  · exact ht.2 q h' hg

theorem bounded_applyChange (t : Tab App.Handler) (ch : Change App.Handler) (ht : Bounded t)
    (hc : ChgOk ch) : Bounded (applyChange t ch) := by
  cases ch with
  | insert p h => exact bounded_insert t p h ht hc.1 (hc.2 h rfl)
  | remove p => exact bounded_remove t p ht

theorem bounded_applyChanges (cs : List (Change App.Handler)) : ∀ (t : Tab App.Handler),
    Bounded t → (∀ ch ∈ cs, ChgOk ch) → Bounded (applyChanges t cs) := by
  induction cs with
  | nil => intro t ht _; exact ht
  | cons a cs ih =>
    intro t ht hc
    rw [applyChanges_cons]
    exact ih _ (bounded_applyChange t a ht (hc a List.mem_cons_self))
      (fun ch hch => hc ch (List.mem_cons_of_mem _ hch))

/-! ### the application's handlers -/

theorem handlerFor_hok (r : App.Req) (tag : Nat) : HOk (Spec.Routing.handlerFor r tag) := by
  rcases C05.handlerFor_cases r tag with e | ⟨a, b, e⟩ | e | e <;> rw [e]
  · intro s hs; cases hs; exact psiBnd_init
  · intro s hs; cases hs; exact psiBnd_init
  · exact hok_of_none _ rfl
  · exact hok_of_none _ rfl

theorem construct_hok (c : App.Ctx) (req : App.Req) : HOk (App.construct c req).1 := by
  rw [C05.construct_eq]; exact handlerFor_hok _ _

theorem construct_cfg (c : App.Ctx) (req : App.Req) : (App.construct c req).2.cfg = c.cfg := by
  rw [C05.construct_eq]

theorem construct_nextTag (c : App.Ctx) (req : App.Req) :
    (App.construct c req).2.nextTag = c.nextTag + 1 := by
  rw [C05.construct_eq]

/-- what a table processor returns (`C05.patSection_shape`, `pmtSection_shape`): the configuration
is untouched; every inserted handler is fresh, every PID went through `Pid::new` -/
theorem shape_chgOk {c c' : App.Ctx} {reg : List Nat} {chg : List (Change App.Handler)}
    (h : ∃ (reqs : List (Nat × App.Req)) (rem : List Nat),
      (∀ x ∈ reqs, x.1 < 8192) ∧ (∀ p ∈ rem, p < 8192 ∧ p ∈ reg) ∧ c' = Spec.Routing.ctxAfter c reqs ∧
      chg = (Spec.Routing.built c.nextTag reqs).map (fun x => Change.insert x.1 x.2)
        ++ rem.map Change.remove) :
    c'.cfg = c.cfg ∧ ∀ ch ∈ chg, ChgOk ch := by
  obtain ⟨reqs, rem, h1, h2, rfl, rfl⟩ := h
  refine ⟨rfl, fun ch hch => ?_⟩
  rcases List.mem_append.1 hch with hm | hm
  · obtain ⟨x, hx, rfl⟩ := List.mem_map.1 hm
    obtain ⟨r, tag, hr, e⟩ := C05.built_mem hx
    exact ⟨h1 _ hr, fun h hv => by cases hv; rw [e]; exact handlerFor_hok r tag⟩
  · obtain ⟨p, hp, rfl⟩ := List.mem_map.1 hm
    exact ⟨(h2 p hp).1, fun h hv => nomatch hv⟩

theorem runDeliveries_ok (sect : App.Ctx → List Nat → Bytes → R (App.Ctx × List Nat × List (Change App.Handler)))
    (hsect : ∀ c reg d c' reg' chg, sect c reg d = .ok (c', reg', chg) →
      c'.cfg = c.cfg ∧ ∀ ch ∈ chg, ChgOk ch)
    (ds : List Psi.Delivery) (c : App.Ctx) (reg : List Nat) (c' : App.Ctx) (reg' : List Nat)
    (chg : List (Change App.Handler)) (h : App.runDeliveries sect c reg ds = .ok (c', reg', chg)) :
    c'.cfg = c.cfg ∧ ∀ ch ∈ chg, ChgOk ch :=
  C05.runDeliveries_rel sect (fun c chg c' => c'.cfg = c.cfg ∧ ∀ ch ∈ chg, ChgOk ch)
    (fun _ => ⟨rfl, fun _ hm => nomatch hm⟩)
    (fun _ _ _ _ _ h1 h2 =>
      ⟨h2.1.trans h1.1, fun ch hch => (List.mem_append.1 hch).elim (h1.2 ch) (h2.2 ch)⟩)
    ds (fun d _ c reg c' reg' chg _ hs => hsect c reg d.bytes c' reg' chg hs) c reg c' reg' chg h

theorem mem_of_lookup {α : Type} (k : Nat) (l : List (Nat × α)) (v : α)
    (h : l.lookup k = some v) : (k, v) ∈ l := by
  obtain ⟨l₁, l₂, rfl, _⟩ := List.lookup_eq_some_iff.1 h
  simp

theorem scriptChanges_ok : ∀ (ops : List App.ScriptOp) (c : App.Ctx), (∀ op ∈ ops, opPid op < 8192) →
    (App.scriptChanges c ops).1.cfg = c.cfg ∧ ∀ ch ∈ (App.scriptChanges c ops).2, ChgOk ch := by
  intro ops
  induction ops with
  | nil => intro c _; exact ⟨rfl, by simp [App.scriptChanges]⟩
  | cons op ops ih =>
    intro c hop
    have hrest := fun o ho => hop o (List.mem_cons_of_mem _ ho)
    have h0 := hop op List.mem_cons_self
    cases op with
    | ins pid =>
      obtain ⟨a1, a2⟩ := ih ({ c with nextTag := c.nextTag + 1 }.emit (.scriptIns pid c.nextTag)) hrest
      simp only [App.scriptChanges]
      refine ⟨a1, ?_⟩
      intro ch hch
      rcases List.mem_cons.1 hch with x | x
      · subst x
        exact ⟨h0, fun h hv => by injection hv with hv; subst hv; exact hok_of_none _ rfl⟩
      · exact a2 ch x
    | rem pid =>
      obtain ⟨a1, a2⟩ := ih (c.emit (.scriptRem pid)) hrest
      simp only [App.scriptChanges]
      refine ⟨a1, ?_⟩
      intro ch hch
      rcases List.mem_cons.1 hch with x | x
      · subst x
        exact ⟨h0, fun h hv => by cases hv⟩
      · exact a2 ch x

/-- one `consume` of any application handler on a 188-byte packet: the handler stays well-formed,
the configuration is untouched, every queued change names a 13-bit PID and inserts a well-formed
handler -/
theorem app_consume_ok (h : App.Handler) (c : App.Ctx) (pk : Pk) (h' : App.Handler) (c' : App.Ctx)
    (chg : List (Change App.Handler)) (hh : HOk h) (hlen : pk.bytes.length = 188)
    (hsc : ScriptOk c.cfg) (hc : App.consume h c pk = .ok (h', c', chg)) :
    HOk h' ∧ c'.cfg = c.cfg ∧ ∀ ch ∈ chg, ChgOk ch := by
  cases h with
  | pat s reg =>
    obtain ⟨s', ds, reg', h1, h2, rfl⟩ := C05.consume_pat_ok hc
    refine ⟨fun s0 hs0 => ?_,
      runDeliveries_ok _ (fun _ _ _ _ _ _ hs => shape_chgOk (C05.patSection_shape hs)) _ _ _ _ _ _ h2⟩
    cases hs0
    exact psi_consume_bnd s _ ds pk.bytes (hh s rfl) hlen h1
  | pmt pid prog s reg =>
    obtain ⟨s', ds, reg', h1, h2, rfl⟩ := C05.consume_pmt_ok hc
    refine ⟨fun s0 hs0 => ?_,
      runDeliveries_ok _ (fun _ _ _ _ _ _ hs => shape_chgOk (C05.pmtSection_shape hs)) _ _ _ _ _ _ h2⟩
    cases hs0
    exact psi_consume_bnd s _ ds pk.bytes (hh s rfl) hlen h1
  | pes tag f =>
    obtain ⟨out, f', e1, e2, _, _, _, e6⟩ := pes_consume_events tag f c pk h' c' chg hlen hc
    subst e1 e2
    exact ⟨hok_of_none _ rfl, e6, by simp⟩
  | recorder tag =>
    have e := C05.consume_recorder_ok hc
    cases hl : c.cfg.script.lookup (pk.off / 188) with
    | none =>
      rw [hl] at e
      cases e
      exact ⟨hok_of_none _ rfl, rfl, by simp⟩
    | some ops =>
      rw [hl] at e
      obtain ⟨rfl, e2⟩ := Prod.mk.inj e
      obtain ⟨a1, a2⟩ := scriptChanges_ok ops (c.emit (.pkt tag pk.off)) (hsc _ _ (mem_of_lookup _ _ _ hl))
      rw [← e2] at a1 a2
      exact ⟨hok_of_none _ rfl, a1, a2⟩

def PkOk (pk : Pk) : Prop := pk.bytes.length = 188 ∧ pk.pid < 8192

def Inv (tc : Tab App.Handler × App.Ctx) : Prop := Bounded tc.1 ∧ ScriptOk tc.2.cfg

theorem ensure_inv (t : Tab App.Handler) (c : App.Ctx) (pid : Nat) (t1 : Tab App.Handler) (c1 : App.Ctx)
    (hi : Inv (t, c)) (hp : pid < 8192) (h : ensure App.sem t c pid = .ok (t1, c1)) : Inv (t1, c1) := by
  rcases ensure_ok_cases App.sem h with ⟨_, rfl, rfl⟩ | ⟨_, hd, hk, rfl⟩
  · exact hi
  · have hk' : R.ok (App.construct c (.byPid pid)) = R.ok (hd, c1) := hk
    rw [C05.construct_eq] at hk'
    cases hk'
    exact ⟨bounded_insert t pid _ hi.1 hp (handlerFor_hok _ _), hi.2⟩

theorem specStep_inv (tc : Tab App.Handler × App.Ctx) (pk : Pk) (tc' : Tab App.Handler × App.Ctx)
    (hi : Inv tc) (hpk : PkOk pk) (h : specStep App.sem tc pk = .ok tc') : Inv tc' := by
  obtain ⟨t, c⟩ := tc
  obtain ⟨t1, c1, hE, hcase⟩ := specStep_ok_cases App.sem h
  have hi1 := ensure_inv t c pk.pid t1 c1 hi hpk.2 hE
  rcases hcase with ⟨_, rfl⟩ | ⟨_, hd, h', c', chg, hg, hx, rfl⟩
  · exact hi1
  · obtain ⟨a1, a2, a3⟩ := app_consume_ok hd c1 pk h' c' chg (hi1.1.2 _ _ hg) hpk.1 hi1.2 hx
    exact ⟨bounded_applyChanges chg _ (bounded_insert t1 pk.pid h' hi1.1 hpk.2 a1) a3,
      show ScriptOk c'.cfg from a2 ▸ hi1.2⟩

theorem pushSpec_inv : ∀ (pks : List Pk) (tc tc' : Tab App.Handler × App.Ctx), Inv tc →
    (∀ pk ∈ pks, PkOk pk) → pushSpec App.sem tc pks = .ok tc' → Inv tc' :=
  pushSpec_invariant App.sem Inv PkOk specStep_inv

theorem frame_pkOk (buf : Bytes) (base : Nat) (pks : List Pk) (h : frame buf base = .ok pks) :
    ∀ pk ∈ pks, PkOk pk := by
  intro pk hpk
  have := frame_pk_props buf base pks h pk hpk
  exact ⟨this.2.2.2.2.1, by have := this.2.2.2.2.2.1; omega⟩

theorem push_inv (tc : Tab App.Handler × App.Ctx) (buf : Bytes) (base : Nat)
    (tc' : Tab App.Handler × App.Ctx) (hi : Inv tc) (h : push App.sem tc buf base = .ok tc') :
    Inv tc' :=
  push_invariant App.sem Inv PkOk specStep_inv tc tc' buf base hi (frame_pkOk buf base) h

theorem pushAll_inv (bufs : List Bytes) (tc : Tab App.Handler × App.Ctx) (base : Nat)
    (tc' : Tab App.Handler × App.Ctx) (hi : Inv tc) (h : pushAll App.sem tc bufs base = .ok tc') :
    Inv tc' :=
  pushAll_invariant App.sem Inv PkOk specStep_inv frame_pkOk bufs tc tc' base hi h

theorem init_inv (cfg : App.Cfg) (h : ScriptOk cfg) : Inv (App.init cfg) := by
  unfold App.init
  dsimp only
  refine ⟨bounded_insert [] 0 _ ⟨by simp, ?_⟩ (by omega) (construct_hok _ _), ?_⟩
  · intro p h' hg
    rw [Tab.get_of_ge _ _ (by simp)] at hg
    cases hg
  · show ScriptOk (App.construct { cfg := cfg } (.byPid 0)).2.cfg
    rw [construct_cfg]; exact h


/-- heap bytes owned by a table slot: the reassembly `Vec<u8>` plus two fixed 8192-bit
(`2 * 1024`-byte) `FixedBitSet`s for a PAT/PMT handler; PES and recorder handlers own none -/
def slotBytes : Option App.Handler → Nat
  | some (.pat s _) => s.buf.length + 2 * 1024
  | some (.pmt _ _ s _) => s.buf.length + 2 * 1024
  | _ => 0

/-- slots of `filters_by_pid` plus the heap bytes the handlers own; the changeset is empty
between packets -/
def retained (t : Tab App.Handler) : Nat := t.length + (t.map slotBytes).sum

theorem sum_map_le {α : Type} (f : α → Nat) (K : Nat) : ∀ (l : List α), (∀ x ∈ l, f x ≤ K) →
    (l.map f).sum ≤ l.length * K := by
  intro l
  induction l with
  | nil => intro _; simp
  | cons a l ih =>
    intro h
    have h1 := h a List.mem_cons_self
    have h2 := ih (fun x hx => h x (List.mem_cons_of_mem _ hx))
    simp only [List.map_cons, List.sum_cons, List.length_cons]
    rw [Nat.add_mul]
    omega

theorem slotBytes_le (t : Tab App.Handler) (hb : Bounded t) : ∀ o ∈ t, slotBytes o ≤ 1024 + 2 * 1024 := by
  intro o ho
  cases o with
  | none => simp [slotBytes]
  | some h =>
    obtain ⟨i, hi⟩ := List.mem_iff_getElem?.1 ho
    have hg : t.get i = some h := by rw [Tab.get_eq, hi]; rfl
    have hok := hb.2 i h hg
    cases h with
    | pat s reg => have := (hok s rfl).2; simp only [slotBytes]; omega
    | pmt a b s reg => have := (hok s rfl).2; simp only [slotBytes]; omega
    | pes _ _ => simp [slotBytes]
    | recorder _ => simp [slotBytes]

/-- the constant: 8192 slots, each owning at most 1024 + 2048 bytes -/
def RETAINED_MAX : Nat := 8192 * (1 + 1024 + 2 * 1024)

theorem retained_le (t : Tab App.Handler) (hb : Bounded t) : retained t ≤ RETAINED_MAX := by
  unfold retained RETAINED_MAX
  have h1 := sum_map_le slotBytes (1024 + 2 * 1024) t (slotBytes_le t hb)
  have h2 := hb.1
  have h3 : t.length * (1024 + 2 * 1024) ≤ 8192 * (1024 + 2 * 1024) := Nat.mul_le_mul_right _ h2
  omega

/-! ### steady state: repeated tables and PES traffic touch no heap-backed state -/

/-- `version_number` of a section-syntax section start (as read by the dedup layer) -/
def versionOf (ns : Bytes) : Nat := (byteD ns 5 >>> 1) &&& 0b0001_1111

/-- a PAT/PMT filter that has seen version `v` of its table and is not reassembling anything -/
def Quiescent (s : Psi.St) (v : Nat) : Prop := s.lastVersion = some v ∧ s.remaining = none

/-- payload of a repetition packet for table version `v`: a continuation payload, or a unit start
whose `pointer_field` bytes are followed by at least 8 bytes of a section-syntax section start
with `section_length ≤ 1021` and `version_number = v` -/
def RepeatPayload (v : Nat) (q : C03.Pl) : Prop :=
  q.us = false ∨
    (byteD q.bytes 0 + 9 ≤ q.bytes.length ∧
      C03.hdrSyn ((q.bytes.drop 1).drop (byteD q.bytes 0)) = true ∧
      C03.hdrLen ((q.bytes.drop 1).drop (byteD q.bytes 0)) ≤ 1021 ∧
      versionOf ((q.bytes.drop 1).drop (byteD q.bytes 0)) = v)

/-- a repetition packet: no payload, or a repetition payload -/
def RepeatPkt (v : Nat) (p : Bytes) : Prop := ∀ q, C03.plOf p = some q → RepeatPayload v q

theorem quiescent_spec (s : Psi.St) (v : Nat) (q : C03.Pl) (hq : Quiescent s v)
    (hr : RepeatPayload v q) :
    (C03.consumeSpec Psi.table s q.us q.bytes q.off).2 = []
      ∧ (C03.consumeSpec Psi.table s q.us q.bytes q.off).1.buf = s.buf
      ∧ (C03.consumeSpec Psi.table s q.us q.bytes q.off).1.remaining = s.remaining
      ∧ (C03.consumeSpec Psi.table s q.us q.bytes q.off).1.lastVersion = s.lastVersion := by
  obtain ⟨hlv, hrem⟩ := hq
  have hidle : ∀ d, C03.contSpec Psi.table s d = (s, []) := fun d => C03.contSpec_idle _ s d (Or.inl hrem)
  rcases hr with hus | ⟨hlen, hsyn, hl, hv⟩
  · unfold C03.consumeSpec
    simp only [hus, Bool.false_eq_true, if_false, hidle]
    exact ⟨trivial, trivial, trivial, trivial⟩
  · have hns : ((q.bytes.drop 1).drop (byteD q.bytes 0)).length = q.bytes.length - 1 - byteD q.bytes 0 := by
      simp only [List.length_drop]
    cases hus : q.us with
    | false =>
      unfold C03.consumeSpec
      simp only [Bool.false_eq_true, if_false, hidle]
      exact ⟨trivial, trivial, trivial, trivial⟩
    | true =>
      rw [C03.consumeSpec_unitStart _ _ _ _ (by omega)]
      -- the `pointer_field` bytes find nothing being buffered
      have hp : C03.preSpec Psi.table s ((q.bytes.drop 1).take (byteD q.bytes 0)) = (s, []) := by
        unfold C03.preSpec
        split
        · rfl
        · exact hidle _
      have hok : C03.startOk Psi.table ((q.bytes.drop 1).drop (byteD q.bytes 0)) = true := by
        rw [C03.startOk_iff]
        refine ⟨hsyn, ?_, hl⟩
        show 8 ≤ _
        rw [hns]; omega
      rw [hp]
      unfold C03.startSpec C03.dedupStartSpec
      have hd : Psi.table.dedup = true := rfl
      have hvv : ((byteD ((q.bytes.drop 1).drop (byteD q.bytes 0)) 5 >>> 1) &&& 0b0001_1111) = v := hv
      simp only [hok, if_true, hd, hlv, hvv, BEq.rfl, List.append_nil]
      exact ⟨trivial, trivial, trivial, trivial⟩

theorem quiescent_step (s : Psi.St) (v : Nat) (p : Bytes) (hp : p.length = 188) (hq : Quiescent s v)
    (hr : RepeatPkt v p) :
    ∃ s', Psi.consume Psi.table s p = .ok (s', []) ∧ s'.buf = s.buf ∧ s'.remaining = s.remaining
      ∧ s'.lastVersion = s.lastVersion := by
  rw [C03.consume_eq_spec Psi.table C03.cfgOk_table s (C03.psiInv_of_none _ s hq.2) p hp]
  unfold C03.consumeSpecPk
  cases hpl : C03.plOf p with
  | none => exact ⟨s, rfl, rfl, rfl, rfl⟩
  | some q =>
    obtain ⟨h1, h2, h3, h4⟩ := quiescent_spec s v q hq (hr q hpl)
    exact ⟨_, by rw [← h1], h2, h3, h4⟩

/-- what is heap-relevant / steady-state-relevant about a handler: for a PAT/PMT handler its
reassembly buffer, the `Buffering(n)` state and the dedup version; `none` for PES / recorder -/
def psiKey (h : App.Handler) : Option (Bytes × Option Nat × Option Nat) :=
  (psiOf h).map fun s => (s.buf, s.remaining, s.lastVersion)

/-- per-slot view: `none` = empty slot, `some none` = PES/recorder handler,
`some (some (buf, remaining, lastVersion))` = PAT/PMT handler -/
def slotKey (t : Tab App.Handler) (p : Nat) : Option (Option (Bytes × Option Nat × Option Nat)) :=
  (t.get p).map psiKey

/-- the PSI reassembly buffer (contents and `Buffering` state) of slot `p` -/
def psiBuf (t : Tab App.Handler) (p : Nat) : Option (Option (Bytes × Option Nat)) :=
  (slotKey t p).map (Option.map fun k => (k.1, k.2.1))

/-- the change list the handler of `pk.pid` returns for this packet (`[]` for a flagged packet) -/
def stepChg (tc : Tab App.Handler × App.Ctx) (pk : Pk) : R (List (Change App.Handler)) :=
  ensure App.sem tc.1 tc.2 pk.pid >>= fun r =>
    if pk.flagged then R.ok []
    else match r.1.get pk.pid with
      | none => R.panic "called `Option::unwrap()` on a `None` value"
      | some h => App.consume h r.2 pk >>= fun x => R.ok x.2.2

/-- no allocation-relevant operation in the step `tc --pk--> tc'`: the filter table did not grow,
no handler was constructed, no PSI reassembly buffer was written, no change was queued -/
def stepAllocFree (tc : Tab App.Handler × App.Ctx) (pk : Pk) (tc' : Tab App.Handler × App.Ctx) : Prop :=
  tc'.1.length = tc.1.length ∧ tc'.2.nextTag = tc.2.nextTag
    ∧ (∀ p, psiBuf tc'.1 p = psiBuf tc.1 p) ∧ stepChg tc pk = .ok []

/-- steady state for one packet: its PID has a handler, and if that is a PAT/PMT handler it is
quiescent and the packet is a repetition packet for its current version -/
def SteadyPk (t : Tab App.Handler) (pk : Pk) : Prop :=
  pk.bytes.length = 188 ∧ t.contains pk.pid = true ∧
  ∀ h s, t.get pk.pid = some h → psiOf h = some s → ∃ v, Quiescent s v ∧ RepeatPkt v pk.bytes

def Steady (t : Tab App.Handler) (pks : List Pk) : Prop := ∀ pk ∈ pks, SteadyPk t pk

/-- a 188-byte packet on a PID whose handler has no section filter (PES filter, recorder) is steady -/
theorem steadyPk_of_noPsi (t : Tab App.Handler) (pk : Pk) (h : App.Handler)
    (hl : pk.bytes.length = 188) (hg : t.get pk.pid = some h) (hn : psiOf h = none) : SteadyPk t pk := by
  refine ⟨hl, (Tab.contains_eq_true_iff t pk.pid).2 ⟨h, hg⟩, fun h' s hg' hs => ?_⟩
  rw [hg] at hg'
  cases hg'
  rw [hn] at hs
  cases hs

theorem steadyPk_congr (t t' : Tab App.Handler) (pk : Pk) (h : ∀ p, slotKey t' p = slotKey t p)
    (hs : SteadyPk t pk) : SteadyPk t' pk := by
  obtain ⟨h1, h2, h3⟩ := hs
  have hk := h pk.pid
  unfold slotKey at hk
  refine ⟨h1, ?_, ?_⟩
  · rw [Tab.contains_iff_get] at h2 ⊢
    cases hg : t.get pk.pid with
    | none => rw [hg] at h2; cases h2
    | some x =>
      rw [hg] at hk
      cases hg' : t'.get pk.pid with
      | none => rw [hg'] at hk; cases hk
      | some y => rfl
  · intro h' s' hg' hp'
    rw [hg'] at hk
    cases hg : t.get pk.pid with
    | none => rw [hg] at hk; cases hk
    | some x =>
      rw [hg] at hk
      simp only [Option.map_some, Option.some.injEq] at hk
      unfold psiKey at hk
      rw [hp'] at hk
      cases hpx : psiOf x with
      | none => rw [hpx] at hk; cases hk
      | some s =>
        rw [hpx] at hk
        simp only [Option.map_some, Option.some.injEq, Prod.mk.injEq] at hk
        obtain ⟨v, hq, hr⟩ := h3 x s hg hpx
        exact ⟨v, ⟨by rw [hk.2.2]; exact hq.1, by rw [hk.2.1]; exact hq.2⟩, hr⟩

theorem steady_consume (h : App.Handler) (c : App.Ctx) (pk : Pk) (h' : App.Handler) (c' : App.Ctx)
    (chg : List (Change App.Handler)) (hsc : c.cfg.script = []) (hlen : pk.bytes.length = 188)
    (hst : ∀ s, psiOf h = some s → ∃ v, Quiescent s v ∧ RepeatPkt v pk.bytes)
    (hc : App.consume h c pk = .ok (h', c', chg)) :
    chg = [] ∧ c'.nextTag = c.nextTag ∧ c'.cfg = c.cfg ∧ psiKey h' = psiKey h := by
  cases h with
  | pat s reg =>
    obtain ⟨v, hq, hr⟩ := hst s rfl
    obtain ⟨s', h1, h2, h3, h4⟩ := quiescent_step s v pk.bytes hlen hq hr
    obtain ⟨s'', ds, reg', k1, k2, rfl⟩ := C05.consume_pat_ok hc
    cases h1.symm.trans k1
    cases k2
    exact ⟨rfl, rfl, rfl, by simp only [psiKey, psiOf, Option.map_some, h2, h3, h4]⟩
  | pmt pid prog s reg =>
    obtain ⟨v, hq, hr⟩ := hst s rfl
    obtain ⟨s', h1, h2, h3, h4⟩ := quiescent_step s v pk.bytes hlen hq hr
    obtain ⟨s'', ds, reg', k1, k2, rfl⟩ := C05.consume_pmt_ok hc
    cases h1.symm.trans k1
    cases k2
    exact ⟨rfl, rfl, rfl, by simp only [psiKey, psiOf, Option.map_some, h2, h3, h4]⟩
  | pes tag f =>
    obtain ⟨out, f', e1, e2, _, _, e5, e6⟩ := pes_consume_events tag f c pk h' c' chg hlen hc
    subst e1 e2
    exact ⟨rfl, e5, e6, rfl⟩
  | recorder tag =>
    have e := C05.consume_recorder_ok hc
    rw [hsc] at e
    cases e
    exact ⟨rfl, rfl, rfl, rfl⟩

theorem slotKey_insert_same (t : Tab App.Handler) (p : Nat) (h h' : App.Handler)
    (hg : t.get p = some h) (hk : psiKey h' = psiKey h) : ∀ q, slotKey (t.insert p h') q = slotKey t q := by
  intro q
  unfold slotKey
  rw [Tab.get_insert]
  split
  · rename_i e; subst e; rw [hg]; simp [hk]
  · rfl

theorem length_insert_same (t : Tab App.Handler) (p : Nat) (h h' : App.Handler)
    (hg : t.get p = some h) : (t.insert p h').length = t.length := by
  have := Tab.lt_of_get_some t p h hg
  rw [Tab.length_insert]; omega

/-- a successful step on a PID that already has a handler: a flagged packet changes nothing; any
other goes to that handler's `consume`, and `stepChg` is what it queued -/
theorem step_of_contains (t : Tab App.Handler) (c : App.Ctx) (pk : Pk) (tc' : Tab App.Handler × App.Ctx)
    (hcont : t.contains pk.pid = true) (h : specStep App.sem (t, c) pk = .ok tc') :
    (pk.flagged = true ∧ tc' = (t, c) ∧ stepChg (t, c) pk = .ok []) ∨
    (pk.flagged = false ∧ ∃ hd h' c' chg, t.get pk.pid = some hd ∧
      App.consume hd c pk = .ok (h', c', chg) ∧ tc' = (applyChanges (t.insert pk.pid h') chg, c') ∧
      stepChg (t, c) pk = .ok chg) := by
  obtain ⟨t1, c1, hE, hcase⟩ := specStep_ok_cases App.sem h
  rw [ensure_of_contains App.sem t c pk.pid hcont] at hE
  cases hE
  unfold stepChg
  rw [ensure_of_contains App.sem t c pk.pid hcont, R.ok_bind]
  rcases hcase with ⟨hf, rfl⟩ | ⟨hf, hd, h', c', chg, hg, hx, rfl⟩
  · exact .inl ⟨hf, rfl, by simp only [hf, if_true]⟩
  · have hx' : App.consume hd c pk = .ok (h', c', chg) := hx
    exact .inr ⟨hf, hd, h', c', chg, hg, hx', rfl, by
      simp only [hf, Bool.false_eq_true, if_false, hg, hx', R.ok_bind]⟩

/-- in steady state every dispatcher step is allocation-free and keeps every slot's key (so ES
handlers stay, tables stay quiescent at the same version) -/
theorem steady_step (t : Tab App.Handler) (c : App.Ctx) (pk : Pk) (tc' : Tab App.Handler × App.Ctx)
    (hsc : c.cfg.script = []) (hst : SteadyPk t pk) (h : specStep App.sem (t, c) pk = .ok tc') :
    stepAllocFree (t, c) pk tc' ∧ (∀ p, slotKey tc'.1 p = slotKey t p) ∧ tc'.2.cfg = c.cfg := by
  obtain ⟨hlen, hcont, hq⟩ := hst
  rcases step_of_contains t c pk tc' hcont h with ⟨_, rfl, hs⟩ | ⟨_, hd, h', c', chg, hg, hx, rfl, hs⟩
  · exact ⟨⟨rfl, rfl, fun _ => rfl, hs⟩, fun _ => rfl, rfl⟩
  · obtain ⟨rfl, e2, e3, e4⟩ :=
      steady_consume hd c pk h' c' chg hsc hlen (fun s hs => hq hd s hg hs) hx
    have hk := slotKey_insert_same t pk.pid hd h' hg e4
    refine ⟨⟨length_insert_same t pk.pid hd h' hg, e2, fun p => ?_, hs⟩, hk, e3⟩
    show psiBuf (t.insert pk.pid h') p = psiBuf t p
    unfold psiBuf
    rw [hk p]

/-- every step of a run is allocation-free -/
def runAllocFree : Tab App.Handler × App.Ctx → List Pk → Prop
  | _, [] => True
  | tc, pk :: rest =>
    ∃ tc', specStep App.sem tc pk = .ok tc' ∧ stepAllocFree tc pk tc' ∧ runAllocFree tc' rest

theorem steady_run : ∀ (pks : List Pk) (t : Tab App.Handler) (c : App.Ctx)
    (tcf : Tab App.Handler × App.Ctx), c.cfg.script = [] → Steady t pks →
    pushSpec App.sem (t, c) pks = .ok tcf →
    runAllocFree (t, c) pks ∧ (∀ p, slotKey tcf.1 p = slotKey t p) ∧ tcf.1.length = t.length
      ∧ tcf.2.nextTag = c.nextTag ∧ tcf.2.cfg = c.cfg := by
  intro pks
  induction pks with
  | nil =>
    intro t c tcf _ _ h
    have := R.ok_inj h
    subst this
    exact ⟨trivial, fun _ => rfl, rfl, rfl, rfl⟩
  | cons pk pks ih =>
    intro t c tcf hsc hst h
    rw [pushSpec_cons] at h
    obtain ⟨tc1, h1, h⟩ := R.bind_eq_ok h
    obtain ⟨a1, a2, a3⟩ := steady_step t c pk tc1 hsc (hst pk List.mem_cons_self) h1
    obtain ⟨t1, c1⟩ := tc1
    have hst1 : Steady t1 pks := fun p hp =>
      steadyPk_congr t t1 p a2 (hst p (List.mem_cons_of_mem _ hp))
    obtain ⟨b1, b2, b3, b4, b5⟩ := ih t1 c1 tcf (by rw [show c1.cfg = c.cfg from a3]; exact hsc) hst1 h
    refine ⟨⟨(t1, c1), h1, a1, b1⟩, fun p => by rw [b2 p]; exact a2 p, by rw [b3]; exact a1.1,
      by rw [b4]; exact a1.2.1, by rw [b5]; exact a3⟩

/-- converse of `consumeSpec_origin` for starts: an acceptable section start all of whose
`3 + section_length` bytes are present in the unit-start payload IS delivered in place (unless the
dedup layer suppresses it as a repetition of the current version) -/
theorem consumeSpec_started_delivered (cfg : Psi.Cfg) (s : Psi.St) (pk : Bytes) (off : Nat)
    (hok : C03.startOk cfg ((pk.drop 1).drop (byteD pk 0)) = true)
    (hfit : 3 + C03.hdrLen ((pk.drop 1).drop (byteD pk 0)) ≤ ((pk.drop 1).drop (byteD pk 0)).length)
    (hdd : cfg.dedup = true → s.lastVersion ≠ some (versionOf ((pk.drop 1).drop (byteD pk 0)))) :
    (⟨((pk.drop 1).drop (byteD pk 0)).take (3 + C03.hdrLen ((pk.drop 1).drop (byteD pk 0))),
        some (off + 1 + byteD pk 0)⟩ : Psi.Delivery) ∈ (C03.consumeSpec cfg s true pk off).2 := by
  have hl : ((pk.drop 1).drop (byteD pk 0)).length = pk.length - 1 - byteD pk 0 := by
    simp only [List.length_drop]
  rw [C03.consumeSpec_unitStart cfg s pk off (by omega)]
  apply List.mem_append_right
  have hlv := (C03.preSpec_frame cfg s ((pk.drop 1).take (byteD pk 0))).1
  generalize (C03.preSpec cfg s ((pk.drop 1).take (byteD pk 0))).1 = s1 at hlv
  unfold C03.startSpec C03.dedupStartSpec C03.bufStartSpec
  have hfit' : C03.hdrLen ((pk.drop 1).drop (byteD pk 0)) + 3 ≤ ((pk.drop 1).drop (byteD pk 0)).length := by
    omega
  have hcomm : C03.hdrLen ((pk.drop 1).drop (byteD pk 0)) + 3 = 3 + C03.hdrLen ((pk.drop 1).drop (byteD pk 0)) :=
    Nat.add_comm _ _
  cases hd : cfg.dedup with
  | false =>
    simp only [hok, if_true, Bool.false_eq_true, if_false, hcomm, hfit, List.mem_singleton]
  | true =>
    have hne : (s1.lastVersion == some ((byteD ((pk.drop 1).drop (byteD pk 0)) 5 >>> 1) &&& 0b0001_1111)) = false := by
      rw [hlv]
      have := hdd hd
      unfold versionOf at this
      simpa using this
    simp only [hok, if_true, hne, Bool.false_eq_true, if_false, hcomm, hfit, List.mem_singleton]

theorem pat_quiescent_specStep (t : Tab App.Handler) (c : App.Ctx) (pk : Pk) (s : Psi.St)
    (reg : List Nat) (v : Nat) (hg : t.get pk.pid = some (.pat s reg)) (hf : pk.flagged = false)
    (hlen : pk.bytes.length = 188) (hq : Quiescent s v) (hr : RepeatPkt v pk.bytes) :
    ∃ s', specStep App.sem (t, c) pk = .ok (t.insert pk.pid (.pat s' reg), c) := by
  obtain ⟨s', h1, _⟩ := quiescent_step s v pk.bytes hlen hq hr
  have hcont : t.contains pk.pid = true := (Tab.contains_eq_true_iff t pk.pid).2 ⟨_, hg⟩
  refine ⟨s', ?_⟩
  rw [specStep_consume_of_contains App.sem t c pk _ hcont hf hg]
  show (App.consume (.pat s reg) c pk >>= _) = _
  unfold App.consume
  dsimp only
  rw [h1]
  rfl

/-! ### concrete data for the non-vacuity examples of `Ts/Props/C19.lean` -/

/-- a PAT repetition packet: unit start, PID 0, `pointer_field` 0, section-syntax PAT section of
`version_number` 0 (`c1`), program 1 → PMT PID 0x1e0, CRC, stuffing -/
def patPkt : Bytes :=
  [0x47, 0x40, 0x00, 0x10, 0x00,
   0x00, 0xb0, 0x0d, 0x00, 0x01, 0xc1, 0x00, 0x00, 0x00, 0x01, 0xe1, 0xe0, 0x2d, 0x50, 0x78, 0x04]
  ++ List.replicate 167 0xff

theorem patPkt_len : patPkt.length = 188 := by decide +kernel

theorem patPkt_plOf : C03.plOf patPkt = some ⟨true, patPkt.drop 4, 4⟩ := by decide +kernel

theorem patPkt_repeat : RepeatPkt 0 patPkt := by
  intro q hq
  rw [patPkt_plOf] at hq
  injection hq with hq
  subst hq
  refine Or.inr ⟨by decide +kernel, by decide +kernel, by decide +kernel, by decide +kernel⟩

/-- a quiescent PAT handler (version 0 seen, nothing buffered) in slot 0 -/
def steadyTab : Tab App.Handler := [some (.pat { lastVersion := some 0 } [0x1e0])]
def patPk : Pk := ⟨patPkt, 0, 0, false, false⟩

theorem steadyTab_steady : SteadyPk steadyTab patPk := by
  refine ⟨patPkt_len, rfl, ?_⟩
  intro h s hg hs
  have : h = .pat { lastVersion := some 0 } [0x1e0] := by
    have e : steadyTab.get patPk.pid = some (.pat { lastVersion := some 0 } [0x1e0]) := rfl
    rw [e] at hg; injection hg with hg; exact hg.symm
  subst this
  injection hs with hs
  subst hs
  exact ⟨0, ⟨rfl, rfl⟩, patPkt_repeat⟩

/-- a PES packet at global offset 376 on PID 0x100: unit start, PES header `00 00 01 e0 00 00`,
parsed contents `80 00 00`, stuffing -/
def pesPk : Pk :=
  ⟨C08.mkPkt 0x40 0x10 (C08.pesStart ++ [0x80, 0x00, 0x00]), 376, 0x100, false, false⟩

/-- a payload-only packet on PID 5 -/
def pid5Pkt : Bytes := [0x47, 0x00, 0x05, 0x10] ++ List.replicate 184 0

end Ts.Lemmas.C19
