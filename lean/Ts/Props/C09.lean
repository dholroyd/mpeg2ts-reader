import Ts.Lemmas.C08
import Ts.Lemmas.C09b
import Ts.Props.C02Trace
import Ts.Lemmas.AppEval
/-!
# C09 — continuity errors exactly at counter breaks; quarantine until the next PES packet

"For each elementary-stream PID a continuity error is reported for a packet if and only if its
continuity_counter is not the expected successor of the previous packet delivered on that PID
(unchanged when the packet carries no payload, plus one modulo 16 when it does); the first packet is
never an error.  After a continuity error no continuation data is delivered until a packet starts a
new PES packet."

`readBits p 28 4` is the `continuity_counter` field, `readBits p 27 1` the "payload present" bit of
`adaptation_field_control`, `readBits p 9 1` the `payload_unit_start_indicator` (ISO/IEC 13818-1
2.4.3.2; tied to the model's accessors by C12).  "packet" = any `p : Bytes` with `p.length = 188`.

READING of "carries no payload": the payload BIT of `adaptation_field_control`, not whether C12's
`Packet.payload` returned a payload (`expected_uses_afc_bit` and the example after it).

Three levels: one packet; runs of ONE filter instance (from `{}` and from ANY state, against the
independent counter rule `breaks` / `BreakAt`), with the quarantine after an error; and the
APPLICATION through the dispatcher, per consumer instance = per tag, where "the first packet" is read
PER CONSUMER INSTANCE (`first_after_replacement_never_error`).
-/
namespace Ts.Props.C09
open Ts Ts.Packet Ts.PesFilter Ts.Spec Ts.Spec.Protocol Ts.Lemmas.C08

/-- `ContinuityCounter::follows` is "plus one modulo 16" -/
theorem follows_spec : ∀ n c, n < 16 → c < 16 → (Packet.follows n c = true ↔ n = (c + 1) % 16) :=
  fun n c _ _ => follows_iff n c

example : Packet.follows 0 15 = true ∧ Packet.follows 1 15 = false ∧ Packet.follows 15 15 = false := by
  decide

/-- the expected counter of a packet, given the previous packet's counter `c` -/
abbrev expected (p : Bytes) (c : Nat) : Nat := if readBits p 27 1 = 1 then (c + 1) % 16 else c

/-- **READING: which bit `expected` looks at.**  "Carries payload" in C09's successor rule is the
low bit of `adaptation_field_control` — bit 27 of the packet = bit `0x10` of header byte 3 = the
model's `Packet.hasPayload (byte 3)`, the very test `PesPacketFilter::is_continuous` makes
(`pes.rs:88-103`: `adaptation_control().has_payload()`) — not whether `Packet::payload()` (C12
`Packet.payload`) returns `Some`.  The two differ exactly on illegal control/length combinations:
see the example below. -/
theorem expected_uses_afc_bit (p : Bytes) (c : Nat) :
    expected p c = (if Packet.hasPayload (byteD p 3) = true then (c + 1) % 16 else c)
      ∧ (Packet.hasPayload (byteD p 3) = true ↔ readBits p 27 1 = 1)
      ∧ (Packet.hasPayload (byteD p 3) = true ↔ byteD p 3 &&& 0x10 ≠ 0) := by
  have h : Packet.hasPayload (byteD p 3) = (readBits p 27 1 == 1) := hpOf_eq p
  refine ⟨?_, ?_, ?_⟩
  · unfold expected
    rw [h]
    by_cases hb : readBits p 27 1 = 1 <;> simp [hb]
  · rw [h]; exact beq_iff_eq
  · simp [Packet.hasPayload]

/-- the illegal packet `adaptation_field_control = 11`, `adaptation_field_length = 183`
(`47 00 00 31 b7 ff …`: byte 3 = `0x30 | continuity_counter`, here counter 1): 188 bytes, payload
bit SET, and C12's accessors return neither a payload nor an adaptation field -/
example : (mkPkt 0x00 0x31 [183]).length = 188 ∧ readBits (mkPkt 0x00 0x31 [183]) 26 2 = 3
    ∧ byteD (mkPkt 0x00 0x31 [183]) 4 = 183
    ∧ Packet.hasPayload (byteD (mkPkt 0x00 0x31 [183]) 3) = true
    ∧ Packet.payload (mkPkt 0x00 0x31 [183]) = .ok none
    ∧ Packet.af (mkPkt 0x00 0x31 [183]) = .ok none
    ∧ expected (mkPkt 0x00 0x31 [183]) 0 = 1 := by decide +kernel

/-- the counter of that illegal packet is expected to ADVANCE: after counter 0, counter 1 is NOT an
error (nothing is delivered: there is no payload), counter 0 IS.  Contrast the legal
adaptation-field-only packet (`adaptation_field_control = 10`, length 183): unchanged counter, no
error. -/
example :
    run {} [mkPkt 0x40 0x10 pesStart, mkPkt 0x00 0x31 [183]]
      = .ok (⟨some 1, .started⟩, [[.start, .beginPkt 4 184], []])
    ∧ run {} [mkPkt 0x40 0x10 pesStart, mkPkt 0x00 0x30 [183]]
      = .ok (⟨some 0, .ignoreRest⟩, [[.start, .beginPkt 4 184], [.ccErr]])
    ∧ run {} [mkPkt 0x40 0x10 pesStart, mkPkt 0x00 0x20 [183]]
      = .ok (⟨some 0, .started⟩, [[.start, .beginPkt 4 184], []]) := by decide +kernel

/-! ### one packet -/

/-- a continuity error is reported iff there is a previous counter and this packet's counter is not
its expected successor -/
theorem ccerr_iff (f f' : F) (p : Bytes) (evs : List Ev) (h : p.length = 188)
    (hc : consume f p = .ok (f', evs)) :
    Ev.ccErr ∈ evs ↔
      ∃ c, f.cc = some c ∧ readBits p 28 4 ≠ (if readBits p 27 1 = 1 then (c + 1) % 16 else c) := by
  obtain ⟨rfl, rfl⟩ := consume_inv h hc
  rw [show (stepOf f p).2 = (stepPure f (usOf p) (hpOf p) (ccOf p) (payOf p) (hdrOf p)).2 from rfl,
    stepPure_ccErr_mem, continuous_false_iff, hpOf_eq]
  simp only [beq_iff_eq, ccOf]

/-- the filter remembers this packet's counter (error or not) -/
theorem cc_stored (f f' : F) (p : Bytes) (evs : List Ev) (h : p.length = 188)
    (hc : consume f p = .ok (f', evs)) : f'.cc = some (readBits p 28 4) := by
  obtain ⟨rfl, rfl⟩ := consume_inv h hc
  exact stepPure_cc ..

/-- invariant established by `consume`: stored counters are 4-bit values -/
theorem cc_invariant (f f' : F) (p : Bytes) (evs : List Ev) (h : p.length = 188)
    (hc : consume f p = .ok (f', evs)) : ∀ c, f'.cc = some c → c < 16 := by
  intro c hcc
  rw [cc_stored f f' p evs h hc] at hcc
  injection hcc with hcc
  rw [← hcc]; exact readBits_lt p 28 4

theorem cc_invariant_run (f f' : F) (ps : List Bytes) (evss : List (List Ev))
    (h : ∀ p ∈ ps, p.length = 188) (hinv : ∀ c, f.cc = some c → c < 16)
    (hr : run f ps = .ok (f', evss)) : ∀ c, f'.cc = some c → c < 16 := by
  obtain ⟨rfl, -⟩ := run_inv h hr
  clear hr
  induction ps generalizing f with
  | nil => exact hinv
  | cons p ps ih =>
    have hp : p.length = 188 := h p (by simp)
    exact ih (stepOf f p).1 (fun q hq => h q (List.mem_cons_of_mem _ hq))
      (cc_invariant f _ p _ hp (consume_eq f p hp))

/-- under the invariant, the equivalence with the model's own `follows` test -/
theorem ccerr_iff_follows (f f' : F) (p : Bytes) (evs : List Ev) (h : p.length = 188)
    (hinv : ∀ c, f.cc = some c → c < 16) (hc : consume f p = .ok (f', evs)) :
    Ev.ccErr ∈ evs ↔
      ∃ c, c < 16 ∧ f.cc = some c ∧
        (if readBits p 27 1 = 1 then Packet.follows (readBits p 28 4) c = false
         else readBits p 28 4 ≠ c) := by
  rw [ccerr_iff f f' p evs h hc]
  constructor
  · rintro ⟨c, h1, h2⟩
    refine ⟨c, hinv c h1, h1, ?_⟩
    by_cases hb : readBits p 27 1 = 1
    · simp only [hb, if_true] at h2 ⊢
      cases hf : Packet.follows (readBits p 28 4) c
      · rfl
      · exact absurd ((follows_iff _ _).mp hf) h2
    · simpa only [hb, if_false] using h2
  · rintro ⟨c, _, h1, h2⟩
    refine ⟨c, h1, ?_⟩
    by_cases hb : readBits p 27 1 = 1
    · simp only [hb, if_true] at h2 ⊢
      intro he
      rw [(follows_iff _ _).mpr he] at h2; cases h2
    · simpa only [hb, if_false] using h2

/-- the error callback occurs only as the first callback of a packet -/
theorem ccerr_only_first (f f' : F) (p : Bytes) (evs : List Ev) (h : p.length = 188)
    (hc : consume f p = .ok (f', evs)) : Ev.ccErr ∉ evs.tail := by
  obtain ⟨rfl, rfl⟩ := consume_inv h hc
  exact stepPure_ccErr_not_tail _ _ _ _ _ _

theorem ccerr_at_most_once (f f' : F) (p : Bytes) (evs : List Ev) (h : p.length = 188)
    (hc : consume f p = .ok (f', evs)) : evs.count .ccErr ≤ 1 := by
  have := ccerr_only_first f f' p evs h hc
  cases evs with
  | nil => simp
  | cons e es =>
    simp only [List.tail_cons] at this
    rw [List.count_cons, List.count_eq_zero_of_not_mem this]
    split <;> omega

theorem ccerr_position (f f' : F) (p : Bytes) (evs : List Ev) (h : p.length = 188)
    (hc : consume f p = .ok (f', evs)) (pre post : List Ev) (hs : evs = pre ++ .ccErr :: post) :
    pre = [] ∧ Ev.ccErr ∉ post := by
  have := ccerr_only_first f f' p evs h hc
  subst hs
  cases pre with
  | nil => simpa using this
  | cons x xs => simp at this

/-- the first packet seen on a PID is never an error -/
theorem first_packet_never_error (f f' : F) (p : Bytes) (evs : List Ev) (h : p.length = 188)
    (hnone : f.cc = none) (hc : consume f p = .ok (f', evs)) : Ev.ccErr ∉ evs := by
  rw [ccerr_iff f f' p evs h hc, hnone]
  rintro ⟨c, hc', _⟩; cases hc'

theorem first_packet_never_error_init (f' : F) (p : Bytes) (evs : List Ev) (h : p.length = 188)
    (hc : consume {} p = .ok (f', evs)) : Ev.ccErr ∉ evs :=
  first_packet_never_error {} f' p evs h rfl hc

/-- every packet of a run has its list of callbacks (so `evss[k]?` above is never vacuous) -/
theorem run_length (f f' : F) (ps : List Bytes) (evss : List (List Ev))
    (h : ∀ p ∈ ps, p.length = 188) (hr : run f ps = .ok (f', evss)) : evss.length = ps.length := by
  obtain ⟨_, rfl⟩ := run_inv h hr
  exact runPure_length f ps

/-! ### runs from ANY state, against the counter rule written as a function of the packets -/

/-- the counter rule for ONE packet, given the counter of the previous packet delivered to the same
consumer instance (if any): `true` = the counter is NOT the expected successor (`expected`) -/
def isBreak (prev : Option Nat) (p : Bytes) : Bool :=
  match prev with
  | some c => decide (readBits p 28 4 ≠ expected p c)
  | none => false

/-- the counter rule over a packet list, starting from an optional previous counter: one Boolean
per packet.  Reads the packets only (bits 27 and 28-31); knows nothing about the filter. -/
def breaks : Option Nat → List Bytes → List Bool
  | _, [] => []
  | prev, p :: ps => isBreak prev p :: breaks (some (readBits p 28 4)) ps

/-- index form of the same rule: packet `k` exists, a previous counter exists (`prev` for `k = 0`,
else the counter of packet `k-1`), and packet `k`'s counter is not its expected successor -/
def BreakAt (prev : Option Nat) (ps : List Bytes) (k : Nat) : Prop :=
  ∃ p c, ps[k]? = some p ∧
    (match k with
     | 0 => prev
     | j + 1 => ps[j]?.map (fun q => readBits q 28 4)) = some c ∧
    readBits p 28 4 ≠ expected p c

theorem isBreak_iff (prev : Option Nat) (p : Bytes) :
    isBreak prev p = true ↔ ∃ c, prev = some c ∧ readBits p 28 4 ≠ expected p c := by
  cases prev with
  | none => simp [isBreak]
  | some c => simp [isBreak]

theorem breaks_length (prev : Option Nat) (ps : List Bytes) : (breaks prev ps).length = ps.length := by
  induction ps generalizing prev with
  | nil => rfl
  | cons p ps ih => simp [breaks, ih]

/-- the two forms of the rule agree -/
theorem breaks_getElem?_iff (prev : Option Nat) (ps : List Bytes) (k : Nat) :
    (breaks prev ps)[k]? = some true ↔ BreakAt prev ps k := by
  induction ps generalizing prev k with
  | nil => simp [breaks, BreakAt]
  | cons p ps ih =>
    cases k with
    | zero =>
      simp only [breaks, List.getElem?_cons_zero, Option.some.injEq, isBreak_iff, BreakAt]
      constructor
      · rintro ⟨c, h1, h2⟩; exact ⟨p, c, rfl, h1, h2⟩
      · rintro ⟨p', c, h0, h1, h2⟩
        subst h0; exact ⟨c, h1, h2⟩
    | succ j =>
      simp only [breaks, List.getElem?_cons_succ]
      rw [ih]
      unfold BreakAt
      cases j with
      | zero => simp
      | succ i => simp

theorem not_breakAt_none_zero (ps : List Bytes) : ¬ BreakAt none ps 0 := by
  rintro ⟨_, _, _, h, _⟩; cases h

/-- with the same vocabulary, `run_ccerr_iff`'s right-hand side is `BreakAt none` -/
theorem breakAt_none_iff (ps : List Bytes) (k : Nat) (p : Bytes) (hp : ps[k]? = some p) :
    BreakAt none ps k ↔ ∃ j q, k = j + 1 ∧ ps[j]? = some q ∧
      readBits p 28 4 ≠
        (if readBits p 27 1 = 1 then (readBits q 28 4 + 1) % 16 else readBits q 28 4) := by
  constructor
  · rintro ⟨p', c, h1, h2, h3⟩
    rw [hp] at h1; injection h1 with h1; subst h1
    cases k with
    | zero => cases h2
    | succ j =>
      simp only [Option.map_eq_some_iff] at h2
      obtain ⟨q, hq, rfl⟩ := h2
      exact ⟨j, q, rfl, hq, h3⟩
  · rintro ⟨j, q, rfl, hq, h3⟩
    exact ⟨p, readBits q 28 4, hp, by simp [hq], h3⟩

theorem consume_ccerr_count (f f' : F) (p : Bytes) (evs : List Ev) (h : p.length = 188)
    (hc : consume f p = .ok (f', evs)) :
    evs.count .ccErr = if isBreak f.cc p then 1 else 0 := by
  have h1 := ccerr_iff f f' p evs h hc
  have h2 := ccerr_at_most_once f f' p evs h hc
  by_cases hb : isBreak f.cc p = true
  · rw [if_pos hb]
    have : 0 < evs.count .ccErr := List.count_pos_iff.mpr (h1.mpr ((isBreak_iff _ _).mp hb))
    omega
  · rw [if_neg hb]
    exact List.count_eq_zero_of_not_mem (fun hm => hb ((isBreak_iff _ _).mpr (h1.mp hm)))

theorem run_ccerr_counts (f f' : F) (ps : List Bytes) (evss : List (List Ev))
    (h : ∀ p ∈ ps, p.length = 188) (hr : run f ps = .ok (f', evss)) :
    evss.map (List.count .ccErr) = (breaks f.cc ps).map (fun b => if b then 1 else 0) := by
  obtain ⟨-, rfl⟩ := run_inv h hr
  clear hr
  induction ps generalizing f with
  | nil => rfl
  | cons p ps ih =>
    have hp : p.length = 188 := h p (by simp)
    simp only [runPure, breaks, List.map_cons, List.cons.injEq]
    refine ⟨consume_ccerr_count f _ p _ hp (consume_eq f p hp), ?_⟩
    have := ih (stepOf f p).1 (fun q hq => h q (List.mem_cons_of_mem _ hq))
    rw [cc_stored f (stepOf f p).1 p _ hp (consume_eq f p hp)] at this
    exact this

theorem sum_ite_eq_count (bs : List Bool) :
    (bs.map (fun b => if b then 1 else 0)).sum = bs.count true := by
  induction bs with
  | nil => rfl
  | cons b bs ih => cases b <;> simp [ih] <;> omega

/-- **C09, run form, from ANY filter state** (generalises `run_ccerr_iff`, which is the case
`f = {}`, see `breakAt_none_iff`): packet `k` reports a continuity error iff the counter rule started
from `f.cc` has a break at `k`; and it reports it at most once -/
theorem run_ccerr_iff_from (f f' : F) (ps : List Bytes) (evss : List (List Ev))
    (h : ∀ p ∈ ps, p.length = 188) (hr : run f ps = .ok (f', evss))
    (k : Nat) (evs : List Ev) (he : evss[k]? = some evs) :
    (Ev.ccErr ∈ evs ↔ BreakAt f.cc ps k) ∧ evs.count .ccErr ≤ 1 := by
  have hc := run_ccerr_counts f f' ps evss h hr
  have hk : (evss.map (List.count .ccErr))[k]? = some (evs.count .ccErr) := by
    rw [List.getElem?_map, he]; rfl
  rw [hc, List.getElem?_map] at hk
  cases hb : (breaks f.cc ps)[k]? with
  | none => rw [hb] at hk; cases hk
  | some b =>
    rw [hb] at hk
    simp only [Option.map_some, Option.some.injEq] at hk
    rw [← breaks_getElem?_iff, hb, ← List.count_pos_iff, ← hk]
    cases b <;> simp

/-- **C09, run form.** From the freshly constructed filter, packet `k` reports a continuity error iff
`k ≥ 1` and its counter differs from the expected successor of packet `k-1`'s counter. -/
theorem run_ccerr_iff (f' : F) (ps : List Bytes) (evss : List (List Ev))
    (h : ∀ p ∈ ps, p.length = 188) (hr : run {} ps = .ok (f', evss))
    (k : Nat) (p : Bytes) (evs : List Ev) (hp : ps[k]? = some p) (he : evss[k]? = some evs) :
    Ev.ccErr ∈ evs ↔
      ∃ j q, k = j + 1 ∧ ps[j]? = some q ∧
        readBits p 28 4 ≠
          (if readBits p 27 1 = 1 then (readBits q 28 4 + 1) % 16 else readBits q 28 4) :=
  (run_ccerr_iff_from {} f' ps evss h hr k evs he).1.trans (breakAt_none_iff ps k p hp)

/-- the total number of continuity errors of a run is the number of breaks -/
theorem run_ccerr_total (f f' : F) (ps : List Bytes) (evss : List (List Ev))
    (h : ∀ p ∈ ps, p.length = 188) (hr : run f ps = .ok (f', evss)) :
    evss.flatten.count .ccErr = (breaks f.cc ps).count true := by
  rw [List.count_flatten, run_ccerr_counts f f' ps evss h hr, sum_ite_eq_count]

/-! ### quarantine -/

/-- a continuity error on a packet that does not start a PES packet leaves no packet open, and the
packet's own data is not delivered -/
theorem quarantine_step (f f' : F) (p : Bytes) (evs : List Ev) (h : p.length = 188)
    (hc : consume f p = .ok (f', evs)) (herr : Ev.ccErr ∈ evs) (hnus : readBits p 9 1 ≠ 1) :
    f'.st ≠ .started ∧ ∀ o l, Ev.cont o l ∉ evs := by
  obtain ⟨rfl, rfl⟩ := consume_inv h hc
  have hu : usOf p = false := (usOf_false_iff p).mpr hnus
  have hcont := (stepPure_ccErr_mem ..).mp herr
  constructor
  · intro hst
    rcases (stepPure_started_iff ..).mp hst with ⟨hu', _⟩ | ⟨_, _, hc'⟩
    · rw [hu] at hu'; cases hu'
    · rw [hcont] at hc'; cases hc'
  · intro o l hm
    have := ((stepPure_cont_mem ..).mp hm).2.2.2.2
    rw [hcont] at this; cases this

/-- with no packet open, packets without the unit-start flag deliver no continuation data at all and
never open a packet -/
theorem quarantine_run (f f' : F) (ps : List Bytes) (evss : List (List Ev))
    (hst : f.st ≠ .started) (h : ∀ p ∈ ps, p.length = 188) (hnus : ∀ p ∈ ps, readBits p 9 1 ≠ 1)
    (hr : run f ps = .ok (f', evss)) :
    (∀ o l, Ev.cont o l ∉ evss.flatten) ∧ f'.st ≠ .started := by
  obtain ⟨rfl, rfl⟩ := run_inv h hr
  exact runPure_quarantine f ps hst (fun p hp => (usOf_false_iff p).mpr (hnus p hp))

/-- **C09, quarantine.** After a continuity error at a packet (not itself a unit start), no
continuation data is delivered by that packet nor by any following packets as long as none of them
has the unit-start flag -/
theorem quarantine (f f' : F) (p : Bytes) (ps : List Bytes) (e1 : List Ev) (evss : List (List Ev))
    (hp : p.length = 188) (hps : ∀ q ∈ ps, q.length = 188)
    (hr : run f (p :: ps) = .ok (f', e1 :: evss))
    (herr : Ev.ccErr ∈ e1) (hnus : readBits p 9 1 ≠ 1) (hnus' : ∀ q ∈ ps, readBits q 9 1 ≠ 1) :
    (∀ o l, Ev.cont o l ∉ (e1 :: evss).flatten) ∧ f'.st ≠ .started := by
  have hall : ∀ q ∈ p :: ps, q.length = 188 := List.forall_mem_cons.mpr ⟨hp, hps⟩
  obtain ⟨rfl, he⟩ := run_inv hall hr
  simp only [runPure, List.cons.injEq] at he
  obtain ⟨rfl, rfl⟩ := he
  have ⟨h1, h2⟩ := quarantine_step f _ p _ hp (consume_eq f p hp) herr hnus
  have ⟨h3, h4⟩ := quarantine_run (stepOf f p).1 _ ps _ h1 hps hnus' (run_eq _ ps hps)
  refine ⟨?_, h4⟩
  intro o l hm
  rw [List.flatten_cons] at hm
  rcases List.mem_append.mp hm with hm | hm
  · exact h2 o l hm
  · exact h3 o l hm

/-- after such an error (`quarantine`), whatever follows, continuation data reappears only after a
`begin_packet` (which only a unit-start packet with a recognised PES header produces,
`C08.begin_iff`) -/
theorem quarantine_until_begin (f f' : F) (p : Bytes) (ps : List Bytes) (e1 : List Ev)
    (evss : List (List Ev)) (hp : p.length = 188) (hps : ∀ q ∈ ps, q.length = 188)
    (hr : run f (p :: ps) = .ok (f', e1 :: evss))
    (herr : Ev.ccErr ∈ e1) (hnus : readBits p 9 1 ≠ 1)
    (mid rest : List Ev) (hsplit : evss.flatten = mid ++ rest) (hmid : ∀ o l, Ev.beginPkt o l ∉ mid) :
    (∀ o l, Ev.cont o l ∉ e1 ++ mid) ∧ Ev.endPkt ∉ mid := by
  have hall : ∀ q ∈ p :: ps, q.length = 188 := List.forall_mem_cons.mpr ⟨hp, hps⟩
  obtain ⟨_, he⟩ := run_inv hall hr
  simp only [runPure, List.cons.injEq] at he
  obtain ⟨rfl, rfl⟩ := he
  have ⟨hst, hnc⟩ := quarantine_step f _ p _ hp (consume_eq f p hp) herr hnus
  have ⟨h1, h2⟩ := runPure_closed_until_begin _ ps hst mid rest hsplit hmid
  exact ⟨fun o l hx => (List.mem_append.mp hx).elim (hnc o l) (h1 o l), h2⟩

/-- whenever an error is reported it is the packet's first callback and it alone closes the open
packet: no `end_packet` is delivered for a packet already closed by the error (also when the packet is
a unit start, which then begins a new PES packet in the ordinary way, `C08.begin_iff`) -/
theorem error_then_restart (f f' : F) (p : Bytes) (evs : List Ev) (h : p.length = 188)
    (hc : consume f p = .ok (f', evs)) (herr : Ev.ccErr ∈ evs) :
    evs.head? = some .ccErr ∧ Ev.endPkt ∉ evs := by
  obtain ⟨rfl, rfl⟩ := consume_inv h hc
  have hcont := (stepPure_ccErr_mem ..).mp herr
  revert hcont
  show continuous f.cc (hpOf p) (ccOf p) = false →
    (stepPure f (usOf p) (hpOf p) (ccOf p) (payOf p) (hdrOf p)).2.head? = some .ccErr ∧
      Ev.endPkt ∉ (stepPure f (usOf p) (hpOf p) (ccOf p) (payOf p) (hdrOf p)).2
  unfold stepPure
  generalize continuous f.cc (hpOf p) (ccOf p) = b
  intro hb; subst hb
  rcases f with ⟨fc, st⟩
  cases st <;> cases usOf p <;> rcases payOf p with _ | r <;> cases hdrOf p <;> simp

/-- **C09, quarantine, unified form.**  From ANY filter state, for ANY erroring packet (unit start or
not): in the callback sequence of a run, continuation data that comes after a `ccErr` is preceded by
a `beginPkt` lying AFTER that `ccErr`, with nothing but continuation data between that `beginPkt` and
it (`pre`, `mid`, `post` are arbitrary). -/
theorem quarantine_unified (f f' : F) (ps : List Bytes) (evss : List (List Ev))
    (h : ∀ p ∈ ps, p.length = 188) (hr : run f ps = .ok (f', evss))
    (pre mid post : List Ev) (o l : Nat)
    (hs : evss.flatten = pre ++ .ccErr :: (mid ++ .cont o l :: post)) :
    ∃ m1 o' l' m2, mid = m1 ++ .beginPkt o' l' :: m2 ∧ ∀ x ∈ m2, isCont x := by
  obtain ⟨-, rfl⟩ := run_inv h hr
  have hacc := runPure_accepts f ps
  rw [hs] at hacc
  exact Ts.Lemmas.C09b.no_cont_after_ccErr hacc

/-- `quarantine_unified` packet by packet: if packet `k` reports a continuity error and packet
`j ≥ k` delivers continuation data, then some packet `i` with `k ≤ i < j` has the unit-start flag and
delivered `beginPkt` (so it carries a recognised PES header, `C08.begin_iff`).  `i = k` is the case of
an erroring unit start. -/
theorem quarantine_unified_packets (f f' : F) (ps : List Bytes) (evss : List (List Ev))
    (h : ∀ p ∈ ps, p.length = 188) (hr : run f ps = .ok (f', evss))
    (k j : Nat) (ek ej : List Ev) (o l : Nat) (hkj : k ≤ j)
    (hk : evss[k]? = some ek) (hj : evss[j]? = some ej)
    (herr : Ev.ccErr ∈ ek) (hcont : Ev.cont o l ∈ ej) :
    ∃ i q ei o' l', k ≤ i ∧ i < j ∧ ps[i]? = some q ∧ evss[i]? = some ei ∧
      readBits q 9 1 = 1 ∧ Ev.beginPkt o' l' ∈ ei := by
  obtain ⟨-, rfl⟩ := run_inv h hr
  have getp : ∀ (n : Nat) (evs : List Ev), (runPure f ps).2[n]? = some evs → ∃ q, ps[n]? = some q := by
    intro n evs hn
    have : n < ps.length := by
      rw [← runPure_length f ps]; exact (List.getElem?_eq_some_iff.mp hn).1
    exact ⟨ps[n], List.getElem?_eq_getElem this⟩
  obtain ⟨pk, hpk⟩ := getp k ek hk
  obtain ⟨pj, hpj⟩ := getp j ej hj
  rw [runPure_getElem? f ps k pk hpk] at hk
  rw [runPure_getElem? f ps j pj hpj] at hj
  injection hk with hk
  injection hj with hj
  subst hk hj
  have hbrk := (stepPure_ccErr_mem ..).mp herr
  obtain ⟨-, -, -, hst, hok⟩ := (stepPure_cont_mem ..).mp hcont
  have hne : k ≠ j := by
    rintro rfl
    rw [hpk] at hpj; injection hpj with hpj; subst hpj
    rw [hbrk] at hok; cases hok
  by_cases hbeg : (stepOf (runPure f (ps.take k)).1 pk).1.st = .started
  · rcases stepOf_started hbeg with ⟨hu, o', l', hb⟩ | ⟨_, _, hc⟩
    · exact ⟨k, pk, _, o', l', Nat.le_refl _, by omega, hpk, runPure_getElem? f ps k pk hpk,
        (usOf_true_iff pk).mp hu, hb⟩
    · rw [hbrk] at hc; cases hc
  · rw [← Ts.Lemmas.C09b.runPure_take_succ f ps k pk hpk] at hbeg
    obtain ⟨i, q, o', l', x1, x2, x3, x4, x5⟩ :=
      Ts.Lemmas.C09b.started_needs_begin f ps (k + 1) j (by omega) hbeg hst
    exact ⟨i, q, _, o', l', by omega, x2, x3, runPure_getElem? f ps i q x3,
      (usOf_true_iff q).mp x4, x5⟩

/-! ### non-vacuity -/

/-! concrete packets: `mkPkt b1 b3 pay` = `47 b1 00 b3 pay… ff…` (188 bytes; `b1 = 0x40` unit start;
`b3`: 0x10 payload flag, 0x20 adaptation-field flag, low nibble = counter), `pesStart = 00 00 01 e0 00 00`
(see `Ts.Lemmas.C08`) -/

example : (mkPkt 0x00 0x1f []).length = 188 := by decide +kernel
example : readBits (mkPkt 0x00 0x1f []) 28 4 = 15 ∧ readBits (mkPkt 0x00 0x1f []) 27 1 = 1
    ∧ readBits (mkPkt 0x00 0x1f []) 9 1 = 0 := by decide +kernel

/-- counters 14, 15, 0 (wrap), 0 again on an adaptation-field-only packet (no increment expected),
then 1: no error anywhere -/
example :
    run {} [mkPkt 0x40 0x1e pesStart, mkPkt 0x00 0x1f [], mkPkt 0x00 0x10 [],
            mkPkt 0x00 0x20 [183], mkPkt 0x00 0x11 []]
      = .ok (⟨some 1, .started⟩,
          [[.start, .beginPkt 4 184], [.cont 4 184], [.cont 4 184], [], [.cont 4 184]]) := by
  decide +kernel

/-- a duplicate counter on a payload packet, a gap, and a changed counter on a payload-less packet
are errors; after the first error the continuation data of later packets is withheld until the
next unit start, which is delivered normally -/
example :
    run {} [mkPkt 0x40 0x13 pesStart, mkPkt 0x00 0x13 [], mkPkt 0x00 0x14 [],
            mkPkt 0x00 0x16 [], mkPkt 0x00 0x27 [183], mkPkt 0x40 0x18 pesStart, mkPkt 0x00 0x19 []]
      = .ok (⟨some 9, .started⟩,
          [[.start, .beginPkt 4 184], [.ccErr], [], [.ccErr], [.ccErr], [.beginPkt 4 184],
           [.cont 4 184]]) := by
  decide +kernel

/-- an error on a unit-start packet while a packet is open: `ccErr` closes it, no `endPkt` -/
example :
    run {} [mkPkt 0x40 0x13 pesStart, mkPkt 0x40 0x15 pesStart]
      = .ok (⟨some 5, .started⟩, [[.start, .beginPkt 4 184], [.ccErr, .beginPkt 4 184]]) := by
  decide +kernel

/-- an error before the stream has started is reported, and the stream still starts properly -/
example :
    run {} [mkPkt 0x00 0x13 [], mkPkt 0x00 0x15 [], mkPkt 0x40 0x16 pesStart]
      = .ok (⟨some 6, .started⟩, [[], [.ccErr], [.start, .beginPkt 4 184]]) := by
  decide +kernel

/-- the counter rule evaluated on the second run above: breaks at packets 1, 3, 4 only -/
example : breaks none [mkPkt 0x40 0x13 pesStart, mkPkt 0x00 0x13 [], mkPkt 0x00 0x14 [],
      mkPkt 0x00 0x16 [], mkPkt 0x00 0x27 [183], mkPkt 0x40 0x18 pesStart, mkPkt 0x00 0x19 []]
    = [false, true, false, true, true, false, false] := by decide +kernel

/-- from a state that is NOT the initial one, with an erroring UNIT-START packet (the case
`quarantine` excludes): stored counter 3, packet open; the unit start has counter 5 (break), its
successor 6.  The `beginPkt` that re-opens delivery is in packet 0 itself (`i = k = 0 < j = 1`). -/
example :
    run ⟨some 3, .started⟩ [mkPkt 0x40 0x15 pesStart, mkPkt 0x00 0x16 []]
      = .ok (⟨some 6, .started⟩, [[.ccErr, .beginPkt 4 184], [.cont 4 184]])
    ∧ breaks (some 3) [mkPkt 0x40 0x15 pesStart, mkPkt 0x00 0x16 []] = [true, false]
    ∧ [[Ev.ccErr, .beginPkt 4 184], [.cont 4 184]].flatten
        = [] ++ .ccErr :: ([.beginPkt 4 184] ++ .cont 4 184 :: []) := by
  decide +kernel

/-- `quarantine_unified_packets` applied to the run of the previous example (`k = 0`, `j = 1`): it
finds the unit start `i = 0` -/
example : ∃ i q ei o' l', 0 ≤ i ∧ i < 1 ∧
    [mkPkt 0x40 0x15 pesStart, mkPkt 0x00 0x16 []][i]? = some q ∧
    [[Ev.ccErr, .beginPkt 4 184], [.cont 4 184]][i]? = some ei ∧
    readBits q 9 1 = 1 ∧ Ev.beginPkt o' l' ∈ ei :=
  quarantine_unified_packets ⟨some 3, .started⟩ ⟨some 6, .started⟩ _ _
    (by decide +kernel) (by decide +kernel) 0 1 _ _ 4 184 (by omega) rfl rfl (by simp) (by simp)

/-! ## application level: through the dispatcher, per consumer instance -/
section app
open Ts.Demux Ts.Lemmas.Proj
open Ts.Lemmas.C02 (Benign)
open Ts.Lemmas.C10 (RepPacket QuiescentH)

/-- `ReportsBreaks touch τ f qs new`: `new` is what consumer `τ` (in filter state `f`) records for its
own packets `qs`, and it contains `.esCcErr τ` exactly at the counter breaks of `qs`:
* `new = outs.flatten` where `outs` has one block per packet of `qs`, block `k` being the events of
  the callbacks `PesFilter.run f` makes for packet `k` (`esAll`: with packet `k`'s bytes and offset);
* block `k` contains `.esCcErr τ` iff the counter rule (`BreakAt`: from `f.cc` for `k = 0`, else from
  packet `k-1`; successor = `expected`) has a break at `k`, and contains it at most once;
* in total `new` contains `.esCcErr τ` as often as `breaks` has `true`s. -/
def ReportsBreaks (touch : Bool) (τ : Nat) (f : F) (qs : List Pk) (new : List App.Ev) : Prop :=
  ∃ f' evss outs,
    run f (qs.map (·.bytes)) = .ok (f', evss) ∧
    esAll touch τ qs evss = .ok outs ∧
    new = outs.flatten ∧ outs.length = qs.length ∧
    (∀ k out, outs[k]? = some out →
      (App.Ev.esCcErr τ ∈ out ↔ BreakAt f.cc (qs.map (·.bytes)) k) ∧
      out.count (App.Ev.esCcErr τ) ≤ 1) ∧
    new.count (App.Ev.esCcErr τ) = (breaks f.cc (qs.map (·.bytes))).count true

theorem reportsBreaks_of_view (touch : Bool) (τ : Nat) (f f' : F) (qs : List Pk)
    (evss : List (List Ev)) (outs : List (List App.Ev))
    (h188 : ∀ b ∈ qs.map (·.bytes), b.length = 188)
    (hr : run f (qs.map (·.bytes)) = .ok (f', evss))
    (ha : esAll touch τ qs evss = .ok outs) : ReportsBreaks touch τ f qs outs.flatten := by
  have hlen : evss.length = qs.length := by
    rw [run_length f f' _ evss h188 hr, List.length_map]
  have hcnt := Ts.Lemmas.C09b.esAll_counts touch τ qs evss outs hlen.symm ha
  have hol : outs.length = qs.length := by
    have := congrArg List.length hcnt
    simp only [List.length_map] at this
    omega
  refine ⟨f', evss, outs, hr, ha, rfl, hol, ?_, ?_⟩
  · intro k out hk
    have h1 : (outs.map (List.count (App.Ev.esCcErr τ)))[k]? = some (out.count (App.Ev.esCcErr τ)) := by
      rw [List.getElem?_map, hk]; rfl
    rw [hcnt, List.getElem?_map] at h1
    cases he : evss[k]? with
    | none => rw [he] at h1; cases h1
    | some evs =>
      rw [he] at h1
      simp only [Option.map_some, Option.some.injEq] at h1
      obtain ⟨x1, x2⟩ := run_ccerr_iff_from f f' _ evss h188 hr k evs he
      rw [← x1, ← List.count_pos_iff, ← List.count_pos_iff, h1]
      exact ⟨Iff.rfl, by omega⟩
  · rw [List.count_flatten, hcnt, ← List.count_flatten, run_ccerr_total f f' _ evss h188 hr]

/-- **C09 at the application level.**  `pks` is ANY interleaving of packets (any PIDs, flagged or
not).  Slot `p` holds the PES handler tagged `τ` in filter state `f`, and along the actual run
consumer `τ` is not replaced or removed (`hK : Keeps`; discharged from hypotheses on the input in
`app_ccerr_iff_benign` / `app_ccerr_iff_es_and_repeated_tables`).  Then what the run appends to
consumer `τ`'s view of the trace contains `.esCcErr τ` exactly at the breaks of the counter rule over
`own p pks` — the delivered (unflagged) packets of PID `p`, in order, whatever is interleaved with
them — started from `f.cc`. -/
theorem app_ccerr_iff (p τ : Nat) (pks : List Pk) (t : Tab App.Handler) (c : App.Ctx)
    (f : F) (t' : Tab App.Handler) (c' : App.Ctx)
    (hi : TagInv (t, c)) (hg : t.get p = some (.pes τ f))
    (h188 : ∀ pk ∈ pks, pk.pid = p → pk.flagged = false → pk.bytes.length = 188)
    (hK : Keeps p τ (t, c) pks = true)
    (hrun : pushSpec App.sem (t, c) pks = .ok (t', c')) :
    ∃ new, proj τ c' = proj τ c ++ new ∧ ReportsBreaks c.cfg.touch τ f (own p pks) new := by
  obtain ⟨f', evss, outs, a1, a2, a3, _, _⟩ :=
    C02Trace.pes_trace_is_filter_run_kept p τ pks t c f t' c' hi hg h188 hK hrun
  refine ⟨outs.flatten, a3, reportsBreaks_of_view _ τ f f' _ evss outs ?_ a1 a2⟩
  intro b hb
  simp only [List.mem_map, own, List.mem_filter] at hb
  obtain ⟨pk, ⟨hm, hp⟩, rfl⟩ := hb
  simp only [Bool.and_eq_true, beq_iff_eq, Bool.not_eq_true'] at hp
  exact h188 pk hm hp.1 hp.2

/-- `app_ccerr_iff` on the SHARED application trace: the number of `continuity_error` callbacks
recorded for consumer `τ` grows by exactly the number of counter breaks among its delivered packets -/
theorem app_ccerr_count_trace (p τ : Nat) (pks : List Pk) (t : Tab App.Handler) (c : App.Ctx)
    (f : F) (t' : Tab App.Handler) (c' : App.Ctx)
    (hi : TagInv (t, c)) (hg : t.get p = some (.pes τ f))
    (h188 : ∀ pk ∈ pks, pk.pid = p → pk.flagged = false → pk.bytes.length = 188)
    (hK : Keeps p τ (t, c) pks = true)
    (hrun : pushSpec App.sem (t, c) pks = .ok (t', c')) :
    c'.trace.count (App.Ev.esCcErr τ) =
      c.trace.count (App.Ev.esCcErr τ) + (breaks f.cc ((own p pks).map (·.bytes))).count true := by
  obtain ⟨new, h1, _, _, _, _, _, _, _, _, h2⟩ := app_ccerr_iff p τ pks t c f t' c' hi hg h188 hK hrun
  rw [← Ts.Lemmas.C09b.count_ccErr_proj, ← Ts.Lemmas.C09b.count_ccErr_proj, h1, List.count_append, h2]

/-- `app_ccerr_iff` for `Demultiplex::push` on RAW BYTES: `pks` are the packets framed out of `buf` -/
theorem app_ccerr_iff_push (p τ : Nat) (buf : Bytes) (base : Nat) (pks : List Pk)
    (t : Tab App.Handler) (c : App.Ctx) (f : F) (t' : Tab App.Handler) (c' : App.Ctx)
    (hi : TagInv (t, c)) (hg : t.get p = some (.pes τ f))
    (hf : frame buf base = .ok pks)
    (hK : Keeps p τ (t, c) pks = true)
    (hrun : push App.sem (t, c) buf base = .ok (t', c')) :
    ∃ new, proj τ c' = proj τ c ++ new ∧ ReportsBreaks c.cfg.touch τ f (own p pks) new := by
  rw [push_of_frame _ _ hf] at hrun
  exact app_ccerr_iff p τ pks t c f t' c' hi hg
    (fun pk hm _ _ => (Ts.Lemmas.C19.frame_pk_props buf base pks hf pk hm).2.2.2.2.1) hK hrun

/-- `app_ccerr_iff` with hypotheses on the INPUT only: every packet on another PID is `Benign` for the
table and script at the START of the run (`C02.benign_iff`) -/
theorem app_ccerr_iff_benign (ver : Nat → Nat) (p τ : Nat) (pks : List Pk) (t : Tab App.Handler)
    (c : App.Ctx) (f : F) (t' : Tab App.Handler) (c' : App.Ctx)
    (hi : TagInv (t, c)) (hg : t.get p = some (.pes τ f))
    (h188 : ∀ pk ∈ pks, pk.pid = p → pk.flagged = false → pk.bytes.length = 188)
    (hB : ∀ pk ∈ pks, pk.pid ≠ p → Benign ver c.cfg.script t pk)
    (hrun : pushSpec App.sem (t, c) pks = .ok (t', c')) :
    ∃ new, proj τ c' = proj τ c ++ new ∧ ReportsBreaks c.cfg.touch τ f (own p pks) new :=
  app_ccerr_iff p τ pks t c f t' c' hi hg h188
    (C02Trace.keeps_of_benign_traffic ver p τ pks t c f hg hB) hrun

/-- `app_ccerr_iff` for "any interleaving with other elementary streams and repeated tables": every
packet on another PID `q` finds a PES handler in slot `q` of the table at the start of the run, or is
an unflagged repetition packet (C10 `RepPacket (ver q)`) for a PAT / PMT handler in slot `q` that is
quiescent at that version (C10 `QuiescentH`) -/
theorem app_ccerr_iff_es_and_repeated_tables (ver : Nat → Nat) (p τ : Nat) (pks : List Pk)
    (t : Tab App.Handler) (c : App.Ctx) (f : F) (t' : Tab App.Handler) (c' : App.Ctx)
    (hi : TagInv (t, c)) (hg : t.get p = some (.pes τ f))
    (h188 : ∀ pk ∈ pks, pk.pid = p → pk.flagged = false → pk.bytes.length = 188)
    (hO : ∀ pk ∈ pks, pk.pid ≠ p →
      (∃ σ g, t.get pk.pid = some (.pes σ g))
      ∨ (pk.flagged = false ∧ RepPacket (ver pk.pid) pk.bytes
          ∧ ∃ h, t.get pk.pid = some h ∧ QuiescentH (ver pk.pid) h))
    (hrun : pushSpec App.sem (t, c) pks = .ok (t', c')) :
    ∃ new, proj τ c' = proj τ c ++ new ∧ ReportsBreaks c.cfg.touch τ f (own p pks) new :=
  app_ccerr_iff p τ pks t c f t' c' hi hg h188
    (C02Trace.keeps_of_es_and_repeated_tables ver p τ pks t c f hg hO) hrun

/-- `app_ccerr_iff_push` with hypotheses on the input only -/
theorem app_ccerr_iff_push_benign (ver : Nat → Nat) (p τ : Nat) (buf : Bytes) (base : Nat)
    (pks : List Pk) (t : Tab App.Handler) (c : App.Ctx) (f : F) (t' : Tab App.Handler) (c' : App.Ctx)
    (hi : TagInv (t, c)) (hg : t.get p = some (.pes τ f))
    (hf : frame buf base = .ok pks)
    (hB : ∀ pk ∈ pks, pk.pid ≠ p → Benign ver c.cfg.script t pk)
    (hrun : push App.sem (t, c) buf base = .ok (t', c')) :
    ∃ new, proj τ c' = proj τ c ++ new ∧ ReportsBreaks c.cfg.touch τ f (own p pks) new :=
  app_ccerr_iff_push p τ buf base pks t c f t' c' hi hg hf
    (C02Trace.keeps_of_benign_traffic ver p τ pks t c f hg hB) hrun

/-- **C09, quarantine, application level.**  For EVERY configuration, EVERY sequence of pushed byte
strings (hostile input included) on which the application does not panic, and EVERY tag `τ`: in the
elementary-stream callbacks attributed to `τ` (`esTrace`: oldest first, arguments erased),
continuation data after a `ccErr` is preceded by a `beginPkt` lying after that `ccErr`, with nothing
but continuation data in between. -/
theorem quarantine_app (cfg : App.Cfg) (pushes : List Bytes) (t : Tab App.Handler) (c : App.Ctx)
    (h : App.runApp cfg pushes = .ok (t, c)) (τ : Nat) (pre mid post : List Ev) (o l : Nat)
    (hs : esTrace τ c = pre ++ .ccErr :: (mid ++ .cont o l :: post)) :
    ∃ m1 o' l' m2, mid = m1 ++ .beginPkt o' l' :: m2 ∧ ∀ x ∈ m2, isCont x := by
  obtain ⟨s, hacc, _⟩ := C02Trace.es_consumer_well_nested cfg pushes t c h τ
  rw [hs] at hacc
  exact Ts.Lemmas.C09b.no_cont_after_ccErr hacc

/-- `quarantine_app` on the SHARED application trace (oldest first = `c.trace.reverse`), whatever other
consumers' events are interleaved: between a `continuity_error` of consumer `τ` and a later
`continue_packet` of consumer `τ` there is a `begin_packet` of consumer `τ` -/
theorem quarantine_app_trace (cfg : App.Cfg) (pushes : List Bytes) (t : Tab App.Handler)
    (c : App.Ctx) (h : App.runApp cfg pushes = .ok (t, c)) (τ : Nat)
    (pre mid post : List App.Ev) (off len : Nat)
    (hs : c.trace.reverse = pre ++ App.Ev.esCcErr τ :: (mid ++ App.Ev.esCont τ off len :: post)) :
    ∃ bi, App.Ev.esBegin τ bi ∈ mid := by
  have he : esTrace τ c =
      (pre.filter (fun e => decide (tagOf e = some τ))).filterMap esShape
        ++ .ccErr :: ((mid.filter (fun e => decide (tagOf e = some τ))).filterMap esShape
          ++ .cont 0 0 :: (post.filter (fun e => decide (tagOf e = some τ))).filterMap esShape) := by
    unfold esTrace proj
    rw [hs]
    simp [List.filter_append, List.filterMap_append, tagOf, esShape]
  obtain ⟨m1, o', l', m2, hm, _⟩ := quarantine_app cfg pushes t c h τ _ _ _ 0 0 he
  have hmem : Ev.beginPkt o' l' ∈
      (mid.filter (fun e => decide (tagOf e = some τ))).filterMap esShape := by
    rw [hm]; simp
  rw [List.mem_filterMap] at hmem
  obtain ⟨e, hm, hsh⟩ := hmem
  rw [List.mem_filter] at hm
  have htag : tagOf e = some τ := by simpa using hm.2
  cases e <;> simp [esShape] at hsh
  simp only [tagOf, Option.some.injEq] at htag
  subst htag
  exact ⟨_, hm.1⟩

/-- a consumer instance that has not yet consumed a packet (`f.cc = none`; every consumed packet
stores its counter, `cc_stored`) never reports an error for the first packet delivered to it,
whatever that packet's counter.  Hypotheses as in `app_ccerr_iff`. -/
theorem fresh_instance_first_never_error (p τ : Nat) (pks : List Pk) (t : Tab App.Handler)
    (c : App.Ctx) (f : F) (t' : Tab App.Handler) (c' : App.Ctx)
    (hi : TagInv (t, c)) (hg : t.get p = some (.pes τ f)) (hfresh : f.cc = none)
    (h188 : ∀ pk ∈ pks, pk.pid = p → pk.flagged = false → pk.bytes.length = 188)
    (hK : Keeps p τ (t, c) pks = true)
    (hrun : pushSpec App.sem (t, c) pks = .ok (t', c')) :
    ∃ f' evss outs,
      run f ((own p pks).map (·.bytes)) = .ok (f', evss) ∧
      esAll c.cfg.touch τ (own p pks) evss = .ok outs ∧
      proj τ c' = proj τ c ++ outs.flatten ∧ outs.length = (own p pks).length ∧
      ∀ out, outs[0]? = some out → App.Ev.esCcErr τ ∉ out := by
  obtain ⟨new, h1, f', evss, outs, a1, a2, a3, a4, a5, _⟩ :=
    app_ccerr_iff p τ pks t c f t' c' hi hg h188 hK hrun
  subst a3
  refine ⟨f', evss, outs, a1, a2, h1, a4, ?_⟩
  intro out h0 hm
  have := ((a5 0 out h0).1).mp hm
  rw [hfresh] at this
  exact not_breakAt_none_zero _ this

/-- ONE dispatcher step on ANY packet: a PES handler that sits in the table after the step under a
tag that did not exist before the step (`c.nextTag ≤ τ'`: a NEW consumer instance) is in the initial
filter state `{}`: it inherits neither the counter nor the open/closed state of the handler it
replaces. -/
theorem replacement_installs_fresh_filter (t : Tab App.Handler) (c : App.Ctx) (pk : Pk)
    (t' : Tab App.Handler) (c' : App.Ctx) (hi : TagInv (t, c))
    (h : specStep App.sem (t, c) pk = .ok (t', c'))
    (q τ' : Nat) (f' : F) (hg : t'.get q = some (.pes τ' f')) (hnew : c.nextTag ≤ τ') : f' = {} := by
  have hold : ∀ q' f0, t.get q' ≠ some (.pes τ' f0) := fun q' f0 hx => by
    have : τ' < c.nextTag := hi.1.1 q' _ τ' hx rfl
    omega
  obtain ⟨t1, c1, hE, ⟨_, e⟩ | ⟨_, hd, h', c2, chg, hgq, hx, e⟩⟩ := specStep_ok_cases App.sem h
  · cases e
    exact absurd (Ts.Lemmas.C09b.ensure_pes_old t c pk.pid _ _ hE q τ' f' hg) (hold q f')
  · cases e
    obtain ⟨⟨_, _, hfp⟩, _, hkind⟩ := consume_facts hd c1 pk h' _ chg hx
    rcases get_applyChanges_cases chg _ q _ hg with y | y
    · rw [Tab.get_insert] at y
      split at y
      · injection y with y
        obtain ⟨f0, rfl⟩ := hkind τ' f' y
        exact absurd (Ts.Lemmas.C09b.ensure_pes_old t c pk.pid t1 c1 hE pk.pid τ' f0 hgq) (hold _ f0)
      · exact absurd (Ts.Lemmas.C09b.ensure_pes_old t c pk.pid t1 c1 hE q τ' f' y) (hold q f')
    · exact hfp _ y q τ' f' rfl

/-- **"First packet" is per consumer INSTANCE.**  Let a dispatcher step on ANY packet `pk0` (e.g. a
PMT section with a new version re-listing PID `p`) leave in slot `p` a PES handler whose tag `τ'` did
not exist before the step — whatever slot `p` held before.  Then the new handler is in state `{}`,
and over ANY continuation `pks` during which it is kept, the first unflagged PID-`p` packet yields NO
`.esCcErr τ'`, whatever its counter — also when that counter does not follow the last packet
delivered to the replaced handler (which stays silent for ever: `C02Trace.tag_never_reissued`).

READING.  C09 says "the first packet seen on a PID is never an error".  The implementation (and this
model) keeps the counter in the consumer instance, and a table re-application REPLACES the instance
(finding F7), so what is proved is: "the first packet seen BY A CONSUMER INSTANCE is never an
error".  The two readings differ exactly here: a counter discontinuity across a replacement is NOT
reported to anyone (witness below: `ES cc=0, PMT v1, ES cc=7`: no `esCcErr` in the whole trace;
without the PMT: one). -/
theorem first_after_replacement_never_error (p τ' : Nat) (pk0 : Pk) (pks : List Pk)
    (t0 : Tab App.Handler) (c0 : App.Ctx) (t : Tab App.Handler) (c : App.Ctx) (f : F)
    (t' : Tab App.Handler) (c' : App.Ctx)
    (hi : TagInv (t0, c0))
    (hstep : specStep App.sem (t0, c0) pk0 = .ok (t, c))
    (hnew : c0.nextTag ≤ τ') (hg : t.get p = some (.pes τ' f))
    (h188 : ∀ pk ∈ pks, pk.pid = p → pk.flagged = false → pk.bytes.length = 188)
    (hK : Keeps p τ' (t, c) pks = true)
    (hrun : pushSpec App.sem (t, c) pks = .ok (t', c')) :
    f = {} ∧
    ∃ f' evss outs,
      run {} ((own p pks).map (·.bytes)) = .ok (f', evss) ∧
      esAll c.cfg.touch τ' (own p pks) evss = .ok outs ∧
      proj τ' c' = proj τ' c ++ outs.flatten ∧ outs.length = (own p pks).length ∧
      ∀ out, outs[0]? = some out → App.Ev.esCcErr τ' ∉ out := by
  have hf : f = {} := replacement_installs_fresh_filter t0 c0 pk0 t c hi hstep p τ' f hg hnew
  subst hf
  exact ⟨rfl, fresh_instance_first_never_error p τ' pks t c {} t' c'
    (C02Trace.tagInv_step t0 c0 pk0 t c hi hstep).1 hg rfl h188 hK hrun⟩

end app

/-! ### non-vacuity, application level (kernel-evaluated) -/
section appExamples
open Ts.Demux Ts.Lemmas.Proj
open Ts.Spec.PesMux (mkTp)
open Ts.Lemmas.C02 (Benign exPat_rep exPmt2_rep)
open Ts.Lemmas.C10 (RepPacket QuiescentH)

/-- PID 0x21, no unit start, counter 5: NOT the successor of `exA0`'s counter 0 -/
def brkA1 : Bytes := mkTp false 0x21 5 none (List.replicate 184 0x12)
/-- PID 0x21, unit start with a PES header, counter 6 = successor of 5 -/
def brkA2 : Bytes := mkTp true 0x21 6 none (pesHead ++ List.replicate 175 0x13)

/-- the interleaving `A0 PAT B0 A1' PMT B1 A2'` (376 bytes pushed before): two elementary-stream PIDs
0x21 (`A`, counters 0, 5, 6: ONE break) and 0x22 (`B`, counters 7, 8: none), a repeated PAT and a
repeated PMT in between -/
def brkPks : List Pk :=
  [⟨exA0, 376, 0x21, false, false⟩, ⟨exPat, 564, 0, false, false⟩, ⟨exB0, 752, 0x22, false, false⟩,
   ⟨brkA1, 940, 0x21, false, false⟩, ⟨exPmt2, 1128, 0x20, false, false⟩,
   ⟨exB1, 1316, 0x22, false, false⟩, ⟨brkA2, 1504, 0x21, false, false⟩]

/-- the same as raw bytes -/
def brkBuf : Bytes := exA0 ++ exPat ++ exB0 ++ brkA1 ++ exPmt2 ++ exB1 ++ brkA2

theorem exTab0_get : exTab0.get 0x21 = some (.pes 2 {}) ∧ exTab0.get 0x22 = some (.pes 3 {})
    ∧ exTab0.get 0 = some (.pat { lastVersion := some 0 } [0x20])
    ∧ exTab0.get 0x20 = some (.pmt 0x20 1 { lastVersion := some 0 } [0x21, 0x22]) := by decide +kernel

/-- the input-level hypothesis `hO` of `app_ccerr_iff_es_and_repeated_tables` holds for `brkPks`, for
both elementary-stream PIDs: only table lookups are evaluated -/
theorem brkPks_input : ∀ pk ∈ brkPks,
    (∃ σ g, exTab0.get pk.pid = some (.pes σ g))
    ∨ (pk.flagged = false ∧ RepPacket 0 pk.bytes
        ∧ ∃ h, exTab0.get pk.pid = some h ∧ QuiescentH 0 h) := by
  obtain ⟨g21, g22, g0, g20⟩ := exTab0_get
  intro pk hm
  simp only [brkPks, List.mem_cons, List.not_mem_nil, or_false] at hm
  rcases hm with rfl | rfl | rfl | rfl | rfl | rfl | rfl
  · exact Or.inl ⟨_, _, g21⟩
  · exact Or.inr ⟨rfl, exPat_rep, _, g0, ⟨rfl, rfl⟩⟩
  · exact Or.inl ⟨_, _, g22⟩
  · exact Or.inl ⟨_, _, g21⟩
  · exact Or.inr ⟨rfl, exPmt2_rep, _, g20, ⟨rfl, rfl⟩⟩
  · exact Or.inl ⟨_, _, g22⟩
  · exact Or.inl ⟨_, _, g21⟩

theorem brkPks_len : ∀ pk ∈ brkPks, pk.bytes.length = 188 := by decide +kernel

/-- the counter rule on the two streams of `brkPks` (a function of the packets only) -/
theorem brkPks_breaks :
    breaks none ((own 0x21 brkPks).map (·.bytes)) = [false, true, false]
    ∧ breaks none ((own 0x22 brkPks).map (·.bytes)) = [false, false] := by decide +kernel

/-- the run over `brkPks` from the state after PAT and PMT, evaluated once: it returns, having put
these events (newest first) on the shared trace -/
theorem brkRun : ∃ t' c', pushSpec App.sem (exTab0, exCtx0) brkPks = .ok (t', c') ∧
    c'.trace = [.esBegin 2 (exBi 1517), .esCont 3 1404 100, .esCcErr 2, .esBegin 3 (exBi 765),
      .esStart 3, .esBegin 2 (exBi 389), .esStart 2] ++ exCtx0.trace := by
  have h : (pushSpec App.sem (exTab0, exCtx0) brkPks >>= fun tc => pure tc.2.trace) =
      .ok ([.esBegin 2 (exBi 1517), .esCont 3 1404 100, .esCcErr 2, .esBegin 3 (exBi 765),
        .esStart 3, .esBegin 2 (exBi 389), .esStart 2] ++ exCtx0.trace) := by eval_app
  obtain ⟨⟨t', c'⟩, h1, h2⟩ := R.bind_eq_ok h
  exact ⟨t', c', h1, R.ok_inj h2⟩

/-- NON-VACUITY of `app_ccerr_iff_es_and_repeated_tables` (hence of `app_ccerr_iff`): from the state
after PAT and PMT (PES filters tagged 2 / 3 on PIDs 0x21 / 0x22, both `{}`), over `brkPks`, with the
hypotheses discharged from the INPUT (`brkPks_input`).  Consumer 2 records exactly ONE `esCcErr 2`,
consumer 3 none. -/
example : ∃ t' c' new2 new3,
    pushSpec App.sem (exTab0, exCtx0) brkPks = .ok (t', c') ∧
    proj 2 c' = proj 2 exCtx0 ++ new2 ∧ ReportsBreaks false 2 {} (own 0x21 brkPks) new2 ∧
    proj 3 c' = proj 3 exCtx0 ++ new3 ∧ ReportsBreaks false 3 {} (own 0x22 brkPks) new3 ∧
    new2.count (.esCcErr 2) = 1 ∧ new3.count (.esCcErr 3) = 0 := by
  obtain ⟨t', c', hrun, -⟩ := brkRun
  obtain ⟨new2, a1, a2⟩ := app_ccerr_iff_es_and_repeated_tables (fun _ => 0) 0x21 2 brkPks exTab0
    exCtx0 {} t' c' C02Trace.exState_inv.1 exTab0_get.1 (fun pk hm _ _ => brkPks_len pk hm)
    (fun pk hm _ => brkPks_input pk hm) hrun
  obtain ⟨new3, b1, b2⟩ := app_ccerr_iff_es_and_repeated_tables (fun _ => 0) 0x22 3 brkPks exTab0
    exCtx0 {} t' c' C02Trace.exState_inv.1 exTab0_get.2.1 (fun pk hm _ _ => brkPks_len pk hm)
    (fun pk hm _ => brkPks_input pk hm) hrun
  refine ⟨t', c', new2, new3, hrun, a1, a2, b1, b2, ?_, ?_⟩
  · obtain ⟨_, _, _, _, _, _, _, _, h⟩ := a2
    rw [h, show ({} : F).cc = none from rfl, brkPks_breaks.1]; decide
  · obtain ⟨_, _, _, _, _, _, _, _, h⟩ := b2
    rw [h, show ({} : F).cc = none from rfl, brkPks_breaks.2]; decide

/-- NON-VACUITY of `app_ccerr_count_trace`, applied to the same run (`hK : Keeps` discharged from the
input by `C02Trace.keeps_of_es_and_repeated_tables`): the count of `esCcErr 2` grows by ONE, that of
`esCcErr 3` by none -/
example : ∃ t' c', pushSpec App.sem (exTab0, exCtx0) brkPks = .ok (t', c')
    ∧ c'.trace.count (.esCcErr 2) = exCtx0.trace.count (.esCcErr 2) + 1
    ∧ c'.trace.count (.esCcErr 3) = exCtx0.trace.count (.esCcErr 3) + 0 := by
  obtain ⟨t', c', hrun, -⟩ := brkRun
  obtain ⟨g21, g22, -⟩ := exTab0_get
  have a := app_ccerr_count_trace 0x21 2 brkPks exTab0 exCtx0 {} t' c' C02Trace.exState_inv.1 g21
    (fun pk hm _ _ => brkPks_len pk hm)
    (C02Trace.keeps_of_es_and_repeated_tables (fun _ => 0) 0x21 2 brkPks exTab0 exCtx0 {} g21
      (fun pk hm _ => brkPks_input pk hm)) hrun
  have b := app_ccerr_count_trace 0x22 3 brkPks exTab0 exCtx0 {} t' c' C02Trace.exState_inv.1 g22
    (fun pk hm _ _ => brkPks_len pk hm)
    (C02Trace.keeps_of_es_and_repeated_tables (fun _ => 0) 0x22 3 brkPks exTab0 exCtx0 {} g22
      (fun pk hm _ => brkPks_input pk hm)) hrun
  rw [show ({} : F).cc = none from rfl, brkPks_breaks.1] at a
  rw [show ({} : F).cc = none from rfl, brkPks_breaks.2] at b
  exact ⟨t', c', hrun, a, b⟩

/-- the run `brkRun`, evaluated: consumer 2 (PID 0x21) gets `continuity_error` for its packet `A1'`,
whose data is withheld, and a fresh `begin_packet` (no `end_packet`) for `A2'`; consumer 3 (PID 0x22)
is unaffected by the break on the other PID -/
example : (match pushSpec App.sem (exTab0, exCtx0) brkPks with
    | .ok (_, c) => decide (
        proj 2 c = [.esStart 2, .esBegin 2 (exBi 389), .esCcErr 2, .esBegin 2 (exBi 1517)]
        ∧ proj 3 c = [.esStart 3, .esBegin 3 (exBi 765), .esCont 3 1404 100]
        ∧ c.trace.count (.esCcErr 2) = 1 ∧ c.trace.count (.esCcErr 3) = 0)
    | .panic _ => false) = true := by
  obtain ⟨t', c', hrun, ht⟩ := brkRun
  rw [hrun]
  simp only [proj, ht]
  decide

/-- NON-VACUITY of `app_ccerr_iff_push_benign` (hence `app_ccerr_iff_push`, `app_ccerr_iff_benign`): the
same interleaving as raw bytes handed to `Demultiplex::push`; `frame` yields exactly `brkPks`, so
`push` is the run above -/
example : ∃ t' c' new2,
    push App.sem (exTab0, exCtx0) brkBuf 376 = .ok (t', c') ∧
    proj 2 c' = proj 2 exCtx0 ++ new2 ∧ ReportsBreaks false 2 {} (own 0x21 brkPks) new2 := by
  obtain ⟨t', c', hrun, -⟩ := brkRun
  have hf : frame brkBuf 376 = .ok brkPks := by decide +kernel
  have hpush : push App.sem (exTab0, exCtx0) brkBuf 376 = .ok (t', c') := (push_of_frame _ _ hf).trans hrun
  have hB : ∀ pk ∈ brkPks, pk.pid ≠ 0x21 → Benign (fun _ => 0) exCtx0.cfg.script exTab0 pk := by
    intro pk hm _
    rcases brkPks_input pk hm with h | ⟨_, hr, hq⟩
    · exact Or.inl h
    · exact Or.inr (Or.inl ⟨hq, Or.inr hr⟩)
  obtain ⟨new2, a1, a2⟩ := app_ccerr_iff_push_benign (fun _ => 0) 0x21 2 brkBuf 376 _ exTab0 exCtx0
    {} t' c' C02Trace.exState_inv.1 exTab0_get.1 hf hB hpush
  exact ⟨t', c', new2, hpush, a1, a2⟩

/-- continuation packets for PID 0x21 after `exA0 brkA1`: counter 6 without unit start (withheld), a
unit start with a PES header (counter 7), its continuation (counter 8) -/
def qA6 : Bytes := mkTp false 0x21 6 none (List.replicate 184 0x16)
def qA7 : Bytes := mkTp true 0x21 7 none (pesHead ++ List.replicate 175 0x17)
def qA8 : Bytes := mkTp false 0x21 8 none (List.replicate 184 0x18)

/-- a whole `runApp` (two pushes) in which consumer 2 gets a `ccErr` and LATER continuation data.
Counters on PID 0x21: 0, 5 (break; data withheld), 6 (no unit start: still withheld), 7 (unit start:
`begin_packet`), 8 (delivered).  The shared trace, newest first. -/
theorem quarRun : ∃ t c,
    App.runApp { bypassCrc := true } [exPat ++ exPmt2 ++ exA0 ++ brkA1, qA6 ++ qA7 ++ qA8] = .ok (t, c) ∧
    c.trace = [.esCont 2 1132 184, .esBegin 2 (exBi 953), .esCcErr 2, .esBegin 2 (exBi 389), .esStart 2,
      .construct (.stream 0x20 0x0F 0x22 0x21 [] []) 3, .construct (.stream 0x20 0x1B 0x21 0x21 [] []) 2,
      .construct (.pmt 0x20 1) 1, .construct (.byPid 0) 0] := by
  have h : (App.runApp { bypassCrc := true } [exPat ++ exPmt2 ++ exA0 ++ brkA1, qA6 ++ qA7 ++ qA8] >>=
      fun tc => pure tc.2.trace) = .ok [.esCont 2 1132 184, .esBegin 2 (exBi 953), .esCcErr 2,
      .esBegin 2 (exBi 389), .esStart 2,
      .construct (.stream 0x20 0x0F 0x22 0x21 [] []) 3, .construct (.stream 0x20 0x1B 0x21 0x21 [] []) 2,
      .construct (.pmt 0x20 1) 1, .construct (.byPid 0) 0] := by eval_app
  obtain ⟨⟨t, c⟩, h1, h2⟩ := R.bind_eq_ok h
  exact ⟨t, c, h1, R.ok_inj h2⟩

/-- NON-VACUITY of `quarantine_app` / `quarantine_app_trace`: in that run the hypothesis `hs` of
`quarantine_app` holds with `pre = [start, beginPkt]`, `mid = [beginPkt]`, `post = []`, and the
`beginPkt` it promises is there. -/
example : (match App.runApp { bypassCrc := true } [exPat ++ exPmt2 ++ exA0 ++ brkA1, qA6 ++ qA7 ++ qA8] with
    | .ok (_, c) => decide (
        esTrace 2 c = [.start, .beginPkt 0 0] ++ .ccErr :: ([.beginPkt 0 0] ++ .cont 0 0 :: [])
        ∧ proj 2 c = [.esStart 2, .esBegin 2 (exBi 389), .esCcErr 2, .esBegin 2 (exBi 953),
                      .esCont 2 1132 184])
    | .panic _ => false) = true := by
  obtain ⟨t, c, h, ht⟩ := quarRun
  rw [h]
  simp only [esTrace, proj, ht]
  decide

/-- `quarantine_app` and `quarantine_app_trace` APPLIED to `quarRun`: the conclusions exhibit the
`begin_packet` in `mid` -/
example : ∃ t c, App.runApp { bypassCrc := true } [exPat ++ exPmt2 ++ exA0 ++ brkA1, qA6 ++ qA7 ++ qA8]
      = .ok (t, c) ∧
    (∃ m1 o' l' m2, [Ev.beginPkt 0 0] = m1 ++ .beginPkt o' l' :: m2 ∧ ∀ x ∈ m2, isCont x) ∧
    (∃ bi, App.Ev.esBegin 2 bi ∈ [App.Ev.esBegin 2 (exBi 953)]) := by
  obtain ⟨t, c, h, ht⟩ := quarRun
  exact ⟨t, c, h,
    quarantine_app _ _ t c h 2 [.start, .beginPkt 0 0] _ [] 0 0 (by simp only [esTrace, proj, ht]; decide),
    quarantine_app_trace _ _ t c h 2 [.construct (.byPid 0) 0, .construct (.pmt 0x20 1) 1,
      .construct (.stream 0x20 0x1B 0x21 0x21 [] []) 2, .construct (.stream 0x20 0x0F 0x22 0x21 [] []) 3,
      .esStart 2, .esBegin 2 (exBi 389)] _ [] 1132 184 (by rw [ht]; rfl)⟩

/-- a unit start on PID 0x21 with counter 7 -/
def repA7 : Bytes := mkTp true 0x21 7 none (pesHead ++ List.replicate 175 0x15)

def isEsCcErr : App.Ev → Bool
  | .esCcErr _ => true
  | _ => false

/-- WITNESS for the per-instance reading (`first_after_replacement_never_error`).  Run 1: PAT, PMT
(version 0), ES packet on PID 0x21 with counter 0, the PMT again with version 1, ES packet on PID
0x21 with counter 7: the PES filter (tag 2, stored counter 0) is replaced by a fresh instance (tag
4) and the jump 0 → 7 is reported to NO ONE.  Run 2: the same WITHOUT the second PMT: consumer 2
gets `esCcErr 2`. -/
example : (match App.runApp { bypassCrc := true } [exPat ++ exPmt2 ++ exA0 ++ exPmt2v1 ++ repA7],
      App.runApp { bypassCrc := true } [exPat ++ exPmt2 ++ exA0 ++ repA7] with
    | .ok (t1, c1), .ok (t2, c2) => decide (
        tagsIn t1 = [4, 5] ∧ c1.trace.any isEsCcErr = false
        ∧ proj 2 c1 = [.esStart 2, .esBegin 2 (exBi 389)]
        ∧ proj 4 c1 = [.esStart 4, .esBegin 4 (exBi 765)]
        ∧ tagsIn t2 = [2, 3]
        ∧ proj 2 c2 = [.esStart 2, .esBegin 2 (exBi 389), .esCcErr 2, .esBegin 2 (exBi 577)])
    | _, _ => false) = true := by eval_app

/-- NON-VACUITY of `first_after_replacement_never_error` (and of `replacement_installs_fresh_filter`,
`fresh_instance_first_never_error`) on run 1 above: `(t0, c0)` = the state after the ES packet with
counter 0; `pk0` = the PMT packet with version 1, after which slot 0x21 holds tag 4 ≥ `c0.nextTag`;
`pks` = the ES packet with counter 7. -/
example : ∃ t0 c0 t c f t' c',
    pushSpec App.sem (exTab0, exCtx0) [⟨exA0, 376, 0x21, false, false⟩] = .ok (t0, c0) ∧
    t0.get 0x21 = some (.pes 2 ⟨some 0, .started⟩) ∧
    specStep App.sem (t0, c0) ⟨exPmt2v1, 564, 0x20, false, false⟩ = .ok (t, c) ∧
    t.get 0x21 = some (.pes 4 f) ∧
    pushSpec App.sem (t, c) [⟨repA7, 752, 0x21, false, false⟩] = .ok (t', c') ∧
    f = {} ∧
    ∃ f' evss outs,
      run {} ((own 0x21 [⟨repA7, 752, 0x21, false, false⟩]).map (·.bytes)) = .ok (f', evss) ∧
      esAll c.cfg.touch 4 (own 0x21 [⟨repA7, 752, 0x21, false, false⟩]) evss = .ok outs ∧
      proj 4 c' = proj 4 c ++ outs.flatten ∧ outs.length = 1 ∧
      ∀ out, outs[0]? = some out → App.Ev.esCcErr 4 ∉ out := by
  have hb : (do
      let tc0 ← pushSpec App.sem (exTab0, exCtx0) [⟨exA0, 376, 0x21, false, false⟩]
      let tc ← specStep App.sem tc0 ⟨exPmt2v1, 564, 0x20, false, false⟩
      let _ ← pushSpec App.sem tc [⟨repA7, 752, 0x21, false, false⟩]
      pure (decide (tc0.1.get 0x21 = some (App.Handler.pes 2 ⟨some 0, .started⟩)) && decide (tc0.2.nextTag ≤ 4) &&
        holdsPes tc.1 0x21 4 && Keeps 0x21 4 tc [⟨repA7, 752, 0x21, false, false⟩])) = .ok true := by
    eval_app
  obtain ⟨⟨t0, c0⟩, h0, hb⟩ := R.bind_eq_ok hb
  obtain ⟨⟨t, c⟩, h1, hb⟩ := R.bind_eq_ok hb
  obtain ⟨⟨t', c'⟩, h2, hb⟩ := R.bind_eq_ok hb
  have hb := R.ok_inj hb
  simp only [Bool.and_eq_true, decide_eq_true_eq] at hb
  obtain ⟨⟨⟨g0, hn⟩, hh⟩, hK⟩ := hb
  have hi0 : TagInv (t0, c0) := (C02Trace.tagInv_pushSpec _ _ _ C02Trace.exState_inv.1 h0).1
  have hlen : ∀ pk ∈ [(⟨repA7, 752, 0x21, false, false⟩ : Pk)], pk.pid = 0x21 → pk.flagged = false →
      pk.bytes.length = 188 := by
    intro pk hm _ _
    simp only [List.mem_cons, List.not_mem_nil, or_false] at hm
    subst hm
    decide +kernel
  obtain ⟨f, hg⟩ := (holdsPes_iff t 0x21 4).mp hh
  obtain ⟨x1, f', evss, outs, x2, x3, x4, x5, x6⟩ :=
    first_after_replacement_never_error 0x21 4 _ _ t0 c0 t c f t' c' hi0 h1 hn hg hlen hK h2
  exact ⟨t0, c0, t, c, f, t', c', h0, g0, h1, hg, h2, x1, f', evss, outs, x2, x3, x4, x5, x6⟩

end appExamples

end Ts.Props.C09
