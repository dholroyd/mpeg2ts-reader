import Ts.Lemmas.C03
/-!
# `consumePayload` as the pure function `consumeSpec`

`consumeSpec_rule` is the one walk through the five layers (`bufContSpec`/`bufStartSpec` below
`contSpec`/`startSpec` below `consumeSpec`): an invariant of the buffer layer and a property of the
delivered sections need only be checked against the two buffer-layer functions.
-/
namespace Ts.Lemmas.C03
open Ts Ts.Psi Ts.Spec Ts.Spec.SectionMux

/-! ### invariants depend on `buf` / `remaining` only -/

theorem psiInv_congr (kind : Kind) (s s' : St) (hb : s'.buf = s.buf) (hr : s'.remaining = s.remaining)
    (h : PsiInv kind s) : PsiInv kind s' := by
  intro n hn; rw [hr] at hn; rw [hb]; exact h n hn

theorem psiInvFull_congr (kind : Kind) (s s' : St) (hb : s'.buf = s.buf) (hr : s'.remaining = s.remaining)
    (h : PsiInvFull kind s) : PsiInvFull kind s' := by
  refine ⟨psiInv_congr kind s s' hb hr h.1, ?_⟩
  intro n hn; rw [hr] at hn; rw [hb]; exact h.2 n hn

theorem procReset_remaining (cfg : Cfg) (s : St) : (procReset cfg s).remaining = none := by
  unfold procReset dedupReset bufReset; split <;> rfl

theorem procReset_buf (cfg : Cfg) (s : St) : (procReset cfg s).buf = [] := by
  unfold procReset dedupReset bufReset; split <;> rfl

def consumeSpec (cfg : Cfg) (s : St) (us : Bool) (pk : Bytes) (off : Nat) : St × List Delivery :=
  if us then
    if 0 < byteD pk 0 ∧ (pk.drop 1).length ≤ byteD pk 0 then (procReset cfg s, [])
    else
      let r1 := if 0 < byteD pk 0 then contSpec cfg s ((pk.drop 1).take (byteD pk 0)) else (s, [])
      let ns := (pk.drop 1).drop (byteD pk 0)
      if ns.length < 3 then (procReset cfg r1.1, r1.2)
      else
        let r2 := startSpec cfg r1.1 ns (off + 1 + byteD pk 0)
        (r2.1, r1.2 ++ r2.2)
  else contSpec cfg s pk

theorem consumePayload_eq (cfg : Cfg) (hc : CfgOk cfg) (s : St) (us : Bool) (pk : Bytes) (off : Nat)
    (hpk : 1 ≤ pk.length) (h : PsiInv (kindOf cfg) s) :
    consumePayload cfg s us pk off = .ok (consumeSpec cfg s us pk off) := by
  unfold consumePayload consumeSpec
  cases us
  · exact procContinue_eq cfg s pk h
  · simp only [if_true, byteAt_ok pk 0 (by omega), sliceFrom_ok pk 1 hpk, R.ok_bind, Bool.and_eq_true,
      decide_eq_true_eq, gt_iff_lt, ge_iff_le]
    split
    · rfl
    · rename_i hres
      have hptr : byteD pk 0 ≤ (pk.drop 1).length := by omega
      -- the `pointer_field` bytes go to the section being buffered
      have hr1 : (if 0 < byteD pk 0 then sliceTo (pk.drop 1) (byteD pk 0) >>= procContinue cfg s
            else pure (s, []))
          = .ok (if 0 < byteD pk 0 then contSpec cfg s ((pk.drop 1).take (byteD pk 0)) else (s, [])) := by
        split
        · rw [sliceTo_ok _ _ hptr, R.ok_bind, procContinue_eq cfg s _ h]
        · rfl
      simp only [bind_pure_comp, hr1, R.ok_bind, sliceFrom_ok _ _ hptr, COMMON]
      split
      · rfl
      · rename_i hns
        have h3 : 3 ≤ ((pk.drop 1).drop (byteD pk 0)).length := by omega
        simp only [sliceTo_ok _ 3 h3, R.ok_bind, headerNew_eq _ h3, procStart_eq cfg hc]
        rfl

/-! ### the rule for the five layers -/

def Ends (I : St → Prop) (D : Delivery → Prop) (r : St × List Delivery) : Prop :=
  I r.1 ∧ ∀ d ∈ r.2, D d

section rule
variable {cfg : Cfg} {I : St → Prop} {D : Delivery → Prop}

theorem Ends.nil {s : St} (h : I s) : Ends I D (s, []) := ⟨h, fun _ hd => nomatch hd⟩

theorem Ends.imp {I' : St → Prop} {D' : Delivery → Prop} {r : St × List Delivery} (h : Ends I D r)
    (hI : I r.1 → I' r.1) (hD : ∀ d, D d → D' d) : Ends I' D' r :=
  ⟨hI h.1, fun d hd => hD d (h.2 d hd)⟩

/-- one outcome after another, as every layer and every run composes them -/
theorem Ends.seq {r1 r2 : St × List Delivery} (h1 : Ends I D r1) (h2 : Ends I D r2) :
    Ends I D (r2.1, r1.2 ++ r2.2) :=
  ⟨h2.1, fun d hd => (List.mem_append.1 hd).elim (h1.2 d) (h2.2 d)⟩

/-- what the buffer layer has to do for `I` and `D`. `hloc`: `I` speaks of `buf` and `remaining`
only (the processor and dedup layers change nothing else on the way down) -/
structure BufRule (cfg : Cfg) (I : St → Prop) (D : Delivery → Prop) : Prop where
  hloc : ∀ s s' : St, s'.buf = s.buf → s'.remaining = s.remaining → I s → I s'
  hreset : ∀ s : St, s.buf = [] → s.remaining = none → I s
  hcont : ∀ s data, I s → Ends I D (bufContSpec s data)
  hstart : ∀ s data off, startOk cfg data = true → I s → Ends I D (bufStartSpec s data off)

theorem contSpec_rule (hcont : ∀ s data, I s → Ends I D (bufContSpec s data))
    (s : St) (data : Bytes) (h : I s) : Ends I D (contSpec cfg s data) := by
  unfold contSpec
  split
  · exact .nil h
  · split
    · exact .nil h
    · exact hcont s data h

theorem startSpec_rule (hr : BufRule cfg I D) (s : St) (data : Bytes) (off : Nat) (h : I s) :
    Ends I D (startSpec cfg s data off) := by
  unfold startSpec
  split
  · rename_i hok
    unfold dedupStartSpec
    split
    · split
      · exact .nil (hr.hloc s _ rfl rfl h)
      · exact hr.hstart _ data off hok (hr.hloc s _ rfl rfl h)
    · exact hr.hstart _ data off hok (hr.hloc s _ rfl rfl h)
  · exact .nil (hr.hloc s _ rfl rfl h)

theorem consumeSpec_rule (hr : BufRule cfg I D) (s : St) (us : Bool) (pk : Bytes) (off : Nat)
    (h : I s) : Ends I D (consumeSpec cfg s us pk off) := by
  have reset : ∀ s, I (procReset cfg s) := fun s =>
    hr.hreset _ (procReset_buf cfg s) (procReset_remaining cfg s)
  unfold consumeSpec
  cases us
  · exact contSpec_rule hr.hcont s pk h
  · simp only [if_true]
    split
    · exact .nil (reset s)
    · have hr1 : Ends I D
          (if 0 < byteD pk 0 then contSpec cfg s ((pk.drop 1).take (byteD pk 0)) else (s, [])) := by
        split
        · exact contSpec_rule hr.hcont s _ h
        · exact .nil h
      split
      · exact ⟨reset _, hr1.2⟩
      · exact hr1.seq (startSpec_rule hr _ _ _ hr1.1)

end rule

/-! ### the two invariants, and what is delivered under each -/

def DelivOk (d : Delivery) : Prop := d.bytes.length ≤ 1024 ∧ d.bytes.length = 3 + hdrLen d.bytes

theorem bufContSpec_inv (kind : Kind) (s : St) (data : Bytes) (h : PsiInv kind s) :
    Ends (PsiInv kind) (fun d => d.inplace = none ∧ d.bytes.length ≤ 1024) (bufContSpec s data) := by
  unfold bufContSpec
  cases hr : s.remaining with
  | none => exact .nil h
  | some n =>
    obtain ⟨h0, h1, h2⟩ := h n hr
    by_cases hle : n ≤ data.length
    · simp only [hle, if_true]
      refine ⟨psiInv_of_none _ _ rfl, fun d hd => ?_⟩
      cases List.mem_singleton.1 hd
      simp only [List.length_append, List.length_take, Nat.min_eq_left hle, true_and]
      omega
    · simp only [hle, if_false]
      refine .nil fun m hm => ?_
      cases hm
      simp only [List.length_append]
      omega

theorem bufContSpec_invFull (kind : Kind) (s : St) (data : Bytes) (h : PsiInvFull kind s) :
    Ends (PsiInvFull kind) DelivOk (bufContSpec s data) := by
  have hi := bufContSpec_inv kind s data h.1
  have h3 := minHeader_ge kind
  unfold bufContSpec at hi ⊢
  cases hr : s.remaining with
  | none => exact .nil h
  | some n =>
    obtain ⟨h0, h1, h2⟩ := h.1 n hr
    have hf := h.2 n hr
    rw [hr] at hi
    by_cases hle : n ≤ data.length
    · simp only [hle, if_true] at hi ⊢
      refine ⟨psiInvFull_of_none _ _ rfl, fun d hd => ⟨(hi.2 d hd).2, ?_⟩⟩
      cases List.mem_singleton.1 hd
      simp only [List.length_append, List.length_take, Nat.min_eq_left hle]
      rw [hdrLen_append _ _ (by omega)]
      omega
    · simp only [hle, if_false] at hi ⊢
      refine .nil ⟨hi.1, fun m hm => ?_⟩
      cases hm
      simp only [List.length_append]
      rw [hdrLen_append _ _ (by omega)]
      omega

theorem bufStartSpec_invFull (cfg : Cfg) (s : St) (data : Bytes) (off : Nat)
    (hok : startOk cfg data = true) :
    Ends (PsiInvFull (kindOf cfg)) DelivOk (bufStartSpec s data off) := by
  obtain ⟨_, h1, h2⟩ := (startOk_iff cfg data).1 hok
  unfold bufStartSpec
  by_cases hle : hdrLen data + 3 ≤ data.length
  · simp only [hle, if_true]
    refine ⟨psiInvFull_of_none _ _ rfl, fun d hd => ?_⟩
    cases List.mem_singleton.1 hd
    simp only [DelivOk, List.length_take, Nat.min_eq_left hle]
    rw [hdrLen_take _ _ (by omega)]
    omega
  · simp only [hle, if_false]
    refine .nil ⟨fun n hn => ?_, fun n hn => ?_⟩
    · cases hn
      exact ⟨by omega, h1, show data.length + _ ≤ 1024 by omega⟩
    · cases hn
      show data.length + _ = 3 + hdrLen data
      omega

theorem bufRule_invFull (cfg : Cfg) : BufRule cfg (PsiInvFull (kindOf cfg)) DelivOk where
  hloc := psiInvFull_congr _
  hreset s _ h := psiInvFull_of_none _ s h
  hcont := bufContSpec_invFull _
  hstart s data off hok _ := bufStartSpec_invFull cfg s data off hok

theorem bufRule_inv (cfg : Cfg) :
    BufRule cfg (PsiInv (kindOf cfg)) (fun d => d.bytes.length ≤ 1024) where
  hloc := psiInv_congr _
  hreset s _ h := psiInv_of_none _ s h
  hcont s data h := (bufContSpec_inv _ s data h).imp id fun _ hd => hd.2
  hstart s data off hok _ := (bufStartSpec_invFull cfg s data off hok).imp (·.1) fun _ hd => hd.1

theorem contSpec_inv (cfg : Cfg) (kind : Kind) (s : St) (data : Bytes) (h : PsiInv kind s) :
    PsiInv kind (contSpec cfg s data).1 :=
  (contSpec_rule (bufContSpec_inv kind) s data h).1

theorem consumeSpec_inv (cfg : Cfg) (s : St) (us : Bool) (pk : Bytes) (off : Nat)
    (h : PsiInv (kindOf cfg) s) : PsiInv (kindOf cfg) (consumeSpec cfg s us pk off).1 :=
  (consumeSpec_rule (bufRule_inv cfg) s us pk off h).1

/-! ### how many deliveries: no invariant needed -/

theorem contSpec_length_le_one (cfg : Cfg) (s : St) (data : Bytes) :
    (contSpec cfg s data).2.length ≤ 1 := by
  unfold contSpec bufContSpec
  repeat' split
  all_goals simp

theorem startSpec_length_le_one (cfg : Cfg) (s : St) (data : Bytes) (off : Nat) :
    (startSpec cfg s data off).2.length ≤ 1 := by
  unfold startSpec dedupStartSpec bufStartSpec
  repeat' split
  all_goals simp

/-- one section completed by the `pointer_field` bytes, one started behind them -/
theorem consumeSpec_length_le_two (cfg : Cfg) (s : St) (us : Bool) (pk : Bytes) (off : Nat) :
    (consumeSpec cfg s us pk off).2.length ≤ 2 := by
  have hc := contSpec_length_le_one cfg s
  unfold consumeSpec
  cases us
  · exact Nat.le_succ_of_le (hc pk)
  · simp only [if_true]
    split
    · simp
    · have hr1 : (if 0 < byteD pk 0 then contSpec cfg s ((pk.drop 1).take (byteD pk 0))
          else (s, [])).2.length ≤ 1 := by
        split
        · exact hc _
        · simp
      split
      · exact Nat.le_succ_of_le hr1
      · simp only [List.length_append]
        exact Nat.add_le_add hr1 (startSpec_length_le_one ..)

theorem contSpec_frame (cfg : Cfg) (s : St) (p : Bytes) :
    (contSpec cfg s p).1.lastVersion = s.lastVersion ∧ (contSpec cfg s p).1.ignoreRest = s.ignoreRest
      ∧ (contSpec cfg s p).1.dedupIgnore = s.dedupIgnore := by
  unfold contSpec bufContSpec
  repeat' split
  all_goals exact ⟨rfl, rfl, rfl⟩

end Ts.Lemmas.C03
