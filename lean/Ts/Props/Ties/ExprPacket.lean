import Ts.Refl.OrHom
import Ts.Gen.Exprs
import Ts.Model.Packet
import Ts.Props.Ties.ExprSpecCore
import Ts.Lemmas.C16
import Ts.Lemmas.C17
/-!
# Ties to `/repo/src` — transport packet fixed header (audited with C12)

Expressions (`tie_expr_*`, `tie_model_*`).  See `Ts/Props/Ties/ExprTime.lean` for the method.
`Ts.Gen.Expr.pk_*`, `ac_*`, `tsc_*`, `cc_follows`
are translated from `/repo/src/packet.rs` on every run.

CODE = ISO (`code_*_is_iso`): see `Ts/Props/Ties/ExprSpecCore.lean`.
-/
namespace Ts.Props.Ties.Expr
open Ts Ts.Refl Ts.Gen.Expr

/-! ### header bytes 1 and 2 -/

def mTei (e : Env) : Bool := e 1 &&& 0b1000_0000 != 0
def mPusi (e : Env) : Bool := e 1 &&& 0b0100_0000 != 0
def mPrio (e : Env) : Bool := e 1 &&& 0b0010_0000 != 0
def mPid (e : Env) : Nat := ((e 1 &&& 0b0001_1111) <<< 8) ||| e 2

theorem tie_expr_pk_tei : ∀ x : Fin 256, pk_tei (envL [0, x.val]) = mTei (envL [0, x.val]) := by decide +kernel
theorem tie_expr_pk_pusi : ∀ x : Fin 256, pk_pusi (envL [0, x.val]) = mPusi (envL [0, x.val]) := by decide +kernel
theorem tie_expr_pk_prio : ∀ x : Fin 256, pk_prio (envL [0, x.val]) = mPrio (envL [0, x.val]) := by decide +kernel
theorem tie_expr_pk_pid : ∀ l : List Nat, l.length ≤ 3 → (∀ x ∈ l, x < 256) →
    pk_pid (envL l) = mPid (envL l) := by tie_linear 3

/-- the other header bytes set to `0xff` change no flag accessor: an index moved off byte 1 is caught -/
theorem tie_expr_pk_flags_index : ∀ x : Fin 256,
    pk_tei (envL [0xff, x.val, 0xff, 0xff]) = mTei (envL [0, x.val])
    ∧ pk_pusi (envL [0xff, x.val, 0xff, 0xff]) = mPusi (envL [0, x.val])
    ∧ pk_prio (envL [0xff, x.val, 0xff, 0xff]) = mPrio (envL [0, x.val]) := by decide +kernel

theorem tie_model_tei (p : Bytes) : Packet.tei p = (do let b ← byteAt p 1; pure (mTei (envL [0, b]))) := rfl
theorem tie_model_pusi (p : Bytes) : Packet.pusi p = (do let b ← byteAt p 1; pure (mPusi (envL [0, b]))) := rfl
theorem tie_model_prio (p : Bytes) : Packet.prio p = (do let b ← byteAt p 1; pure (mPrio (envL [0, b]))) := rfl
theorem tie_model_pid (p : Bytes) : Packet.pid p = (do
    let b1 ← byteAt p 1; let b2 ← byteAt p 2
    pure (mPid (envL [0, b1, b2]))) := rfl

/-! ### header byte 3: scrambling control, adaptation control, continuity counter -/

def mCc (e : Env) : Nat := e 3 &&& 0b0000_1111
theorem tie_expr_pk_cc : ∀ x : Fin 256,
    pk_cc (envL [0xff, 0xff, 0xff, x.val, 0xff]) = mCc (envL [0, 0, 0, x.val]) := by decide +kernel
theorem tie_model_cc (p : Bytes) : Packet.cc p = (do
    let b ← byteAt p 3
    let v := mCc (envL [0, 0, 0, b])
    assertR (v < 0b10000) "assert!(count < 0b10000)"
    pure v) := rfl

/-- `adaptation_field_length()` is byte 4 -/
theorem tie_expr_pk_af_len : ∀ x : Fin 256, pk_af_len (envL [0xff, 0xff, 0xff, 0xff, x.val, 0xff]) = x.val := by
  decide +kernel
theorem tie_model_af_len (p : Bytes) : Packet.afLen p = byteAt p 4 := rfl

/-- `AdaptationControl::new` keeps the two field bits (finding F11), and the two predicates applied to
the stored value are the model's predicates on header byte 3 -/
theorem tie_expr_ac : ∀ x : Fin 256,
    ac_new (envL [x.val]) = Packet.adaptationControlRepr x.val
    ∧ ac_has_payload (envL [ac_new (envL [x.val])]) = Packet.hasPayload x.val
    ∧ ac_has_af (envL [ac_new (envL [x.val])]) = Packet.hasAf x.val := by decide +kernel

/-- `TransportScramblingControl::from_byte_four`, `is_scrambled`, `scheme` -/
theorem tie_expr_tsc : ∀ x : Fin 256,
    tsc_new (envL [x.val]) = Packet.scramblingControlRepr x.val
    ∧ tsc_is_scrambled (envL [tsc_new (envL [x.val])]) = Packet.isScrambled x.val
    ∧ tsc_scheme (envL [tsc_new (envL [x.val])]) = Packet.scheme x.val := by decide +kernel

/-- `ContinuityCounter::follows` on the 16 × 16 counter values (`u8` addition cannot overflow there) -/
theorem tie_expr_cc_follows : ∀ other self : Fin 16,
    cc_follows (envL [other.val, self.val]) = Packet.follows self.val other.val := by decide +kernel

end Ts.Props.Ties.Expr

namespace Ts.Props.Ties.Expr
open Ts Ts.Refl Ts.Gen.Expr Ts.Spec

theorem code_model_pid (bs : Bytes) : pk_pid (envB bs) = mPid (envB bs) :=
  tie_on_bytes 3 tie_expr_pk_pid (by reads_below pk_pid) (by reads_below mPid) bs

/-- one-byte tie (`∀ x : Fin 256`), instantiated at byte 3 of `bs` -/
theorem code_model_cc (bs : Bytes) : pk_cc (envB bs) = mCc (envB bs) := by
  have l1 : pk_cc (envB bs) = pk_cc (envL [0xff, 0xff, 0xff, byteD bs 3, 0xff]) := by
    simp only [pk_cc, envB_byteD]; rfl
  have l2 : mCc (envL [0, 0, 0, byteD bs 3]) = mCc (envB bs) := by
    simp only [mCc, envB_byteD]; rfl
  rw [l1]
  exact (tie_expr_pk_cc ⟨byteD bs 3, byteD_lt bs 3⟩).trans l2

open Ts.Lemmas.C16 Ts.Lemmas.C17 in
theorem model_iso_pid (bs : Bytes) : mPid (envB bs) = readBits bs 11 13 := by
  simp only [mPid, envB_byteD]
  rw [mask13 _ _ (byteD_lt bs 1) (byteD_lt bs 2), st_pid]

theorem model_iso_cc (bs : Bytes) : mCc (envB bs) = readBits bs 28 4 := by
  simp only [mCc, envB_byteD]
  have r := readBits_sub bs 3 4 4 (by omega)
  rw [show 8 * 3 + 4 = 28 from rfl] at r
  rw [r, and_0f _ (byteD_lt bs 3)]
  simp

/-- transport packet header: `PID`, 13 bits at bit 11 -/
theorem code_pid_is_iso (bs : Bytes) (_h : 3 ≤ bs.length) : pk_pid (envB bs) = readBits bs 11 13 :=
  (code_model_pid bs).trans (model_iso_pid bs)

/-- transport packet header: `continuity_counter`, 4 bits at bit 28 -/
theorem code_cc_is_iso (bs : Bytes) (_h : 4 ≤ bs.length) : pk_cc (envB bs) = readBits bs 28 4 :=
  (code_model_cc bs).trans (model_iso_cc bs)

/-- PID 0x1234 & 0x1fff = 0x1234 in a packet header `47 52 34 1c` (surrounding bits all set) -/
example : pk_pid (envB [0x47, 0xf2, 0x34, 0x1c]) = 0x1234
    ∧ readBits [0x47, 0xf2, 0x34, 0x1c] 11 13 = 0x1234 := by decide

end Ts.Props.Ties.Expr
