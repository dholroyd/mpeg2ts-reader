import Ts.Lemmas.C05He
import Ts.Lemmas.AppEval
/-!
# C05 over whole histories — the PAT clause for the tables in force; scope boundaries (DESIGN 8.1b)

The case lines `sharedSameVer`, `sharedDiffVer`, `cniNext`, `twoSectionPat` as byte lists, histories and
kernel evaluations of the whole model; the invariants behind `routed_by_current_pat` and the per-program
reading under `DistinctPmtPids`.
-/
namespace Ts.Lemmas.C05Hf
open Ts Ts.Tables Ts.App Ts.Demux Ts.Spec Ts.Spec.TableSpec Ts.Spec.Routing Ts.Spec.RoutingHistory
open Ts.Spec.SectionMux Ts.Lemmas.C03 Ts.Lemmas.C10 Ts.Lemmas.C05 Ts.Lemmas.C05Run Ts.Lemmas.C05H
open Ts.Lemmas.C05HRun Ts.Lemmas.C05He

/-- one unit-start transport packet (`pointer_field = 0`) carrying the whole section `sec`; `h1 h2 h3`
are the three header bytes after the sync byte (PID, `payload_unit_start_indicator`, continuity
counter); 0xff stuffing -/
def psiPkt (h1 h2 h3 : UInt8) (sec : Bytes) : Bytes :=
  [0x47, h1, h2, h3, 0x00] ++ sec ++ List.replicate (183 - sec.length) 0xff

/-- PAT version 0 whose two entries name the SAME PMT PID: program 1 → 0x100, program 2 → 0x100 -/
def secPatShared : Bytes :=
  [0x00, 0xb0, 0x11, 0x00, 0x01, 0xc1, 0x00, 0x00, 0x00, 0x01, 0xe1, 0x00, 0x00, 0x02, 0xe1, 0x00,
   0x4b, 0x62, 0xfa, 0x7a]

/-- PMT of program 1 (`table_id_extension` 1), version 0: PCR PID 0x101, 0x1b on 0x101 -/
def secPmtA : Bytes :=
  [0x02, 0xb0, 0x12, 0x00, 0x01, 0xc1, 0x00, 0x00, 0xe1, 0x01, 0xf0, 0x00, 0x1b, 0xe1, 0x01, 0xf0, 0x00,
   0x4f, 0xc4, 0x3d, 0x1b]

/-- PMT of program 2 (`table_id_extension` 2), version 0: PCR PID 0x201, 0x1b on 0x201 -/
def secPmtB0 : Bytes :=
  [0x02, 0xb0, 0x12, 0x00, 0x02, 0xc1, 0x00, 0x00, 0xe2, 0x01, 0xf0, 0x00, 0x1b, 0xe2, 0x01, 0xf0, 0x00,
   0x00, 0x5e, 0x8b, 0xd0]

/-- the same PMT of program 2 with `version_number` 1 -/
def secPmtB1 : Bytes :=
  [0x02, 0xb0, 0x12, 0x00, 0x02, 0xc3, 0x00, 0x00, 0xe2, 0x01, 0xf0, 0x00, 0x1b, 0xe2, 0x01, 0xf0, 0x00,
   0x0f, 0xb3, 0x4d, 0xdc]

/-- PMT of program 1, version 1, `current_next_indicator = 0` (a NEXT table): 0x1b on 0x102 -/
def secPmtNext : Bytes :=
  [0x02, 0xb0, 0x12, 0x00, 0x01, 0xc2, 0x00, 0x00, 0xe1, 0x02, 0xf0, 0x00, 0x1b, 0xe1, 0x02, 0xf0, 0x00,
   0xa9, 0x54, 0x88, 0xc6]

/-- PAT version 0, `section_number` 0 of `last_section_number` 1: program 1 → 0x100 -/
def secPat2a : Bytes :=
  [0x00, 0xb0, 0x0d, 0x00, 0x01, 0xc1, 0x00, 0x01, 0x00, 0x01, 0xe1, 0x00, 0xa1, 0xf4, 0x39, 0xf0]

/-- PAT version 0, `section_number` 1 of `last_section_number` 1: program 2 → 0x110 -/
def secPat2b : Bytes :=
  [0x00, 0xb0, 0x0d, 0x00, 0x01, 0xc1, 0x01, 0x01, 0x00, 0x02, 0xe1, 0x10, 0xf4, 0xa4, 0x1a, 0x71]

/-- unit-start packet on PID `0x100 * hi + 1` with a 154-byte adaptation field and the start of a PES
packet (stream id 0xe0) followed by 20 bytes `fill`; continuity counter 0 -/
def esStart (hi fill : UInt8) : Bytes :=
  [0x47, 0x40 + hi, 0x01, 0x30, 0x9a, 0x00] ++ List.replicate 153 0xff ++
    [0x00, 0x00, 0x01, 0xe0, 0x00, 0x17, 0x80, 0x00, 0x00] ++ List.replicate 20 fill

/-- continuation packet on PID `0x100 * hi + 1` with a 153-byte adaptation field and 30 bytes `fill`;
continuity counter `cc` -/
def esCont (hi cc fill : UInt8) : Bytes :=
  [0x47, hi, 0x01, 0x30 + cc, 0x99, 0x00] ++ List.replicate 152 0xff ++ List.replicate 30 fill

/-- `sharedSameVer demux b0t0 …`: PAT {1 → 0x100, 2 → 0x100}; on 0x100 the PMT of program 1 (v0) and
the PMT of program 2 (v0); elementary packets on 0x101, 0x201, 0x101, 0x201 -/
def sameBytes : Bytes :=
  psiPkt 0x40 0x00 0x10 secPatShared ++ psiPkt 0x41 0x00 0x10 secPmtA ++ psiPkt 0x41 0x00 0x11 secPmtB0 ++
  esStart 1 0x61 ++ esStart 2 0x62 ++ esCont 1 1 0x41 ++ esCont 2 1 0x42

/-- `sharedDiffVer demux b0t0 …`: the same with program 2's PMT at version 1, then both PMTs repeated
(program 1's v0, program 2's v1), elementary packets after each -/
def diffBytes : Bytes :=
  psiPkt 0x40 0x00 0x10 secPatShared ++ psiPkt 0x41 0x00 0x10 secPmtA ++ psiPkt 0x41 0x00 0x11 secPmtB1 ++
  esStart 1 0x61 ++ esStart 2 0x62 ++
  psiPkt 0x41 0x00 0x12 secPmtA ++ esCont 1 1 0x41 ++ esCont 2 1 0x42 ++
  psiPkt 0x41 0x00 0x13 secPmtB1 ++ esCont 1 2 0x41 ++ esCont 2 2 0x42

/-- `cniNext demux b0t0 …`: PAT {1 → 0x100} (= `patV0`); PMT v0 {0x101}; a packet on 0x101; the NEXT
PMT v1 (`current_next_indicator = 0`) {0x102}; a packet on 0x101 -/
def cniBytes : Bytes :=
  patV0 ++ psiPkt 0x41 0x00 0x10 secPmtA ++ esStart 1 0x61 ++ psiPkt 0x41 0x00 0x11 secPmtNext ++
  esCont 1 1 0x41

/-- `twoSectionPat demux b0t0 …`: the two sections of a PAT v0 ({1 → 0x100}, {2 → 0x110}); PMT of
program 1 on 0x100; PMT of program 2 on 0x110; a packet on 0x201 -/
def twoSecBytes : Bytes :=
  psiPkt 0x40 0x00 0x10 secPat2a ++ psiPkt 0x40 0x00 0x11 secPat2b ++ psiPkt 0x41 0x00 0x10 secPmtA ++
  psiPkt 0x41 0x10 0x10 secPmtB0 ++ esStart 2 0x61

/-- the four byte strings have the lengths of the case lines (7, 11, 5, 5 packets) and start as
printed there -/
theorem case_lengths : sameBytes.length = 7 * 188 ∧ diffBytes.length = 11 * 188 ∧
    cniBytes.length = 5 * 188 ∧ twoSecBytes.length = 5 * 188 := by decide +kernel

theorem slot_pat (o : Option Handler) (reg : List Nat) (h : slotOf o = .pat reg) :
    ∃ s, o = some (.pat s reg) := by
  cases o with
  | none => cases h
  | some hd =>
    cases hd <;> simp [slotOf] at h
    subst h
    exact ⟨_, rfl⟩

def patShared : List PatEntry := [.program 1 0x100, .program 2 0x100]

/-- PMT body of program 1: PCR PID 0x101, 0x1b on 0x101 -/
def bodyA : Bytes := [0xe1, 0x01, 0xf0, 0x00, 0x1b, 0xe1, 0x01, 0xf0, 0x00]

/-- PMT body of program 2: PCR PID 0x201, 0x1b on 0x201 -/
def bodyB : Bytes := [0xe2, 0x01, 0xf0, 0x00, 0x1b, 0xe2, 0x01, 0xf0, 0x00]

/-- body of the NEXT PMT of program 1: PCR PID 0x102, 0x1b on 0x102 -/
def bodyN : Bytes := [0xe1, 0x02, 0xf0, 0x00, 0x1b, 0xe1, 0x02, 0xf0, 0x00]

theorem streams_bodyA : streamsOf bodyA = [⟨0x1b, 0x101, []⟩] := by decide +kernel
theorem streams_bodyB : streamsOf bodyB = [⟨0x1b, 0x201, []⟩] := by decide +kernel

/-- `sharedSameVer` as a history: PAT; PMT of program 1 applied; the packet carrying the PMT of
program 2 is a REPETITION in the sense of C10 (same PID, same `version_number`); four elementary
packets -/
def hSame : List Event :=
  [.patApplied 0 patShared, .pmtApplied 0x100 0 bodyA, .repetition 0x100,
   .esPacket 0x101, .esPacket 0x201, .esPacket 0x101, .esPacket 0x201]

/-- `sharedDiffVer` as a history: both sections are applied, alternately, as versions 0, 1, 0, 1 of
"the" PMT on 0x100 -/
def hDiff : List Event :=
  [.patApplied 0 patShared, .pmtApplied 0x100 0 bodyA, .pmtApplied 0x100 1 bodyB,
   .esPacket 0x101, .esPacket 0x201, .pmtApplied 0x100 0 bodyA, .esPacket 0x101, .esPacket 0x201,
   .pmtApplied 0x100 1 bodyB, .esPacket 0x101, .esPacket 0x201]

/-- `cniNext` as a history: the next table is just another applied version -/
def hCni : List Event :=
  [.patApplied 0 [.program 1 0x100], .pmtApplied 0x100 0 bodyA, .esPacket 0x101,
   .pmtApplied 0x100 1 bodyN, .esPacket 0x101]

/-- `twoSectionPat` as a history: section 1 of the PAT is a repetition on PID 0 -/
def hTwoSec : List Event :=
  [.patApplied 0 [.program 1 0x100], .repetition 0, .pmtApplied 0x100 0 bodyA,
   .esPacket 0x110, .esPacket 0x201]

def samePks : List Pk :=
  [⟨psiPkt 0x40 0x00 0x10 secPatShared, 0, 0, false, false⟩,
   ⟨psiPkt 0x41 0x00 0x10 secPmtA, 188, 0x100, false, false⟩,
   ⟨psiPkt 0x41 0x00 0x11 secPmtB0, 376, 0x100, false, false⟩,
   ⟨esStart 1 0x61, 564, 0x101, false, false⟩, ⟨esStart 2 0x62, 752, 0x201, false, false⟩,
   ⟨esCont 1 1 0x41, 940, 0x101, false, false⟩, ⟨esCont 2 1 0x42, 1128, 0x201, false, false⟩]

def diffPks : List Pk :=
  [⟨psiPkt 0x40 0x00 0x10 secPatShared, 0, 0, false, false⟩,
   ⟨psiPkt 0x41 0x00 0x10 secPmtA, 188, 0x100, false, false⟩,
   ⟨psiPkt 0x41 0x00 0x11 secPmtB1, 376, 0x100, false, false⟩,
   ⟨esStart 1 0x61, 564, 0x101, false, false⟩, ⟨esStart 2 0x62, 752, 0x201, false, false⟩,
   ⟨psiPkt 0x41 0x00 0x12 secPmtA, 940, 0x100, false, false⟩,
   ⟨esCont 1 1 0x41, 1128, 0x101, false, false⟩, ⟨esCont 2 1 0x42, 1316, 0x201, false, false⟩,
   ⟨psiPkt 0x41 0x00 0x13 secPmtB1, 1504, 0x100, false, false⟩,
   ⟨esCont 1 2 0x41, 1692, 0x101, false, false⟩, ⟨esCont 2 2 0x42, 1880, 0x201, false, false⟩]

def cniPks : List Pk :=
  [⟨patV0, 0, 0, false, false⟩, ⟨psiPkt 0x41 0x00 0x10 secPmtA, 188, 0x100, false, false⟩,
   ⟨esStart 1 0x61, 376, 0x101, false, false⟩,
   ⟨psiPkt 0x41 0x00 0x11 secPmtNext, 564, 0x100, false, false⟩,
   ⟨esCont 1 1 0x41, 752, 0x101, false, false⟩]

def twoSecPks : List Pk :=
  [⟨psiPkt 0x40 0x00 0x10 secPat2a, 0, 0, false, false⟩,
   ⟨psiPkt 0x40 0x00 0x11 secPat2b, 188, 0, false, false⟩,
   ⟨psiPkt 0x41 0x00 0x10 secPmtA, 376, 0x100, false, false⟩,
   ⟨psiPkt 0x41 0x10 0x10 secPmtB0, 564, 0x110, false, false⟩,
   ⟨esStart 2 0x61, 752, 0x201, false, false⟩]

theorem same_frame : Demux.frame sameBytes 0 = .ok samePks := by decide +kernel
theorem diff_frame : Demux.frame diffBytes 0 = .ok diffPks := by decide +kernel
theorem cni_frame : Demux.frame cniBytes 0 = .ok cniPks := by decide +kernel
theorem twoSec_frame : Demux.frame twoSecBytes 0 = .ok twoSecPks := by decide +kernel

/-! ### the whole model on the four case lines (kernel evaluation; one `push` of the whole buffer)

Identical to the output of the Rust harness:
`sharedSameVer` → `… C:stream:256:27:257…>3 … C:bypid:513>4 P:4@752`;
`cniNext` → `C:stream…258>3 C:bypid:257>4`; `twoSectionPat` → `C:bypid:272>3 … C:bypid:513>4`. -/

/-- `sharedSameVer`, slots 0, 0x100, 0x101, 0x201: program 2's PMT (same `version_number`, same PID) is
de-duplicated; the PMT filter on 0x100 is the one requested for program 2 (the LAST PAT entry naming 0x100)
and it applied program 1's PMT -/
theorem same_run : observeAt [0, 0x100, 0x101, 0x201] (runApp {} [sameBytes]) = some
    { constructs := [(.byPid 0, 0), (.pmt 0x100 1, 1), (.pmt 0x100 2, 2),
        (.stream 0x100 0x1b 0x101 0x101 [] [], 3), (.byPid 0x201, 4)],
      pkts := [(4, 752), (4, 1128)],
      es := [(3, 0), (3, 1), (3, 2)],
      slots := [.pat [0x100, 0x100], .pmt 0x100 2 [0x101], .pes 3, .recorder 4] } := by
  eval_app [runApp_frame _ _ _ same_frame]

/-- `sharedDiffVer`, slots 0, 0x100, 0x101, 0x201: the two PMTs are applied ALTERNATELY by the one PMT
filter on 0x100, and each application removes the other program's elementary-stream handler -/
theorem diff_run : observeAt [0, 0x100, 0x101, 0x201] (runApp {} [diffBytes]) = some
    { constructs := [(.byPid 0, 0), (.pmt 0x100 1, 1), (.pmt 0x100 2, 2),
        (.stream 0x100 0x1b 0x101 0x101 [] [], 3), (.stream 0x100 0x1b 0x201 0x201 [] [], 4),
        (.byPid 0x101, 5), (.stream 0x100 0x1b 0x101 0x101 [] [], 6), (.byPid 0x201, 7),
        (.stream 0x100 0x1b 0x201 0x201 [] [], 8), (.byPid 0x101, 9)],
      pkts := [(5, 564), (7, 1316), (9, 1692)],
      es := [(4, 0), (4, 1)],
      slots := [.pat [0x100, 0x100], .pmt 0x100 2 [0x201], .recorder 9, .pes 8] } := by
  eval_app [runApp_frame _ _ _ diff_frame]

/-- `cniNext`, slots 0, 0x100, 0x101, 0x102: the PMT with `current_next_indicator = 0` is applied AT ONCE -/
theorem cni_run : observeAt [0, 0x100, 0x101, 0x102] (runApp {} [cniBytes]) = some
    { constructs := [(.byPid 0, 0), (.pmt 0x100 1, 1), (.stream 0x100 0x1b 0x101 0x101 [] [], 2),
        (.stream 0x100 0x1b 0x102 0x102 [] [], 3), (.byPid 0x101, 4)],
      pkts := [(4, 752)],
      es := [(2, 0), (2, 1)],
      slots := [.pat [0x100], .pmt 0x100 1 [0x102], .recorder 4, .pes 3] } := by
  eval_app [runApp_frame _ _ _ cni_frame]

/-- `twoSectionPat`, slots 0, 0x100, 0x110, 0x101, 0x201: section 1 of the PAT (same `version_number` as
section 0) is de-duplicated: program 2 never gets a PMT handler -/
theorem twoSec_run : observeAt [0, 0x100, 0x110, 0x101, 0x201] (runApp {} [twoSecBytes]) = some
    { constructs := [(.byPid 0, 0), (.pmt 0x100 1, 1), (.stream 0x100 0x1b 0x101 0x101 [] [], 2),
        (.byPid 0x110, 3), (.byPid 0x201, 4)],
      pkts := [(3, 564), (4, 752)],
      es := [],
      slots := [.pat [0x100], .pmt 0x100 1 [0x101], .recorder 3, .pes 2, .recorder 4] } := by
  eval_app [runApp_frame _ _ _ twoSec_frame]

theorem same_wf : WF initRoute hSame := by decide +kernel
theorem diff_wf : WF initRoute hDiff := by decide +kernel
theorem cni_wf : WF initRoute hCni := by decide +kernel
theorem twoSec_wf : WF initRoute hTwoSec := by decide +kernel

theorem re_patShared (r : Route) :
    RealisesEv r (.patApplied 0 patShared) [⟨psiPkt 0x40 0x00 0x10 secPatShared, 0, 0, false, false⟩] :=
  re_pat_one r _ 0 secPatShared 0 patShared (by decide +kernel)

theorem re_pmtA (r : Route) (off : Nat) :
    RealisesEv r (.pmtApplied 0x100 0 bodyA) [⟨psiPkt 0x41 0x00 0x10 secPmtA, off, 0x100, false, false⟩] :=
  re_pmt_one r 0x100 _ off secPmtA 0 bodyA (by decide +kernel)

theorem pmtB0_rep : RepPacket 0 (psiPkt 0x41 0x00 0x11 secPmtB0) :=
  rep_of_section 0 _ secPmtB0 (by decide +kernel)

theorem pat2b_rep : RepPacket 0 (psiPkt 0x40 0x00 0x11 secPat2b) :=
  rep_of_section 0 _ secPat2b (by decide +kernel)

/-- the `sharedSameVer` bytes REALISE `hSame`: in the spec's vocabulary program 2's PMT is a
repetition -/
theorem same_realises : Realises initRoute hSame samePks := by
  refine Realises.cons (re_patShared _) (Realises.cons (re_pmtA _ 188)
    (Realises.cons (pks1 := [⟨psiPkt 0x41 0x00 0x11 secPmtB0, 376, 0x100, false, false⟩]) ?_
    (Realises.cons (re_es _ 0x101 (esStart 1 0x61) 564 (by decide +kernel))
    (Realises.cons (re_es _ 0x201 (esStart 2 0x62) 752 (by decide +kernel))
    (Realises.cons (re_es _ 0x101 (esCont 1 1 0x41) 940 (by decide +kernel))
    (Realises.cons (re_es _ 0x201 (esCont 2 1 0x42) 1128 (by decide +kernel))
    (Realises.nil _)))))))
  refine ⟨_, rfl, rfl, Or.inr ?_⟩
  have : tableVersion (stepRoute (stepRoute initRoute (.patApplied 0 patShared))
      (.pmtApplied 0x100 0 bodyA)) 0x100 = some 0 := by decide +kernel
  rw [this]
  exact pmtB0_rep

theorem diff_realises : Realises initRoute hDiff diffPks :=
  Realises.cons (re_patShared _) (Realises.cons (re_pmtA _ 188)
    (Realises.cons (re_pmt_one _ 0x100 (psiPkt 0x41 0x00 0x11 secPmtB1) 376 secPmtB1 1 bodyB (by decide +kernel))
    (Realises.cons (re_es _ 0x101 (esStart 1 0x61) 564 (by decide +kernel))
    (Realises.cons (re_es _ 0x201 (esStart 2 0x62) 752 (by decide +kernel))
    (Realises.cons (re_pmt_one _ 0x100 (psiPkt 0x41 0x00 0x12 secPmtA) 940 secPmtA 0 bodyA (by decide +kernel))
    (Realises.cons (re_es _ 0x101 (esCont 1 1 0x41) 1128 (by decide +kernel))
    (Realises.cons (re_es _ 0x201 (esCont 2 1 0x42) 1316 (by decide +kernel))
    (Realises.cons (re_pmt_one _ 0x100 (psiPkt 0x41 0x00 0x13 secPmtB1) 1504 secPmtB1 1 bodyB (by decide +kernel))
    (Realises.cons (re_es _ 0x101 (esCont 1 2 0x41) 1692 (by decide +kernel))
    (Realises.cons (re_es _ 0x201 (esCont 2 2 0x42) 1880 (by decide +kernel))
    (Realises.nil _)))))))))))

/-- the `cniNext` bytes realise `hCni`: `Transmits` does not look at `current_next_indicator` -/
theorem cni_realises : Realises initRoute hCni cniPks :=
  Realises.cons (re_pat0 _ 0) (Realises.cons (re_pmtA _ 188)
    (Realises.cons (re_es _ 0x101 (esStart 1 0x61) 376 (by decide +kernel))
    (Realises.cons (re_pmt_one _ 0x100 (psiPkt 0x41 0x00 0x11 secPmtNext) 564 secPmtNext 1 bodyN (by decide +kernel))
    (Realises.cons (re_es _ 0x101 (esCont 1 1 0x41) 752 (by decide +kernel))
    (Realises.nil _)))))

/-- the `twoSectionPat` bytes realise `hTwoSec`: section 1 (same `version_number`) is a repetition -/
theorem twoSec_realises : Realises initRoute hTwoSec twoSecPks := by
  refine Realises.cons
    (re_pat_one _ (psiPkt 0x40 0x00 0x10 secPat2a) 0 secPat2a 0 [.program 1 0x100] (by decide +kernel))
    (Realises.cons (pks1 := [⟨psiPkt 0x40 0x00 0x11 secPat2b, 188, 0, false, false⟩]) ?_
    (Realises.cons (re_pmtA _ 376)
    (Realises.cons (re_es _ 0x110 (psiPkt 0x41 0x10 0x10 secPmtB0) 564 (by decide +kernel))
    (Realises.cons (re_es _ 0x201 (esStart 2 0x61) 752 (by decide +kernel))
    (Realises.nil _)))))
  refine ⟨_, rfl, rfl, Or.inr ?_⟩
  have : tableVersion (stepRoute initRoute (.patApplied 0 [.program 1 0x100])) 0 = some 0 := by
    decide +kernel
  rw [this]
  exact pat2b_rep

theorem same_slots :
    (run initRoute hSame).slots 0x100 = some (.pmt 0x100 2, 2) ∧
    (run initRoute hSame).slots 0x101 = some (.stream 0x100 0x1b 0x101 0x101 [] [], 3) ∧
    (run initRoute hSame).slots 0x201 = some (.byPid 0x201, 4) ∧
    ((run initRoute hSame).pmt 0x100).streams = [⟨0x1b, 0x101, []⟩] := by decide +kernel

theorem diff_slots :
    (run initRoute (hDiff.take 3)).slots 0x101 = none ∧
    (run initRoute (hDiff.take 3)).slots 0x201 = some (.stream 0x100 0x1b 0x201 0x201 [] [], 4) ∧
    (run initRoute (hDiff.take 6)).slots 0x101 = some (.stream 0x100 0x1b 0x101 0x101 [] [], 6) ∧
    (run initRoute (hDiff.take 6)).slots 0x201 = none ∧
    (run initRoute (hDiff.take 9)).slots 0x101 = none ∧
    (run initRoute (hDiff.take 9)).slots 0x201 = some (.stream 0x100 0x1b 0x201 0x201 [] [], 8) ∧
    (run initRoute hDiff).slots 0x101 = some (.byPid 0x101, 9) ∧
    (run initRoute hDiff).slots 0x201 = some (.stream 0x100 0x1b 0x201 0x201 [] [], 8) := by
  decide +kernel

theorem same_requests : historyRequests initRoute hSame =
    [.pmt 0x100 1, .pmt 0x100 2, .stream 0x100 0x1b 0x101 0x101 [] [], .byPid 0x201] := by
  decide +kernel

theorem same_cf : CollisionFree hSame ∧ CollisionFreeNowAll hSame ∧ ¬ DistinctPmtPidsAll hSame := by
  decide +kernel

theorem diff_cf : CollisionFree hDiff ∧ CollisionFreeNowAll hDiff ∧ ¬ DistinctPmtPidsAll hDiff := by
  decide +kernel

/-! ### a PAT with a network entry (non-vacuity of the NIT clause) -/

/-- PAT version 0: network entry → 0x10, program 1 → 0x100 (a section built for this check, not a case
line; CRC-32 computed by the bit-serial specification) -/
def secPatNit : Bytes :=
  [0x00, 0xb0, 0x11, 0x00, 0x01, 0xc1, 0x00, 0x00, 0x00, 0x00, 0xe0, 0x10, 0x00, 0x01, 0xe1, 0x00,
   0x9e, 0xa6, 0x64, 0x96]

def patNit : List PatEntry := [.network 0x10, .program 1 0x100]

theorem re_patNit (r : Route) :
    RealisesEv r (.patApplied 0 patNit) [⟨psiPkt 0x40 0x00 0x10 secPatNit, 0, 0, false, false⟩] :=
  re_pat_one r _ 0 secPatNit 0 patNit (by decide +kernel)

theorem nit_wf : WF initRoute [.patApplied 0 patNit] ∧ CollisionFreeNowAll [.patApplied 0 patNit] := by
  decide +kernel

theorem run_patEntries : ∀ (evs : List Event) (r : Route) (T : Current), r.patEntries = T.pat →
    (run r evs).patEntries = (curFrom T evs).pat := by
  intro evs
  induction evs with
  | nil => intro r T h; exact h
  | cons ev evs ih =>
    intro r T h
    rw [run_cons, curFrom_cons]
    apply ih
    cases ev with
    | patApplied v es => rfl
    | pmtApplied p v b => exact h
    | esPacket q => rw [stepRoute_es_patEntries]; exact h
    | repetition q => exact h

theorem cur_pat_kept : ∀ (post : List Event) (T : Current),
    (∀ ev ∈ post, ∀ v es, ev ≠ .patApplied v es) → (curFrom T post).pat = T.pat := by
  intro post
  induction post with
  | nil => intro T _; rfl
  | cons ev post ih =>
    intro T h
    rw [curFrom_cons, ih _ (fun ev' hm => h ev' (List.mem_cons_of_mem _ hm))]
    cases ev with
    | patApplied v es => exact absurd rfl (h _ List.mem_cons_self v es)
    | pmtApplied p v b => rfl
    | esPacket q => rfl
    | repetition q => rfl

theorem cur_pat_after (pre post : List Event) (ver : Nat) (es : List PatEntry)
    (hlast : ∀ ev ∈ post, ∀ v es', ev ≠ .patApplied v es') :
    (currentOf (pre ++ .patApplied ver es :: post)).pat = es := by
  unfold currentOf
  rw [curFrom_append, curFrom_cons, cur_pat_kept post _ hlast]
  rfl

theorem cur_pat_pred (P : List PatEntry → Prop) : ∀ (post : List Event) (T : Current), P T.pat →
    (∀ ev ∈ post, ∀ v es, ev = .patApplied v es → P es) → P (curFrom T post).pat := by
  intro post
  induction post with
  | nil => intro T h _; exact h
  | cons ev post ih =>
    intro T h hall
    rw [curFrom_cons]
    refine ih _ ?_ (fun ev' hm => hall ev' (List.mem_cons_of_mem _ hm))
    cases ev with
    | patApplied v es => exact hall _ List.mem_cons_self v es rfl
    | pmtApplied p v b => exact h
    | esPacket q => exact h
    | repetition q => exact h

theorem cur_pat_mem (e : PatEntry) (post : List Event) (T : Current) (h : e ∈ T.pat)
    (hall : ∀ ev ∈ post, ∀ v es, ev = .patApplied v es → e ∈ es) : e ∈ (curFrom T post).pat :=
  cur_pat_pred (fun es => e ∈ es) post T h hall

def PatRouted (r : Route) (T : Current) : Prop :=
  ∀ q req, lastFor (patRequests T.pat) q = some req → ∃ tag, r.slots q = some (req, tag)

theorem patRouted_step (r : Route) (T : Current) (ev : Event) (h : Agree r T) (hp : PatRouted r T)
    (hwf : wfEv r ev) (hc : CollisionFreeNow T) (hc' : CollisionFreeNow (stepCurrent T ev)) :
    PatRouted (stepRoute r ev) (stepCurrent T ev) := by
  cases ev with
  | patApplied ver es =>
    intro q req hq
    obtain ⟨tag, -, hs⟩ := applied_tagged_listed (f := r.slots) (patRequests es) r.reqs.length
      (r.patEntries.map PatEntry.pid) q req hq
    exact ⟨tag, hs⟩
  | pmtApplied p0 ver b =>
    obtain ⟨hrt, -, -⟩ := hwf
    obtain ⟨prog0, tag0, hs0⟩ := (pmtRouted_iff r p0).1 hrt
    have hp0 : p0 ∈ progPids T.pat := by rw [← h.pat]; exact h.prog p0 _ _ _ hs0
    intro q req hq
    have hq' : lastFor (patRequests T.pat) q = some req := hq
    obtain ⟨tag, hs⟩ := hp q req hq'
    obtain ⟨e, he, heq, -⟩ := entry_of_lastFor hq'
    refine ⟨tag, ?_⟩
    rw [slot_kept r q (.pmtApplied p0 ver b) ⟨?_, ?_⟩]; exact hs
    · intro hmem
      obtain ⟨s, hs1, hsq⟩ := List.mem_map.1 hmem
      exact hc'.2.1 (p0, b) List.mem_cons_self s hs1 e he (by rw [hsq, heq])
    · intro hmem
      obtain ⟨s, hs1, hsq⟩ := List.mem_map.1 hmem
      obtain ⟨b1, hb1, hs1'⟩ := h.inst p0 hp0 s hs1
      exact hc.2.1 (p0, b1) hb1 s hs1' e he (by rw [hsq, heq])
  | esPacket q' =>
    intro q req hq
    have hq' : lastFor (patRequests T.pat) q = some req := hq
    obtain ⟨tag, hs⟩ := hp q req hq'
    refine ⟨tag, ?_⟩
    rw [slot_kept_es r q q' (by rw [hs]; exact Option.some_ne_none _)]; exact hs
  | repetition q' => exact hp

theorem patRouted_run : ∀ (evs : List Event) (r : Route) (T : Current), Agree r T → ProgInv r →
    PatRouted r T → WF r evs → (∀ k, CollisionFreeNow (curFrom T (evs.take k))) →
    PatRouted (run r evs) (curFrom T evs) := by
  intro evs
  induction evs with
  | nil => intro r T _ _ h _ _; exact h
  | cons ev evs ih =>
    intro r T h hPI hp hwf hcf
    obtain ⟨hw1, hw2⟩ := hwf
    exact ih _ _ (agree_step r T ev h hPI hw1 (hcf 0) (hcf 1)) (progInv_step r ev hPI hw1)
      (patRouted_step r T ev h hp hw1 (hcf 0) (hcf 1)) hw2 (fun k => hcf (k + 1))

theorem routed_by_current_pat (evs : List Event) (hwf : WF initRoute evs) (hcf : CollisionFreeNowAll evs)
    (q : Nat) (req : Req) (hq : lastFor (patRequests (currentOf evs).pat) q = some req) :
    ∃ tag, (run initRoute evs).slots q = some (req, tag) :=
  patRouted_run evs initRoute ⟨[], []⟩ agree_init progInv_init (by intro q req h; cases h) hwf hcf q req hq

theorem distinctAll_append : ∀ (a b : List Event),
    DistinctPmtPidsAll (a ++ b) ↔ DistinctPmtPidsAll a ∧ DistinctPmtPidsAll b := by
  intro a
  induction a with
  | nil => intro b; exact ⟨fun h => ⟨trivial, h⟩, fun h => h.2⟩
  | cons ev a ih =>
    intro b
    cases ev with
    | patApplied v es =>
      show (DistinctPmtPids es ∧ DistinctPmtPidsAll (a ++ b)) ↔ _
      rw [ih b]
      exact ⟨fun ⟨h1, h2, h3⟩ => ⟨⟨h1, h2⟩, h3⟩, fun ⟨⟨h1, h2⟩, h3⟩ => ⟨h1, h2, h3⟩⟩
    | pmtApplied p v body => exact ih b
    | esPacket q => exact ih b
    | repetition q => exact ih b

theorem distinctAll_iff : ∀ (evs : List Event),
    DistinctPmtPidsAll evs ↔ ∀ v es, Event.patApplied v es ∈ evs → DistinctPmtPids es := by
  intro evs
  induction evs with
  | nil => exact ⟨fun _ v es h => (by cases h), fun _ => trivial⟩
  | cons ev evs ih =>
    -- split the condition on `ev :: evs` into the condition on `ev` and the one on `evs`
    have hcons : (∀ v es, Event.patApplied v es ∈ ev :: evs → DistinctPmtPids es) ↔
        (∀ v es, ev = .patApplied v es → DistinctPmtPids es) ∧ DistinctPmtPidsAll evs := by
      rw [ih]
      exact ⟨fun h => ⟨fun v es e => h v es (e ▸ List.mem_cons_self),
          fun v es hm => h v es (List.mem_cons_of_mem _ hm)⟩,
        fun h v es hm => (List.mem_cons.1 hm).elim (fun e => h.1 v es e.symm) (h.2 v es)⟩
    rw [hcons]
    cases ev with
    | patApplied v0 es0 =>
      exact ⟨fun h => ⟨fun v es e => by cases e; exact h.1, h.2⟩, fun h => ⟨h.1 v0 es0 rfl, h.2⟩⟩
    | pmtApplied p v0 body => exact ⟨fun h => ⟨(fun v es e => nomatch e), h⟩, fun h => h.2⟩
    | esPacket q => exact ⟨fun h => ⟨(fun v es e => nomatch e), h⟩, fun h => h.2⟩
    | repetition q => exact ⟨fun h => ⟨(fun v es e => nomatch e), h⟩, fun h => h.2⟩

theorem distinct_cur : ∀ (evs : List Event) (T : Current), DistinctPmtPids T.pat →
    DistinctPmtPidsAll evs → DistinctPmtPids (curFrom T evs).pat := by
  intro evs
  induction evs with
  | nil => intro T h _; exact h
  | cons ev evs ih =>
    intro T h hall
    rw [curFrom_cons]
    cases ev with
    | patApplied v es => exact ih _ hall.1 hall.2
    | pmtApplied p v body => exact ih _ h hall
    | esPacket q => exact ih _ h hall
    | repetition q => exact ih _ h hall

theorem distinct_currentOf (evs : List Event) (h : DistinctPmtPidsAll evs) :
    DistinctPmtPids (currentOf evs).pat :=
  distinct_cur evs ⟨[], []⟩ (fun e he => (by cases he)) h

theorem distinct_entry {es : List PatEntry} (hd : DistinctPmtPids es) {n p : Nat}
    (hm : PatEntry.program n p ∈ es) {e : PatEntry} (he : e ∈ es) (hp : e.pid = p) :
    e = .program n p := by
  have := hd e he _ hm hp
  cases e with
  | network q => cases this
  | program n' p' =>
    simp only [progNum, Option.some.injEq] at this
    have hp' : p' = p := hp
    rw [this, hp']

theorem pmtPidOf_mem : ∀ {es : List PatEntry} {n p : Nat}, pmtPidOf es n = some p →
    PatEntry.program n p ∈ es := by
  intro es
  induction es with
  | nil => intro n p h; cases h
  | cons e es ih =>
    intro n p h
    unfold pmtPidOf at h
    rw [List.findSome?_cons] at h
    cases e with
    | network q => exact List.mem_cons_of_mem _ (ih h)
    | program n' p' =>
      simp only at h
      by_cases hn : n' = n
      · rw [if_pos hn] at h
        simp only [Option.some.injEq] at h
        rw [hn, h]; exact List.mem_cons_self
      · rw [if_neg hn] at h
        exact List.mem_cons_of_mem _ (ih h)

/-- **the per-program reading.**  History `pre ++ PMT(p) :: post`, well-formed, every applied PAT with
`DistinctPmtPids`; the PAT in force when the PMT was applied lists program `n` on `p`, and so does
every PAT applied afterwards.  Then: the PAT in force at the end lists program `n` on `p`; every entry
of it naming `p` is that entry; the PMT was consumed by a handler requested as `Pmt(p, n)`. -/
theorem of_program_aux (pre post : List Event) (n p ver : Nat) (body : Bytes)
    (hwf : WF initRoute (pre ++ .pmtApplied p ver body :: post))
    (hd : DistinctPmtPidsAll (pre ++ .pmtApplied p ver body :: post))
    (hprog : PatEntry.program n p ∈ (currentOf pre).pat)
    (hkeep : ∀ ev ∈ post, ∀ v es, ev = .patApplied v es → PatEntry.program n p ∈ es) :
    PatEntry.program n p ∈ (currentOf (pre ++ .pmtApplied p ver body :: post)).pat ∧
    (∀ e ∈ (currentOf (pre ++ .pmtApplied p ver body :: post)).pat, e.pid = p → e = .program n p) ∧
    ∃ tag, (run initRoute pre).slots p = some (.pmt p n, tag) := by
  have hmem : PatEntry.program n p ∈ (currentOf (pre ++ .pmtApplied p ver body :: post)).pat := by
    unfold currentOf
    rw [curFrom_append, curFrom_cons]
    exact cur_pat_mem _ post _ hprog hkeep
  refine ⟨hmem, fun e he hp => distinct_entry (distinct_currentOf _ hd) hmem he hp, ?_⟩
  obtain ⟨hwf1, hwf2⟩ := (wf_append pre _ initRoute).1 hwf
  obtain ⟨hrt, -, -⟩ := hwf2.1
  obtain ⟨prog0, tag0, hs0⟩ := (pmtRouted_iff _ p).1 hrt
  obtain ⟨-, hm0⟩ := (progInv_run pre initRoute progInv_init hwf1).prog p _ _ _ hs0
  rw [run_patEntries pre initRoute ⟨[], []⟩ rfl] at hm0
  have hd1 := distinct_currentOf pre ((distinctAll_append pre _).1 hd).1
  have := distinct_entry hd1 hprog hm0 rfl
  simp only [PatEntry.program.injEq, and_true] at this
  exact ⟨tag0, by rw [hs0, this]⟩

theorem pmt_slot_of_program (evs : List Event) (hwf : WF initRoute evs) (hcf : CollisionFreeNowAll evs)
    (hd : DistinctPmtPidsAll evs) (n p : Nat) (hm : PatEntry.program n p ∈ (currentOf evs).pat) :
    ∃ tag, (run initRoute evs).slots p = some (.pmt p n, tag) := by
  cases hl : lastFor (patRequests (currentOf evs).pat) p with
  | none =>
    exfalso
    apply lastFor_none _ _ hl
    rw [patRequests_pids]
    exact List.mem_map.2 ⟨_, hm, rfl⟩
  | some req =>
    obtain ⟨e, he, hep, hreq⟩ := entry_of_lastFor hl
    have := distinct_entry (distinct_currentOf evs hd) hm he hep
    subst this
    subst hreq
    exact routed_by_current_pat evs hwf hcf p _ hl

/-- a PMT handler built by a PAT is fresh (no version, nothing registered) until a PMT is applied on
its PID (or a later PAT rebuilds it) -/
theorem fresh_after_pat (r0 : Route) (post : List Event) (ver : Nat) (es : List PatEntry) (q a b : Nat)
    (hlast : ∀ ev ∈ post, ∀ v es', ev ≠ .patApplied v es')
    (hno : ∀ ev ∈ post, ∀ v body, ev ≠ .pmtApplied q v body)
    (hq : lastFor (patRequests es) q = some (.pmt a b)) :
    ((run r0 (.patApplied ver es :: post)).pmt q).ver = none ∧
    ((run r0 (.patApplied ver es :: post)).pmt q).streams = [] := by
  rw [run_cons, pmt_inst_kept_run q post _
    (fun ev hm => ⟨hno ev hm, fun v es' e => absurd e (hlast ev hm v es')⟩), stepRoute_pat_pmt]
  obtain ⟨tag, hl, -⟩ := applied_tagged_listed (f := r0.slots) (patRequests es) r0.reqs.length [] q _ hq
  rw [hl]
  exact ⟨rfl, rfl⟩

end Ts.Lemmas.C05Hf
