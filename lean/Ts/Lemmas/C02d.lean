import Ts.Lemmas.Projb
import Ts.Lemmas.C02c
import Ts.Props.C07
import Ts.Props.C01
/-!
# Helper lemmas for C02: the delivered bytes, read from the PUSHED BUFFER

`C02Trace.es_consumer_conservation` describes what a consumer observes as events carrying GLOBAL
ranges (offsets into the concatenation of everything pushed).  Here the ranges are dereferenced in
the buffer the caller handed to `Demultiplex::push`.
-/
namespace Ts.Lemmas.C02
open Ts Ts.Demux Ts.App Ts.Packet Ts.Lemmas.Proj Ts.Spec.PesMux

/-! ### ranges of a framed packet are windows of the buffer -/

theorem rangeBytes_window (buf : Bytes) (d o l : Nat) (h : o + l ≤ 188) :
    rangeBytes ((buf.drop d).take 188) (o, l) = (buf.drop (d + o)).take l := by
  simp only [rangeBytes, List.drop_take, List.drop_drop, List.take_take]
  congr 1
  omega

/-- the packet `q` sits in `buf` (pushed after `base` earlier bytes) at its recorded offset -/
def InBuf (buf : Bytes) (base : Nat) (q : Pk) : Prop :=
  base ≤ q.off ∧ q.bytes = (buf.drop (q.off - base)).take 188

theorem slice_inBuf {buf : Bytes} {base : Nat} {q : Pk} (h : InBuf buf base q) (o l : Nat)
    (hol : o + l ≤ 188) :
    (buf.drop (q.off + o - base)).take l = rangeBytes q.bytes (o, l) := by
  obtain ⟨h1, h2⟩ := h
  rw [h2, rangeBytes_window buf _ o l hol]
  congr 2
  omega

theorem inBuf_of_frame (buf : Bytes) (base : Nat) (pks : List Pk) (h : frame buf base = .ok pks) :
    ∀ pk ∈ pks, InBuf buf base pk := by
  intro pk hm
  obtain ⟨a, _, _, b, _⟩ := Ts.Lemmas.C19.frame_pk_props buf base pks h pk hm
  exact ⟨a, b⟩

/-! ### the bytes an event hands over, read from the buffer -/

/-- the bytes of `buf` (the buffer passed to `push` after `base` earlier bytes) at the GLOBAL range
an elementary-stream event carries: the exposed payload of `begin_packet` (nothing when the header
exposes none), the slice of `continue_packet`; no bytes for any other event -/
def sliceOf (buf : Bytes) (base : Nat) : Ev → Bytes
  | .esBegin _ bi =>
    match bi.pl with
    | some (off, len) => (buf.drop (off - base)).take len
    | none => []
  | .esCont _ off len => (buf.drop (off - base)).take len
  | _ => []

/-- the slices of one consumer's events grouped per PES packet: `esBegin` closes the group being
collected (if any) and opens a new one with its exposed payload; `esCont` appends its slice to the
open group (data outside a packet is dropped — by C08 there is none); `esEnd` and `esCcErr` close
the open group; every other event is skipped; at the end the open group is closed.  `cur` is the
group being collected. -/
def groupsFrom (buf : Bytes) (base : Nat) : Option Bytes → List Ev → List Bytes
  | cur, [] => cur.toList
  | cur, e :: es =>
    match e with
    | .esBegin _ _ => cur.toList ++ groupsFrom buf base (some (sliceOf buf base e)) es
    | .esCont _ _ _ => groupsFrom buf base (cur.map (· ++ sliceOf buf base e)) es
    | .esEnd _ => cur.toList ++ groupsFrom buf base none es
    | .esCcErr _ => cur.toList ++ groupsFrom buf base none es
    | _ => groupsFrom buf base cur es

def payloadGroups (buf : Bytes) (base : Nat) (es : List Ev) : List Bytes := groupsFrom buf base none es

def contOut (τ : Nat) (q : Pk) : List Ev :=
  match tpPayload q.bytes with
  | some (o, l) => [.esCont τ (q.off + o) l]
  | none => []

theorem esAll_conts (touch : Bool) (τ : Nat) : ∀ qs : List Pk,
    esAll touch τ qs (qs.map (fun q => contEvs q.bytes)) = .ok (qs.map (contOut τ)) := by
  intro qs
  induction qs with
  | nil => rfl
  | cons q qs ih =>
    simp only [List.map_cons, esAll_cons, esEvList_cont, ih, R.ok_bind]
    rfl

theorem esAll_append (touch : Bool) (τ : Nat) : ∀ (a b : List Pk) (ea eb : List (List PesFilter.Ev)),
    a.length = ea.length →
    esAll touch τ (a ++ b) (ea ++ eb) =
      (esAll touch τ a ea >>= fun x => esAll touch τ b eb >>= fun y => R.ok (x ++ y)) := by
  intro a
  induction a with
  | nil =>
    intro b ea eb h
    cases ea with
    | nil =>
      show _ = (R.ok [] >>= _)
      simp only [R.ok_bind, List.nil_append]
      exact (bind_pure _).symm
    | cons e es => simp at h
  | cons q qs ih =>
    intro b ea eb h
    cases ea with
    | nil => simp at h
    | cons e es =>
      simp only [List.cons_append, esAll_cons, ih b es eb (by simpa using h), bind_assoc, R.ok_bind]

theorem contOut_slices {buf : Bytes} {base : Nat} {q : Pk} (τ : Nat) (h : InBuf buf base q) :
    ((contOut τ q).map (sliceOf buf base)).flatten = tpPayloadBytes q.bytes := by
  unfold contOut tpPayloadBytes
  cases hp : tpPayload q.bytes with
  | none => rfl
  | some r =>
    obtain ⟨o, l⟩ := r
    have hs := Ts.Lemmas.C08.payOf_sound (by rw [← tpPayload_eq]; exact hp)
    simp only [List.map_cons, List.map_nil, List.flatten_cons, List.flatten_nil, List.append_nil,
      sliceOf]
    exact slice_inBuf h o l (by omega)

theorem contOuts_slices {buf : Bytes} {base : Nat} (τ : Nat) : ∀ (qs : List Pk),
    (∀ q ∈ qs, InBuf buf base q) →
    (((qs.map (contOut τ)).flatten).map (sliceOf buf base)).flatten
      = ((qs.map (·.bytes)).map tpPayloadBytes).flatten := by
  intro qs
  induction qs with
  | nil => intro _; rfl
  | cons q qs ih =>
    intro h
    simp only [List.map_cons, List.flatten_cons, List.map_append, List.flatten_append]
    rw [contOut_slices τ (h q List.mem_cons_self), ih (fun x hx => h x (List.mem_cons_of_mem _ hx))]

theorem contOut_cases (τ : Nat) (q : Pk) :
    contOut τ q = [] ∨ ∃ off len, contOut τ q = [.esCont τ off len] := by
  unfold contOut
  cases tpPayload q.bytes with
  | none => exact Or.inl rfl
  | some r => exact Or.inr ⟨_, _, rfl⟩

theorem groupsFrom_contOuts (buf : Bytes) (base τ : Nat) : ∀ (qs : List Pk) (b : Bytes) (rest : List Ev),
    groupsFrom buf base (some b) ((qs.map (contOut τ)).flatten ++ rest) =
      groupsFrom buf base (some (b ++ (((qs.map (contOut τ)).flatten).map (sliceOf buf base)).flatten)) rest := by
  intro qs
  induction qs with
  | nil => intro b rest; simp
  | cons q qs ih =>
    intro b rest
    simp only [List.map_cons, List.flatten_cons, List.map_append, List.flatten_append, List.append_assoc]
    rcases contOut_cases τ q with h | ⟨off, len, h⟩
    · rw [h]
      simp only [List.nil_append, List.map_nil, List.flatten_nil]
      exact ih b rest
    · rw [h]
      simp only [List.cons_append, List.nil_append, groupsFrom, Option.map_some, List.map_cons,
        List.map_nil, List.flatten_cons, List.flatten_nil, List.append_nil]
      rw [ih]
      simp only [List.append_assoc]

theorem groupsFrom_open (buf : Bytes) (base τ : Nat) (st : PesFilter.St) (bi : BeginInfo)
    (cur : Option Bytes) (es : List Ev) :
    groupsFrom buf base cur (esOpen τ st ++ .esBegin τ bi :: es) =
      cur.toList ++ groupsFrom buf base (some (sliceOf buf base (.esBegin τ bi))) es := by
  cases st <;> simp [esOpen, groupsFrom]

theorem esOpen_slices (buf : Bytes) (base τ : Nat) (st : PesFilter.St) :
    ((esOpen τ st).map (sliceOf buf base)).flatten = [] := by
  cases st <;> rfl

/-! ### one plan, a stream of plans -/

theorem begin_slice {buf : Bytes} {base : Nat} {q : Pk} (h : InBuf buf base q) (pes : PesPkt) (τ o l : Nat)
    (hol : o + l = 188) (hk : headerLen pes ≤ l)
    (hh : rangeBytes q.bytes (o, l) = (encodePes pes).take l) :
    sliceOf buf base (.esBegin τ (expectedBegin pes q.off o l)) = pes.payload.take (l - headerLen pes) := by
  simp only [sliceOf, expectedBegin]
  rw [Nat.add_assoc, slice_inBuf h _ _ (by omega)]
  exact exposed_of_take pes q.bytes o l hk hh

/-- grouping the buffer slices per PES packet yields the payloads of `s` in order (after closing
whatever group `cur` was open), and all slices together are all payload bytes -/
theorem stream_groups (buf : Bytes) (base : Nat) (touch : Bool) (τ : Nat) :
    ∀ (s : List (PesPkt × Plan)) (st : PesFilter.St) (cc : Option Nat) (qs : List Pk)
      (outs : List (List Ev)),
      PesStream cc s → qs.map (·.bytes) = streamPackets s → (∀ q ∈ qs, InBuf buf base q) →
      esAll touch τ qs (streamEvs st (s.map (·.2))) = .ok outs →
      (∀ cur, groupsFrom buf base cur outs.flatten = cur.toList ++ s.map (·.1.payload)) ∧
      (outs.flatten.map (sliceOf buf base)).flatten = (s.map (·.1.payload)).flatten := by
  intro s
  induction s with
  | nil =>
    intro st cc qs outs _ hq _ he
    have : qs = [] := by simpa [streamPackets] using hq
    subst this
    have : outs = [] := (R.ok_inj he).symm
    subst this
    exact ⟨fun cur => by simp [groupsFrom], rfl⟩
  | cons x rest ih =>
    intro st cc qs outs hs hq hin he
    obtain ⟨pes, pl⟩ := x
    simp only [PesStream] at hs
    obtain ⟨hw, hwf, _, hrest⟩ := hs
    have hsp : streamPackets ((pes, pl) :: rest) = pl.first :: (pl.conts ++ streamPackets rest) := by
      simp [streamPackets, Plan.packets]
    rw [hsp] at hq
    obtain ⟨q0, qs', rfl, h0, hq'⟩ := List.map_eq_cons_iff.1 hq
    obtain ⟨qc, qr, rfl, hc, hr⟩ := List.map_eq_append_iff.1 hq'
    obtain ⟨o, l, hr0, _, hkl, hol, hbytes, hk, hle⟩ := first_facts pes pl hwf
    obtain ⟨_, _, _, _, _, hconts⟩ := hwf
    have hin0 : InBuf buf base q0 := hin q0 List.mem_cons_self
    have hinc : ∀ q ∈ qc, InBuf buf base q := fun q hm =>
      hin q (List.mem_cons_of_mem _ (List.mem_append_left _ hm))
    have hinr : ∀ q ∈ qr, InBuf buf base q := fun q hm =>
      hin q (List.mem_cons_of_mem _ (List.mem_append_right _ hm))
    -- the events
    have hfe : firstEvs st pl.first = openEvs st ++ [PesFilter.Ev.beginPkt o l] := by
      unfold firstEvs; rw [hr0]
    have hfirst : esEvList touch τ q0.bytes q0.off (firstEvs st pl.first) =
        .ok (esOpen τ st ++ [.esBegin τ (expectedBegin pes q0.off o l)]) := by
      rw [hfe, h0]
      exact esEvList_first touch pes hw pl.first q0.off o l τ st hk hle hbytes
    have hce : pl.conts.map contEvs = qc.map (fun q => contEvs q.bytes) := by
      rw [← hc, List.map_map]; rfl
    simp only [List.map_cons, streamEvs, planEvs, List.cons_append, esAll_cons] at he
    rw [hfirst, hce, esAll_append touch τ qc qr _ _ (by simp), esAll_conts] at he
    simp only [R.ok_bind] at he
    obtain ⟨tl, htl, he⟩ := R.bind_eq_ok he
    obtain ⟨outsr, her, htl⟩ := R.bind_eq_ok htl
    have := R.ok_inj he
    subst this
    have := R.ok_inj htl
    subst this
    obtain ⟨ih1, ih2⟩ := ih .started (some pl.lastCc) qr outsr hrest hr hinr her
    -- the bytes
    have hb0 := begin_slice hin0 pes τ o l hol hk (by rw [h0]; exact hbytes)
    have hbc := contOuts_slices (buf := buf) (base := base) τ qc hinc
    rw [hc, (conts_run pl.conts _ _ hconts).2.1, hkl, drop_encode pes l hk] at hbc
    have hsum : sliceOf buf base (.esBegin τ (expectedBegin pes q0.off o l))
        ++ (((qc.map (contOut τ)).flatten).map (sliceOf buf base)).flatten = pes.payload := by
      rw [hb0, hbc]; exact List.take_append_drop _ _
    refine ⟨?_, ?_⟩
    · intro cur
      simp only [List.flatten_cons, List.flatten_append, List.append_assoc, List.cons_append,
        List.nil_append]
      rw [groupsFrom_open, groupsFrom_contOuts, hsum, ih1]
      simp
    · simp only [List.flatten_cons, List.flatten_append, List.map_append, List.map_cons,
        List.append_assoc, List.nil_append, List.cons_append]
      rw [esOpen_slices, ih2, ← hsum]
      simp

/-- a packet sitting in `b` (pushed after `a.length + base` bytes) sits in `a ++ b` (pushed after
`base` bytes) at the same stream offset -/
theorem inBuf_append {a b : Bytes} {base : Nat} {q : Pk} (h : InBuf b (base + a.length) q) :
    InBuf (a ++ b) base q := by
  obtain ⟨h1, h2⟩ := h
  refine ⟨by omega, ?_⟩
  have e : List.drop (q.off - base) a = [] := List.drop_of_length_le (by omega)
  rw [h2, List.drop_append, e, List.nil_append]
  congr 2
  omega

end Ts.Lemmas.C02
